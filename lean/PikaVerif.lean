import PikaVerif.Core.Basic
import PikaVerif.Core.Sum
import PikaVerif.Core.Run
import PikaVerif.Core.Prog
import PikaVerif.Gen.StateWord
import PikaVerif.Model.Sem
import PikaVerif.Core.CvQueue
import PikaVerif.Lemmas.SemStep
import PikaVerif.Lemmas.Sem
import PikaVerif.Lemmas.Sem2
import PikaVerif.Model.SSem
import PikaVerif.Lemmas.SSemStep
import PikaVerif.Lemmas.SSem
import PikaVerif.Lemmas.SSem2
import PikaVerif.Props.C08
import PikaVerif.Lemmas.SemT
import PikaVerif.Lemmas.SemProg
import PikaVerif.Lemmas.SemCover
import PikaVerif.Lemmas.SemSolo
import PikaVerif.Lemmas.SSemT
import PikaVerif.Lemmas.SSemProg
import PikaVerif.Lemmas.SSemSolo
import PikaVerif.Lemmas.SSemCover
import PikaVerif.Lemmas.SemHold
import PikaVerif.Props.C08t
import PikaVerif.Model.Sched
import PikaVerif.Lemmas.SchedStep
import PikaVerif.Lemmas.Sched
import PikaVerif.Lemmas.Sched2
import PikaVerif.Model.SchedCo
import PikaVerif.Lemmas.SchedCo
import PikaVerif.Props.C01
import PikaVerif.Props.C02
import PikaVerif.Model.SchedObl
import PikaVerif.Lemmas.Sched3
import PikaVerif.Lemmas.Sched3Ex
import PikaVerif.Props.C02x
import PikaVerif.Model.Rw
import PikaVerif.Lemmas.RwStep
import PikaVerif.Lemmas.Rw
import PikaVerif.Lemmas.Rw2
import PikaVerif.Lemmas.Rw3
import PikaVerif.Lemmas.Rw4
import PikaVerif.Lemmas.RwProgress
import PikaVerif.Props.C04
import PikaVerif.Lemmas.RwT
import PikaVerif.Lemmas.RwProg
import PikaVerif.Lemmas.RwSolo
import PikaVerif.Lemmas.RwMax
import PikaVerif.Lemmas.RwRetry
import PikaVerif.Lemmas.RwThreads
import PikaVerif.Props.C04r
import PikaVerif.Model.Snd
import PikaVerif.Model.Shared
import PikaVerif.Model.WhenAll
import PikaVerif.Lemmas.Snd
import PikaVerif.Lemmas.SharedStep
import PikaVerif.Lemmas.Shared
import PikaVerif.Lemmas.Shared2
import PikaVerif.Lemmas.Shared3
import PikaVerif.Lemmas.WhenAll
import PikaVerif.Props.C03
import PikaVerif.Model.SharedLife
import PikaVerif.Lemmas.SharedLife
import PikaVerif.Props.C03Life
import PikaVerif.Model.SndRef
import PikaVerif.Lemmas.SndRef
import PikaVerif.Props.C03s
import PikaVerif.Model.Aff
import PikaVerif.Model.AffCmd
import PikaVerif.Lemmas.Aff
import PikaVerif.Lemmas.AffCompact
import PikaVerif.Lemmas.AffScatter
import PikaVerif.Lemmas.AffBalanced
import PikaVerif.Lemmas.AffPool
import PikaVerif.Lemmas.AffTerm
import PikaVerif.Lemmas.AffNuma
import PikaVerif.Lemmas.AffCmd
import PikaVerif.Props.C15
import PikaVerif.Model.CV
import PikaVerif.Lemmas.CVStep
import PikaVerif.Lemmas.CVInvLocks
import PikaVerif.Lemmas.CVInvResults
import PikaVerif.Lemmas.CVInvStop
import PikaVerif.Lemmas.CVNotify
import PikaVerif.Lemmas.CVLockHolder
import PikaVerif.Lemmas.CVWaits
import PikaVerif.Props.C07
import PikaVerif.Model.Agent
import PikaVerif.Lemmas.AgentStep
import PikaVerif.Lemmas.Agent
import PikaVerif.Props.C07Agent
import PikaVerif.Model.CVAbort
import PikaVerif.Lemmas.CVAbortStep
import PikaVerif.Lemmas.CVAbort
import PikaVerif.Lemmas.CVAbort2
import PikaVerif.Lemmas.CVGhost
import PikaVerif.Lemmas.CVDeadlineGhost
import PikaVerif.Props.C07d
import PikaVerif.Lemmas.CVInner
import PikaVerif.Lemmas.CVProgram
import PikaVerif.Lemmas.CVMeasure
import PikaVerif.Lemmas.CVCover
import PikaVerif.Lemmas.CVPosition
import PikaVerif.Lemmas.CVDiscipline
import PikaVerif.Lemmas.CVFinal
import PikaVerif.Lemmas.CVSolo
import PikaVerif.Props.C07t
import PikaVerif.Model.Deque
import PikaVerif.Lemmas.DequeList
import PikaVerif.Lemmas.DequeStep
import PikaVerif.Lemmas.DequeGlob
import PikaVerif.Lemmas.DequeInv
import PikaVerif.Lemmas.DequeSeq
import PikaVerif.Props.C17
import PikaVerif.Model.Barrier
import PikaVerif.Props.C09Barrier
import PikaVerif.Lemmas.BarrierRounds
import PikaVerif.Lemmas.BarrierStep
import PikaVerif.Lemmas.BarrierInv
import PikaVerif.Lemmas.BarrierCount
import PikaVerif.Lemmas.BarrierPreserve
import PikaVerif.Lemmas.BarrierProgress
import PikaVerif.Model.BarrierT
import PikaVerif.Lemmas.BarrierFine
import PikaVerif.Model.Latch
import PikaVerif.Lemmas.Latch
import PikaVerif.Model.Once
import PikaVerif.Lemmas.OnceStep
import PikaVerif.Lemmas.Once
import PikaVerif.Lemmas.Once2
import PikaVerif.Props.C09
import PikaVerif.Lemmas.LatchU
import PikaVerif.Lemmas.LatchU2
import PikaVerif.Lemmas.LatchU3
import PikaVerif.Props.C09uLatch
import PikaVerif.Lemmas.OnceU
import PikaVerif.Lemmas.OnceU2
import PikaVerif.Lemmas.OnceU3
import PikaVerif.Lemmas.OnceU4
import PikaVerif.Lemmas.OnceU5
import PikaVerif.Props.C09uOnce
import PikaVerif.Lemmas.BarrierRank
import PikaVerif.Lemmas.BarrierProg
import PikaVerif.Lemmas.BarrierLockstep
import PikaVerif.Lemmas.BarrierSweep
import PikaVerif.Lemmas.BarrierBudget
import PikaVerif.Props.C09uBarrier
import PikaVerif.Model.Erase
import PikaVerif.Lemmas.Erase
import PikaVerif.Lemmas.EraseSim
import PikaVerif.Lemmas.EraseEv
import PikaVerif.Lemmas.EraseLed
import PikaVerif.Lemmas.EraseExec
import PikaVerif.Props.C18
import PikaVerif.Model.Mtx
import PikaVerif.Model.Rec
import PikaVerif.Lemmas.Excl
import PikaVerif.Lemmas.MtxStep
import PikaVerif.Lemmas.Mtx
import PikaVerif.Lemmas.Mtx2
import PikaVerif.Lemmas.Rec
import PikaVerif.Props.C06
import PikaVerif.Props.C06t
import PikaVerif.Gen.Settings
import PikaVerif.Model.Config
import PikaVerif.Lemmas.Config
import PikaVerif.Props.C16
import PikaVerif.Model.Mpi
import PikaVerif.Lemmas.Mpi
import PikaVerif.Props.C20
import PikaVerif.Model.Elastic
import PikaVerif.Lemmas.Elastic
import PikaVerif.Gen.ElasticConsts
import PikaVerif.Lemmas.ElasticGen
import PikaVerif.Lemmas.ElasticRefuse
import PikaVerif.Props.C19
import PikaVerif.Props.C19t
import PikaVerif.Model.X86
import PikaVerif.Gen.SwapAsm
import PikaVerif.Lemmas.X86
import PikaVerif.Gen.Rebind
import PikaVerif.Model.Rebind
import PikaVerif.Gen.Heaps
import PikaVerif.Model.StackClass
import PikaVerif.Lemmas.StackClass
import PikaVerif.Props.C12
import PikaVerif.Model.Join
import PikaVerif.Lemmas.JoinStep
import PikaVerif.Lemmas.Join
import PikaVerif.Lemmas.JoinSteps
import PikaVerif.Props.C13
import PikaVerif.Lemmas.JoinOwn
import PikaVerif.Props.C13m
import PikaVerif.Model.JoinCatch
import PikaVerif.Lemmas.JoinCatch
import PikaVerif.Props.C13j
import PikaVerif.Model.Place
import PikaVerif.Lemmas.Place
import PikaVerif.Props.C10
import PikaVerif.Model.Life
import PikaVerif.Lemmas.Life
import PikaVerif.Props.C05
import PikaVerif.Lemmas.LifeHist
import PikaVerif.Lemmas.LifeHistT
import PikaVerif.Lemmas.LifeHistInv
import PikaVerif.Lemmas.LifeHistMax
import PikaVerif.Props.C05t
import PikaVerif.Core.CInt
import PikaVerif.Gen.BulkArith
import PikaVerif.Gen.IndexRange
import PikaVerif.Lemmas.Partition
import PikaVerif.Model.BulkPlan
import PikaVerif.Lemmas.BulkArith
import PikaVerif.Lemmas.ChunkSize
import PikaVerif.Props.C11
import PikaVerif.Model.IndexQueue
import PikaVerif.Lemmas.IndexQueue
import PikaVerif.Props.C17Index
import PikaVerif.Lemmas.BulkQ
import PikaVerif.Props.C11Proto
import PikaVerif.Model.Stop
import PikaVerif.Lemmas.StopStep
import PikaVerif.Lemmas.StopPhase
import PikaVerif.Lemmas.StopLock
import PikaVerif.Props.C14
import PikaVerif.Model.StopRef
import PikaVerif.Lemmas.StopRef
import PikaVerif.Lemmas.StopLife
import PikaVerif.Lemmas.StopDtor
import PikaVerif.Props.C17Fifo
import PikaVerif.Model.BulkC
import PikaVerif.Lemmas.BulkC
import PikaVerif.Props.C11c
import PikaVerif.Lemmas.DequeSolo
import PikaVerif.Props.C17Solo
import PikaVerif.Props.C17IndexSolo
import PikaVerif.Lemmas.BulkCProg
import PikaVerif.Lemmas.BulkProg
import PikaVerif.Lemmas.BulkCLive
import PikaVerif.Props.C11Progress
import PikaVerif.Lemmas.StopInv
import PikaVerif.Lemmas.StopProgress
import PikaVerif.Props.C14q
import PikaVerif.Lemmas.StopT
import PikaVerif.Lemmas.StopProg
import PikaVerif.Props.C14t
import PikaVerif.Model.WhenAllLife
import PikaVerif.Lemmas.WhenAllLife
import PikaVerif.Props.C03w
import PikaVerif.Props.C03x
import PikaVerif.Props.C20t
