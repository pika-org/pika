import PikaVerif.Lemmas.CVInvStop
import PikaVerif.Lemmas.CVLockHolder
/-! Progress of the condition-variable model, thread by thread.  Under the three invariants a thread has an
    event of its own that the model accepts, or it is at one of the few program counters where it waits for
    what another thread has (`Waits`, a table; `waits_of_refused`).  In a stuck state every thread waits.
    The holders of the two spinlocks and of a dequeued callback do not, so all three are free there
    (`Stuck.free`), and what is left of the table is: between operations, finished, parked, or queueing for
    the user lock (`Stuck.blocked`). -/

namespace PikaVerif.C07
open PikaVerif PikaVerif.CV

/-- A state is *stuck* when the model accepts no event other than a thread starting a new
    operation (`inv`) or ending its program (`done`). -/
def Stuck (s : St) : Prop :=
  ∀ e, (∀ t o, e ≠ .inv t o) → (∀ t, e ≠ .done t) → step s e = none

/-- Parked in an untimed wait, not notified, no wake-up token. -/
def Parked (s : St) (t : Nat) : Prop := s.pc t = .susp false ∧ s.tok t = 0

/-- Waiting for the user lock, which a thread that is between operations (or has ended its
    program while holding it) owns. -/
def BlockedOnUserLock (s : St) (t : Nat) : Prop :=
  (s.pc t = .wantU ∨ ∃ b, s.pc t = .relockU b) ∧
  ∃ x, s.ulock = some x ∧ x ≠ t ∧ (s.pc x = .idle ∨ s.pc x = .fin)

end PikaVerif.C07

namespace PikaVerif.CV
open PikaVerif.C07

/-- What a thread without an event of its own waits for: an operation or nothing, a wake-up, the user
    lock, the internal lock, the lock bit of the stop state, the finished flag of its callback. -/
def Waits (s : St) (t : Nat) : Prop :=
  match s.pc t with
  | .idle | .fin => True
  | .susp false => s.tok t = 0
  | .wantU | .relockU _ => s.ulock ≠ none
  | .want | .nWant | .wokeNL _ _ | .cWant _ => s.lock ≠ none
  | .sReg | .rsWant | .rsRelock | .sDtor _ => s.sLock ≠ none
  | .sRmWait _ => s.cbFin t = false
  | _ => False

/-- A thread whose every event but `inv` and `done` is refused waits: at any other program counter, and at
    those of the table when what it waits for is there, a line of its text has its guards satisfied. -/
theorem waits_of_refused {s : St} (hA : Inv s) (hB : Inv2 s) (hC : Inv3 s) {t : Nat} (ht : t < s.n)
    (hr : ∀ e, actor e = t → (∀ u o, e ≠ .inv u o) → (∀ u, e ≠ .done u) → step s e = none) : Waits s t := by
  obtain ⟨p, hp⟩ : ∃ p, s.pc t = p := ⟨_, rfl⟩
  have en : ∀ {C : Prop} {e : Ev} {p' : Pc}, Loc s e p p' → actor e = t → Guard s e → (∀ u o, e ≠ .inv u o) →
      (∀ u, e ≠ .done u) → C := by
    rintro C e p' hl rfl hg h1 h2; exact nomatch (hr e rfl h1 h2).symm.trans (hl.step ht hp hg)
  have hold : ∀ {C : Prop}, holds p = true → C := fun hh =>
    have ⟨e, _, h, ha, h1, h2, _⟩ := holder_step hA hB (hA.lockHolder t (hp ▸ hh))
    nomatch (hr e ha h1 h2).symm.trans h
  have hsl : holdsS p = true → s.sLock = some t := fun hh => hC.sHolder t (hp ▸ hh)
  unfold Waits
  rw [hp]
  cases p
  case locked | released | enq | relk | post | postS | nLocked | nAll | nDone | cLocked | cAll | sChk1 | sStopped =>
    exact hold rfl
  case idle | fin => trivial
  case wantU => exact fun hu => en .ulAcq rfl hu nofun nofun
  case relockU => exact fun hu => en .ulAcqW rfl hu nofun nofun
  case unlocking => exact en .ulRel rfl (hA.uHolder t (by rw [hp]; rfl)) nofun nofun
  case setting => exact en .setFlag rfl trivial nofun nofun
  case predChk => exact en .pred rfl rfl nofun nofun
  case want => exact fun hl => en .acqW rfl hl nofun nofun
  case nWant => exact fun hl => en .acqN rfl hl nofun nofun
  case wokeNL => exact fun hl => en .acqK rfl hl nofun nofun
  case cWant => exact fun hl => en .acqC rfl hl nofun nofun
  case unl tm p => cases tm <;> first | exact en .susp rfl trivial nofun nofun | exact en .sleep rfl trivial nofun nofun
  case susp p =>
    cases p with
    | false => exact Nat.eq_zero_of_not_pos fun hk => en .woke rfl hk nofun nofun
    | true => exact en .woke rfl (hA.wake t (by rw [hp]; rfl)) nofun nofun
  case slp => exact en .timeout rfl trivial nofun nofun
  case retn => exact en .ret rfl trivial nofun nofun
  case nRet => exact en .retN rfl trivial nofun nofun
  case rsRet => exact en .retRs rfl trivial nofun nofun
  case sChk0 => exact en .stop0 rfl rfl nofun nofun
  case sReg =>
    cases hsr : s.stopReq with
    | true => exact en .seen rfl hsr nofun nofun
    | false => exact fun hs => en (.sAcqG hsr) rfl hs nofun nofun
  case rsWant =>
    cases hsr : s.stopReq with
    | true => exact en (.retLost hsr) rfl trivial nofun nofun
    | false => exact fun hs => en (.sAcqQ hsr) rfl hs nofun nofun
  case rsRelock => exact fun hs => en .sAcqL rfl hs nofun nofun
  case sDtor => exact fun hs => en .sAcqD rfl hs nofun nofun
  case sRegLk => exact en .push rfl ⟨hsl rfl, rfl⟩ nofun nofun
  case rsLocked =>
    cases hc : s.cbs with
    | nil => exact en .rsDone rfl ⟨hsl rfl, hc⟩ nofun nofun
    | cons c rest => exact en .deq rfl ⟨hsl rfl, by rw [hc]; rfl, rfl⟩ nofun nofun
  case sRm =>
    cases hm : decide (t ∈ s.cbs) with
    | false => exact en .unlinkG rfl ⟨hsl rfl, hm.symm⟩ nofun nofun
    | true => exact en .unlink rfl ⟨hsl rfl, hm.symm⟩ nofun nofun
  case sRmChk => exact en .self rfl rfl nofun nofun
  case sRmWait =>
    cases hf : s.cbFin t with
    | true => exact en .waited rfl hf nofun nofun
    | false => rfl
  case cRet k =>
    cases k with
    | true => exact en .inFin rfl trivial nofun nofun
    | false =>
      cases hc : s.cur with
      | none => exact absurd hc (hC.curHeld t (by rw [hp]; rfl))
      | some c => exact en .fin rfl ⟨hc, rfl⟩ nofun nofun

/-- Who waits holds neither spinlock, and inside the callback of `request_stop` (`curHeldPc`) waits for the
    internal lock. -/
theorem Waits.outside {s : St} {t : Nat} (w : Waits s t) :
    holds (s.pc t) = false ∧ holdsS (s.pc t) = false ∧ (curHeldPc (s.pc t) = true → s.lock ≠ none) := by
  unfold Waits at w
  cases hp : s.pc t <;> rw [hp] at w <;>
    first | exact w.elim | exact ⟨rfl, rfl, fun _ => w⟩ | exact ⟨rfl, rfl, nofun⟩

end PikaVerif.CV

namespace PikaVerif.C07
open PikaVerif.CV
variable {s : St}

theorem Stuck.waits (hs : Stuck s) (hA : Inv s) (hB : Inv2 s) (hC : Inv3 s) {t : Nat} (ht : t < s.n) : Waits s t :=
  waits_of_refused hA hB hC ht fun e _ => hs e

/-- So the internal lock, the lock bit of the stop state and the hand of `request_stop` are free: their
    holders would wait. -/
theorem Stuck.free (hs : Stuck s) (hA : Inv s) (hB : Inv2 s) (hC : Inv3 s) :
    s.lock = none ∧ s.sLock = none ∧ s.cur = none := by
  have out := fun {r : Nat} (hr : r < s.n) => (hs.waits hA hB hC hr).outside
  have hl : s.lock = none := by
    cases hl : s.lock with
    | none => rfl
    | some r => obtain ⟨hh, hrn⟩ := hA.lockConv r hl; exact nomatch hh.symm.trans (out hrn).1
  refine ⟨hl, ?_, ?_⟩
  · cases hsl : s.sLock with
    | none => rfl
    | some r => obtain ⟨hh, hrn⟩ := hC.sConv r hsl; exact nomatch hh.symm.trans (out hrn).2.1
  · cases hc : s.cur with
    | none => rfl
    | some c =>
      have hh := hC.curConv c hc
      have hrn : s.reqT < s.n := Nat.lt_of_not_le fun h => by rw [hA.outside _ h] at hh; cases hh
      exact absurd hl ((out hrn).2.2 hh)

/-- In a stuck state every thread is between operations, finished, parked in an untimed wait without a
    wake-up, or queueing for the user lock that an idle or finished thread keeps. -/
theorem Stuck.blocked (hs : Stuck s) (hA : Inv s) (hB : Inv2 s) (hC : Inv3 s) {t : Nat} (ht : t < s.n) :
    s.pc t = .idle ∨ s.pc t = .fin ∨ Parked s t ∨ BlockedOnUserLock s t := by
  obtain ⟨hl, hsl, hcur⟩ := hs.free hA hB hC
  -- what is left of the table `Waits` when the two spinlocks and the requester's hand are free
  have key : ∀ {t}, t < s.n → s.pc t = .idle ∨ s.pc t = .fin ∨ Parked s t ∨
      ((s.pc t = .wantU ∨ ∃ b, s.pc t = .relockU b) ∧ s.ulock ≠ none) := by
    intro t ht
    have w := hs.waits hA hB hC ht
    unfold Waits at w
    cases hp : s.pc t <;> rw [hp] at w
    case idle => exact .inl rfl
    case fin => exact .inr (.inl rfl)
    case susp p => cases p <;> first | exact .inr (.inr (.inl ⟨hp, w⟩)) | exact w.elim
    case wantU => exact .inr (.inr (.inr ⟨.inl rfl, w⟩))
    case relockU b => exact .inr (.inr (.inr ⟨.inr ⟨b, rfl⟩, w⟩))
    case want | nWant | wokeNL | cWant => exact (w hl).elim
    case sReg | rsWant | rsRelock | sDtor => exact (w hsl).elim
    case sRmWait r =>
      -- the callback is registered, not linked and not finished: `request_stop` would hold it
      rcases hC.regOk t (hC.dtorKept t (by rw [hp]; rfl)) with h | h | h
      · exact absurd h (hC.rmOk t (by rw [hp]; rfl))
      · rw [hcur] at h; cases h
      · rw [w] at h; cases h
    all_goals exact w.elim
  have hno : ∀ {u}, (s.pc u = .wantU ∨ ∃ b, s.pc u = .relockU b) → s.ulock ≠ some u := fun h =>
    hA.uNot _ (by rcases h with h | ⟨b, h⟩ <;> rw [h] <;> rfl)
  refine (key ht).imp_right (.imp_right (.imp_right fun ⟨hpc, hu⟩ => ⟨hpc, ?_⟩))
  -- the owner of the user lock waits too, and not for the user lock
  obtain ⟨x, hux⟩ := Option.ne_none_iff_exists'.1 hu
  refine ⟨x, hux, fun e => hno (e ▸ hpc) hux, ?_⟩
  rcases key (hA.uConv x hux) with h | h | h | ⟨h, _⟩
  · exact .inl h
  · exact .inr h
  · exact absurd hux (hA.uNot x (by rw [h.1]; rfl))
  · exact absurd hux (hno h)

end PikaVerif.C07
