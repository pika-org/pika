import PikaVerif.Lemmas.OnceStep
/-! The structural invariant `Inv` of the event / call_once model (lock, cv queue, tokens, operation) and
    what it says of one thread at its program counter (`OkS`).  Preservation: `Lemmas/Once2.lean`. -/
namespace PikaVerif.Once

/-- Program counters at which the thread holds the event's internal spinlock. -/
def holds : Pc → Bool
  | .wLocked _ | .wMustEnq _ | .enq _ | .relk _ _ | .wPass _ | .sLocked _ | .sRel _ => true
  | _ => false

/-- Program counters at which the thread's entry is linked in the cv queue. -/
def inQ : Pc → Bool
  | .enq _ => true
  | .unl _ p | .susp _ p => !p
  | _ => false

/-- Resume tokens a thread holds. -/
def tokOf : Pc → Nat
  | .unl _ p | .susp _ p => b2n p
  | _ => 0

/-- The operation `o` a thread is in fits event code entered from `c`: stand-alone it is the event
    operation `w` itself, inside `call_once` it is that call. -/
def ctxOk : Ctx → Op → Op → Bool
  | .top, o, w => decide (o = w)
  | .once thr, o, _ => decide (o = .call thr)

def isCall : Op → Bool
  | .call _ => true
  | _ => false

/-- Which operation a program counter belongs to. -/
def pcOpOk : Pc → Op → Bool
  | .wWant c, o | .wLockW c, o | .wLocked c, o | .wMustEnq c, o | .enq c, o | .unl c _, o | .susp c _, o
  | .wokeNL c _, o | .relk c _, o | .wPass c, o => ctxOk c o .wait
  | .sWant c, o | .sLockW c, o | .sLocked c, o | .sRel c, o => ctxOk c o .set
  | .rWant, o => decide (o = .reset)
  | .oWant, o => decide (o = .occ)
  | .cLoad thr, o | .cCas thr, o | .cReset thr, o | .cBody thr, o | .cRan thr, o => decide (o = .call thr)
  | .retn r, o => decide (r = 0) || isCall o
  | _, _ => true

structure Inv (s : St) : Prop where
  lockHolder : ∀ t, holds (s.pc t) = true → s.lock = some t
  outside : ∀ t, s.n ≤ t → s.pc t = .idle
  qIff : ∀ t, t ∈ s.queue ↔ inQ (s.pc t) = true
  qNodup : s.queue.Nodup
  tokInv : ∀ t, s.tok t = tokOf (s.pc t)
  wokePopped : ∀ t c, s.pc t ≠ .wokeNL c false ∧ s.pc t ≠ .relk c false
  opOk : ∀ t, pcOpOk (s.pc t) (s.curOp t) = true
  lockConv : ∀ r, s.lock = some r → holds (s.pc r) = true ∧ r < s.n

theorem inv_init (n : Nat) : Inv (init n) := by
  refine ⟨?_, ?_, ?_, ?_, ?_, ?_, ?_, ?_⟩ <;> simp [init, holds, inQ, tokOf, pcOpOk]

/-! ## The invariant read thread by thread -/

/-- What `Inv` says of the spinlock, the cv queue and the tokens about thread `u` alone, were it at
    program counter `p`. -/
def OkQ (s : St) (u : Nat) (p : Pc) : Prop :=
  (holds p = true ↔ s.lock = some u) ∧ (u ∈ s.queue ↔ inQ p = true) ∧ s.tok u = tokOf p ∧
  (s.n ≤ u → p = .idle) ∧ ∀ c, p ≠ .wokeNL c false ∧ p ≠ .relk c false

/-- What `Inv` says of thread `u` alone, were it at program counter `p`. -/
def OkS (s : St) (u : Nat) (p : Pc) : Prop := OkQ s u p ∧ pcOpOk p (s.curOp u) = true

variable {s : St} {t u : Nat} {p : Pc}

theorem okS (hi : Inv s) (u : Nat) : OkS s u (s.pc u) :=
  ⟨⟨⟨hi.lockHolder u, fun h => (hi.lockConv u h).1⟩, hi.qIff u, hi.tokInv u, hi.outside u, hi.wokePopped u⟩,
    hi.opOk u⟩

theorem inv_of_okS (h : ∀ u, OkS s u (s.pc u)) (hq : s.queue.Nodup) : Inv s :=
  { lockHolder := fun u => (h u).1.1.1
    outside := fun u => (h u).1.2.2.2.1
    qIff := fun u => (h u).1.2.1
    qNodup := hq
    tokInv := fun u => (h u).1.2.2.1
    wokePopped := fun u => (h u).1.2.2.2.2
    opOk := fun u => (h u).2
    lockConv := fun r hr => by
      -- a thread out of range is idle and holds nothing
      have hh := (h r).1.1.2 hr
      refine ⟨hh, Nat.lt_of_not_le fun hn => ?_⟩
      rw [(h r).1.2.2.2.1 hn] at hh; cases hh }

/-- Thread `t` takes the free lock: nobody else held it. -/
theorem OkS.acq (h : OkS s u p) (hl : s.lock = none) (hu : u ≠ t) : OkS { s with lock := some t } u p :=
  ⟨⟨⟨fun hh => absurd (hl.symm.trans (h.1.1.1 hh)) nofun, fun he => absurd (Option.some.inj he).symm hu⟩, h.1.2⟩, h.2⟩

/-- Thread `t` drops the lock: nobody else held it. -/
theorem OkS.rel (h : OkS s u p) (hl : s.lock = some t) (hu : u ≠ t) : OkS { s with lock := none } u p :=
  ⟨⟨⟨fun hh => absurd (Option.some.inj (hl.symm.trans (h.1.1.1 hh))).symm hu, nofun⟩, h.1.2⟩, h.2⟩

/-- `notify_all` by the lock holder `t`, seen from another thread `u`: if queued it is parked outside
    the lock (`unl` / `susp`, not popped), where `popd` takes it out of the queue and hands it a token;
    elsewhere `popd` changes nothing `OkS` reads. -/
theorem OkS.pop (h : OkS s u p) (hl : s.lock = some t) (hu : u ≠ t) :
    OkS { s with queue := [], tok := fun u => if u ∈ s.queue then s.tok u + 1 else s.tok u } u
      (if u ∈ s.queue then popd p else p) := by
  have hh : holds p = false := by
    cases hp : holds p with
    | false => rfl
    | true => exact absurd (Option.some.inj (hl.symm.trans (h.1.1.1 hp))).symm hu
  have hne : some t ≠ some u := fun he => hu (Option.some.inj he).symm
  obtain ⟨⟨h1, h2, h3, h4, h5⟩, h6⟩ := h
  by_cases hq : u ∈ s.queue
  · have hin := h2.1 hq
    cases p <;> simp [holds, inQ] at hh hin <;> subst hin <;>
      simp [OkS, OkQ, popd, hq, holds, inQ, tokOf, pcOpOk, b2n] at h3 h4 h6 ⊢ <;> simp [h3, h4, h6, hl, hu.symm]
  · have hin : inQ p = false := by
      cases hp : inQ p with
      | false => rfl
      | true => exact absurd (h2.2 hp) hq
    simp only [if_neg hq]
    exact ⟨⟨⟨fun hp => absurd (hh.symm.trans hp) nofun, fun he => absurd (hl.symm.trans he) hne⟩,
      ⟨nofun, fun hp => nomatch (hin.symm.trans hp)⟩, (if_neg hq).trans h3, h4, h5⟩, h6⟩

end PikaVerif.Once
