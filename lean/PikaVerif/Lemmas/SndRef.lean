import PikaVerif.Model.SndRef
/-!
Lemmas for `Model/SndRef.lean`: the receiver contract WITH payload locations, by structural induction
(`spec`): `start` ends with exactly one call of the connected receiver, with the denoted signal and a
payload location that is alive (allocated by this operation, not destroyed), older operation states
untouched, nothing destroyed was accessed.
-/
namespace PikaVerif.SndRef
open PikaVerif.Snd

theorem den_emb (env : List Int) : ∀ t : RT, den t = denote (emb t) env
  | .leaf (.value _) | .leaf (.error _) | .leaf .stopped => by simp [den, emb, denote]
  | .thn _ p | .rs p | .dos p | .sp p => by simp [den, emb, denote, den_emb env p]
  | .wa2 a b => by simp [den, emb, denote, denotes, den_emb env a, den_emb env b]

/-- nothing has been released, nothing at or above the allocation pointer is destroyed -/
structure Pre (s : M) : Prop where
  rel : s.released = false
  fresh : ∀ a, s.next ≤ a → s.dead a = false

/-- `s'` extends `s`: older operation states are neither destroyed nor modified, log and uaf unchanged -/
structure Ext (s s' : M) : Prop where
  next : s.next ≤ s'.next
  dead : ∀ a, a < s.next → s'.dead a = s.dead a
  cells : ∀ a, a < s.next → s'.cells a = s.cells a
  log : s'.log = s.log
  uaf : s'.uaf = s.uaf

/-- the payload location is an operation state allocated at or after `lo` that is not destroyed -/
def Live (lo : Nat) (l : Loc) (s : M) : Prop := ∀ a, l = some a → lo ≤ a ∧ a < s.next ∧ s.dead a = false

theorem Ext.refl (s : M) : Ext s s := ⟨Nat.le_refl _, fun _ _ => rfl, fun _ _ => rfl, rfl, rfl⟩

theorem Ext.trans {s s1 s2 : M} (h1 : Ext s s1) (h2 : Ext s1 s2) : Ext s s2 :=
  ⟨Nat.le_trans h1.next h2.next,
   fun a ha => (h2.dead a (Nat.lt_of_lt_of_le ha h1.next)).trans (h1.dead a ha),
   fun a ha => (h2.cells a (Nat.lt_of_lt_of_le ha h1.next)).trans (h1.cells a ha),
   h2.log.trans h1.log, h2.uaf.trans h1.uaf⟩

theorem ext_alloc (c : WCell) (s : M) : Ext s (alloc c s) :=
  ⟨Nat.le_succ _, fun _ _ => rfl, fun a ha => by simp [alloc, upd, Nat.ne_of_lt ha], rfl, rfl⟩

theorem pre_alloc (c : WCell) {s : M} (h : Pre s) : Pre (alloc c s) :=
  ⟨h.rel, fun a ha => h.fresh a (Nat.le_of_succ_le ha)⟩

theorem ext_setCell {s s' : M} (x : Nat) (c : WCell) (hx : s.next ≤ x) (h : Ext s s') : Ext s (setCell x c s') :=
  ⟨h.next, h.dead, fun a ha => by
      have : a ≠ x := Nat.ne_of_lt (Nat.lt_of_lt_of_le ha hx)
      simp [setCell, upd, this, h.cells a ha], h.log, h.uaf⟩

theorem pre_setCell {s : M} (x : Nat) (c : WCell) (h : Pre s) : Pre (setCell x c s) := ⟨h.rel, h.fresh⟩

theorem touch_eq {s : M} {a : Nat} (hp : Pre s) (hd : s.dead a = false) : touch a s = s := by
  simp [touch, gone, hp.rel, hd]

theorem use_eq {s : M} {lo : Nat} {l : Loc} (hp : Pre s) (hl : Live lo l s) : use l s = s := by
  cases l with
  | none => rfl
  | some a => exact touch_eq hp (hl a rfl).2.2

theorem live_none (lo : Nat) (s : M) : Live lo none s := fun _ h => by cases h

theorem live_mono {lo lo' : Nat} {l : Loc} {s : M} (h : lo' ≤ lo) (hl : Live lo l s) : Live lo' l s :=
  fun a ha => ⟨Nat.le_trans h (hl a ha).1, (hl a ha).2⟩

theorem live_locOf {lo x : Nat} {s : M} (sig : Sig) (h1 : lo ≤ x) (h2 : x < s.next) (h3 : s.dead x = false) :
    Live lo (locOf sig x) s := by
  intro a ha
  unfold locOf at ha
  split at ha
  · cases ha; exact ⟨h1, h2, h3⟩
  · cases ha

theorem dead_own {c : WCell} {s s1 : M} (hp : Pre s) (x1 : Ext (alloc c s) s1) : s1.dead s.next = false := by
  rw [x1.dead s.next (Nat.lt_succ_self _)]; exact hp.fresh _ (Nat.le_refl _)

/-- The receiver contract with payload locations. -/
def Spec (v : Var) (t : RT) : Prop :=
  ∀ (k : Rc) (s : M), Pre s →
    ∃ s' l, start v t k s = k (den t) l s' ∧ Ext s s' ∧ Pre s' ∧ Live s.next l s'

theorem wa_finish (sa sb : Sig) :
    waFinish { waStep 1 { waStep 0 { remaining := 2 } sa with remaining := 1 } sb with remaining := 0 } =
      some (join [sa, sb]) := by
  cases sa <;> cases sb <;> simp [waStep, waFinish, join, joinAux]

theorem waStep_remaining (i : Nat) (w : WCell) (sig : Sig) : (waStep i w sig).remaining = w.remaining := by
  cases sig <;> grind [waStep]

theorem spec_leaf (v : Var) (sig : Sig) : Spec v (.leaf sig) := by
  intro k s hp
  refine ⟨alloc {} s, locOf sig s.next, rfl, ext_alloc _ s, pre_alloc _ hp, ?_⟩
  exact live_locOf sig (Nat.le_refl _) (Nat.lt_succ_self _) (hp.fresh _ (Nat.le_refl _))

theorem spec_thn (v : Var) (f : Fn) (p : RT) (ih : Spec v p) : Spec v (.thn f p) := by
  intro k s hp
  obtain ⟨s1, l, e1, x1, p1, l1⟩ := ih (thenR f k) s hp
  cases hd : den p with
  | value vs =>
    refine ⟨s1, none, ?_, x1, p1, live_none _ _⟩
    simp only [start, e1, den, hd, thenR, use_eq p1 l1]
  | error _ | stopped =>
    refine ⟨s1, l, ?_, x1, p1, l1⟩
    simp only [start, e1, den, hd, thenR, applyThen]

theorem spec_rs (v : Var) (p : RT) (ih : Spec v p) : Spec v (.rs p) := by
  intro k s hp
  obtain ⟨s1, l, e1, x1, p1, l1⟩ := ih (fwdR s.next k) (alloc {} s) (pre_alloc _ hp)
  have hd := dead_own hp x1
  refine ⟨s1, l, ?_, (ext_alloc _ s).trans x1, p1, live_mono (Nat.le_succ _) l1⟩
  simp only [start, e1, den, fwdR, touch_eq p1 hd]

theorem spec_dos (p : RT) (ih : Spec Var.pinned p) : Spec Var.pinned (.dos p) := by
  intro k s hp
  obtain ⟨s1, l, e1, x1, p1, l1⟩ := ih (dosR Var.pinned s.next k) (alloc {} s) (pre_alloc _ hp)
  have hd := dead_own hp x1
  have hx : Ext s s1 := (ext_alloc _ s).trans x1
  refine ⟨freeRange (s.next + 1) s1.next s1, none, ?_, ?_, ?_, live_none _ _⟩
  · simp only [start, e1, den]
    simp only [dosR, touch_eq p1 hd, use_eq p1 l1]
    cases den p <;> simp [Var.pinned]
  · refine ⟨hx.next, fun a ha => ?_, hx.cells, hx.log, hx.uaf⟩
    have : ¬ (s.next + 1 ≤ a) := by omega
    simp [freeRange, this, hx.dead a ha]
  · refine ⟨p1.rel, fun a ha => ?_⟩
    have h1 : s1.dead a = false := p1.fresh a ha
    have : ¬ (a < s1.next) := by simp only [freeRange] at ha; omega
    simp [freeRange, this, h1]

theorem spec_sp (v : Var) (p : RT) (ih : Spec v p) : Spec v (.sp p) := by
  intro k s hp
  obtain ⟨s1, l, e1, x1, p1, l1⟩ := ih (storeR s.next) (alloc {} s) (pre_alloc _ hp)
  have hd := dead_own hp x1
  have hx : Ext s s1 := (ext_alloc _ s).trans x1
  have hn : s.next < s1.next := Nat.lt_of_lt_of_le (Nat.lt_succ_self _) x1.next
  let s2 := setCell s.next { s1.cells s.next with stored := some (den p) } s1
  have p2 : Pre s2 := pre_setCell _ _ p1
  have hd2 : s2.dead s.next = false := hd
  refine ⟨s2, locOf (den p) s.next, ?_, ext_setCell _ _ (Nat.le_refl _) hx, p2,
    live_locOf _ (Nat.le_refl _) hn hd⟩
  simp only [start, e1, den, storeR, touch_eq p1 hd, use_eq p1 l1]
  show visit s.next k s2 = _
  simp only [visit, touch_eq p2 hd2]
  simp [s2, setCell]

theorem spec_wa2 (v : Var) (a b : RT) (iha : Spec v a) (ihb : Spec v b) : Spec v (.wa2 a b) := by
  intro k s hp
  have p0 : Pre (alloc { remaining := 2 } s) := pre_alloc _ hp
  have hd0 : (alloc { remaining := 2 } s).dead s.next = false := hp.fresh _ (Nat.le_refl _)
  obtain ⟨s1, la, e1, x1, p1, l1⟩ := iha (waR s.next 0 k) (alloc { remaining := 2 } s) p0
  have hd1 := dead_own hp x1
  have hc1 : s1.cells s.next = { remaining := 2 } := by
    rw [x1.cells s.next (Nat.lt_succ_self _)]; simp [alloc]
  have hx1 : Ext s s1 := (ext_alloc _ s).trans x1
  have hn1 : s.next < s1.next := Nat.lt_of_lt_of_le (Nat.lt_succ_self _) x1.next
  -- the state after the first predecessor's receiver call
  let w1 : WCell := { waStep 0 { remaining := 2 } (den a) with remaining := 1 }
  let s2 := setCell s.next w1 s1
  have p2 : Pre s2 := pre_setCell _ _ p1
  have hd2 : s2.dead s.next = false := hd1
  have hx2 : Ext s s2 := ext_setCell _ _ (Nat.le_refl _) hx1
  have hfirst : start v a (waR s.next 0 k) (touch s.next (alloc { remaining := 2 } s)) = s2 := by
    rw [touch_eq p0 hd0, e1]
    simp only [waR, touch_eq p1 hd1, use_eq p1 l1, hc1, waStep_remaining]
    simp [s2, w1]
  obtain ⟨s3, lb, e3, x3, p3, l3⟩ := ihb (waR s.next 1 k) s2 p2
  have hn2 : s.next < s2.next := hn1
  have hd3 : s3.dead s.next = false := by rw [x3.dead s.next hn2]; exact hd2
  have hc3 : s3.cells s.next = w1 := by
    rw [x3.cells s.next hn2]; simp [s2, setCell]
  have hx3 : Ext s s3 := hx2.trans x3
  let w2 : WCell := { waStep 1 w1 (den b) with remaining := 0 }
  let s4 := setCell s.next w2 s3
  have hfin : waFinish w2 = some (join [den a, den b]) := wa_finish (den a) (den b)
  refine ⟨s4, locOf (join [den a, den b]) s.next, ?_, ext_setCell _ _ (Nat.le_refl _) hx3,
    pre_setCell _ _ p3, live_locOf _ (Nat.le_refl _) (Nat.lt_of_lt_of_le hn2 x3.next) hd3⟩
  simp only [start, hfirst, touch_eq p2 hd2, e3, den]
  simp only [waR, touch_eq p3 hd3, use_eq p3 l3, hc3, waStep_remaining]
  have : (1 : Nat) - 1 = 0 := rfl
  simp only [w1, this, if_true]
  show (match waFinish w2 with
    | some sg => k sg (locOf sg s.next) s4
    | none => { s4 with uaf := true }) = _
  rw [hfin]

/-- **Receiver contract with payload locations**, the code as it is. -/
theorem spec : ∀ t : RT, Spec Var.pinned t
  | .leaf sig => spec_leaf _ sig
  | .thn f p => spec_thn _ f p (spec p)
  | .rs p => spec_rs _ p (spec p)
  | .dos p => spec_dos p (spec p)
  | .wa2 a b => spec_wa2 _ a b (spec a) (spec b)
  | .sp p => spec_sp _ p (spec p)

theorem pre_init : Pre M.init := ⟨rfl, fun _ _ => rfl⟩

end PikaVerif.SndRef
