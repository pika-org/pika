import PikaVerif.Lemmas.StopStep
/-!
# Phases of the stop_state operations

The invariants read a program point through a handful of functions `Pc → Option Nat` that say for which
callback, if any, the point lies in a certain stretch of an operation: the constructor of `c` (`regPhase`,
`regLockPhase`), its processing by `request_stop` (`winPhase`, and `runPhase` from the store of `is_removed_`
on), its destructor (`unregOf`, with the parts `unregPath`, `unregDone`, `retUnreg`, and `waitOf`).  This file
has the functions, their values at the points where they are not obvious, the inclusions between them, what the
lock loops' `checked` leads to, and `Quiet`: most events move one activity between points that agree on
`phases` and otherwise touch data no layer above B reads.  `enter_upd`, `keep_upd`, `keep_of` … reduce a
statement about all activities after a move to the acting one.
-/
namespace PikaVerif.Stop

/-- constructor of `c` in progress, callback not (yet) registered -/
def regPhase : Pc → Option Nat
  | .ld (.reg c) | .cas (.reg c) _ | .spin (.reg c) | .locked (.reg c) => some c
  | .exec c inl | .body c inl | .post c inl => if inl then some c else none
  | _ => none

/-- the lock loop of the constructor of `c` after its first load -/
def regLockPhase : Pc → Option Nat
  | .cas (.reg c) _ | .spin (.reg c) | .locked (.reg c) => some c
  | _ => none

/-- request_stop is processing the dequeued callback `c` -/
def winPhase : Pc → Option Nat
  | .pre c => some c
  | .exec c inl | .body c inl | .post c inl => if inl then none else some c
  | _ => none

def ranOf : Pc → Nat
  | .body _ _ | .post _ _ => 1
  | _ => 0

/-- destructor of `c` in progress (up to its return) -/
def unregOf : Pc → Option Nat
  | .ld (.unreg c) | .cas (.unreg c) _ | .spin (.unreg c) | .locked (.unreg c) => some c
  | .chk c | .wait c | .retn (.unreg c) _ => some c
  | _ => none

/-- destructor of `c` past the unlink attempt -/
def unregDone : Pc → Option Nat
  | .chk c | .wait c | .retn (.unreg c) _ => some c
  | _ => none

/-- the constructor has returned -/
def started : Life → Bool
  | .live | .dying | .dead => true
  | _ => false

/-- the OS/pika thread an activity belongs to -/
def thr (K a : Nat) : Nat := a % K

/-- the activity is inside an operation -/
def act : Pc → Bool
  | .idle | .fin => false
  | _ => true

/-- destructor about to return -/
def retUnreg : Pc → Option Nat
  | .retn (.unreg c) _ => some c
  | _ => none

/-- the destructor of `c` has returned or has passed its last access to the stop state
    (only the `return` is left) -/
def gone (s : St) (c : Nat) : Prop :=
  s.life c = .dead ∨ retUnreg (s.pc (s.dtorBy c)) = some c

/-- request_stop has published `is_removed_` for `c` and not yet stored the finished flag -/
def runPhase : Pc → Option Nat
  | .exec c inl | .body c inl | .post c inl => if inl then none else some c
  | _ => none

/-- the lock path of `remove_callback` (everything before the `return`) -/
def unregPath : Pc → Option Nat
  | .ld (.unreg c) | .cas (.unreg c) _ | .spin (.unreg c) | .locked (.unreg c) => some c
  | .chk c | .wait c => some c
  | _ => none

/-- `get_self_id()` (after the repair: task id + OS thread id) tells threads apart and nothing else -/
def Faith (s : St) : Prop :=
  0 < s.K ∧ ∀ a b, s.ident a = s.ident b ↔ thr s.K a = thr s.K b

/-- `wait c` as a phase, beside the four phase functions of the model -/
def waitOf : Pc → Option Nat
  | .wait c => some c
  | _ => none

theorem waitOf_eq_some {p : Pc} {c : Nat} : waitOf p = some c ↔ p = .wait c := by
  cases p <;> simp [waitOf]

-- Values of the phase functions at single program counters, kept as the definitions' characterisation.
theorem regPhase_retn_relock (r : Bool) : regPhase (.retn .relock r) = (none : Option Nat) := rfl

theorem regLockPhase_locked_rs : regLockPhase (.locked .rs) = (none : Option Nat) := rfl

theorem regLockPhase_retn_relock (r : Bool) : regLockPhase (.retn .relock r) = (none : Option Nat) := rfl

theorem winPhase_retn_relock (r : Bool) : winPhase (.retn .relock r) = (none : Option Nat) := rfl

theorem ranOf_fin : ranOf .fin = (0 : Nat) := rfl

theorem ranOf_ld_rs : ranOf (.ld .rs) = (0 : Nat) := rfl

theorem ranOf_cas_rs (b : Bool) : ranOf (.cas .rs b) = (0 : Nat) := rfl

theorem ranOf_spin_rs : ranOf (.spin .rs) = (0 : Nat) := rfl

theorem ranOf_retn_rs (r : Bool) : ranOf (.retn .rs r) = (0 : Nat) := rfl

theorem ranOf_retn_reg (c : Nat) (r : Bool) : ranOf (.retn (.reg c) r) = (0 : Nat) := rfl

theorem ranOf_ld_unreg (c : Nat) : ranOf (.ld (.unreg c)) = (0 : Nat) := rfl

theorem ranOf_cas_unreg (c : Nat) (b : Bool) : ranOf (.cas (.unreg c) b) = (0 : Nat) := rfl

theorem ranOf_spin_unreg (c : Nat) : ranOf (.spin (.unreg c)) = (0 : Nat) := rfl

theorem ranOf_locked_unreg (c : Nat) : ranOf (.locked (.unreg c)) = (0 : Nat) := rfl

theorem ranOf_retn_unreg (c : Nat) (r : Bool) : ranOf (.retn (.unreg c) r) = (0 : Nat) := rfl

theorem ranOf_ld_relock : ranOf (.ld .relock) = (0 : Nat) := rfl

theorem ranOf_cas_relock (b : Bool) : ranOf (.cas .relock b) = (0 : Nat) := rfl

theorem ranOf_spin_relock : ranOf (.spin .relock) = (0 : Nat) := rfl

theorem ranOf_retn_relock (r : Bool) : ranOf (.retn .relock r) = (0 : Nat) := rfl

theorem ranOf_chk (c : Nat) : ranOf (.chk c) = (0 : Nat) := rfl

theorem unregOf_retn_relock (r : Bool) : unregOf (.retn .relock r) = (none : Option Nat) := rfl

theorem unregDone_retn_relock (r : Bool) : unregDone (.retn .relock r) = (none : Option Nat) := rfl

theorem retUnreg_retn_relock (r : Bool) : retUnreg (.retn .relock r) = (none : Option Nat) := rfl

theorem runPhase_retn_relock (r : Bool) : runPhase (.retn .relock r) = (none : Option Nat) := rfl

theorem unregPath_retn_relock (r : Bool) : unregPath (.retn .relock r) = (none : Option Nat) := rfl

theorem act_idle : act .idle = (false : Bool) := rfl

theorem act_fin : act .fin = (false : Bool) := rfl

theorem act_ld_rs : act (.ld .rs) = (true : Bool) := rfl

theorem act_spin_rs : act (.spin .rs) = (true : Bool) := rfl

theorem act_locked_rs : act (.locked .rs) = (true : Bool) := rfl

theorem act_retn_rs (r : Bool) : act (.retn .rs r) = (true : Bool) := rfl

theorem act_ld_reg (c : Nat) : act (.ld (.reg c)) = (true : Bool) := rfl

theorem act_cas_reg (c : Nat) (b : Bool) : act (.cas (.reg c) b) = (true : Bool) := rfl

theorem act_spin_reg (c : Nat) : act (.spin (.reg c)) = (true : Bool) := rfl

theorem act_locked_reg (c : Nat) : act (.locked (.reg c)) = (true : Bool) := rfl

theorem act_retn_reg (c : Nat) (r : Bool) : act (.retn (.reg c) r) = (true : Bool) := rfl

theorem act_ld_unreg (c : Nat) : act (.ld (.unreg c)) = (true : Bool) := rfl

theorem act_cas_unreg (c : Nat) (b : Bool) : act (.cas (.unreg c) b) = (true : Bool) := rfl

theorem act_spin_unreg (c : Nat) : act (.spin (.unreg c)) = (true : Bool) := rfl

theorem act_locked_unreg (c : Nat) : act (.locked (.unreg c)) = (true : Bool) := rfl

theorem act_retn_unreg (c : Nat) (r : Bool) : act (.retn (.unreg c) r) = (true : Bool) := rfl

theorem act_ld_relock : act (.ld .relock) = (true : Bool) := rfl

theorem act_cas_relock (b : Bool) : act (.cas .relock b) = (true : Bool) := rfl

theorem act_spin_relock : act (.spin .relock) = (true : Bool) := rfl

theorem act_locked_relock : act (.locked .relock) = (true : Bool) := rfl

theorem act_retn_relock (r : Bool) : act (.retn .relock r) = (true : Bool) := rfl

theorem act_pre (c : Nat) : act (.pre c) = (true : Bool) := rfl

theorem act_exec (c : Nat) (inl : Bool) : act (.exec c inl) = (true : Bool) := by cases ‹Bool› <;> rfl

theorem act_body (c : Nat) (inl : Bool) : act (.body c inl) = (true : Bool) := by cases ‹Bool› <;> rfl

theorem act_post (c : Nat) (inl : Bool) : act (.post c inl) = (true : Bool) := by cases ‹Bool› <;> rfl

/-! ## Inclusions -/

theorem regLock_reg {p : Pc} {c : Nat} (h : regLockPhase p = some c) : regPhase p = some c := by
  cases p with
  | cas k _ | spin k | locked k => cases k <;> first | exact h | cases h
  | _ => cases h

theorem unregDone_unregOf {p : Pc} {c : Nat} (h : unregDone p = some c) : unregOf p = some c := by
  cases p with
  | chk _ | wait _ => exact h
  | retn k _ => cases k <;> first | exact h | cases h
  | _ => cases h

theorem retUnreg_unregDone {p : Pc} {c : Nat} (h : retUnreg p = some c) : unregDone p = some c := by
  cases p with
  | retn k r => cases k <;> first | exact h | cases h
  | _ => cases h

theorem unregPath_unregOf {p : Pc} {c : Nat} (h : unregPath p = some c) : unregOf p = some c := by
  cases p with
  | ld k => cases k <;> first | exact h | cases h
  | cas k b => cases k <;> first | exact h | cases h
  | spin k => cases k <;> first | exact h | cases h
  | locked k => cases k <;> first | exact h | cases h
  | chk c => exact h
  | wait c => exact h
  | _ => cases h

theorem unregOf_split {p : Pc} {c : Nat} (h : unregOf p = some c) :
    unregPath p = some c ∨ retUnreg p = some c := by
  cases p <;> (try cases ‹Kind›) <;> first | exact .inl h | exact .inr h | cases h

theorem runPhase_win {p : Pc} {c : Nat} (h : runPhase p = some c) : winPhase p = some c := by
  cases p with
  | exec _ inl | body _ inl | post _ inl => cases inl <;> first | exact h | cases h
  | _ => cases h

theorem runPhase_retUnreg {p : Pc} {c c' : Nat} (h : runPhase p = some c) (h' : retUnreg p = some c') : False := by
  cases p <;> first | cases h | cases h'

theorem isBody_act {p : Pc} (h : isBody p = true) : act p = true := by
  cases p <;> first | rfl | cases h

theorem winPhase_act {p : Pc} {c : Nat} (h : winPhase p = some c) : act p = true := by
  cases p <;> first | rfl | cases h

/-! ## What an observation of the word leads to -/

theorem checked_S (k : Kind) (lk rq : Bool) (src : Nat) :
    act (checked k lk rq src) = true ∧ ∀ r, checked k lk rq src ≠ .retn .relock r := by
  cases k <;> simp only [checked] <;> repeat' split
  all_goals exact ⟨rfl, nofun⟩

theorem checked_ne_fin (k : Kind) (lk rq : Bool) (src : Nat) : checked k lk rq src ≠ .fin := by
  cases k <;> simp only [checked] <;> repeat' split
  all_goals exact nofun

theorem checked_spin {k k' : Kind} {lk rq : Bool} {src : Nat} (h : checked k lk rq src = .spin k') :
    lk = true := by
  cases k <;> simp only [checked] at h <;> (repeat' split at h) <;> first | assumption | cases h

theorem checked_cas {k k' : Kind} {lk rq b : Bool} {src : Nat} (h : checked k lk rq src = .cas k' b) :
    lk = false ∧ b = rq := by
  cases k <;> simp only [checked] at h <;> (repeat' split at h) <;> cases h <;> simp_all

theorem checked_rs_false {k : Kind} {lk rq : Bool} {src : Nat} (h : checked k lk rq src = .retn .rs false) :
    rq = true := by
  cases k <;> simp only [checked] at h <;> (repeat' split at h) <;> first | assumption | cases h

/-! ## One activity moves -/

theorem upd_same_ne {α : Type} {f : Nat → α} {t : Nat} {v w : α} (h : v ≠ w) : upd f t v t ≠ w := by
  rw [upd_same]; exact h

theorem upd_cases {α : Type} (P : α → Prop) {f : Nat → α} {t u : Nat} {v : α} (h : P (upd f t v u)) :
    (u = t ∧ P v) ∨ (u ≠ t ∧ P (f u)) := by
  by_cases hu : u = t
  · subst hu; rw [upd_same] at h; exact .inl ⟨rfl, h⟩
  · rw [upd_other _ _ _ _ hu] at h; exact .inr ⟨hu, h⟩

theorem upd_eq_ne {α : Type} {f : Nat → α} {t u : Nat} {v w : α} (h : upd f t v u = w) (hv : v ≠ w) :
    u ≠ t ∧ f u = w :=
  (upd_cases (· = w) h).resolve_left fun x => hv x.2

theorem stay_upd {α : Type} {f : Nat → α} {t : Nat} {v w : α} (hv : v ≠ w) : ∀ u, upd f t v u = w → f u = w :=
  fun _ h => (upd_eq_ne h hv).2

/-- The entry written gets the property `P` only with the justification `J`. -/
theorem new_updP {α : Type} (P : α → Prop) {f : Nat → α} {t : Nat} {v : α} {J : Nat → Prop} (h : P v → J t) :
    ∀ u, P (upd f t v u) → P (f u) ∨ J u :=
  fun _ hu => (upd_cases P hu).elim (fun x => .inr (x.1 ▸ h x.2)) (.inl ·.2)

theorem new_upd {α : Type} {f : Nat → α} {t : Nat} {v w : α} {J : Nat → Prop} (h : v = w → J t) :
    ∀ u, upd f t v u = w → f u = w ∨ J u :=
  new_updP (· = w) h

/-- A move of `a` enters phase `φ` only with the justification `J`. -/
theorem enter_upd {φ : Pc → Option Nat} {pc : Nat → Pc} {a : Nat} {p' : Pc} {J : Nat → Nat → Prop}
    (h : ∀ c, φ p' = some c → φ (pc a) = some c ∨ J a c) :
    ∀ u c, φ (upd pc a p' u) = some c → φ (pc u) = some c ∨ J u c :=
  forall_upd (P := fun u p => ∀ c, φ p = some c → φ (pc u) = some c ∨ J u c) (fun _ _ h => .inl h) h

theorem mono_upd {φ : Pc → Option Nat} {pc : Nat → Pc} {a : Nat} {p' : Pc}
    (h : ∀ c, φ p' = some c → φ (pc a) = some c) : ∀ u c, φ (upd pc a p' u) = some c → φ (pc u) = some c :=
  forall_upd (P := fun u p => ∀ c, φ p = some c → φ (pc u) = some c) (fun _ _ h => h) h

/-- A move of `a` within phase `φ`, or else with the justification `J`. -/
theorem keep_upd {φ : Pc → Option Nat} {pc : Nat → Pc} {a : Nat} {p' : Pc} {J : Nat → Prop}
    (h : φ p' = φ (pc a) ∨ J a) : ∀ u, φ (upd pc a p' u) = φ (pc u) ∨ J u :=
  forall_upd (P := fun u p => φ p = φ (pc u) ∨ J u) (fun _ => .inl rfl) h

theorem keep_of {φ : Pc → Option Nat} {pc : Nat → Pc} {a : Nat} {p p' : Pc} {J : Nat → Prop}
    (hp : pc a = p) (h : φ p' = φ p) : ∀ u, φ (upd pc a p' u) = φ (pc u) ∨ J u :=
  keep_upd (.inl (hp ▸ h))

theorem upd_true_of_true {f : Nat → Bool} {t u : Nat} (h : f u = true) : upd f t true u = true := by
  by_cases hu : u = t
  · subst hu; exact upd_same ..
  · rwa [upd_other _ _ _ _ hu]

/-! ## Steps that no layer above B sees -/

/-- What the layers D, U, C read off a program point. -/
structure Phases where
  win : Option Nat
  run : Option Nat
  ret : Option Nat
  path : Option Nat
  wait : Option Nat
  unreg : Option Nat

def phases (p : Pc) : Phases := ⟨winPhase p, runPhase p, retUnreg p, unregPath p, waitOf p, unregOf p⟩

theorem phases_cas (k : Kind) (b : Bool) : phases (.cas k b) = phases (.ld k) := by cases k <;> rfl

theorem phases_spin (k : Kind) : phases (.spin k) = phases (.ld k) := by cases k <;> rfl

theorem phases_locked (k : Kind) : phases (.locked k) = phases (.ld k) := by cases k <;> rfl

theorem phases_checked (k : Kind) (lk rq : Bool) (src : Nat) : phases (checked k lk rq src) = phases (.ld k) := by
  cases k <;> simp only [checked] <;> (repeat' split) <;> rfl

theorem phases_win {p q : Pc} (h : phases q = phases p) : winPhase q = winPhase p := congrArg Phases.win h

theorem phases_run {p q : Pc} (h : phases q = phases p) : runPhase q = runPhase p := congrArg Phases.run h

theorem phases_ret {p q : Pc} (h : phases q = phases p) : retUnreg q = retUnreg p := congrArg Phases.ret h

theorem phases_path {p q : Pc} (h : phases q = phases p) : unregPath q = unregPath p := congrArg Phases.path h

theorem phases_wait {p q : Pc} (h : phases q = phases p) : waitOf q = waitOf p := congrArg Phases.wait h

theorem phases_unreg {p q : Pc} (h : phases q = phases p) : unregOf q = unregOf p := congrArg Phases.unreg h

/-- A step that the layers D, U, C do not see: every activity stays in its phases, and of the
    data only the lock, the source count, `running` and `rsTrue` change. -/
def Quiet (s s' : St) : Prop :=
  ∃ pc lock srcs running rsTrue, (∀ u, phases (pc u) = phases (s.pc u)) ∧
    s' = { s with pc := pc, lock := lock, srcs := srcs, running := running, rsTrue := rsTrue }

theorem Quiet.move {s : St} {a : Nat} {p' : Pc} (hp : phases p' = phases (s.pc a))
    (lock : Option Nat) (srcs : Nat) (running : Nat → Bool) (rsTrue : Nat) :
    Quiet s { s with pc := upd s.pc a p', lock := lock, srcs := srcs, running := running, rsTrue := rsTrue } :=
  ⟨_, _, _, _, _, forall_upd (P := fun u p => phases p = phases (s.pc u)) (fun _ => rfl) hp, rfl⟩

def quietEv : Ev → Bool
  | .load .. | .casFail .. | .reload .. | .rsDone _ | .cbEnd .. | .srcInc _ | .srcDec _ | .query ..
  | .done _ => true
  | _ => false

theorem step_quiet {s s' : St} {e : Ev} (h : step s e = some s') (he : quietEv e = true) : Quiet s s' := by
  cases e with
  | load a lk rq src =>
    obtain ⟨k, _, _, _, _, hp, rfl⟩ := step_load h
    exact .move (by rw [hp, phases_checked]) ..
  | casFail a lk rq src =>
    obtain ⟨k, b, _, _, _, _, hp, rfl⟩ := step_casFail h
    exact .move (by rw [hp, phases_cas]; (repeat' split) <;> simp only [phases_checked, phases_spin, phases_cas]) ..
  | reload a lk rq src =>
    obtain ⟨k, _, _, _, _, hp, rfl⟩ := step_reload h
    exact .move (by rw [hp, phases_checked, phases_spin]) ..
  | rsDone a =>
    obtain ⟨_, _, hp, _, rfl⟩ := step_rsDone h
    exact .move (by rcases hp with hp | hp <;> rw [hp] <;> rfl) ..
  | cbEnd a c =>
    obtain ⟨inl, _, _, hp, rfl⟩ := step_cbEnd h
    exact .move (by rw [hp]; rfl) ..
  | srcInc a => obtain ⟨_, _, rfl⟩ := step_srcInc h; exact ⟨_, _, _, _, _, fun _ => rfl, rfl⟩
  | srcDec a => obtain ⟨_, _, rfl⟩ := step_srcDec h; exact ⟨_, _, _, _, _, fun _ => rfl, rfl⟩
  | query a rq poss => obtain ⟨_, _, _, rfl⟩ := step_query h; exact ⟨_, _, _, _, _, fun _ => rfl, rfl⟩
  | done a =>
    obtain ⟨_, _, hp, rfl⟩ := step_done h
    exact .move (by rw [hp]; rfl) ..
  | _ => cases he

end PikaVerif.Stop
