import PikaVerif.Model.StackClass
/-! The invariant of the stack-class model (`Model/StackClass.lean`): every object filed in a heap has the
    size of a parameter that recycling or pre-allocation assigns to that heap, and every rebind matched
    sizes; preserved by every step of a consistent configuration. -/
namespace PikaVerif.StackClass

theorem heapOf_some {P : String → Nat} {l : List (String × String)} {sz : Nat} {h : String}
    (e : heapOf P l sz = some h) : ∃ p, (p, h) ∈ l ∧ sz = P p := by
  induction l with
  | nil => simp [heapOf] at e
  | cons ph rest ih =>
    obtain ⟨p, h'⟩ := ph
    simp only [heapOf] at e
    split at e
    · simp only [Option.some.injEq] at e; subst e; exact ⟨p, by simp, by assumption⟩
    · obtain ⟨q, hq, hs⟩ := ih e; exact ⟨q, by simp [hq], hs⟩

/-- every filed object sits in a heap of its own size; every rebind matched sizes -/
structure Inv (c : Cfg) (s : St) : Prop where
  filed : ∀ h o, o ∈ s.heaps h → ∃ p, (p, h) ∈ c.recycle ++ c.prefill ∧ o.size = c.P p
  bound : ∀ x ∈ s.rebinds, x.1.size = x.2.2 ∧ ∃ p, c.classParam.lookup x.2.1 = some p ∧ x.2.2 = c.P p

theorem consistent_spec {c : Cfg} (hc : consistent c = true) {p p' h : String}
    (h1 : (p, h) ∈ c.create) (h2 : (p', h) ∈ c.recycle ++ c.prefill) : p = p' := by
  simp only [consistent, List.all_eq_true] at hc
  have := hc _ h1 _ h2
  simpa using this

theorem Inv.file {c : Cfg} {s : St} (hi : Inv c s) {h q : String} {o : Obj}
    (hq : (q, h) ∈ c.recycle ++ c.prefill) (hsz : o.size = c.P q) :
    Inv c { s with heaps := setHeap s.heaps h (o :: s.heaps h) } := by
  refine ⟨fun h' o' ho' => ?_, hi.bound⟩
  simp only [setHeap] at ho'
  split at ho'
  · rename_i e; subst e
    rcases List.mem_cons.1 ho' with rfl | ho'
    · exact ⟨q, hq, hsz⟩
    · exact hi.filed _ o' ho'
  · exact hi.filed h' o' ho'

theorem step_inv (c : Cfg) (hc : consistent c = true) (s s' : St) (e : Ev) (hi : Inv c s)
    (hs : step c s e = some s') : Inv c s' := by
  cases e with
  | create cls o =>
    simp only [step] at hs
    split at hs
    · cases hs
    · rename_i p hp
      split at hs
      · cases hs
      · rename_i h hh
        cases o with
        | none =>
          simp only at hs
          split at hs
          · cases hs; exact hi
          · cases hs
        | some o =>
          simp only at hs
          split at hs
          · rename_i hmem
            cases hs
            -- the heap the object comes from and the class of the new task name the same parameter
            obtain ⟨q, hq, hsz⟩ := heapOf_some hh
            obtain ⟨q', hq', hsz'⟩ := hi.filed h o hmem
            have : q = q' := consistent_spec hc hq hq'
            refine ⟨fun h' o' ho' => ?_, fun x hx => ?_⟩
            · simp only [setHeap] at ho'
              split at ho'
              · rename_i e; subst e; exact hi.filed _ o' (List.mem_of_mem_erase ho')
              · exact hi.filed h' o' ho'
            · rcases List.mem_cons.1 hx with rfl | hx
              · exact ⟨by simp only; rw [hsz', ← this, ← hsz], p, hp, rfl⟩
              · exact hi.bound x hx
          · cases hs
  | recycle o =>
    simp only [step] at hs
    split at hs
    · cases hs
    · rename_i h hh
      cases hs
      obtain ⟨q, hq, hsz⟩ := heapOf_some hh
      exact hi.file (List.mem_append_left _ hq) hsz
  | prefill o p h =>
    simp only [step] at hs
    split at hs
    · rename_i hc'
      cases hs
      exact hi.file (List.mem_append_right _ hc'.1) hc'.2
    · cases hs

theorem inv_init (c : Cfg) : Inv c init := ⟨by intro h o ho; simp [init] at ho, by intro x hx; simp [init] at hx⟩

/-- every rebind in an accepted history of a consistent queue gave the task a stack of the size configured
    for its class -/
theorem rebinds_sized {c : Cfg} (hc : consistent c = true) {log : List Ev} {s : St}
    (h : runLog (step c) init log = some s) :
    ∀ x ∈ s.rebinds, x.1.size = x.2.2 ∧ ∃ p, c.classParam.lookup x.2.1 = some p ∧ x.2.2 = c.P p :=
  (inv_of_runLog (Inv c) (fun s e s' => step_inv c hc s s' e) (inv_init c) h).bound

end PikaVerif.StackClass
