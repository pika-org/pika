import PikaVerif.Lemmas.SemProg
/-!
# Accounting of a program's releases and acquires (C08t)

Bookkeeping, in terms of the model's own fields only (no ghost state), that ties the counters
`released` / `acquired` to the program:
* `relSum`: `released` + permits of the `release` operations in progress before their `sem.add`
  + permits of the `release` operations not yet started is constant along a program run;
* `consSum`: `acquired` + acquire-type operations in progress that have not taken/failed yet
  + acquire-type operations not yet started never increases;
* `hW`: the permits of the releases a thread has still to run *behind an untimed acquire*; it never
  grows, so it stays at most `hazard (prog₀ t)` (the release counts that follow the first `acq` of the thread's program).
-/
namespace PikaVerif.Sem

def relCount : Op → Nat
  | .rel k => k
  | _ => 0

def consCount : Op → Nat
  | .rel _ => 0
  | _ => 1

/-- permits a `release` in progress has not yet added -/
def pendR : Pc → Nat
  | .want o => relCount o
  | .locked o _ => relCount o
  | _ => 0

/-- acquire-type operation in progress that has neither taken a permit nor failed yet -/
def pendC : Pc → Nat
  | .want o => consCount o
  | .locked o _ => consCount o
  | .enq _ | .unl _ _ | .susp _ | .slp _ | .wokeNL _ _ | .relk _ _ => 1
  | _ => 0

/-- inside an untimed `acquire` that has not yet taken its permit -/
def inAcq : Pc → Bool
  | .want o => decide (o = .acq)
  | .locked o _ => decide (o = .acq)
  | .enq tm | .unl tm _ | .wokeNL tm _ | .relk tm _ => !tm
  | .susp _ => true
  | _ => false

def relTot : List Op → Nat
  | [] => 0
  | o :: l => relCount o + relTot l

def consTot : List Op → Nat
  | [] => 0
  | o :: l => consCount o + consTot l

/-- permits released behind the first untimed `acquire` of a thread's program -/
def hazard : List Op → Nat
  | [] => 0
  | o :: l => if o = .acq then relTot l else hazard l

theorem hazard_le_relTot : ∀ l, hazard l ≤ relTot l
  | [] => Nat.le_refl _
  | o :: l => by
    simp only [hazard, relTot]
    split
    · omega
    · have := hazard_le_relTot l; omega

theorem sumTo_add (n : Nat) (f g : Nat → Nat) : sumTo n (fun t => f t + g t) = sumTo n f + sumTo n g := by
  induction n with
  | zero => rfl
  | succ k ih => simp only [sumTo_succ, ih]; omega

/-- an update that keeps the weight keeps the sum (whether or not the thread is below `n`) -/
theorem sumTo_upd_same {α : Type} (n : Nat) (w : α → Nat) (f : Nat → α) (g : Nat) (q : α) (hw : w q = w (f g)) :
    sumTo n (fun u => w (upd f g q u)) = sumTo n (fun u => w (f u)) :=
  sumTo_congr fun u _ => by
    by_cases hu : u = g
    · subst hu; rw [upd_same, hw]
    · rw [upd_other _ _ _ _ hu]

theorem setPopped_pend {q q' : Pc} (h : setPopped q = some q') :
    pendR q' = pendR q ∧ pendC q' = pendC q ∧ inAcq q' = inAcq q := by
  unfold setPopped at h
  split at h <;> cases h <;> simp [pendR, pendC, inAcq]

set_option hygiene false in
macro "acc_step" t:term : tactic => `(tactic| (
  simp only [step] at h
  split at h
  case isFalse => simp at h
  rename_i hg
  have htn : $t < s.n := by grind
  have hle := le_sumTo (f := fun u => pendR (s.pc u)) htn
  have hle2 := le_sumTo (f := fun u => pendC (s.pc u)) htn
  repeat' split at h
  all_goals first | (simp at h; done) | skip
  all_goals (
    simp only [Option.some.injEq] at h
    subst h
    dsimp only
    try rw [sumTo_upd_eq _ pendR _ _ _ htn]
    try rw [sumTo_upd_eq _ pendC _ _ _ htn]
    grind)))

/-- what one accepted non-`inv` event does to the bookkeeping: the two accounts, and no thread enters an
    untimed `acquire` -/
def AccStep (s s' : St) : Prop :=
  s'.released + sumTo s.n (fun u => pendR (s'.pc u)) = s.released + sumTo s.n (fun u => pendR (s.pc u)) ∧
  s'.acquired + sumTo s.n (fun u => pendC (s'.pc u)) ≤ s.acquired + sumTo s.n (fun u => pendC (s.pc u)) ∧
  ∀ u, inAcq (s'.pc u) = true → inAcq (s.pc u) = true

/-- Thread `t` moves to `p'` while `a` permits are added and `b` taken: the accounts balance if the
    permits added were pending at the old pc, and a permit taken ends a pending acquisition. -/
theorem acc_move {s s' : St} {t : Nat} {p' : Pc} {a b : Nat} (htn : t < s.n)
    (hpc : s'.pc = upd s.pc t p') (hr : s'.released = s.released + a) (ha : s'.acquired = s.acquired + b)
    (h1 : a + pendR p' = pendR (s.pc t)) (h2 : b + pendC p' ≤ pendC (s.pc t))
    (h3 : inAcq p' = true → inAcq (s.pc t) = true) : AccStep s s' := by
  have e1 := sumTo_upd s.n pendR s.pc t p' htn
  have e2 := sumTo_upd s.n pendC s.pc t p' htn
  simp only [AccStep, hpc, hr, ha]
  exact ⟨by omega, by omega, forall_upd (P := fun u p => inAcq p = true → inAcq (s.pc u) = true) (fun _ => id) h3⟩

theorem AccStep.trans {s s1 s2 : St} (h1 : AccStep s s1) (h2 : AccStep s1 s2) (hn : s1.n = s.n) :
    AccStep s s2 := by
  simp only [AccStep, hn] at *
  exact ⟨by omega, by omega, fun u h => h1.2.2 u (h2.2.2 u h)⟩

theorem acc_step (s s' : St) (e : Ev) (hne : ∀ t o, e ≠ .inv t o) (h : step s e = some s') : AccStep s s' := by
  cases step_iff.1 h with
  | inv => exact absurd rfl (hne _ _)
  | @take _ o _ htn _ hp ho _ =>
    refine acc_move (a := 0) (b := 1) htn rfl rfl rfl ?_ ?_ nofun <;> cases o with
      | rel k => exact absurd rfl (ho k)
      | _ => simp [hp, pendR, pendC, relCount, consCount]
  | @add _ c htn _ hp =>
    exact acc_move (a := c) (b := 0) htn rfl rfl rfl (by rw [hp]; split <;> simp [pendR, relCount])
      (by rw [hp]; split <;> simp [pendC]) (by split <;> nofun)
  | @cvEnq _ tm _ htn _ hp _ | @wokePopped _ tm htn _ hp =>
    exact acc_move (a := 0) (b := 0) htn rfl rfl rfl (by cases tm <;> simp [hp, pendR, relCount])
      (by cases tm <;> simp [hp, pendC, consCount]) (by cases tm <;> simp [hp, inAcq])
  | acqLoop htn _ hp | relRes htn _ hp =>
    exact acc_move (a := 0) (b := 0) htn rfl rfl rfl (by rw [hp]; split <;> simp [pendR])
      (by rw [hp]; split <;> simp [pendC]) (by split <;> nofun)
  | @pop t i n g rest p' htn _ hp hq hp' =>
    -- marking the target changes none of its classifications; then the notifier moves on
    obtain ⟨e1, e2, e3⟩ := setPopped_pend hp'
    have hgt : t ≠ g := fun he => by rw [← he, hp] at hp'; cases hp'
    have h1 : AccStep s { s with pc := upd s.pc g p' } :=
      ⟨by simp [sumTo_upd_same _ _ _ _ _ e1], by simp [sumTo_upd_same _ _ _ _ _ e2],
        forall_upd (P := fun u p => inAcq p = true → inAcq (s.pc u) = true) (fun _ => id) (e3 ▸ id)⟩
    refine h1.trans (acc_move (a := 0) (b := 0) (s := { s with pc := upd s.pc g p' }) htn rfl rfl rfl ?_ ?_ nofun) rfl
    · show 0 + pendR _ = pendR (upd s.pc g p' t); simp [upd_other _ _ _ _ hgt, hp, pendR]
    · show 0 + pendC _ ≤ pendC (upd s.pc g p' t); simp [upd_other _ _ _ _ hgt, hp, pendC]
  | ret htn hp | done htn hp | cvNone htn _ hp _ | suspend htn hp | woke htn hp _ | sleep htn hp
  | timeout htn hp | wokeTimeout htn _ hp | wokeSpurious htn _ hp | acqWant htn _ hp | acqWoke htn _ hp
  | relEnq htn _ hp | relTaken htn _ hp | relFailing htn _ hp | relFin htn _ hp | relTry htn _ hp _ =>
    exact acc_move (a := 0) (b := 0) htn rfl rfl rfl (by simp [hp, pendR, relCount])
      (by simp [hp, pendC, consCount]) (by simp [hp, inAcq])

/-- what an `inv` event does to the accounts: the counters stay, the invoked operation becomes pending -/
theorem acc_inv (s s' : St) (t : Nat) (o : Op) (h : step s (.inv t o) = some s') :
    s'.released = s.released ∧ s'.acquired = s.acquired ∧ s.pc t = .idle ∧ s'.pc = upd s.pc t (.want o) ∧
    sumTo s.n (fun u => pendR (s'.pc u)) = sumTo s.n (fun u => pendR (s.pc u)) + relCount o ∧
    sumTo s.n (fun u => pendC (s'.pc u)) = sumTo s.n (fun u => pendC (s.pc u)) + consCount o := by
  cases step_iff.1 h with | inv htn hp => ?_
  have e1 := sumTo_upd s.n pendR s.pc t (.want o) htn
  have e2 := sumTo_upd s.n pendC s.pc t (.want o) htn
  have r1 : pendR .idle = 0 := rfl
  have r2 : pendR (.want o) = relCount o := rfl
  have c1 : pendC .idle = 0 := rfl
  have c2 : pendC (.want o) = consCount o := rfl
  rw [hp, r1, r2] at e1
  rw [hp, c1, c2] at e2
  exact ⟨rfl, rfl, hp, rfl, by omega, by omega⟩

def relSum (p : PSt) : Nat :=
  p.s.released + sumTo p.s.n (fun u => pendR (p.s.pc u)) + sumTo p.s.n (fun u => relTot (p.prog u))

def consSum (p : PSt) : Nat :=
  p.s.acquired + sumTo p.s.n (fun u => pendC (p.s.pc u)) + sumTo p.s.n (fun u => consTot (p.prog u))

/-- permits of the releases thread `t` still has to run behind an untimed acquire -/
def hW (p : PSt) (t : Nat) : Nat :=
  if inAcq (p.s.pc t) = true then relTot (p.prog t) else hazard (p.prog t)

theorem cover_step (p p' : PSt) (e : Ev) (h : pstep p e = some p') :
    relSum p' = relSum p ∧ consSum p' ≤ consSum p ∧ ∀ t, hW p' t ≤ hW p t := by
  obtain ⟨hs, ⟨t, o, rest, rfl, hp, hp'⟩ | ⟨hne, hp, -⟩⟩ := layer.sound h <;> have hn := step_n _ _ _ hs
  · have htn := inv_lt hs
    obtain ⟨a1, a2, a3, a4, a5, a6⟩ := acc_inv _ _ _ _ hs
    have b1 := sumTo_upd p.s.n relTot p.prog t rest htn
    have b2 := sumTo_upd p.s.n consTot p.prog t rest htn
    rw [hp] at b1 b2
    simp only [relTot, consTot] at b1 b2
    refine ⟨?_, ?_, ?_⟩
    · simp only [relSum, hn, hp', a1, a5]; omega
    · simp only [consSum, hn, hp', a2, a6]; omega
    · intro u
      simp only [hW, hp', a4, upd]
      by_cases hut : u = t
      · subst hut
        simp only [if_true, a3, hp, inAcq, hazard]
        by_cases ho : o = .acq <;> simp [ho]
      · simp only [hut, if_false]; exact Nat.le_refl _
  · obtain ⟨a1, a2, a3⟩ := acc_step _ _ _ hne hs
    refine ⟨?_, ?_, ?_⟩
    · simp only [relSum, hn, hp]; omega
    · simp only [consSum, hn, hp]; omega
    · intro u
      simp only [hW, hp]
      have := a3 u
      have hz := hazard_le_relTot (p.prog u)
      grind

theorem cover_log (log : List Ev) (p p' : PSt) (h : runLog pstep p log = some p') :
    relSum p' = relSum p ∧ consSum p' ≤ consSum p ∧ ∀ t, hW p' t ≤ hW p t :=
  inv_of_runLog (fun q => relSum q = relSum p ∧ consSum q ≤ consSum p ∧ ∀ t, hW q t ≤ hW p t)
    (fun q e q' ⟨b1, b2, b3⟩ hs => by
      obtain ⟨a1, a2, a3⟩ := cover_step q q' e hs
      exact ⟨by omega, by omega, fun t => Nat.le_trans (a3 t) (b3 t)⟩)
    ⟨rfl, Nat.le_refl _, fun _ => Nat.le_refl _⟩ h

def progRel (n : Nat) (prog : Nat → List Op) : Nat := sumTo n (fun t => relTot (prog t))
def progCons (n : Nat) (prog : Nat → List Op) : Nat := sumTo n (fun t => consTot (prog t))
def progHazard (n : Nat) (prog : Nat → List Op) : Nat := sumTo n (fun t => hazard (prog t))

theorem cover_pinit (n : Nat) (v : Int) (prog : Nat → List Op) :
    relSum (pinit n v prog) = progRel n prog ∧ consSum (pinit n v prog) = progCons n prog ∧
    ∀ t, hW (pinit n v prog) t = hazard (prog t) := by
  refine ⟨?_, ?_, ?_⟩
  · simp only [relSum, pinit, init, progRel]
    have hz : sumTo n (fun _ => pendR Pc.idle) = 0 := sumTo_eq_zero (fun _ _ => rfl)
    rw [hz]; omega
  · simp only [consSum, pinit, init, progCons]
    have hz : sumTo n (fun _ => pendC Pc.idle) = 0 := sumTo_eq_zero (fun _ _ => rfl)
    rw [hz]; omega
  · intro t; simp [hW, pinit, init, inAcq]

end PikaVerif.Sem
