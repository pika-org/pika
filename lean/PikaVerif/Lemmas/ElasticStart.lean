import PikaVerif.Lemmas.Elastic
/-! A worker whose thread never started is untouched: state `initialized`, in its loop, nobody waits
    for it (C19t). -/
namespace PikaVerif.Elastic

/-- what holds of a worker as long as its thread has not started (of a started worker it says nothing) -/
def Unstarted (x : Wk) : Prop := x.actor = none → x.st = rsInit ∧ x.pc = .loop ∧ x.waiters = []

def InvU (s : St) : Prop := ∀ w, Unstarted (s.wk w)

theorem invU_init (cfg : Cfg) : InvU (init cfg) := by
  intro w _
  simp [init]

/-- only `start` sets the actor; on an `initialized` worker in its loop the sleep path is closed, a
    suspender's exchange fails, and the loop round changes neither state word nor position -/
theorem WkStep.unstarted {s : St} {e : Ev} {w : Nat} {x x' : Wk} (h : WkStep s w x e x')
    (hi : Unstarted x) : Unstarted x' := by
  cases h <;> grind [Unstarted, casResult]

theorem step_invU {s s' : St} {e : Ev} (hi : InvU s) (h : step s e = some s') : InvU s' :=
  (Step.of_step h).forall_wk hi fun hw => hw.unstarted (hi _)

theorem invU_of_accepted {cfg : Cfg} {log : List Ev} {s : St} (h : runLog step (init cfg) log = some s) :
    InvU s :=
  inv_of_runLog InvU (fun _ _ _ => step_invU) (invU_init cfg) h

end PikaVerif.Elastic
