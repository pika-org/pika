import PikaVerif.Lemmas.CVInvLocks
/-! Second group of invariants of the condition-variable model (results, bookkeeping).  Every field
    of `Inv2` speaks of one thread at a time: `Inv2At` is that statement for one thread, `Inv2.of_step`
    carries it over an event of another thread. -/
namespace PikaVerif.CV

def isNotify : Op → Bool
  | .notify _ => true
  | _ => false

/-- Which operation a program counter belongs to. -/
def pcOpOk : Pc → Op → Bool
  | .idle, _ | .fin, _ => true
  | .wantU, c => decide (c = .lock)
  | .unlocking, c => decide (c = .unlock)
  | .setting v, c => decide (c = .set v)
  | .predChk f, c => isWait c && isPred c && (!f || isTimed c || isStop c)
  | .want, c | .locked, c | .released, c | .post _, c | .relockU _, c | .retn _, c => isWait c
  | .enq tm, c | .unl tm _, c | .wokeNL tm _, c | .relk tm _, c => isWait c && (tm == isTimed c)
  | .susp _, c => isWait c && !isTimed c
  | .slp _, c => isWait c && isTimed c
  | .nWant, c | .nLocked, c | .nRet, c => isNotify c
  | .nAll, c => decide (c = .notify true)
  | .nDone, c => decide (c = .notify false)
  | .sChk0, c | .sReg, c | .sRegLk, c | .sChk1, c | .sStopped, c | .sDtor _, c | .sRm _, c
  | .sRmChk _, c | .sRmWait _, c => isStop c
  | .cWant k, c | .cLocked k, c | .cAll k, c | .cRet k, c => if k then isStop c else decide (c = .stop)
  | .rsWant, c | .rsLocked, c | .rsRelock, c | .rsRet _, c => decide (c = .stop)
  | .postS _, c => decide (c = .swait true)

/-- What the history flag `poppedOp` must be at each program counter. -/
def poppedOk : Pc → Bool → Bool
  | .locked, b | .released, b | .enq _, b | .sChk1, b => !b
  | .unl _ p, b | .susp p, b | .slp p, b | .wokeNL _ p, b | .relk _ p, b => p == b
  | .post still, b | .relockU still, b | .postS still, b => (!still) == b
  | _, _ => true

/-- Program counters that cannot occur as long as no timed wait was ever enqueued: timed
    ones, and an untimed waiter that woke up without having been popped. -/
def badU : Pc → Bool
  | .enq tm | .unl tm _ => tm
  | .slp _ => true
  | .wokeNL tm p | .relk tm p => tm || !p
  | _ => false

/-- Result carried through `~stop_callback` of a stop-token wait. -/
def dtorRes : Pc → Option Nat
  | .sDtor r | .sRm r | .sRmChk r | .sRmWait r => some r
  | _ => none

/-- Program counters between a predicate evaluation that returned false and the release of
    the user lock / the `return false` of the stop-token wait. -/
def pfPc : Pc → Bool
  | .want | .sChk1 | .sStopped => true
  | _ => false

structure Inv2 (s : St) : Prop where
  opOk : ∀ t, pcOpOk (s.pc t) (s.curOp t) = true
  predRes : ∀ t r, s.pc t = .retn r → isPred (s.curOp t) = true → r = b2n s.flag
  popped : ∀ t, poppedOk (s.pc t) (s.poppedOp t) = true
  timedRes : ∀ t r, s.pc t = .retn r → s.curOp t = .wait true false → r = b2n (!s.poppedOp t)
  untimedRes : ∀ t r, s.pc t = .retn r → isTimed (s.curOp t) = false → isStop (s.curOp t) = false →
    r = b2n (isPred (s.curOp t))
  counts : ∀ t, s.pops t + b2n (inQ (s.pc t)) ≤ s.enqs t
  untimed : ∀ t, s.everTimed = false → badU (s.pc t) = false ∧ s.tok t = b2n (needTok (s.pc t))
  predRes2 : ∀ t r, dtorRes (s.pc t) = some r → r = b2n s.flag
  predFalse : ∀ t, isPred (s.curOp t) = true → pfPc (s.pc t) = true → s.flag = false

theorem isStop_facts {c : Op} (h : isStop c = true) :
    isWait c = true ∧ isPred c = true ∧ isNotify c = false ∧ c = .swait (isTimed c) := by
  cases c <;> simp [isStop] at h <;> simp [isWait, isPred, isTimed, isNotify]

/-- What `Inv2` says about one thread, as a statement about that thread's values alone: every field
    of `Inv2` is a statement about each thread separately. -/
def Inv2At (fl ev : Bool) (p : Pc) (c : Op) (po : Bool) (pops enqs tok : Nat) : Prop :=
  pcOpOk p c = true ∧ (∀ r, p = .retn r → isPred c = true → r = b2n fl) ∧ poppedOk p po = true ∧
  (∀ r, p = .retn r → c = .wait true false → r = b2n (!po)) ∧
  (∀ r, p = .retn r → isTimed c = false → isStop c = false → r = b2n (isPred c)) ∧
  pops + b2n (inQ p) ≤ enqs ∧ (ev = false → badU p = false ∧ tok = b2n (needTok p)) ∧
  (∀ r, dtorRes p = some r → r = b2n fl) ∧ (isPred c = true → pfPc p = true → fl = false)

theorem Inv2.at {s : St} (hi : Inv2 s) (t : Nat) :
    Inv2At s.flag s.everTimed (s.pc t) (s.curOp t) (s.poppedOp t) (s.pops t) (s.enqs t) (s.tok t) :=
  ⟨hi.opOk t, hi.predRes t, hi.popped t, hi.timedRes t, hi.untimedRes t, hi.counts t, hi.untimed t,
    hi.predRes2 t, hi.predFalse t⟩

theorem Inv2.of_at {s : St}
    (h : ∀ t, Inv2At s.flag s.everTimed (s.pc t) (s.curOp t) (s.poppedOp t) (s.pops t) (s.enqs t) (s.tok t)) :
    Inv2 s :=
  ⟨fun t => (h t).1, fun t => (h t).2.1, fun t => (h t).2.2.1, fun t => (h t).2.2.2.1, fun t => (h t).2.2.2.2.1,
    fun t => (h t).2.2.2.2.2.1, fun t => (h t).2.2.2.2.2.2.1, fun t => (h t).2.2.2.2.2.2.2.1,
    fun t => (h t).2.2.2.2.2.2.2.2⟩

theorem inv2_init (n : Nat) (f : Bool) : Inv2 (init n f) :=
  .of_at fun _ => ⟨rfl, nofun, rfl, nofun, nofun, Nat.le_refl 0, fun _ => ⟨rfl, rfl⟩, nofun, nofun⟩

/-- The flag and `everTimed` stay.  Every thread the event leaves alone keeps its part of `Inv2`
    (`step_other`); what is left is the acting thread and the target of a pop. -/
theorem Inv2.of_step {s s' : St} {e : Ev} (hi : Inv2 s) (h : step s e = some s') (hfl : s'.flag = s.flag)
    (hev : s'.everTimed = s.everTimed) {t : Nat} (ht : actor e = t) {p' : Pc} (hpc : s'.pc t = p')
    (hact : Inv2At s.flag s.everTimed p' (s'.curOp t) (s'.poppedOp t) (s'.pops t) (s'.enqs t) (s'.tok t))
    (htgt : ∀ g, popTarget e = some g → g ≠ t →
      Inv2At s.flag s.everTimed (s'.pc g) (s'.curOp g) (s'.poppedOp g) (s'.pops g) (s'.enqs g) (s'.tok g)) :
    Inv2 s' := by
  refine .of_at fun u => ?_
  rw [hfl, hev]
  by_cases hu : u = t
  · rw [hu, hpc]; exact hact
  · by_cases hg : popTarget e = some u
    · exact htgt u hg hu
    · obtain ⟨h1, h2, _, h4, h5, h6, h7, _⟩ := step_other h (ht ▸ hu) hg
      rw [h1, h2, h4, h5, h6, h7]; exact hi.at u

theorem dtorRes_holdsU {p : Pc} {r : Nat} (h : dtorRes p = some r) : holdsU p = true := by
  cases p <;> simp [dtorRes] at h <;> rfl

theorem pfPc_holdsU {p : Pc} (h : pfPc p = true) : holdsU p = true := by
  cases p <;> simp [pfPc] at h <;> rfl

/-! What one event does to the acting thread's part of `Inv2` (`Inv2At`): statements about program
    counters and the thread's own values, each a finite check of the classifying functions. -/
section local_steps
-- `fl ev`: the flag and `everTimed`; `c po a b k`: the thread's `curOp`, `poppedOp`, `pops`, `enqs`, `tok`
variable {fl ev po : Bool} {c : Op} {a b k : Nat}

attribute [local grind] inQ needTok b2n isTimed isPred isWait isNotify pcOpOk poppedOk badU isStop dtorRes pfPc
  exitPc
attribute [local grind →] isStop_facts

namespace Inv2At

theorem start (h : Inv2At fl ev .idle c po a b k) (o : Op) (po' : Bool) :
    Inv2At fl ev (entryPc o) o po' a b k := by
  cases o <;> (unfold Inv2At entryPc at *; grind)

theorem toIdle {p : Pc} (h : Inv2At fl ev p c po a b k) (hk : needTok p = false) :
    Inv2At fl ev .idle c po a b k := by
  unfold Inv2At at *; grind

/-- The flag is read only at program counters that hold the user lock. -/
theorem setFlag {p : Pc} (h : Inv2At fl ev p c po a b k) (hu : holdsU p = false) (v : Bool) :
    Inv2At v ev p c po a b k := by
  obtain ⟨h1, _, h3, h4, h5, h6, h7, _, _⟩ := h
  exact ⟨h1, fun r hr => (by rw [hr] at hu; cases hu), h3, h4, h5, h6, h7,
    fun r hr => (by rw [dtorRes_holdsU hr] at hu; cases hu), fun _ hp => (by rw [pfPc_holdsU hp] at hu; cases hu)⟩

theorem slAcq_want (h : Inv2At fl ev .want c po a b k) :
    Inv2At fl ev (if isStop c then .sChk1 else .locked) c false a b k := by
  unfold Inv2At at *; grind

theorem slAcq_cWant {x : Bool} (h : Inv2At fl ev (.cWant x) c po a b k) :
    Inv2At fl ev (.cLocked x) c po a b k := by
  unfold Inv2At at *; grind

theorem slAcq_wokeNL {tm q : Bool} (h : Inv2At fl ev (.wokeNL tm q) c po a b k) :
    Inv2At fl ev (.relk tm q) c po a b k := by
  unfold Inv2At at *; grind

theorem slAcq_nWant (h : Inv2At fl ev .nWant c po a b k) : Inv2At fl ev .nLocked c po a b k := by
  unfold Inv2At at *; grind

theorem cvEnq (h : Inv2At fl ev .released c po a b k) :
    Inv2At fl (ev || isTimed c) (.enq (isTimed c)) c po a (b + 1) k := by
  unfold Inv2At at *; grind

theorem everTimed {p : Pc} (h : Inv2At fl ev p c po a b k) (tm : Bool) :
    Inv2At fl (ev || tm) p c po a b k := by
  unfold Inv2At at *; grind

theorem cvNone (hc : c = .notify false) (h : Inv2At fl ev .nLocked c po a b k) :
    Inv2At fl ev .nDone c po a b k := by
  unfold Inv2At at *; grind

theorem woke {q : Bool} (h : Inv2At fl ev (.susp q) c po a b k) (hk : 0 < k) :
    Inv2At fl ev (.wokeNL false q) c po a b (k - 1) := by
  unfold Inv2At at *; grind

theorem sleep {q : Bool} (h : Inv2At fl ev (.unl true q) c po a b k) :
    Inv2At fl ev (.slp q) c po a b 0 := by
  unfold Inv2At at *; grind

theorem stWaited {r : Nat} (h : Inv2At fl ev (.sRmWait r) c po a b k) :
    Inv2At fl ev (.retn r) c po a b k := by
  have hr := h.2.2.2.2.2.2.2.1 r rfl
  unfold Inv2At at *; grind

/-- The target of a pop: its entry leaves the queue and is counted, and unless the resume is
    dropped (only at `slp false`, which needs no token) it gets a token. -/
theorem popped {p p' : Pc} {d : Bool} (h : Inv2At fl ev p c po a b k) (hs : setPopped p = some p')
    (hd : d = decide (p = .slp false)) :
    Inv2At fl ev p' c true (a + 1) b (if d then k else k + 1) := by
  rcases setPopped_some hs with ⟨tm, rfl, rfl⟩ | ⟨rfl, rfl⟩ | ⟨rfl, rfl⟩ | ⟨tm, rfl, rfl⟩ <;>
    (unfold Inv2At at *; grind)

end Inv2At

theorem step_inv2 (s s' : St) (e : Ev) (hA : Inv s) (hi : Inv2 s) (h : step s e = some s') : Inv2 s' := by
  obtain ⟨p, p', ht, hp, hloc, hg, rfl⟩ := Step.of_step h
  have h0 := hi.at (actor e)
  rw [hp] at h0
  -- a pop: the target's entry leaves the queue and is counted; the notifier `t` is another thread
  have pop : ∀ {t z g : Nat} {d : Bool} {pcT : Pc} {s' : St}, step s e = some s' → actor e = t → popTarget e = some g →
      s.queue.head? = some g ∧ z = s.queue.tail.length ∧ (setPopped (s.pc g)).isSome = true ∧
        d = decide (s.pc g = .slp false) → inQ (s.pc t) = false →
      s' = { s with queue := s.queue.tail, tok := tokTo s g d, pc := upd (popped s.pc g) t pcT,
                    waiting := upd s.waiting g false, poppedOp := upd s.poppedOp g true,
                    pops := upd s.pops g (s.pops g + 1) } →
      Inv2At s.flag s.everTimed pcT (s.curOp t) (s.poppedOp t) (s.pops t) (s.enqs t) (s.tok t) → Inv2 s' := by
    rintro t z g d pcT _ h ha hg ⟨hq, _, hs, hd⟩ hnq rfl hT
    obtain ⟨q, hsp⟩ := Option.isSome_iff_exists.1 hs
    have hgt : t ≠ g := fun e => by
      have := (hA.qIff g).1 (List.mem_of_mem_head? hq); rw [← e, hnq] at this; cases this
    refine hi.of_step h rfl rfl ha (upd_same ..) ?_ fun g' hg' hne => ?_
    · show Inv2At _ _ _ _ (upd s.poppedOp g true t) (upd s.pops g _ t) _ (tokTo s g d t)
      rw [upd_other _ _ _ _ hgt, upd_other _ _ _ _ hgt, tokTo_other s d hgt]; exact hT
    · cases hg.symm.trans hg'
      show Inv2At _ _ (upd (popped s.pc g) t pcT g) _ (upd s.poppedOp g true g) (upd s.pops g _ g) _ (tokTo s g d g)
      rw [upd_other _ _ _ _ hne, popped_same hsp, upd_same, upd_same, tokTo_same]
      exact (hi.at g).popped hsp hd
  cases hloc <;> simp only [actor, Guard] at ht hp hg h0
  case inv t o =>
    refine hi.of_step h rfl rfl rfl (upd_same ..) ?_ nofun
    simp only [write, actor]
    split <;> simp only [upd_same] <;> exact h0.start o _
  case setFlag t v =>
    -- `t` holds the user lock, so no other thread is at a program counter where the flag matters
    have hut := hA.uHolder t (by rw [hp]; rfl)
    refine .of_at fun u => ?_
    by_cases hu : u = t
    · subst hu; simp only [write, actor, upd_same]; exact (h0.toIdle rfl).setFlag rfl v
    · simp only [write, actor, upd_other _ _ _ _ hu]
      refine (hi.at u).setFlag ?_ v
      cases hh : holdsU (s.pc u) with
      | false => rfl
      | true => exact absurd (Option.some.inj ((hA.uHolder u hh).symm.trans hut)) hu
  case acqW t =>
    refine hi.of_step h rfl rfl rfl (upd_same ..) ?_ nofun
    simp only [write, actor, ↓reduceIte, upd_same]; exact h0.slAcq_want
  case acqC => exact hi.of_step h rfl rfl rfl (upd_same ..) h0.slAcq_cWant nofun
  case acqK => exact hi.of_step h rfl rfl rfl (upd_same ..) h0.slAcq_wokeNL nofun
  case acqN => exact hi.of_step h rfl rfl rfl (upd_same ..) h0.slAcq_nWant nofun
  case enq t z tm =>
    obtain ⟨_, _, rfl⟩ := hg
    refine .of_at fun u => ?_
    by_cases hu : u = t
    · subst hu; simp only [write, actor, upd_same]; exact h0.cvEnq
    · simp only [write, actor, upd_other _ _ _ _ hu]; exact (hi.at u).everTimed _
  -- the notifier of a `notify_one` goes `nLocked → nDone`, as at `cv.none`
  case pop1 => exact pop h rfl rfl hg.2.2 (congrArg inQ hp) rfl (h0.cvNone hg.2.1)
  case popA | popC => exact pop h rfl rfl hg.2 (congrArg inQ hp) rfl h0
  case woke t q =>
    refine hi.of_step h rfl rfl rfl (upd_same ..) ?_ nofun
    simp only [write, actor, upd_same]; exact h0.woke hg
  case sleep t q =>
    refine hi.of_step h rfl rfl rfl (upd_same ..) ?_ nofun
    simp only [write, actor, upd_same]; exact h0.sleep
  case waited => exact hi.of_step h rfl rfl rfl (upd_same ..) h0.stWaited nofun
  case wokeK t still tm =>
    cases still <;> refine hi.of_step h rfl rfl rfl (upd_same ..) ?_ nofun <;>
      (clear hi hA h pop; simp only [Inv2At, write, actor] at *; grind)
  -- the other lines only move the program counter of their thread: what `Inv2` says of the thread's own
  -- values at the new one follows from what it says at the old one, a finite check of the classifying
  -- functions
  all_goals
    refine hi.of_step h ?_ ?_ rfl (upd_same ..) ?_ nofun <;> first | rfl | skip
    clear hi hA h pop
    simp only [Inv2At, exitPc, write, actor] at *; grind

end local_steps

theorem inv2_of_accepted {n : Nat} {f : Bool} {log : List Ev} {s : St}
    (h : runLog step (init n f) log = some s) : Inv s ∧ Inv2 s :=
  inv_of_runLog (fun s => Inv s ∧ Inv2 s)
    (fun s e s' hi hs => ⟨step_inv s s' e hi.1 hs, step_inv2 s s' e hi.1 hi.2 hs⟩) ⟨inv_init n f, inv2_init n f⟩ h

end PikaVerif.CV
