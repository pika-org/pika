import PikaVerif.Lemmas.CVAbort
/-! Enabledness lemmas for the progress theorem of the `abort_all` model (`C07d_abort_stuck_only_when_blocked`). -/
namespace PikaVerif.CVAbort

/-- Events inside an operation (everything except invoking a new operation / finishing the thread). -/
def inner : Ev → Bool
  | .inv _ _ => false
  | .done _ => false
  | _ => true

theorem setPopped_some_of_linked {p : Pc} (h1 : inQ p = true) (h2 : holds p = false) :
    ∃ p', setPopped p = some p' := by
  cases p <;> simp [inQ, holds] at h1 h2 <;> (try subst h1) <;> simp [setPopped]

/-- While a thread whose own entry is not linked holds the lock, every linked entry can be popped:
    its owner does not hold the lock, so it is past `cv.enq` and before its re-examination. -/
theorem poppable_of_locked {s : St} (hi : Inv s) {r g : Nat} (hl : s.lock = some r)
    (hr : inQ (s.pc r) = false) (hg : g ∈ s.queue ∨ g ∈ s.lq) : ∃ p', setPopped (s.pc g) = some p' := by
  have hin := (hi.qIff g).1 hg
  refine setPopped_some_of_linked hin ?_
  cases hx : holds (s.pc g) with
  | false => rfl
  | true =>
    have := hl.symm.trans ((hi.lockIff g).2 hx)
    rw [Option.some.inj this, hin] at hr
    nomatch hr

/-- The holder of the internal lock always has an enabled event inside its operation. -/
theorem en_of_holds (s : St) (hi : Inv s) (r : Nat) (hl : s.lock = some r) :
    ∃ e, (step s e).isSome = true ∧ inner e = true := by
  have hh := (hi.lockIff r).1 hl
  cases hp : s.pc r <;> simp [hp, holds] at hh
  case wLocked tm => exact ⟨.cvEnq r (s.queue.length + 1) tm, by simp [step, hl, hp], rfl⟩
  case enq tm => exact ⟨.slRel r, by simp [step, hl, hp], rfl⟩
  case relk tm p => exact ⟨.cvWoke r (!p) tm, by cases p <;> simp [step, hl, hp], rfl⟩
  case thrLk p => exact ⟨.threw r, by cases p <;> simp [step, hl, hp], rfl⟩
  case post x => exact ⟨.slRel r, by simp [step, hl, hp], rfl⟩
  case nDone => exact ⟨.slRel r, by simp [step, hl, hp], rfl⟩
  case aPopped g => exact ⟨.slRel r, by simp [step, hl, hp], rfl⟩
  case aDone => exact ⟨.slRel r, by simp [step, hl, hp], rfl⟩
  case nLocked all =>
    cases all with
    | true => exact ⟨.cvAll r s.queue.length, by simp [step, hl, hp], rfl⟩
    | false =>
      cases hq : s.queue with
      | nil => exact ⟨.cvNone r, by simp [step, hl, hp, hq], rfl⟩
      | cons g rest =>
        obtain ⟨p', hp'⟩ := poppable_of_locked hi (g := g) hl (by rw [hp]; rfl) (by simp [hq])
        exact ⟨.popResume r rest.length g (isSlp (s.pc g)), by simp [step, hl, hp, popCore, hq, hp'], rfl⟩
  case nAll =>
    cases hq : s.queue with
    | nil => exact ⟨.slRel r, by simp [step, hl, hp, hq], rfl⟩
    | cons g rest =>
      obtain ⟨p', hp'⟩ := poppable_of_locked hi (g := g) hl (by rw [hp]; rfl) (by simp [hq])
      exact ⟨.popAll r rest.length g (isSlp (s.pc g)), by simp [step, hl, hp, popCore, hq, hp'], rfl⟩
  case aLoop =>
    cases hlq : s.lq with
    | cons g rest =>
      obtain ⟨p', hp'⟩ := poppable_of_locked hi (g := g) hl (by rw [hp]; rfl) (by simp [hlq])
      exact ⟨.abPop r rest.length g, by simp [step, hl, hp, hlq, hp'], rfl⟩
    | nil =>
      cases hq : s.queue with
      | nil => exact ⟨.abDone r 0, by simp [step, hl, hp, hq, hlq], rfl⟩
      | cons g rest => exact ⟨.abSwap r (rest.length + 1), by simp [step, hl, hp, hq, hlq], rfl⟩

end PikaVerif.CVAbort
