import PikaVerif.Model.StopRef
/-! For the repaired code variant (`fix = true`, runs from `init true H`): the source count of every stop
    state equals the number of live sources owning it (`Inv`, preserved by every operation). -/
namespace PikaVerif.StopRef

theorem cntF_upd (H : Nat) (f : Nat → Handle) (st i : Nat) (v : Handle) (h : i < H) :
    cntF H (upd f i v) st = cntF H f st - isOn st (f i) + isOn st v := by
  simp only [cntF]
  exact sumTo_upd_eq H (isOn st) f i v h

theorem cntF_le (H : Nat) (f : Nat → Handle) (st i : Nat) (h : i < H) : isOn st (f i) ≤ cntF H f st :=
  le_sumTo (f := fun i => isOn st (f i)) h

theorem cntF_zero (H : Nat) (f : Nat → Handle) (st : Nat) (h : ∀ i, f i ≠ some (some st)) :
    cntF H f st = 0 := by
  simp only [cntF]
  apply sumTo_eq_zero
  intro t _
  simp [isOn, h t]

structure Inv (s : St) : Prop where
  fix : s.fix = true
  cnt : ∀ st, s.srcs st = liveSources s st
  /-- stop states owned by a source have been allocated (they lie below `next`) -/
  freshS : ∀ i st, s.src i = some (some st) → st < s.next

theorem inv_init (H : Nat) : Inv (init true H) := by
  refine ⟨rfl, ?_, ?_⟩
  · intro st
    simp only [init, liveSources]
    rw [cntF_zero]
    intro i; simp
  · intro i st h; simp [init] at h

attribute [local grind] isOn incAt decAt

-- `ref_step i j`: preservation of `Inv` by a source operation on the handles `i`, `j` (the same handle
-- twice for a unary operation).  It works on the hypotheses `h : step s o = some s'` and `hi : Inv s` of
-- the caller by name: after unfolding `step` and dropping the rejecting branches, the count field follows
-- from `cntF_upd` at `i` and `j`, the others by `grind`.
set_option hygiene false in
macro "ref_step" a:ident b:ident : tactic => `(tactic| (
  simp only [step] at h
  obtain ⟨h0, h1, h2⟩ := hi
  split at h
  case isFalse => simp at h
  rename_i hg
  have hgi : $a < s.H := by first | exact hg | exact hg.1
  have hgj : $b < s.H := by first | exact hg | exact hg.1 | exact hg.2 | exact hg.2.1
  have hz := cntF_zero s.H s.src s.next (fun i hc => Nat.lt_irrefl _ (h2 i _ hc))
  repeat' split at h
  all_goals first | (simp at h; done) | skip
  all_goals (
    simp only [Option.some.injEq] at h
    subst h
    refine ⟨?_, ?_, ?_⟩ <;> try dsimp only
  )
  all_goals first
    | assumption
    | (intro st; have e := h1 st; simp only [liveSources] at e ⊢
       have l1 := cntF_le s.H s.src st _ hgi
       have l2 := cntF_le s.H s.src st _ hgj
       try rw [cntF_upd _ _ _ _ _ hgj]
       try rw [cntF_upd _ _ _ _ _ hgi]
       grind [upd])
    | (intro u; grind [upd])
    | grind [upd]))

theorem step_inv (s s' : St) (o : Op) (hi : Inv s) (h : step s o = some s') : Inv s' := by
  cases o with
  | snew i => ref_step i i
  | snone i => ref_step i i
  | scopy i j => ref_step i j
  | smove i j => ref_step i j
  | sassign i j => ref_step i j
  | smassign i j => ref_step i j
  | sswap i j => ref_step i j
  | sdel i => ref_step i i
  | _ =>
    -- token handles and stop requests leave the source side (`src`, `srcs`, `next`) alone
    simp only [step] at h
    repeat' split at h
    all_goals cases h
    all_goals exact ⟨hi.fix, hi.cnt, hi.freshS⟩

theorem inv_of_accepted {H : Nat} {log : List Op} {s : St}
    (h : runLog step (init true H) log = some s) : Inv s :=
  inv_of_runLog Inv (fun s e s' => step_inv s s' e) (inv_init H) h

end PikaVerif.StopRef
