import PikaVerif.Lemmas.SemProg
/-!
# Solo continuations: one `release(k)` call wakes `min k (blocked acquirers)` waiters (C08t)

`relSolo r k v q` is the exact event sequence the releaser `r` produces when it runs alone from
the start of `release(k)` (lock free, stored count `v`, wait queue `q` of parked acquirers);
`acqSolo g v` is the sequence a woken acquirer produces when it then runs alone.
-/
namespace PikaVerif.Sem

/-- the notify loop of `release`, entered at iteration `i` of `k` with the lock held -/
def popLoop (r : Nat) : Nat → Nat → List Nat → List Ev
  | _, _, [] => [.cvNone r, .slRel r]
  | i, k, g :: rest =>
    .popResume r rest.length g false :: .slRel r ::
      (if rest = [] then [] else .slAcq r :: (if i + 1 < k then popLoop r (i + 1) k rest else [.slRel r]))

theorem popLoop_length (r k : Nat) : ∀ (q : List Nat) (i : Nat), i < k →
    (popLoop r i k q).length ≤ 3 * min (k - i) q.length + 2 := by
  intro q
  induction q with
  | nil => intro i _; simp [popLoop]
  | cons g rest ih =>
    intro i hik
    have h1 := ih (i + 1)
    have h2 : rest ≠ [] → 0 < rest.length := List.length_pos_iff.2
    simp only [popLoop]
    split
    · simp
    · split <;> simp <;> omega

/-- the state after the notify loop has popped the first `m` entries of `q` -/
def afterLoop (s : St) (r m : Nat) (q : List Nat) : St :=
  { s with lock := none, queue := q.drop m,
           tok := fun u => if u ∈ q.take m then s.tok u + 1 else s.tok u,
           pc := fun u => if u = r then .retn false else if u ∈ q.take m then .susp true else s.pc u }

/-- **The notify loop.**  Entered at iteration `i < k` with the queue `q` of parked acquirers, the
    releaser running alone pops and resumes the first `min (k - i) |q|` of them, leaves the others
    queued and untouched, and ends with the lock released, about to return. -/
theorem popLoop_run (r k : Nat) : ∀ (q : List Nat) (i : Nat) (s : St),
    s.lock = some r → r < s.n → s.pc r = .relL i k → i < k → s.queue = q →
    (∀ g, g ∈ q → s.pc g = .susp false) → q.Nodup → 0 ≤ s.value →
    runLog step s (popLoop r i k q) = some (afterLoop s r (k - i) q) := by
  intro q
  induction q with
  | nil =>
    intro i s hl hr hp hik hq _ _ _
    simp [popLoop, runLog, step, hl, hr, hp, hq, afterLoop]
    rfl
  | cons g rest ih =>
    intro i s hl hr hp hik hq hpark hnd hv
    have hgs : s.pc g = .susp false := hpark g (by simp)
    have hgr : g ≠ r := fun he => by rw [he, hp] at hgs; cases hgs
    have hnd' : g ∉ rest ∧ rest.Nodup := by simpa using hnd
    have hki : k - i = (k - (i + 1)) + 1 := by omega
    have hrr : r ∉ rest := fun h => by have := hpark r (by simp [h]); rw [hp] at this; cases this
    by_cases hrest : rest = []
    · subst hrest
      simp [popLoop, runLog, step, hl, hr, hp, hq, hgs, setPopped, afterLoop, hki]
      constructor <;> funext u <;> simp only [upd] <;> grind
    · by_cases hk : i + 1 < k
      · have hv' : (i + 1 < k ∧ 0 ≤ s.value) := ⟨hk, hv⟩
        simp only [popLoop, hrest, hk, if_false, if_true, runLog]
        simp [step, hl, hr, hp, hq, hgs, setPopped, hrest, hv']
        refine (ih (i + 1) _ ?_ ?_ ?_ hk ?_ (fun g' hg' => ?_) hnd'.2 ?_).trans ?_
        · rfl
        · exact hr
        · exact upd_same ..
        · rfl
        · have h1 : g' ≠ r := fun h => hrr (h ▸ hg')
          have h2 : g' ≠ g := fun h => hnd'.1 (h ▸ hg')
          simpa [upd, h1, h2] using hpark g' (by simp [hg'])
        · exact hv
        simp [afterLoop, hki]
        constructor <;> funext u <;> simp only [upd] <;> grind
      · have hk1 : k - i = 1 := by omega
        simp [popLoop, hrest, hk, runLog, step, hl, hr, hp, hq, hgs, setPopped, afterLoop, hk1]
        constructor <;> funext u <;> simp only [upd] <;> grind

/-- the complete solo run of `release(k)` by thread `r` from the start of the call, with stored
    count `v` and wait queue `q` -/
def relSolo (r k : Nat) (v : Int) (q : List Nat) : List Ev :=
  .slAcq r :: .add r (v + k) k :: ((if 0 < k then popLoop r 0 k q else [.slRel r]) ++ [.ret r false])

theorem relSolo_length (r k : Nat) (v : Int) (q : List Nat) :
    (relSolo r k v q).length ≤ 3 * min k q.length + 5 := by
  simp only [relSolo, List.length_cons, List.length_append, List.length_nil]
  by_cases hk : 0 < k
  · simp only [hk, if_true]
    have := popLoop_length r k q 0 hk
    simp only [Nat.sub_zero] at this
    omega
  · simp only [hk, if_false, List.length_cons, List.length_nil]; omega

/-- **One `release(k)` call, run alone, wakes `min k |q|` parked acquirers and returns.** -/
theorem relSolo_spec (r k : Nat) (s : St) (hl : s.lock = none) (hr : r < s.n)
    (hp : s.pc r = .want (.rel k)) (hpark : ∀ g, g ∈ s.queue → s.pc g = .susp false)
    (hnd : s.queue.Nodup) (hv : 0 ≤ s.value) :
    ∃ s', runLog step s (relSolo r k s.value s.queue) = some s' ∧ s'.lock = none ∧ s'.pc r = .idle ∧
      s'.value = s.value + k ∧ s'.n = s.n ∧ s'.queue = s.queue.drop k ∧ s'.okRets = s.okRets ∧
      (∀ g, g ∈ s.queue.take k → s'.pc g = .susp true ∧ s'.tok g = s.tok g + 1) ∧
      (∀ u, u ≠ r → u ∉ s.queue.take k → s'.pc u = s.pc u ∧ s'.tok u = s.tok u) := by
  have hrq : ∀ g, g ∈ s.queue → g ≠ r := by
    intro g hg he; have := hpark g hg; rw [he, hp] at this; simp at this
  by_cases hk : 0 < k
  · have hv' : 0 < k ∧ 0 ≤ s.value + (k : Int) := ⟨hk, by omega⟩
    let S2 : St := { s with lock := some r, value := s.value + k, released := s.released + k,
                            pc := upd (upd s.pc r (.locked (.rel k) false)) r (.relL 0 k) }
    have hloop := popLoop_run r k s.queue 0 S2 rfl hr (upd_same ..) hk rfl
      (fun g hg => by simpa [S2, upd, hrq g hg] using hpark g hg) hnd (by show 0 ≤ s.value + (k : Int); omega)
    refine ⟨{ afterLoop S2 r k s.queue with pc := upd (afterLoop S2 r k s.queue).pc r .idle,
                                            okRets := s.okRets + 0 }, ?_, ?_⟩
    · have hpre : runLog step s [.slAcq r, .add r (s.value + k) k] = some S2 := by
        simp [runLog, step, hl, hr, hp, hv', S2]
      have : relSolo r k s.value s.queue =
          [.slAcq r, .add r (s.value + k) k] ++ (popLoop r 0 k s.queue ++ [.ret r false]) := by
        simp [relSolo, hk]
      rw [this, runLog_append, hpre, Option.bind_some, runLog_append, hloop]
      simp [runLog, step, afterLoop, hr, S2]
    · refine ⟨rfl, by simp, rfl, rfl, by simp [afterLoop, S2], by simp, ?_, ?_⟩
      · intro g hg; simp [afterLoop, S2, upd, hg, hrq g (List.mem_of_mem_take hg)]
      · intro u hur hnot; simp [afterLoop, S2, upd, hur, hnot]
  · have hk0 : k = 0 := by omega
    subst hk0
    refine ⟨{ s with value := s.value + (0 : Nat), released := s.released + 0, pc := upd s.pc r .idle, okRets := s.okRets + 0 }, ?_, ?_⟩
    · simp [relSolo, runLog, step, hl, hr, hp]
    · simp [upd, hl]
      intro u hur h; exact absurd h hur

/-- the solo run of a woken acquirer `g` (stored count `v`) up to its return -/
def acqSolo (g : Nat) (v : Int) : List Ev :=
  [.woke g, .slAcq g, .cvWoke g false false, .take g (v - 1), .slRel g, .ret g true]

/-- the woken acquirers run to completion one after the other -/
def acqAll : List Nat → Int → List Ev
  | [], _ => []
  | g :: l, v => acqSolo g v ++ acqAll l (v - 1)

theorem acqAll_length : ∀ (l : List Nat) (v : Int), (acqAll l v).length = 6 * l.length
  | [], _ => rfl
  | g :: l, v => by simp [acqAll, acqSolo, acqAll_length l (v - 1)]; omega

/-- the state after the acquirers in `l`, each woken and owning a token, have taken their permits -/
def afterAcq (s : St) (l : List Nat) : St :=
  { s with value := s.value - l.length, acquired := s.acquired + l.length, okRets := s.okRets + l.length,
           tok := fun u => if u ∈ l then s.tok u - 1 else s.tok u,
           tookOp := fun u => if u ∈ l then true else s.tookOp u,
           pc := fun u => if u ∈ l then .idle else s.pc u }

theorem acqAll_run : ∀ (l : List Nat) (s : St), s.lock = none → (∀ g, g ∈ l → g < s.n) →
    (∀ g, g ∈ l → s.pc g = .susp true ∧ 0 < s.tok g) → l.Nodup → (l.length : Int) ≤ s.value →
    runLog step s (acqAll l s.value) = some (afterAcq s l) := by
  intro l
  induction l with
  | nil => intro s hl _ _ _ _; simp [acqAll, afterAcq]
  | cons g l ih =>
    intro s hl hn hw hnd hv
    have hnd' : g ∉ l ∧ l.Nodup := by simpa using hnd
    obtain ⟨hp, ht⟩ := hw g (by simp)
    have hg := hn g (by simp)
    simp only [List.length_cons] at hv
    have hv1 : 1 ≤ s.value := by omega
    rw [acqAll, runLog_append]
    simp [acqSolo, runLog, step, hl, hg, hp, ht, hv1]
    refine (ih _ ?_ (fun g' hg' => ?_) (fun g' hg' => ?_) hnd'.2 ?_).trans ?_
    · rfl
    · exact hn g' (by simp [hg'])
    · have hne : g' ≠ g := fun h => hnd'.1 (h ▸ hg')
      simpa [upd, hne] using hw g' (by simp [hg'])
    · show (l.length : Int) ≤ s.value - 1; omega
    · simp [afterAcq]
      refine ⟨by omega, hl.symm, ?_, ?_, by omega, ?_, by omega⟩ <;> funext u <;> simp only [upd] <;> grind

end PikaVerif.Sem
