import PikaVerif.Lemmas.CVNotify
import PikaVerif.Lemmas.CVGhost
/-!
# Notifications in log order (C07t)

A ghost state folded over the log records, per thread, whether a notification *covering* it was
issued since its last `cv.enq` (`cov`), and whether the flag was set to `true` with no
`notify_all` issued since (`dirty`).  `Cov` is the inductive invariant that links the ghost state
to the model state: while a waiter is still linked in the queue and covered, the internal lock is
held by a thread inside the pop loop of a `notify_all` (so it will be popped before the lock is
released), and a predicate waiter that is linked while the flag is true and not dirty is covered.
It speaks of five components of the state only, and is stated over them, so that an event which
writes other fields as well needs no separate argument.
-/
namespace PikaVerif.CV

structure Gh where
  /-- since thread `t` last pushed a queue entry: a `notify_one` found the queue empty, a
      `notify_all` (public, or stop callback) swapped the queue out, or a notifier popped `t` -/
  cov : Nat → Bool
  /-- the flag was last set to `true` and no `notify_all` has swapped the queue out since -/
  dirty : Bool

def gh0 : Gh := ⟨fun _ => false, false⟩

def obsG (g : Gh) : Ev → Gh
  | .cvEnq t _ _ => { g with cov := upd g.cov t false }
  | .cvNone _ => { g with cov := fun _ => true }
  | .cvAll _ _ => { cov := fun _ => true, dirty := false }
  | .popResume _ _ tgt _ => { g with cov := upd g.cov tgt true }
  | .popAll _ _ tgt _ => { g with cov := upd g.cov tgt true }
  | .setFlag _ v => { g with dirty := v }
  | _ => g

def obsGLog (g : Gh) : List Ev → Gh
  | [] => g
  | e :: es => obsGLog (obsG g e) es

/-- The invariant, over the lock, the queue, the program counters, the current operations and the
    flag.  `j1`, `j2` carry what `j3` needs at `cv.enq`: a predicate waiter found the flag false under
    the user lock; if it has become true since that lock was released, it was set after the last
    `notify_all` swap (which needs the internal lock the waiter holds from `released` on). -/
structure CovC (lock : Option Nat) (queue : List Nat) (pc : Nat → Pc) (curOp : Nat → Op) (flag : Bool)
    (g : Gh) : Prop where
  /-- a queued thread that is covered is about to be popped: a `notify_all` pop loop holds the lock -/
  gn : ∀ t, t ∈ queue → g.cov t = true → ∃ r, lock = some r ∧ allPc (pc r) = true
  j1 : ∀ t, isPred (curOp t) = true → pc t = .locked → flag = false
  j2 : ∀ t, isPred (curOp t) = true → pc t = .released → flag = true → g.dirty = true
  j3 : ∀ t, isPred (curOp t) = true → t ∈ queue → flag = true → g.dirty = false → g.cov t = true

abbrev Cov (s : St) (g : Gh) : Prop := CovC s.lock s.queue s.pc s.curOp s.flag g

theorem cov_init (n : Nat) (f : Bool) : Cov (init n f) gh0 :=
  ⟨fun _ h => (nomatch h), fun _ _ h => (nomatch h), fun _ _ h => (nomatch h), fun _ _ h => (nomatch h)⟩

section
variable {l l' : Option Nat} {q : List Nat} {pc : Nat → Pc} {cur : Nat → Op} {f : Bool} {g : Gh}
  {t x : Nat} {p p' : Pc}

/-- Thread `t` moves to `p'`, the lock may change hands; the queue, the flag and the ghost stay.
    `hall`: a `notify_all` pop loop that holds the lock still does (or the queue is empty). -/
theorem CovC.move (hc : CovC l q pc cur f g)
    (hall : ∀ r, l = some r → allPc (pc r) = true → q = [] ∨ (l' = some r ∧ (r = t → allPc p' = true)))
    (h1 : p' = .locked → isPred (cur t) = true → f = false)
    (h2 : p' = .released → isPred (cur t) = true → f = true → g.dirty = true) :
    CovC l' q (upd pc t p') cur f g := by
  refine ⟨fun u hu hcu => ?_, fun u hpr hp => ?_, fun u hpr hp => ?_, hc.j3⟩
  · obtain ⟨r, hl, ha⟩ := hc.gn u hu hcu
    have := hall r hl ha; grind [upd]
  · have := hc.j1 u hpr; grind [upd]
  · have := hc.j2 u hpr; grind [upd]

theorem CovC.pcMove (hc : CovC l q pc cur f g) (hp : pc t = p) (hna : allPc p = false)
    (h1 : p' = .locked → isPred (cur t) = true → f = false)
    (h2 : p' = .released → isPred (cur t) = true → f = true → g.dirty = true) :
    CovC l q (upd pc t p') cur f g :=
  hc.move (fun r hl ha => .inr ⟨hl, fun h => by rw [h, hp, hna] at ha; nomatch ha⟩) h1 h2

theorem CovC.plain (hc : CovC l q pc cur f g) (hp : pc t = p) (hna : allPc p = false := by rfl)
    (hne : p' ≠ .locked ∧ p' ≠ .released := by exact ⟨nofun, nofun⟩) : CovC l q (upd pc t p') cur f g :=
  hc.pcMove hp hna (fun h => absurd h hne.1) (fun h => absurd h hne.2)

theorem CovC.subqueue (hc : CovC l q pc cur f g) {q' : List Nat} (h : ∀ u, u ∈ q' → u ∈ q) :
    CovC l q' pc cur f g :=
  ⟨fun u hu => hc.gn u (h u hu), hc.j1, hc.j2, fun u hpr hu => hc.j3 u hpr (h u hu)⟩

theorem CovC.invoke (hc : CovC l q pc cur f g) {o : Op} (hp : pc t = .idle) (hq : t ∉ q)
    (h1 : p' ≠ .locked) (h2 : p' ≠ .released) : CovC l q (upd pc t p') (upd cur t o) f g := by
  have key := hc.pcMove (p' := p') hp rfl (fun h => absurd h h1) (fun h => absurd h h2)
  have other : ∀ u, (pc' : Pc) → upd pc t p' u = pc' → pc' ≠ p' → upd cur t o u = cur u := fun u pc' hu hne => by
    by_cases hut : u = t
    · rw [hut, upd_same] at hu; exact absurd hu.symm hne
    · exact upd_other _ _ _ _ hut
  refine ⟨key.gn, fun u hpr hp => ?_, fun u hpr hp => ?_, fun u hpr hu => ?_⟩
  · rw [other u _ hp h1.symm] at hpr; exact key.j1 u hpr hp
  · rw [other u _ hp h2.symm] at hpr; exact key.j2 u hpr hp
  · rw [upd_other _ _ _ _ (fun h : u = t => hq (h ▸ hu))] at hpr; exact key.j3 u hpr hu

/-- `setFlag`: the writer holds the user lock, so no waiter stands between its predicate test and
    the release of the user lock. -/
theorem CovC.setFlag (hc : CovC l q pc cur f g) {v : Bool} (hp : pc t = .setting v)
    (hnl : ∀ u, pc u ≠ .locked) : CovC l q (upd pc t .idle) cur v { g with dirty := v } := by
  have key := hc.pcMove (p' := .idle) hp rfl nofun nofun
  refine ⟨key.gn, fun u _ hu => ?_, fun _ _ _ hv => hv, fun _ _ _ hv hd => (nomatch hv.symm.trans hd)⟩
  by_cases hut : u = t
  · rw [hut, upd_same] at hu; nomatch hu
  · rw [upd_other _ _ _ _ hut] at hu; exact absurd hu (hnl u)

/-- `cv.enq`: the new entry starts uncovered.  If the flag is true now, it was set after the waiter
    released the user lock, hence is dirty (`j2`): `j3` owes the entry nothing. -/
theorem CovC.enq (hc : CovC l q pc cur f g) {tm : Bool} (hp : pc t = .released) :
    CovC l (q ++ [t]) (upd pc t (.enq tm)) cur f { g with cov := upd g.cov t false } := by
  have key := hc.pcMove (p' := .enq tm) hp rfl nofun nofun
  refine ⟨fun u hu (hcu : upd g.cov t false u = true) => ?_, key.j1, key.j2, fun u hpr hu hf hd => ?_⟩
  · have := key.gn u; grind [upd]
  · show upd g.cov t false u = true
    have := hc.j2 t; have := hc.j3 u hpr; grind [upd]

theorem CovC.none (hc : CovC l [] pc cur f g) (hp : pc t = .nLocked) :
    CovC l [] (upd pc t .nDone) cur f { g with cov := fun _ => true } :=
  have key := hc.pcMove (p' := .nDone) hp rfl nofun nofun
  ⟨fun _ h => (nomatch h), key.j1, key.j2, fun _ _ _ _ _ => rfl⟩

/-- `cv.all`: the notifier (lock held, so nobody else is at `released`) enters the pop loop. -/
theorem CovC.all (hc : CovC (some t) q pc cur f g) (hp' : allPc p' = true) (hnr : ∀ u, u ≠ t → pc u ≠ .released) :
    CovC (some t) q (upd pc t p') cur f ⟨fun _ => true, false⟩ := by
  have hl : p' ≠ .locked ∧ p' ≠ .released := by cases p' <;> first | (cases hp'; done) | exact ⟨nofun, nofun⟩
  refine ⟨fun _ _ _ => ⟨t, rfl, by rw [upd_same]; exact hp'⟩, fun u hpr hu => ?_, fun u _ hu => ?_,
    fun _ _ _ _ _ => rfl⟩
  · have := hc.j1 u hpr; grind [upd]
  · have := hnr u; grind [upd]

/-- A pop by the lock holder `t`: the target counts as covered and leaves the queue; the others
    stay covered by the pop loop if `t` is in one (`notify_one` holds the lock outside a pop loop,
    so nobody queued was covered). -/
theorem CovC.pop (hc : CovC (some t) q pc cur f g) {pt : Pc} (hh : q.head? = some x) (hnd : q.Nodup)
    (hs : (setPopped (pc x)).isSome = true) (hpt : pt ≠ .locked ∧ pt ≠ .released)
    (ht : allPc (pc t) = true → allPc pt = true) :
    CovC (some t) q.tail (upd (popped pc x) t pt) cur f { g with cov := upd g.cov x true } := by
  obtain ⟨px, hpx⟩ := Option.isSome_iff_exists.1 hs
  have hne : px ≠ .locked ∧ px ≠ .released := by
    rcases setPopped_some hpx with ⟨_, _, rfl⟩ | ⟨_, rfl⟩ | ⟨_, rfl⟩ | ⟨_, _, rfl⟩ <;> exact ⟨nofun, nofun⟩
  cases q with
  | nil => cases hh
  | cons y q =>
    cases hh
    have hx : x ∉ q := (List.nodup_cons.1 hnd).1
    rw [popped, hpx]
    refine ⟨fun u hu (hcu : upd g.cov x true u = true) => ?_, fun u hpr hu => ?_, fun u hpr hu => ?_,
      fun u hpr hu hf hd => ?_⟩
    · have := hc.gn u (List.mem_cons_of_mem _ hu); grind [upd]
    · have := hc.j1 u hpr; grind [upd]
    · have := hc.j2 u hpr; grind [upd]
    · show upd g.cov x true u = true
      have := hc.j3 u hpr (List.mem_cons_of_mem _ hu) hf hd; grind [upd]

end

theorem exitPc_ne (s : St) (t r : Nat) : exitPc s t r ≠ .locked ∧ exitPc s t r ≠ .released := by
  unfold exitPc; split <;> exact ⟨nofun, nofun⟩

theorem entryPc_ne (o : Op) : entryPc o ≠ .locked ∧ entryPc o ≠ .released := by
  cases o <;> first | (simp only [entryPc]; split <;> exact ⟨nofun, nofun⟩) | exact ⟨nofun, nofun⟩

theorem cov_step {s s' : St} {g : Gh} {e : Ev} (hA : Inv s) (hB : Inv2 s) (hc : Cov s g)
    (h : step s e = some s') : Cov s' (obsG g e) := by
  obtain ⟨p, p', -, hp, hl, hg, rfl⟩ := Step.of_step h
  have lockAt : ∀ {t}, s.lock = some t → CovC (some t) s.queue s.pc s.curOp s.flag g := fun hl => hl ▸ hc
  cases hl <;> simp only [actor] at hp
  case inv t o =>
    have hq : t ∉ s.queue := fun hm => by
      have := (hA.qIff t).1 hm; rw [hp] at this; nomatch this
    exact hc.invoke hp hq (entryPc_ne o).1 (entryPc_ne o).2
  case ulAcqW => exact hc.plain hp rfl (by split <;> exact ⟨nofun, nofun⟩)
  case pred t v final => exact hc.plain hp rfl (by cases final <;> cases v <;> first | exact exitPc_ne .. | exact ⟨nofun, nofun⟩)
  case stop0 t v => exact hc.plain hp rfl (by cases v <;> exact ⟨nofun, nofun⟩)
  case ulRelW t =>
    -- the flag was found false and the user lock has been held since
    exact hc.pcMove hp rfl nofun (fun _ hpr hf => nomatch hf.symm.trans (hc.j1 t hpr hp))
  case setFlag t v =>
    refine hc.setFlag hp (fun u hu => ?_)
    have h1 := hA.uHolder t (by rw [hp]; rfl)
    have h2 := hA.uHolder u (by rw [hu]; rfl)
    rw [Option.some.inj (h1.symm.trans h2), hu] at hp
    nomatch hp
  -- taking the lock: nobody held it, so no pop loop is under way
  case acqW t =>
    refine hc.move (fun r hr => nomatch (show s.lock = none from hg).symm.trans hr)
      (fun _ hpr => hB.predFalse t hpr (by rw [hp]; rfl)) ?_
    split <;> nofun
  case acqC | acqK | acqN =>
    exact hc.move (fun r hr => nomatch (show s.lock = none from hg).symm.trans hr) nofun nofun
  -- releasing the lock: a pop loop does so only when it has emptied the queue
  case relN hq | relC hq => exact hc.move (fun _ _ _ => .inl hq) nofun nofun
  case relE | relP | relS | relD =>
    refine hc.move (fun r hr ha => ?_) nofun nofun
    rw [← Option.some.inj ((show s.lock = some _ from hg).symm.trans hr), hp] at ha; nomatch ha
  case relX t =>
    refine hc.move (fun r hr ha => ?_) (fun h => absurd h (exitPc_ne ..).1) (fun h => absurd h (exitPc_ne ..).2)
    rw [← Option.some.inj ((show s.lock = some _ from hg).symm.trans hr), hp] at ha; nomatch ha
  case enq => exact hc.enq hp
  case none t =>
    have hc' : CovC s.lock [] s.pc s.curOp s.flag g := by rw [← hg.2.1]; exact hc
    show CovC s.lock s.queue _ s.curOp s.flag _
    rw [hg.2.1]; exact hc'.none hp
  case all | allC =>
    show CovC s.lock s.queue _ s.curOp s.flag _
    rw [hg.1]
    refine (lockAt hg.1).all rfl (fun u hut hu => ?_)
    exact hut (Option.some.inj ((hA.lockHolder u (by rw [hu]; rfl)).symm.trans hg.1))
  case pop1 =>
    show CovC s.lock _ _ s.curOp s.flag _
    rw [hg.1]
    exact (lockAt hg.1).pop hg.2.2.1 hA.qNodup hg.2.2.2.2.1 ⟨nofun, nofun⟩ (fun ha => by rw [hp] at ha; nomatch ha)
  case popA | popC =>
    show CovC s.lock _ _ s.curOp s.flag _
    rw [hg.1]
    exact (lockAt hg.1).pop hg.2.1 hA.qNodup hg.2.2.2.1 ⟨nofun, nofun⟩ (fun _ => rfl)
  case wokeK t still tm =>
    cases still
    · exact hc.plain hp
    · exact (hc.subqueue (fun u hu => List.mem_of_mem_erase hu)).plain hp
  case stop1 t v =>
    refine hc.pcMove hp rfl (fun _ hpr => hB.predFalse t hpr (by rw [hp]; rfl)) ?_
    cases v <;> nofun
  -- the other lines move one thread between points of which `Cov` says nothing
  all_goals exact hc.plain hp

theorem cov_of_runLog {s s' : St} {g : Gh} {log : List Ev} (hA : Inv s) (hB : Inv2 s) (hc : Cov s g)
    (h : runLog step s log = some s') : Cov s' (obsGLog g log) :=
  (runLog_ghost (fold := obsGLog) (fun _ => rfl) (fun _ _ _ => rfl) (fun s g => Inv s ∧ Inv2 s ∧ Cov s g)
    (fun s _ e s' hi hs => ⟨step_inv s s' e hi.1 hs, step_inv2 s s' e hi.1 hi.2.1 hs, cov_step hi.1 hi.2.1 hi.2.2 hs⟩)
    ⟨hA, hB, hc⟩ h).2.2

end PikaVerif.CV
