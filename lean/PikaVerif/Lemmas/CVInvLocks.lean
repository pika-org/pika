import PikaVerif.Lemmas.CVStep
import PikaVerif.Core.CvQueue
/-! Inductive invariant of the condition-variable model (locks, queue, wake-up tokens).  The internal lock,
    the queue and the tokens are the part the model shares with the others built on
    `detail::condition_variable` (`Inv.core`; `Inv.move` carries them by `CvInv.move_conv`); the user lock
    and `waiting` are its own. -/
namespace PikaVerif.CV

/-- Program counters at which the thread holds the internal spinlock. -/
def holds : Pc → Bool
  | .locked | .released | .enq _ | .relk _ _ | .post _ | .nLocked | .nAll | .nDone => true
  | .sChk1 | .sStopped | .cLocked _ | .cAll _ | .postS _ => true
  | _ => false

/-- Program counters at which the thread holds the user lock. -/
def holdsU : Pc → Bool
  | .unlocking | .setting _ | .predChk _ | .want | .locked | .retn _ => true
  | .sChk0 | .sReg | .sRegLk | .sChk1 | .sStopped | .sDtor _ | .sRm _ | .sRmChk _ | .sRmWait _ => true
  | .cWant k | .cLocked k | .cAll k | .cRet k => k
  | _ => false

/-- Program counters at which the thread must not hold the user lock (inside a wait, after `ul.rel`;
    at `idle`, `nWant` … it may or may not). -/
def noU : Pc → Bool
  | .wantU | .released | .enq _ | .unl _ _ | .susp _ | .slp _ | .wokeNL _ _ | .relk _ _
  | .post _ | .relockU _ | .postS _ => true
  | _ => false

/-- Program counters at which the thread's entry is linked in the cv queue. -/
def inQ : Pc → Bool
  | .enq _ => true
  | .unl _ p | .susp p | .slp p | .wokeNL _ p | .relk _ p => !p
  | _ => false

/-- What the history flag `waiting` must be at each program counter: `inQ`, and also `released` (the
    user lock is given up one event before the entry is linked). -/
def waitExp : Pc → Bool
  | .released => true
  | .enq _ => true
  | .unl _ p | .susp p | .slp p | .wokeNL _ p | .relk _ p => !p
  | _ => false

/-- Popped while (about to be) parked in an untimed wait: a wake-up token must exist. -/
def needTok : Pc → Bool
  | .unl tm p => !tm && p
  | .susp p => p
  | _ => false

structure Inv (s : St) : Prop where
  lockHolder : ∀ t, holds (s.pc t) = true → s.lock = some t
  lockConv : ∀ r, s.lock = some r → holds (s.pc r) = true ∧ r < s.n
  uHolder : ∀ t, holdsU (s.pc t) = true → s.ulock = some t
  uNot : ∀ t, noU (s.pc t) = true → s.ulock ≠ some t
  uConv : ∀ r, s.ulock = some r → r < s.n
  outside : ∀ t, s.n ≤ t → s.pc t = .idle
  qIff : ∀ t, t ∈ s.queue ↔ inQ (s.pc t) = true
  qNodup : s.queue.Nodup
  wake : ∀ t, needTok (s.pc t) = true → 0 < s.tok t
  waitingIff : ∀ t, s.waiting t = waitExp (s.pc t)

theorem inv_init (n : Nat) (f : Bool) : Inv (init n f) :=
  ⟨nofun, nofun, nofun, nofun, nofun, fun _ _ => rfl, fun _ => ⟨nofun, nofun⟩, .nil, nofun, fun _ => rfl⟩

/-- What `Inv` reads of the state besides the program counters. -/
def St.core (s : St) := (s.n, s.lock, s.ulock, s.queue, s.tok, s.waiting)

namespace Inv

/-- The internal lock, the queue and the tokens: what the model shares with the others built on
    `detail::condition_variable` (`Core/CvQueue.lean`). -/
theorem core {s : St} (hi : Inv s) : CvInv holds inQ (needTok · = true) .idle s.n s.pc s.lock s.queue s.tok :=
  ⟨hi.lockHolder, hi.outside, hi.qIff, hi.qNodup, hi.wake⟩

/-- One thread `t` moves to `p'`; nothing else changes for the other threads.  The internal lock and the
    queue change only together with the program counter of the mover (`LockMove`, `QMove`), and likewise the
    user lock: unchanged, taken by `t` from nobody, or given up by `t`. -/
theorem move {s s' : St} {t : Nat} {p p' : Pc} (hi : Inv s) (ht : t < s.n) (hp : s.pc t = p) (hn : s'.n = s.n)
    (hpc : s'.pc = upd s.pc t p') (htok : ∀ u, u ≠ t → s'.tok u = s.tok u)
    (hwt : ∀ u, u ≠ t → s'.waiting u = s.waiting u)
    (hL : LockMove holds t p p' s.lock s'.lock)
    (hU : (s'.ulock = s.ulock ∧ (holdsU p' = true → s.ulock = some t) ∧ (noU p' = true → s.ulock ≠ some t)) ∨
      (s.ulock = none ∧ s'.ulock = some t ∧ noU p' = false) ∨
      (s.ulock = some t ∧ s'.ulock = none ∧ holdsU p' = false))
    (hQ : QMove inQ t p p' s.queue s'.queue)
    (hK : needTok p' = true → 0 < s'.tok t) (hW : s'.waiting t = waitExp p') : Inv s' := by
  subst hp
  obtain ⟨c, conv⟩ := hi.core.move_conv ht hL hQ htok hK
  rw [← hpc, ← hn] at c conv
  refine ⟨c.lockHolder, conv (hn ▸ hi.lockConv), fun u hu => ?_, fun u hu => ?_, fun r hr => ?_, c.outside, c.qIff,
    c.qNodup, c.wake, fun u => ?_⟩ <;> rw [hpc] at *
  · by_cases hut : u = t
    · subst hut; rw [upd_same] at hu; grind
    · rw [upd_other _ _ _ _ hut] at hu; have := hi.uHolder u hu; grind
  · by_cases hut : u = t
    · subst hut; rw [upd_same] at hu; grind
    · rw [upd_other _ _ _ _ hut] at hu; have := hi.uNot u hu; grind
  · rw [hn]; have := hi.uConv r; grind
  · by_cases hut : u = t
    · subst hut; rw [upd_same]; exact hW
    · rw [upd_other _ _ _ _ hut, hwt u hut]; exact hi.waitingIff u

theorem pcMove {s s' : St} {t : Nat} {p p' : Pc} (hi : Inv s) (ht : t < s.n) (hp : s.pc t = p)
    (hs : s'.core = s.core) (hpc : s'.pc = upd s.pc t p')
    (hh : holds p' = holds p) (hU : holdsU p' = true → holdsU p = true) (hN : noU p' = true → noU p = true)
    (hq : inQ p' = inQ p) (hK : needTok p' = true → needTok p = true) (hW : waitExp p' = waitExp p) :
    Inv s' := by
  simp only [St.core, Prod.mk.injEq] at hs
  obtain ⟨hn, hl, hu, hqu, hk, hw⟩ := hs
  subst hp
  exact hi.move ht rfl hn hpc (fun _ _ => by rw [hk]) (fun _ _ => by rw [hw]) (hl ▸ LockMove.same hh)
    (.inl ⟨hu, fun h => hi.uHolder t (hU h), fun h => hi.uNot t (hN h)⟩) (hqu ▸ QMove.same hq)
    (fun h => hk ▸ hi.wake t (hK h)) (by rw [hw, hi.waitingIff t, hW])

end Inv

theorem exitPc_class (s : St) (t r : Nat) :
    holds (exitPc s t r) = false ∧ holdsU (exitPc s t r) = true ∧ noU (exitPc s t r) = false ∧
    inQ (exitPc s t r) = false ∧ needTok (exitPc s t r) = false ∧ waitExp (exitPc s t r) = false := by
  unfold exitPc; split <;> exact ⟨rfl, rfl, rfl, rfl, rfl, rfl⟩

theorem setPopped_facts {p p' : Pc} (h : setPopped p = some p') :
    holds p' = false ∧ holds p = false ∧ holdsU p' = false ∧ noU p' = true ∧ inQ p = true ∧ inQ p' = false ∧
    waitExp p' = false ∧ p' ≠ .idle ∧
    (needTok p' = true → p ≠ .slp false) ∧ noU p = true ∧ holdsU p = false := by
  rcases setPopped_some h with ⟨tm, rfl, rfl⟩ | ⟨rfl, rfl⟩ | ⟨rfl, rfl⟩ | ⟨tm, rfl, rfl⟩ <;>
    exact ⟨rfl, rfl, rfl, rfl, rfl, rfl, rfl, nofun, nofun, rfl, rfl⟩

/-- A pop is two moves: the front entry `g` leaves the queue with its wake-up, then the notifier
    `t` goes on to `pcT`. -/
theorem popCore_inv {s s' : St} {t z g : Nat} {d : Bool} {p pcT : Pc} (hi : Inv s) (hl : s.lock = some t)
    (hp : s.pc t = p) (h : popCore s t z g d pcT = some s')
    (hT : holds pcT = holds p ∧ holdsU pcT = holdsU p ∧ noU pcT = noU p ∧ inQ pcT = inQ p ∧ needTok pcT = false ∧
      waitExp pcT = waitExp p) : Inv s' := by
  obtain ⟨rest, p', hq, _, hsp, hd, rfl⟩ := popCore_some h
  obtain ⟨f1, f2, f3, _, f5, f6, f7, _, f9, f10, _⟩ := setPopped_facts hsp
  obtain ⟨hht, ht⟩ := hi.lockConv t hl
  have hgt : t ≠ g := fun e => by rw [e, f2] at hht; cases hht
  have hg : g < s.n := hi.core.lt_of_mem rfl (by rw [hq]; exact List.mem_cons_self)
  have h1 : Inv { s with queue := rest, tok := if d then s.tok else upd s.tok g (s.tok g + 1),
                         pc := upd s.pc g p', waiting := upd s.waiting g false } := by
    refine hi.move hg rfl rfl rfl (fun u hu => ?_) (fun u hu => upd_other _ _ _ _ hu) (.same (f1.trans f2.symm))
      (.inl ⟨rfl, fun h => (by rw [f3] at h; cases h), fun _ => hi.uNot g f10⟩) (.pop hq f6) (fun hk => ?_)
      (by rw [f7]; exact upd_same ..)
    · dsimp only; split
      · rfl
      · exact upd_other _ _ _ _ hu
    · -- a dropped resume is aimed at `slp false`, which becomes `slp true` and needs no token
      cases d
      · exact Nat.lt_of_lt_of_eq (Nat.succ_pos _) (upd_same ..).symm
      · exact absurd (of_decide_eq_true hd.symm) (f9 hk)
  exact h1.pcMove ht ((upd_other _ _ _ _ hgt).trans hp) rfl rfl hT.1 (fun h => hT.2.1 ▸ h) (fun h => hT.2.2.1 ▸ h)
    hT.2.2.2.1 (fun h => by rw [hT.2.2.2.2.1] at h; cases h) hT.2.2.2.2.2

namespace Inv
variable {s s' : St} {t : Nat} {p p' : Pc}

/-- `t` takes the free internal lock. -/
theorem acq (hi : Inv s) (ht : t < s.n) (hl : s.lock = none) (hp : s.pc t = p) (hl' : s'.lock = some t)
    (hs : (s'.n, s'.ulock, s'.queue, s'.tok, s'.waiting) = (s.n, s.ulock, s.queue, s.tok, s.waiting))
    (hpc : s'.pc = upd s.pc t p') (hh : holds p' = true) (hU : holdsU p' = true → holdsU p = true)
    (hN : noU p' = true → noU p = true) (hq : inQ p' = inQ p) (hK : needTok p' = false)
    (hW : waitExp p' = waitExp p) : Inv s' := by
  simp only [Prod.mk.injEq] at hs
  obtain ⟨hn, hu, hqu, hk, hw⟩ := hs
  subst hp
  exact hi.move ht rfl hn hpc (fun _ _ => by rw [hk]) (fun _ _ => by rw [hw]) (hl' ▸ LockMove.acq hl hh)
    (.inl ⟨hu, fun h => hi.uHolder t (hU h), fun h => hi.uNot t (hN h)⟩) (hqu ▸ QMove.same hq)
    (fun h => by rw [hK] at h; cases h) (by rw [hw, hi.waitingIff t, hW])

/-- `t` gives up the internal lock. -/
theorem rel (hi : Inv s) (ht : t < s.n) (hl : s.lock = some t) (hp : s.pc t = p) (hh : holds p' = false)
    (hU : holdsU p' = true → holdsU p = true) (hN : noU p' = true → noU p = true) (hq : inQ p' = inQ p)
    (hK : needTok p' = false) (hW : waitExp p' = waitExp p) :
    Inv { s with lock := none, pc := upd s.pc t p' } := by
  subst hp
  exact hi.move ht rfl rfl rfl (fun _ _ => rfl) (fun _ _ => rfl) (.rel hl hh)
    (.inl ⟨rfl, fun h => hi.uHolder t (hU h), fun h => hi.uNot t (hN h)⟩)
    (.same hq) (fun h => by rw [hK] at h; cases h) ((hi.waitingIff t).trans hW.symm)

/-- `t` takes the free user lock. -/
theorem uacq (hi : Inv s) (ht : t < s.n) (hu : s.ulock = none) (hp : s.pc t = p) (hh : holds p' = holds p)
    (hN : noU p' = false) (hq : inQ p' = inQ p) (hK : needTok p' = false) (hW : waitExp p' = waitExp p) :
    Inv { s with ulock := some t, pc := upd s.pc t p' } := by
  subst hp
  exact hi.move ht rfl rfl rfl (fun _ _ => rfl) (fun _ _ => rfl) (.same hh) (.inr (.inl ⟨hu, rfl, hN⟩)) (.same hq)
    (fun h => by rw [hK] at h; cases h) ((hi.waitingIff t).trans hW.symm)

/-- An operation starts: outside both locks; the operations that need the user lock are guarded by it. -/
theorem start (hi : Inv s) (ht : t < s.n) (hp : s.pc t = .idle) (hs : s'.core = s.core)
    (hpc : s'.pc = upd s.pc t p') (hh : holds p' = false) (hU : holdsU p' = true → s.ulock = some t)
    (hN : noU p' = true → s.ulock ≠ some t) (hq : inQ p' = false) (hK : needTok p' = false)
    (hW : waitExp p' = false) : Inv s' := by
  simp only [St.core, Prod.mk.injEq] at hs
  obtain ⟨hn, hl, hu, hqu, hk, hw⟩ := hs
  exact hi.move ht hp hn hpc (fun _ _ => by rw [hk]) (fun _ _ => by rw [hw]) (hl ▸ LockMove.same hh)
    (.inl ⟨hu, hU, hN⟩) (hqu ▸ QMove.same hq) (fun h => by rw [hK] at h; cases h)
    (by rw [hw, hi.waitingIff t, hp, hW]; rfl)

end Inv

theorem step_inv (s s' : St) (e : Ev) (hi : Inv s) (h : step s e = some s') : Inv s' := by
  obtain ⟨p, p', ht, hp, hloc, hg, rfl⟩ := Step.of_step h
  clear h
  cases hloc <;> simp only [actor, Guard] at ht hp hg
  case inv t o =>
    cases o with
    | lock => exact hi.start ht hp rfl rfl rfl nofun (fun _ => hg) rfl rfl rfl
    | notify _ | stop => exact hi.start ht hp rfl rfl rfl nofun nofun rfl rfl rfl
    | wait _ pr => cases pr <;> exact hi.start ht hp rfl rfl rfl (fun _ => hg) nofun rfl rfl rfl
    | _ => exact hi.start ht hp rfl rfl rfl (fun _ => hg) nofun rfl rfl rfl
  case ulAcq => exact hi.uacq ht hg hp rfl rfl rfl rfl rfl
  case ulAcqW => split <;> exact hi.uacq ht hg hp rfl rfl rfl rfl rfl
  case ulRel t =>
    exact hi.move ht hp rfl rfl (fun _ _ => rfl) (fun _ _ => rfl) (.same rfl) (.inr (.inr ⟨hg, rfl, rfl⟩)) (.same rfl)
      nofun ((hi.waitingIff t).trans (by rw [hp]; rfl))
  case ulRelW t =>
    exact hi.move ht hp rfl rfl (fun _ _ => rfl) (fun u hu => upd_other _ _ _ _ hu) (.same rfl)
      (.inr (.inr ⟨hg, rfl, rfl⟩)) (.same rfl) nofun (upd_same ..)
  case pred t v final =>
    have hc : ∀ p', (∃ r, p' = exitPc s t r) ∨ p' = .want → holds p' = false ∧ holdsU p' = true ∧ noU p' = false ∧
        inQ p' = false ∧ needTok p' = false ∧ waitExp p' = false := by
      rintro _ (⟨r, rfl⟩ | rfl)
      · exact exitPc_class s t r
      · exact ⟨rfl, rfl, rfl, rfl, rfl, rfl⟩
    obtain ⟨c1, c2, c3, c4, c5, c6⟩ := hc (if final then exitPc s t (b2n v) else if v then exitPc s t 1 else .want)
      (by split; exact .inl ⟨_, rfl⟩; split; exact .inl ⟨_, rfl⟩; exact .inr rfl)
    exact hi.pcMove ht hp rfl rfl c1 (fun _ => rfl) (fun h => by rw [c3] at h; cases h) c4
      (fun h => by rw [c5] at h; cases h) c6
  case acqW => split <;> exact hi.acq ht hg hp rfl rfl rfl rfl (fun _ => rfl) nofun rfl rfl rfl
  case acqC => exact hi.acq ht hg hp rfl rfl rfl rfl id nofun rfl rfl rfl
  case acqK => exact hi.acq ht hg hp rfl rfl rfl rfl nofun (fun _ => rfl) rfl rfl rfl
  case acqN => exact hi.acq ht hg hp rfl rfl rfl rfl nofun nofun rfl rfl rfl
  case relE t tm => exact hi.rel ht hg hp rfl nofun (fun _ => rfl) rfl (by cases tm <;> rfl) rfl
  case relP | relS => exact hi.rel ht hg hp rfl nofun (fun _ => rfl) rfl rfl rfl
  case relD | relN => exact hi.rel ht hg hp rfl nofun nofun rfl rfl rfl
  case relC => exact hi.rel ht hg hp rfl id nofun rfl rfl rfl
  case relX t =>
    obtain ⟨c1, c2, c3, c4, c5, c6⟩ := exitPc_class s t 0
    exact hi.rel ht hg hp c1 (fun _ => rfl) (fun h => by rw [c3] at h; cases h) c4 c5 c6
  case enq t z tm =>
    exact hi.move ht hp rfl rfl (fun _ _ => rfl) (fun _ _ => rfl) (.same rfl)
      (.inl ⟨rfl, nofun, fun _ => hi.uNot t (by rw [hp]; rfl)⟩) (.enq rfl rfl) nofun
      ((hi.waitingIff t).trans (by rw [hp]; rfl))
  case pop1 => exact popCore_inv hi hg.1 hp (popCore_of_write hg.2.2) ⟨rfl, rfl, rfl, rfl, rfl, rfl⟩
  case popA | popC => exact popCore_inv hi hg.1 hp (popCore_of_write hg.2) ⟨rfl, rfl, rfl, rfl, rfl, rfl⟩
  case wokeK t still tm =>
    cases still
    · exact hi.pcMove ht hp rfl rfl rfl nofun (fun _ => rfl) rfl nofun rfl
    · exact hi.move ht hp rfl rfl (fun _ _ => rfl) (fun u hu => upd_other _ _ _ _ hu) (.same rfl)
        (.inl ⟨rfl, nofun, fun _ => hi.uNot t (by rw [hp]; rfl)⟩) (.erase rfl) nofun (upd_same ..)
  case woke t q | sleep t q =>
    exact hi.move ht hp rfl rfl (fun u hu => upd_other _ _ _ _ hu) (fun _ _ => rfl) (.same rfl)
      (.inl ⟨rfl, nofun, fun _ => hi.uNot t (by rw [hp]; rfl)⟩) (.same rfl) nofun
      ((hi.waitingIff t).trans (by rw [hp]; rfl))
  -- the other lines touch neither lock, the queue, the tokens nor `waiting`, and lead between program
  -- counters classified alike; the comparisons hold by computation
  all_goals
    first
    | exact hi.pcMove ht hp rfl rfl (by rfl) (by first | exact id | exact fun _ => rfl | nofun)
        (by first | exact id | exact fun _ => rfl | nofun) (by rfl) (by first | exact id | nofun) (by rfl)
    | (split <;> exact hi.pcMove ht hp rfl rfl (by rfl) (by first | exact id | exact fun _ => rfl | nofun)
        (by first | exact id | exact fun _ => rfl | nofun) (by rfl) (by first | exact id | nofun) (by rfl))

theorem inv_of_accepted {n : Nat} {f : Bool} {log : List Ev} {s : St}
    (h : runLog step (init n f) log = some s) : Inv s :=
  inv_of_runLog Inv (fun s e s' => step_inv s s' e) (inv_init n f) h

end PikaVerif.CV
