import PikaVerif.Lemmas.DequeInv
namespace PikaVerif.Deque

/-! Single-threaded use of the deque model (`Inv1`, preserved by every accepted event). -/

/-- single-threaded use: the only thread's `lrs` is always the current anchor, so no CAS fails and
    no link CAS is stale -/
structure Inv1 (s : St) : Prop where
  one : s.n = 1
  cur : held (s.pc 0) = none ∨ held (s.pc 0) = some s.anchor
  fresh : s.stale = false

variable {fx : Bool} {s s' : St} {e : Ev}

theorem Inv1.next {A' : Anchor} {N' : Nat → Node} {U' : Nat → Bool} {C' pu po : List Nat}
    {st' : Bool} {p' : Pc} (hi : Inv1 s) (hc : held p' = none ∨ held p' = some A') (hs : st' = false) :
    Inv1 ⟨s.n, A', N', U', upd s.pc 0 p', C', pu, po, st'⟩ :=
  ⟨hi.one, (upd_same s.pc 0 p').symm ▸ hc, hs⟩

theorem step_inv1 (hi : Inv1 s) (h : stepG fx s e = some s') : Inv1 s' := by
  obtain ⟨t, ht, tr⟩ := Tr.of_step h
  obtain rfl : t = 0 := by have := hi.one; omega
  have keep : ∀ {p p' : Pc}, s.pc 0 = p → held p' = held p → Inv1 { s with pc := upd s.pc 0 p' } :=
    fun hpc he => hi.next (by rw [he, ← hpc]; exact hi.cur) hi.fresh
  cases tr with
  | inv push d v hpc => cases push <;> exact hi.next (Or.inl rfl) hi.fresh
  | ldPush hpc | ldPop hpc =>
    -- whichever branch the load takes, `lrs`, if kept, is the anchor just read
    refine hi.next ?_ hi.fresh
    (repeat' split) <;> first | exact Or.inr rfl | exact Or.inl rfl
  | chkPop same hpc hs | chk1 same hpc hs | chk2 same hpc hs =>
    cases same
    · first | exact hi.next (Or.inl rfl) hi.fresh | exact hi.next (Or.inl (held_kont _)) hi.fresh
    · exact keep hpc rfl
  | rdPop lk hpc hg | rd1 lk hpc hg => exact keep hpc rfl
  | rd2 lk hpc hg => exact keep hpc (by split <;> rfl)
  | link hpc => exact hi.next (by have := hi.cur; rwa [hpc] at this) hi.fresh
  | @lcasOk k d a prev pn hpc hg =>
    -- `lrs` is the current anchor: the CAS is not stale
    have ha : some a = some s.anchor := by simpa [hpc, held] using hi.cur
    cases ha
    exact hi.next (Or.inr rfl) (by rw [hi.fresh]; simp)
  | push hpc => exact hi.next (Or.inr rfl) hi.fresh
  | lcasFail hpc | stab hpc | stabFail hpc => exact hi.next (Or.inl (held_kont _)) hi.fresh
  | _ => exact hi.next (Or.inl rfl) hi.fresh

theorem inv1_init : Inv1 (init 1) := ⟨rfl, Or.inl rfl, rfl⟩

theorem inv1_of_accepted {log : List Ev} (h : runLog (stepG fx) (init 1) log = some s) : Inv1 s :=
  inv_of_runLog Inv1 (fun _ _ _ hi hs => step_inv1 hi hs) inv1_init h

end PikaVerif.Deque
