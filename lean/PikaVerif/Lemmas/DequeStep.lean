import PikaVerif.Model.Deque
/-! The acceptor `stepG` read as a relation.  `Tr fx s t e s'` lists, outcome by outcome, what an
accepted event `e` of thread `t` writes and what it requires of `s`, as far as some proof reads it
(a successful anchor CAS has `lrs = anchor`, so the held value is written `s.anchor`; that a failed
CAS saw another value is left out).  Proofs about single steps take an accepted
step apart with `Tr.of_step` and go through the outcomes. -/
namespace PikaVerif.Deque

inductive Tr (fx : Bool) (s : St) (t : Nat) : Ev → St → Prop
  | inv (push d : Bool) (v : Nat) (hpc : s.pc t = .idle) :
    Tr fx s t (.inv t push d v) { s with pc := upd s.pc t (if push then .pushAlloc d v else .popLd d) }
  | alloc {d : Bool} {v n : Nat} (hn : n ≠ 0) (hu : s.used n = false) (hpc : s.pc t = .pushAlloc d v) :
    Tr fx s t (.alloc t n)
      { s with nodes := upd s.nodes n ⟨⟨0, newTag fx (s.nodes n).left⟩,
                                         ⟨0, newTag fx (s.nodes n).right⟩, v⟩,
               used := upd s.used n true,
               pc := upd s.pc t (.pushLd d n) }
  | ldPush {d : Bool} {n : Nat} (hpc : s.pc t = .pushLd d n) :
    Tr fx s t (.ld t s.anchor)
      { s with pc := upd s.pc t (if s.anchor.endp d = 0 then .pushCasE d n s.anchor
                                 else if s.anchor.st = 0 then .pushLink d n s.anchor
                                 else .stRd1 (.pushLoop d n) (stabSide s.anchor) s.anchor) }
  | ldPop {d : Bool} (hpc : s.pc t = .popLd d) :
    Tr fx s t (.ld t s.anchor)
      { s with pc := upd s.pc t (if s.anchor.endp d = 0 then .retn false 0
                                 else if s.anchor.l = s.anchor.r then .popCas1 d s.anchor
                                 else if s.anchor.st = 0 then .popChk d s.anchor
                                 else .stRd1 (.popLoop d) (stabSide s.anchor) s.anchor) }
  | chkPop {d : Bool} {a : Anchor} (same : Bool) (hpc : s.pc t = .popChk d a)
      (hs : same = decide (s.anchor = a)) :
    Tr fx s t (.chk t same) { s with pc := upd s.pc t (if same then .popRd d a else .popLd d) }
  | chk1 {k : Kont} {d : Bool} {a : Anchor} {prev : Link} (same : Bool)
      (hpc : s.pc t = .stChk1 k d a prev) (hs : same = decide (s.anchor = a)) :
    Tr fx s t (.chk t same) { s with pc := upd s.pc t (if same then .stRd2 k d a prev else kont k) }
  | chk2 {k : Kont} {d : Bool} {a : Anchor} {prev pn : Link} (same : Bool)
      (hpc : s.pc t = .stChk2 k d a prev pn) (hs : same = decide (s.anchor = a)) :
    Tr fx s t (.chk t same) { s with pc := upd s.pc t (if same then .stLink k d a prev pn else kont k) }
  | rdPop {d : Bool} {a : Anchor} (lk : Link) (hpc : s.pc t = .popRd d a)
      (hg : (unknownLeft s d (a.endp d) = true ∧ freeWordOk fx (inward d (s.nodes (a.endp d))) lk) ∨
        lk = inward d (s.nodes (a.endp d))) :
    Tr fx s t (.rd t lk) { s with pc := upd s.pc t (.popCas d a lk) }
  | rd1 {k : Kont} {d : Bool} {a : Anchor} (lk : Link) (hpc : s.pc t = .stRd1 k d a)
      (hg : (unknownLeft s d (a.endp d) = true ∧ freeWordOk fx (inward d (s.nodes (a.endp d))) lk) ∨
        lk = inward d (s.nodes (a.endp d))) :
    Tr fx s t (.rd t lk) { s with pc := upd s.pc t (.stChk1 k d a lk) }
  | rd2 {k : Kont} {d : Bool} {a : Anchor} {prev : Link} (lk : Link) (hpc : s.pc t = .stRd2 k d a prev)
      (hg : (unknownLeft s (!d) prev.ptr = true ∧ freeWordOk fx (outward d (s.nodes prev.ptr)) lk) ∨
        lk = outward d (s.nodes prev.ptr)) :
    Tr fx s t (.rd t lk)
      { s with pc := upd s.pc t (if lk.ptr ≠ a.endp d then .stChk2 k d a prev lk else .stCas k d a) }
  | link {d : Bool} {m : Nat} {a : Anchor} (hpc : s.pc t = .pushLink d m a) :
    Tr fx s t (.link t m (a.endp d))
      { s with nodes := upd s.nodes m (setInward d (s.nodes m) ⟨a.endp d, newTag fx (inward d (s.nodes m))⟩),
               pc := upd s.pc t (.pushCas d m a) }
  | lcasOk {k : Kont} {d : Bool} {a : Anchor} {prev pn : Link} (hpc : s.pc t = .stLink k d a prev pn)
      (hg : (unknownLeft s (!d) prev.ptr = true ∧ (fx = true → (outward d (s.nodes prev.ptr)).tag = pn.tag)) ∨
        outward d (s.nodes prev.ptr) = pn) :
    Tr fx s t (.lcas t true)
      { s with nodes := upd s.nodes prev.ptr (setOutward d (s.nodes prev.ptr) ⟨a.endp d, pn.tag + 1⟩),
               stale := s.stale || decide (s.anchor ≠ a),
               pc := upd s.pc t (.stCas k d a) }
  | lcasFail {k : Kont} {d : Bool} {a : Anchor} {prev pn : Link} (hpc : s.pc t = .stLink k d a prev pn) :
    Tr fx s t (.lcas t false) { s with pc := upd s.pc t (kont k) }
  | pushEmpty {d : Bool} {n : Nat} (hpc : s.pc t = .pushCasE d n s.anchor) :
    Tr fx s t (.cas t true)
      { s with anchor := ⟨n, n, s.anchor.st, s.anchor.tag + 1⟩,
               chain := chainPush d s.chain n,
               pushed := (s.nodes n).data :: s.pushed,
               pc := upd s.pc t (.retn true 0) }
  | pushEmptyFail {d : Bool} {n : Nat} {a : Anchor} (hpc : s.pc t = .pushCasE d n a) :
    Tr fx s t (.cas t false) { s with pc := upd s.pc t (.pushLd d n) }
  | push {d : Bool} {n : Nat} (hpc : s.pc t = .pushCas d n s.anchor) :
    Tr fx s t (.cas t true)
      { s with anchor := if d then ⟨s.anchor.l, n, 1, s.anchor.tag + 1⟩ else ⟨n, s.anchor.r, 2, s.anchor.tag + 1⟩,
               chain := chainPush d s.chain n,
               pushed := (s.nodes n).data :: s.pushed,
               pc := upd s.pc t (.stRd1 .pushDone d
                 (if d then ⟨s.anchor.l, n, 1, s.anchor.tag + 1⟩ else ⟨n, s.anchor.r, 2, s.anchor.tag + 1⟩)) }
  | pushFail {d : Bool} {n : Nat} {a : Anchor} (hpc : s.pc t = .pushCas d n a) :
    Tr fx s t (.cas t false) { s with pc := upd s.pc t (.pushLd d n) }
  | popSingle {d : Bool} (hpc : s.pc t = .popCas1 d s.anchor) :
    Tr fx s t (.cas t true)
      { s with anchor := ⟨0, 0, s.anchor.st, s.anchor.tag + 1⟩,
               chain := chainPop d s.chain,
               popped := (s.nodes (s.anchor.endp d)).data :: s.popped,
               pc := upd s.pc t (.popFree (s.anchor.endp d) (s.nodes (s.anchor.endp d)).data) }
  | popSingleFail {d : Bool} {a : Anchor} (hpc : s.pc t = .popCas1 d a) :
    Tr fx s t (.cas t false) { s with pc := upd s.pc t (.popLd d) }
  | pop {d : Bool} {prev : Link} (hpc : s.pc t = .popCas d s.anchor prev) :
    Tr fx s t (.cas t true)
      { s with anchor := if d then ⟨s.anchor.l, prev.ptr, s.anchor.st, s.anchor.tag + 1⟩
                         else ⟨prev.ptr, s.anchor.r, s.anchor.st, s.anchor.tag + 1⟩,
               chain := chainPop d s.chain,
               popped := (s.nodes (s.anchor.endp d)).data :: s.popped,
               pc := upd s.pc t (.popFree (s.anchor.endp d) (s.nodes (s.anchor.endp d)).data) }
  | popFail {d : Bool} {a : Anchor} {prev : Link} (hpc : s.pc t = .popCas d a prev) :
    Tr fx s t (.cas t false) { s with pc := upd s.pc t (.popLd d) }
  | stab {k : Kont} {d : Bool} (hpc : s.pc t = .stCas k d s.anchor) :
    Tr fx s t (.cas t true)
      { s with anchor := ⟨s.anchor.l, s.anchor.r, 0, s.anchor.tag + 1⟩, pc := upd s.pc t (kont k) }
  | stabFail {k : Kont} {d : Bool} {a : Anchor} (hpc : s.pc t = .stCas k d a) :
    Tr fx s t (.cas t false) { s with pc := upd s.pc t (kont k) }
  | free {m v : Nat} (hpc : s.pc t = .popFree m v) :
    Tr fx s t (.free t m) { s with used := upd s.used m false, pc := upd s.pc t (.retn true v) }
  | ret {ok : Bool} {v : Nat} (hpc : s.pc t = .retn ok v) :
    Tr fx s t (.ret t ok v) { s with pc := upd s.pc t .idle }
  | done (hpc : s.pc t = .idle) : Tr fx s t (.done t) { s with pc := upd s.pc t .fin }

variable {fx : Bool} {s s' : St} {e : Ev}

/-- Unfold the acceptor and split every test: each accepting branch is an outcome of `Tr`. -/
theorem Tr.of_step (h : stepG fx s e = some s') : ∃ t, t < s.n ∧ Tr fx s t e s' := by
  rcases e with _ | _ | _ | _ | _ | _ | ⟨t, _ | _⟩ | ⟨t, _ | _⟩ | _ | _ | _
  all_goals
    simp only [stepG, Bool.false_eq_true, ↓reduceIte] at h
    repeat' (first | cases h | split at h)
  all_goals repeat (cases ‹_ ∧ _›)
  all_goals try (have := of_decide_eq_true (Eq.symm ‹true = _›))
  all_goals subst_vars
  all_goals refine ⟨_, by assumption, ?_⟩
  all_goals first | (constructor <;> first | assumption | rfl) | skip
  -- left: the guard of a link CAS, and the two failing anchor CASes whose successor state is that
  -- of another one
  · rename_i hg; exact .lcasOk ‹_› (by simpa using hg)
  · exact .pushFail ‹_›
  · exact .popFail ‹_›

variable {t : Nat}

theorem Tr.frame (tr : Tr fx s t e s') :
    s'.n = s.n ∧ (∀ u, u ≠ t → s'.pc u = s.pc u) ∧ (s'.stale = false → s.stale = false) := by
  cases tr with
  | lcasOk => exact ⟨rfl, fun u hu => upd_other _ _ _ _ hu, fun h => (Bool.or_eq_false_iff.1 h).1⟩
  | _ => exact ⟨rfl, fun u hu => upd_other _ _ _ _ hu, id⟩

theorem step_n (h : stepG fx s e = some s') : s'.n = s.n :=
  let ⟨_, _, tr⟩ := Tr.of_step h; tr.frame.1

theorem stale_mono (h : stepG fx s e = some s') (hs : s'.stale = false) : s.stale = false :=
  let ⟨_, _, tr⟩ := Tr.of_step h; tr.frame.2.2 hs

end PikaVerif.Deque
