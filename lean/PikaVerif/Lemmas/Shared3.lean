import PikaVerif.Lemmas.Shared2
/-!
The last group `LInv` of the invariant (who holds the lock, the one completion call), `Full2` = all
groups, and progress of the shared-state protocol (split / split_tuple / ensure_started), stated with
`CanMove` (some event other than a call is accepted): in a reachable state
that has not aborted, as long as some thread is inside an operation some event other than the
invocation of a new operation is possible.  Hence a *stuck* state is quiescent.
-/
namespace PikaVerif.Shared

/-- Who holds the lock; the one completion call; when the first consumer fires the leaf inline. -/
structure LInv (s : St) : Prop where
  lockHolder : ∀ u, s.lock = some u → cHolds (s.pc u) = true ∨ (s.pst = .locked ∧ s.ptid = u)
  /-- a thread at `completing` is the one that made the completion call, and the predecessor has
      neither completed nor a completion pending -/
  completingOne : ∀ t, s.pc t = .completing → s.claimed = some t ∧ s.pst = .none ∧ s.pending = none
  /-- a consumer's `start()` either finds the leaf started or has a pending completion to fire inline -/
  wantFire : ∀ t k, s.pc t = .want k → s.started = true ∨ s.pending ≠ none
  pstStarted : s.pst ≠ .none → s.started = true

theorem linv_init (kind : Kind) (ss : Bool) : LInv (init kind ss) := by
  constructor <;> simp [init]

theorem step_linv (s s' : St) (e : Ev) (hs : SInv s) (hl : LInv s) (h : step s e = some s') :
    LInv s' := by
  cases Step.of_step h with
  | completeArmed t c hpc hsig hpe hcl =>
    -- the one completion call: nobody is at `completing` yet
    exact ⟨fun u hu => by have := hl.lockHolder u hu; grind [upd, cHolds],
      fun u => by grind [upd, hl.completingOne u, hs.sigNone], fun u k => by grind [upd, hl.wantFire u k],
      hl.pstStarted⟩
  | fireOwn t c hpc hst =>
    -- `t` is the thread of the one completion call
    exact ⟨fun u hu => by have := hl.lockHolder u hu; grind [upd, cHolds],
      fun u => by grind [upd, hl.completingOne u, hl.completingOne t],
      fun u k => by grind [upd, hl.wantFire u k], fun _ => hs.started_of_begun (t := t) (hpc ▸ rfl)⟩
  | acqProd t | relProd t | flag t | run t | rcvLoop t =>
    -- the predecessor's thread advances between stages after its completion; outside its critical
    -- section the lock is held by a consumer
    exact ⟨fun u => by have := hl.lockHolder u; grind, fun u => by have := hl.completingOne u; grind,
      hl.wantFire, by have := hl.pstStarted; grind⟩
  | abort t => exact ⟨hl.1, hl.2, hl.3, hl.4⟩
  | _ =>
    -- a consumer's thread moves: whoever holds the lock stays inside, nobody arrives at `completing`
    exact ⟨fun u hu => by have := hl.lockHolder u; grind [upd, cHolds],
      fun u => by grind [upd, hl.completingOne u], fun u k => by grind [upd, hl.wantFire u k],
      by grind [hl.pstStarted]⟩

/-- The complete invariant including the lock-holder / progress part. -/
structure Full2 (s : St) : Prop where
  full : Full s
  linv : LInv s

theorem step_full2 (s s' : St) (e : Ev) (hf : Full2 s) (h : step s e = some s') : Full2 s' :=
  ⟨step_full s s' e hf.full h, step_linv s s' e hf.full.sinv hf.linv h⟩

theorem full2_of_accepted {kind : Kind} {ss : Bool} {log : List Ev} {s : St}
    (h : runLog step (init kind ss) log = some s) : Full2 s :=
  inv_of_runLog Full2 (fun s e s' => step_full2 s s' e)
    ⟨full_init kind ss, linv_init kind ss⟩ h

/-- Events by which the environment begins a new operation (or retires a thread); every other
    event is a step of the adaptor code inside an operation. -/
def Ev.isCall : Ev → Bool
  | .invComplete _ _ | .invConsume _ _ | .tdone _ => true
  | _ => false

/-- Some step of the code inside an operation is possible. -/
def CanMove (s : St) : Prop := ∃ e, Ev.isCall e = false ∧ (step s e).isSome = true

theorem holder_moves (s : St) (hi : Inv s) (hl : LInv s) (ha : s.aborted = false) (u : Nat)
    (hu : s.lock = some u) : CanMove s := by
  rcases hl.lockHolder u hu with h | ⟨h1, h2⟩
  · cases hpc : s.pc u <;> simp [cHolds, hpc] at h
    · exact ⟨.seen2 u s.done, rfl, by simp only [step, ha, hu, hpc]; cases s.done <;> simp⟩
    · exact ⟨.slRel u, rfl, by simp [step, ha, hu, hpc]⟩
    · exact ⟨.slRel u, rfl, by simp [step, ha, hu, hpc]⟩
  · have hp := hi.prodActive (by rw [h1]; simp) (by rw [h1]; simp)
    rw [h2] at hp
    cases hpc : s.pc u <;> simp [isProd, hpc] at hp
    exact ⟨.slRel u, rfl, by simp [step, ha, hu, hpc, h1, h2]⟩

/-- **Progress.**  In a non-aborted state satisfying the invariant, if some thread is inside an
    operation then some event other than a call is accepted (the proof: that thread can take a step
    itself, or it waits for the lock, whose holder can). -/
theorem progress (s : St) (hf : Full2 s) (ha : s.aborted = false) (t : Nat)
    (hn : ¬ (s.pc t = .idle ∨ s.pc t = .fin)) : CanMove s := by
  obtain ⟨⟨hi, hs, hp, hc, hr⟩, hl⟩ := hf
  -- whoever holds the lock can move; otherwise the lock is free and nobody is inside a critical section
  cases hlk : s.lock with
  | some u => exact holder_moves s hi hl ha u hlk
  | none =>
  have hout : cHolds (s.pc t) = false := by
    cases h : cHolds (s.pc t) with
    | false => rfl
    | true => rw [hi.cLock t h] at hlk; cases hlk
  cases hpc : s.pc t with
  | idle => exact absurd (Or.inl hpc) hn
  | fin => exact absurd (Or.inr hpc) hn
  | pushed k | seenT2 k | clocked k => rw [hpc] at hout; cases hout
  | completing =>
    have := hl.completingOne t hpc
    exact ⟨.fire t ⟨0, 0⟩, rfl, by simp [step, ha, hpc, this.2.1]⟩
  | retP | cret k => exact ⟨.ret t, rfl, by simp [step, ha, hpc]⟩
  | seenF k => exact ⟨.slAcq t, rfl, by simp [step, ha, hpc, hlk]⟩
  | visiting k =>
    cases hv : s.v with
    | none => exact ⟨.abort t, rfl, by simp [step, ha, hpc, hv]⟩
    | some c => exact ⟨.rcv t k (sigFor s.kind k c), rfl, by simp [step, ha, hpc, hv]⟩
  | want k =>
    cases hst : s.started with
    | true => exact ⟨.seen1 t s.done, rfl, by simp only [step, ha, hpc, hst]; cases s.done <;> simp⟩
    | false =>
      have hpn : s.pst = .none := by
        cases h : s.pst with
        | none => rfl
        | _ => have := hl.pstStarted (by rw [h]; simp); rw [hst] at this; simp at this
      rcases hl.wantFire t k hpc with h | h
      · rw [hst] at h; simp at h
      · cases hpe : s.pending with
        | none => exact absurd hpe h
        | some c => exact ⟨.fire t c, rfl, by simp [step, ha, hpc, hpn, hst, hpe]⟩
  | prod r =>
    have ⟨hpt, hpne⟩ := hi.prodPc t (by simp [isProd, hpc])
    cases hps : s.pst with
    | none => exact absurd hps hpne
    | locked => rw [hi.pLock hps] at hlk; cases hlk
    | fired => exact ⟨.flag t (variantIndex s.v), rfl, by simp [step, ha, hpc, hps, hpt]⟩
    | flagged => exact ⟨.slAcq t, rfl, by simp [step, ha, hpc, hlk, hps, hpt]⟩
    | unlocked => exact ⟨.run t s.conts.length, rfl, by simp [step, ha, hpc, hps, hpt]⟩
    | running =>
      have hne := hi.runningNonempty hps
      cases hcs : s.conts with
      | nil => exact absurd hcs hne
      | cons k rest =>
        cases hv : s.v with
        | none => exact ⟨.abort t, rfl, by simp [step, ha, hpc, hv, hps, hpt, hcs]⟩
        | some c => exact ⟨.rcv t k (sigFor s.kind k c), rfl, by simp [step, ha, hpc, hv, hps, hpt, hcs]⟩
    | finished =>
      cases r with
      | none => exact ⟨.ret t, rfl, by simp [step, ha, hpc, hps]⟩
      | some k => exact ⟨.seen1 t s.done, rfl, by simp only [step, ha, hpc, hps]; cases s.done <;> simp⟩

end PikaVerif.Shared
