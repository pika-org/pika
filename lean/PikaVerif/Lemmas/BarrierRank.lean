import PikaVerif.Lemmas.BarrierProgress
/-!# Termination measure of the coarse barrier model (C09u)

The coarse model `PikaVerif.Barrier` accepts one **stutter**: `poll t tok seen` with
`seen = tok` (an iteration of the wait loop that finds the phase byte unchanged) leaves the state
exactly as it is (`stutter_id`), and can be repeated any number of times.

A second class of events does not make progress by itself: a **CAS miss** of the ticket search
(`cas … (.miss v)`, `cas2 … (.miss v)`: the node was full, `++current`).  A miss changes the state
(the cursor moves), so it is not a stutter, but the pc-rank cannot pay for it: the cursor is
cyclic.  The measure `mu B` below (`B` = any bound on `expected`)

* strictly decreases with every accepted event that is neither `inv`, a stutter, nor a miss,
* is unchanged by a `cas` miss and grows by at most `1` with a `cas2` miss
  (the `seen` that preceded it had paid `1`).
-/
namespace PikaVerif.Barrier

/-- the one stutter of the model: a poll that sees the byte of its own token -/
def isStutter : Ev → Bool
  | .poll _ tok seen => decide (seen = tok)
  | _ => false

/-- a failed ticket CAS that sends the search loop to the next node -/
def isMiss : Ev → Bool
  | .cas _ _ _ (.miss _) => true
  | .cas2 _ _ _ (.miss _) => true
  | _ => false

def isMiss2 : Ev → Bool
  | .cas2 _ _ _ (.miss _) => true
  | _ => false

def isInv : Ev → Bool
  | .inv _ _ => true
  | _ => false

theorem stutter_id (s s' : St) (e : Ev) (hst : isStutter e = true) (h : step s e = some s') : s' = s := by
  cases step_iff.mp h <;> first | cases hst | skip
  -- a poll that sees the byte of its token: the thread goes from `polling` to `polling`
  rename_i t _ hpc
  rw [if_pos (of_decide_eq_true hst), ← hpc, upd_self]

/-- cost of one call of `base.arrive` when `expected ≤ B`: `start`, at most `3` events per round
    with `m` going `B → ⌈B/2⌉ → … → 1`, `last`, `compl`, `publish` -/
def cc (B : Nat) : Nat := 3 * B + 8

def rank (B : Nat) : Pc → Nat
  | .fin => 0
  | .idle => 1
  | .retn => 2
  | .polling => 3
  | .arr u => u * cc B + 3
  | .want u => u * cc B + 4
  | .wantDrop => cc B + 5
  | .try u _ _ m => u * cc B + 3 * m + 7
  | .try2 u _ _ m => u * cc B + 3 * m + 6 + (if 1 < m then 0 else 5)
  | .won u _ => u * cc B + 6
  | .pub u _ => u * cc B + 5

def opRank (B : Nat) : Op → Nat
  | .arrive u => u * cc B + 4
  | .aw => cc B + 4
  | .drop => cc B + 5
  | .wait => 3

def mu (B : Nat) (s : St) : Nat := sumTo s.n (fun t => rank B (s.pc t))

theorem rank_afterCall (B : Nat) (aw : Bool) (u : Nat) : rank B (afterCall aw u) ≤ u * cc B + 3 := by
  unfold afterCall
  split
  · split <;> simp [rank]
  · simp [rank]

theorem calls_succ (c u : Nat) (h : 1 ≤ u) : u * c = (u - 1) * c + c := by
  rw [← Nat.succ_mul]; congr 1; omega

set_option hygiene false in
macro "muB_step" t:term : tactic => `(tactic| (
  simp only [step] at h
  split at h
  case isFalse => simp at h
  rename_i hg
  have htn : $t < s.n := by grind
  have hle := le_sumTo (f := fun u => rank B (s.pc u)) htn
  repeat' split at h
  all_goals first | (simp at h; done) | skip
  all_goals (
    simp only [Option.some.injEq] at h
    subst h
    simp only [mu]
    rw [sumTo_upd_eq _ (rank B) _ _ _ htn]
    try (have hac := rank_afterCall B (s.aw $t))
    grind)))

theorem mu_upd (B : Nat) {s s' : St} {t : Nat} (ht : t < s.n) (hn : s'.n = s.n)
    (hpc : ∀ u, u ≠ t → s'.pc u = s.pc u) : mu B s' + rank B (s.pc t) = mu B s + rank B (s'.pc t) := by
  unfold mu; rw [hn]
  exact sumTo_change (f := fun u => rank B (s.pc u)) (f' := fun u => rank B (s'.pc u)) ht
    (fun u _ hu => by simp only [hpc u hu])

theorem rank_opPc (B : Nat) (o : Op) : rank B (opPc o) = opRank B o := by
  cases o <;> first | rfl | exact congrArg (· + 4) (Nat.one_mul _)

theorem mu_inv (B : Nat) (s s' : St) (t : Nat) (o : Op) (h : step s (.inv t o) = some s') :
    mu B s' + 1 = mu B s + opRank B o := by
  obtain ⟨ht, hn, -, -, -, -, hpc⟩ := step_frame h
  have := mu_upd B ht hn hpc
  cases step_iff.mp h
  simp only [thr, upd_same, ‹s.pc _ = _›, rank_opPc] at this
  exact this

/-- The ranks of the acting thread before and after an event.  A round costs `3` per participant
    because `m` at least halves (`casUp`); `start` pays for all rounds of the call out of `cc B`;
    `seen` pays the `1` that a miss of the second CAS may give back. -/
theorem rank_step (B : Nat) {s s' : St} {e : Ev} (h : Step s e s') (hB : s.expected ≤ B)
    (hi : isInv e = false) :
    (isStutter e = false → isMiss e = false → rank B (s'.pc (thr e)) < rank B (s.pc (thr e))) ∧
    (isMiss e = true → rank B (s'.pc (thr e)) ≤ rank B (s.pc (thr e)) + (if isMiss2 e then 1 else 0)) := by
  have hcc : cc B = 3 * B + 8 := rfl
  have hac := rank_afterCall B
  cases h <;> simp only [thr, upd_same, ‹s.pc _ = _›]
  case inv => cases hi
  case load | casHalf | publish =>
    exact ⟨fun _ _ => Nat.lt_of_le_of_lt (hac _ _) (by simp only [rank]; omega), nofun⟩
  case start => exact ⟨fun _ _ => by have := calls_succ (cc B) _ ‹1 ≤ _›; simp only [rank]; omega, nofun⟩
  case casSeen => exact ⟨fun _ _ => by simp only [rank, if_pos ‹1 < _›]; omega, nofun⟩
  case casMiss => exact ⟨fun _ h => (by cases h), fun _ => Nat.le_refl _⟩
  case cas2Up => exact ⟨fun _ _ => by simp only [rank]; split <;> omega, nofun⟩
  case cas2Miss t c r u m _ _ _ =>
    refine ⟨fun _ h => (by cases h), fun _ => ?_⟩
    show rank B (.try u (c + 1) r m) ≤ rank B (.try2 u c r m) + 1
    simp only [rank]; split <;> omega
  case poll =>
    refine ⟨fun hst _ => ?_, nofun⟩
    rw [if_neg (by simpa [isStutter] using hst)]; exact Nat.le_refl _
  all_goals exact ⟨fun _ _ => by simp only [rank]; omega, nofun⟩

/-- **Every accepted event other than `inv`, the stutter and the misses strictly decreases `mu`;
    a miss raises it by at most one (only a `cas2` miss does).** -/
theorem mu_step (B : Nat) (s s' : St) (e : Ev) (hB : s.expected ≤ B) (hi : isInv e = false)
    (h : step s e = some s') :
    (isStutter e = false → isMiss e = false → mu B s' < mu B s) ∧
    (isMiss e = true → mu B s' ≤ mu B s + (if isMiss2 e then 1 else 0)) := by
  obtain ⟨ht, hn, -, -, -, -, hpc⟩ := step_frame h
  have := mu_upd B ht hn hpc
  obtain ⟨h1, h2⟩ := rank_step B (step_iff.mp h) hB hi
  exact ⟨fun a b => by have := h1 a b; omega, fun a => by have := h2 a; omega⟩

/-! The stutter is the *only* accepted event that leaves a reachable state unchanged (a miss always moves the
    cursor). -/

/-- a `cas` miss changes the state: the search is never on a one-node round whose node is full -/
theorem cas_miss_moves {s s' : St} (hb : InvB s) {t a b v : Nat}
    (h : step s (.cas t a b (.miss v)) = some s') : s'.pc t ≠ s.pc t := by
  cases step_iff.mp h with
  | casMiss _ _ _ u cur m htn hpc hm1 hnorm hv hl =>
    obtain ⟨hm, hcur, htp, -⟩ := hb.known htn hpc
    obtain ⟨hcur', hn⟩ := hcur hm1
    intro heq
    rw [show ({ s with pc := upd s.pc t (.try u (a + 1) b m) } : St).pc t = .try u (a + 1) b m from upd_same ..,
      hpc] at heq
    have hac : a + 1 = cur := (Pc.try.inj heq).2.1
    -- the cursor came back to where it was: the round has one node (`m = 2`), found full; but a
    -- searching thread always has a free slot in its round
    have hm2 : m = 2 := by rw [hnorm] at hac; split at hac <;> omega
    subst hm2
    obtain ⟨c, hc, hav⟩ := slot_available hb htn (r := b) (by rw [hpc]; exact if_pos rfl) (by omega)
    have hc0 : c = 0 := by omega
    have ha0 : a = 0 := by omega
    subst hc0 ha0
    rcases hav with hav | hav
    · exact hv (hav.trans htp.symm)
    · exact hl.elim (fun hl => by omega) (fun hv2 => hv2 (by rw [hav.1, htp]))

/-- **Exactly the stutter**: every accepted event that is not the stutter changes the state. -/
theorem nonstutter_moves (s s' : St) (e : Ev) (hb : InvB s) (hst : isStutter e = false)
    (h : step s e = some s') : s' ≠ s := by
  intro heq
  by_cases hi : isInv e = true
  · cases e <;> simp [isInv] at hi
    rename_i t o
    have := mu_inv 0 s s' t o h
    rw [heq] at this
    cases o <;> simp [opRank] at this <;> omega
  · by_cases hm : isMiss e = true
    · cases e <;> simp [isMiss] at hm
      case cas t a b o =>
        cases o <;> simp at hm
        rename_i v
        exact cas_miss_moves hb h (by rw [heq])
      case cas2 t a b o =>
        -- either outcome of the second CAS takes the thread back to `bar.try`
        cases step_iff.mp h <;>
        · have := congrFun (congrArg St.pc heq) t
          simp only [upd_same, ‹s.pc _ = _›] at this
          cases this
    · have := (mu_step s.expected s s' e (Nat.le_refl _) (by simpa using hi) h).1 hst (by simpa using hm)
      rw [heq] at this; omega

end PikaVerif.Barrier
