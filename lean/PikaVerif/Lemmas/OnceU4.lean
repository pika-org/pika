import PikaVerif.Props.C09
import PikaVerif.Lemmas.OnceU3
/-!
# Maximal runs of `k` callers of `call_once` (C09u): final states, outcome by throwing pattern, the spin round
-/
namespace PikaVerif.Once
open PikaVerif.C09

/-- no event at all is accepted (not even a spin): the run is maximal -/
def PStuck (p : PSt) : Prop := ∀ e, pstep p e = none

theorem complete : ProgComplete step pstep PSt.s PSt.prog .inv .done :=
  ⟨fun {p e} h1 h2 h => by
    cases e <;> first | exact absurd rfl (h1 _ _) | exact absurd rfl (h2 _) | simpa [pstep] using h,
   fun hp h => by simpa [pstep, hp] using h, fun hp h => by simpa [pstep, hp] using h⟩

theorem fin_stuck (p : PSt) (h : ∀ t, t < p.s.n → p.s.pc t = .fin) : PStuck p := by
  intro e
  cases hp : pstep p e with
  | none => rfl
  | some p' =>
    obtain ⟨t, htn, hpc⟩ := step_thread (pstep_step hp)
    exact absurd (h t htn) hpc

/-- **Final state of a maximal run of `k` callers.**  Every caller has called, returned and
    finished; its recorded result is 0 (normal; then the status is `complete`) or 2 (exception;
    then its own callable throws). -/
theorem callers_final (thr : Nat → Bool) (k : Nat) (log : List Ev) (p' : PSt)
    (h : runLog pstep (pinit k (callers thr)) log = some p') (hst : PStuck p') :
    ∀ t, t < k → p'.s.pc t = .fin ∧ p'.prog t = [] ∧
      ∃ r, p'.res t = some r ∧ (r = 0 → p'.s.status = .complete) ∧ (r = 0 ∨ (r = 2 ∧ thr t = true)) := by
  obtain ⟨hA, hM, hJ⟩ := J_of_accepted thr k log p' h
  have hm : runLog step (init k) log = some p'.s := layer.run h
  have hr : OReachable p'.s := ⟨k, log, hm⟩
  have hs : OStuck p'.s := complete.stuck hst
  have hn : p'.s.n = k := (once_counters_log log _ _ hm).2.2
  intro t ht
  have htn : t < p'.s.n := hn ▸ ht
  rcases hJ.st t with ⟨a1, a2, _, _⟩ | ⟨b1, b2, ⟨_, c2, c3⟩ | ⟨d1, r, d2, d3, d4⟩⟩
  · -- not yet called: `inv` is enabled
    have := complete.start a1 (hst _)
    simp [step, htn, a2] at this
  · -- inside `call_once`: impossible in a stuck state of the model
    rcases C09_once_all_callers_return p'.s hr hs hJ.noTop t htn (by rw [b2]; rfl) with h1 | h1
    · exact absurd h1 c2
    · exact absurd h1 c3
  · rcases d1 with d1 | d1
    · -- returned: `done` is enabled
      have := complete.finish b1 (hst _)
      simp [step, htn, d1] at this
    · refine ⟨d1, b1, r, d2, fun hr0 => ?_, d4⟩
      have hc := hM.compl
      have := d3 hr0
      by_cases hcs : p'.s.status = .complete
      · exact hcs
      · rw [if_neg hcs] at hc; omega

/-- at least one callable does not throw: in the final state of a maximal run the status is
    `complete`, exactly one non-throwing callable was entered and completed, and every caller
    whose callable does not throw returned normally -/
theorem callers_some_ok (thr : Nat → Bool) (k : Nat) (log : List Ev) (p' : PSt)
    (h : runLog pstep (pinit k (callers thr)) log = some p') (hst : PStuck p')
    (hex : ∃ t, t < k ∧ thr t = false) :
    p'.s.status = .complete ∧ okBodies log = 1 ∧ completes log = 1 ∧ rsum p'.s = 0 ∧
    ∀ t, t < k → thr t = false → p'.res t = some 0 := by
  have hf := callers_final thr k log p' h hst
  have hres : ∀ t, t < k → thr t = false → p'.res t = some 0 ∧ p'.s.status = .complete := by
    intro t ht hth
    obtain ⟨_, _, r, h1, h2, h3 | ⟨_, h3⟩⟩ := hf t ht
    · subst h3; exact ⟨h1, h2 rfl⟩
    · rw [hth] at h3; cases h3
  obtain ⟨t0, ht0, hth0⟩ := hex
  have hc := (hres t0 ht0 hth0).2
  obtain ⟨e1, e2, e3⟩ := (C09_once_exactly_once k log p'.s (layer.run h)).2.2.2 hc
  exact ⟨hc, e1, e2, e3, fun t ht hth => (hres t ht hth).1⟩

/-- every callable throws: in the final state of a maximal run every caller returned with its own
    exception; no non-throwing callable was entered and `complete` was never stored -/
theorem callers_all_throw (thr : Nat → Bool) (k : Nat) (log : List Ev) (p' : PSt)
    (h : runLog pstep (pinit k (callers thr)) log = some p') (hst : PStuck p')
    (hall : ∀ t, t < k → thr t = true) :
    (∀ t, t < k → p'.res t = some 2) ∧ okBodies log = 0 ∧ completes log = 0 ∧
    p'.s.status ≠ .complete := by
  obtain ⟨hA, hM, hJ⟩ := J_of_accepted thr k log p' h
  have hm : runLog step (init k) log = some p'.s := layer.run h
  have hcnt := once_counters_log log _ _ hm
  simp only [init] at hcnt
  have hok : p'.s.okRuns = 0 := by
    cases hk : p'.s.okRuns with
    | zero => rfl
    | succ j =>
      obtain ⟨u, hu, hthu⟩ := hJ.ok (by omega)
      rw [hcnt.2.2] at hu
      rw [hall u hu] at hthu; cases hthu
  have hnc : p'.s.status ≠ .complete := by
    intro hc
    have := ((C09_once_exactly_once k log p'.s hm).2.2.2 hc).1
    omega
  refine ⟨fun t ht => ?_, by omega, ?_, hnc⟩
  · obtain ⟨_, _, r, h1, h2, h3 | ⟨h3, _⟩⟩ := callers_final thr k log p' h hst t ht
    · exact absurd (h2 h3) hnc
    · subst h3; exact h1
  · have := hM.compl
    rw [if_neg hnc] at this
    omega

/-- a normal return of a caller is accepted only after the successful execution has finished:
    the log before it contains exactly one entry of a non-throwing callable and exactly one store
    of `complete` -/
theorem callers_ret_after (thr : Nat → Bool) (k : Nat) (log1 log2 : List Ev) (t : Nat) (p' : PSt)
    (h : runLog pstep (pinit k (callers thr)) (log1 ++ .ret t 0 :: log2) = some p') :
    okBodies log1 = 1 ∧ completes log1 = 1 := by
  obtain ⟨p1, h1, h2⟩ := runLog_prefix h
  obtain ⟨p2, hs, _⟩ := runLog_cons_some h2
  obtain ⟨_, _, hJ⟩ := J_of_accepted thr k log1 p1 h1
  have hss := pstep_step hs
  obtain ⟨_, f1, _⟩ := step_ret hss
  have hop : isCall (p1.s.curOp t) = true := by
    rcases hJ.st t with ⟨_, a2, _⟩ | ⟨_, b2, _⟩
    · rw [a2] at f1; rcases f1 with f1 | ⟨f1, _⟩ <;> cases f1
    · rw [b2]; rfl
  have := C09_once_others_after k log1 p1.s p2.s (layer.run h1) t hop hss
  exact ⟨this.2.1, this.2.2.1⟩

/-! ## The spin round -/

/-- **One spin round returns to the same state.**  A caller at the status load while the status
    is `running` and the event flag is `true` goes through `onceLoad, onceLost false, evLoad true`
    and the model is in exactly the state it started from. -/
theorem spin_round (s : St) (t : Nat) (thr : Bool) (htn : t < s.n) (hpc : s.pc t = .cLoad thr)
    (hst : s.status = .running) (hf : s.flag = true) :
    runLog step s [.onceLoad t, .onceLost t false, .evLoad t true] = some s := by
  have hupd : upd s.pc t (.cLoad thr) = s.pc := by rw [← hpc, upd_self]
  simp [runLog, step, htn, hpc, hst, hf, wDone]
  rw [hupd, ← hf, ← hst]

theorem pspin_round (p : PSt) (t : Nat) (thr : Bool) (htn : t < p.s.n) (hpc : p.s.pc t = .cLoad thr)
    (hst : p.s.status = .running) (hf : p.s.flag = true) :
    runLog pstep p [.onceLoad t, .onceLost t false, .evLoad t true] = some p := by
  have hupd : upd p.s.pc t (.cLoad thr) = p.s.pc := by rw [← hpc, upd_self]
  simp [runLog, pstep, step, htn, hpc, hst, hf, wDone]
  rw [hupd, ← hf, ← hst]

def rounds (t : Nat) : Nat → List Ev
  | 0 => []
  | m + 1 => [.onceLoad t, .onceLost t false, .evLoad t true] ++ rounds t m

theorem rounds_length (t m : Nat) : (rounds t m).length = 3 * m := by
  induction m with
  | zero => rfl
  | succ m ih => simp only [rounds, List.length_append, ih, List.length_cons, List.length_nil]; omega

theorem rounds_spins (t m : Nat) : spins (rounds t m) = m := by
  induction m with
  | zero => rfl
  | succ m ih => simp [rounds, spins, ih]

theorem pspin_rounds (p : PSt) (t : Nat) (thr : Bool) (htn : t < p.s.n) (hpc : p.s.pc t = .cLoad thr)
    (hst : p.s.status = .running) (hf : p.s.flag = true) (m : Nat) :
    runLog pstep p (rounds t m) = some p := by
  induction m with
  | zero => rfl
  | succ m ih =>
    simp only [rounds]
    rw [runLog_append, pspin_round p t thr htn hpc hst hf]
    exact ih

/-- **No single event is a stutter**: every accepted event changes the state, because it changes
    the measure (`inv` raises it: every operation costs at least 2). -/
theorem step_ne (s s' : St) (e : Ev) (h : step s e = some s') : s' ≠ s := by
  intro heq
  subst heq
  by_cases hinv : ∃ t o, e = .inv t o
  · obtain ⟨t, o, rfl⟩ := hinv
    have := mu_inv h
    have : 2 ≤ rank s'.n false (entry o) := by cases o <;> simp [entry, rank]
    omega
  · by_cases hsp : ∃ t, e = .evLoad t true
    · obtain ⟨t, rfl⟩ := hsp
      obtain ⟨c, _, _, hpc, _⟩ := step_evLoad h
      cases c with
      | top => exact Nat.lt_irrefl _ ((mu_evLoad h).1 (.inr hpc))
      | once thr => have := (mu_evLoad h).2 rfl thr hpc; omega
    · exact Nat.lt_irrefl _ (mu_step (fun t o he => hinv ⟨t, o, he⟩) (fun t he => hsp ⟨t, he⟩) h)

/-- In a program of callers every fast-path return `evLoad t true` is a return of `event_.wait()`
    inside `call_once`: the caller lost the CAS, finds the flag `true` and goes back to the status
    load. -/
theorem callers_spin_ctx (thr : Nat → Bool) (p p' : PSt) (t : Nat) (hA : Inv p.s) (hJ : J thr p)
    (h : pstep p (.evLoad t true) = some p') :
    p.s.pc t = .wWant (.once (thr t)) ∧ p.s.flag = true ∧ p'.s.pc t = .cLoad (thr t) := by
  obtain ⟨c, _, hf, hpc, hs'⟩ := step_evLoad (pstep_step h)
  have hop := hA.opOk t
  rw [hpc] at hop
  rcases hJ.st t with ⟨_, a2, _⟩ | ⟨_, b2, _⟩
  · rw [hpc] at a2; cases a2
  · rw [b2] at hop
    cases c with
    | top => simp [pcOpOk, ctxOk] at hop
    | once th =>
      obtain rfl : thr t = th := by simpa [pcOpOk, ctxOk] using hop
      exact ⟨hpc, hf.symm, by rw [hs']; simp [wDone]⟩

end PikaVerif.Once
