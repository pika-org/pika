import PikaVerif.Lemmas.Rw3
/-! An access whose continuation has run stays so (`grant_acc_post`, `Step.post_mono`), and the
    bookkeeping of the modifications of the wrapped value (`InvW`, for "sees all earlier writes"). -/
namespace PikaVerif.Rw

theorem grant_acc_post (s : St) (t a : Nat) (det : Bool) : post ((grant s t a det).acc a) = true := by
  rw [(grant_fields s t a det).1, upd_same]; cases det <;> rfl

/-- An access whose continuation has run stays so: an event moves an access that was not granted
    yet, or moves it between `granted` and `released`. -/
theorem Step.post_mono {s s' : St} {e : Ev} (h : Step s e s') (hi : Inv s) (b : Nat)
    (hb : post (s.acc b) = true) : post (s'.acc b) = true := by
  have set : ∀ {a : Nat} {x : Acc} (v : Acc), s.acc a = x → (post x = true → post v = true) →
      post (upd s.acc a v b) = true := by
    intro a x v hx hv
    by_cases hba : b = a
    · subst hba; rw [upd_same]; exact hv (hx ▸ hb)
    · rw [upd_other _ _ _ _ hba]; exact hb
  cases h <;> try simp only [decRc_fields, grant_fields, newGroup]
  case reqFirst | reqNew | reqSame => exact set _ (hi.accNone _ (Nat.le_refl _)) nofun
  case destroy | destroyEmpty | xchg | write | readv | vfree => exact hb
  case start hx | loadOpen hx _ | casPush hx _ | casRetry hx _ => exact set _ hx nofun
  case loadDone det hx _ | casDone det hx _ | cont det _ hx _ =>
    exact set _ hx (fun _ => by cases det <;> rfl)
  case copy hx _ => exact set _ hx (fun _ => rfl)
  case rel c hx => exact set _ hx (fun _ => by cases c <;> rfl)

/-- `ver` counts the modifications; `wr a` those made through access `a` -/
structure InvW (s : St) : Prop where
  verSum : s.ver = sumTo s.na s.wr
  wrOut : ∀ a, s.na ≤ a → s.wr a = 0
  wrPost : ∀ a, 0 < s.wr a → post (s.acc a) = true

theorem invW_init : InvW init := by
  refine ⟨?_, ?_, ?_⟩ <;> simp [init]

theorem Step.invW {s s' : St} {e : Ev} (h : Step s e s') (hi : Inv s) (hw : InvW s) : InvW s' := by
  have hp := h.post_mono hi
  -- every event but a request and a write keeps `na`, `wr` and `ver`
  have keep : s'.na = s.na ∧ s'.wr = s.wr ∧ s'.ver = s.ver → InvW s' := fun ⟨h1, h2, h3⟩ =>
    ⟨by rw [h1, h2, h3]; exact hw.verSum, by rw [h1, h2]; exact hw.wrOut,
     fun b hb => hp b (hw.wrPost b (h2 ▸ hb))⟩
  -- a new access has not modified the value
  have new : s'.na = s.na + 1 ∧ s'.wr = s.wr ∧ s'.ver = s.ver → InvW s' := fun ⟨h1, h2, h3⟩ =>
    ⟨by rw [h1, h2, h3, sumTo_succ, hw.wrOut _ (Nat.le_refl _)]; exact hw.verSum,
     fun b hb => by rw [h2]; exact hw.wrOut b (by omega), fun b hb => hp b (hw.wrPost b (h2 ▸ hb))⟩
  cases h
  case write t a c hx hr =>
    have ha : a < s.na := lt_of_acc hi (by rw [hx]; nofun)
    refine ⟨?_, fun b hb => ?_, fun b hb => ?_⟩
    · have : sumTo s.na (upd s.wr a (s.wr a + 1)) + s.wr a = sumTo s.na s.wr + (s.wr a + 1) :=
        sumTo_upd s.na (fun x => x) s.wr a _ ha
      have := hw.verSum
      dsimp only; omega
    · have hba : b ≠ a := by dsimp only at hb; omega
      exact (upd_other _ _ _ _ hba).trans (hw.wrOut b hb)
    · by_cases hba : b = a
      · subst hba; exact hx ▸ rfl
      · exact hw.wrPost b (upd_other s.wr _ _ _ hba ▸ hb)
  case reqFirst | reqNew | reqSame => exact new (by simp only [decRc_fields, newGroup, and_self])
  case readv => exact hw
  all_goals exact keep (by simp only [decRc_fields, grant_fields, and_self])

theorem invW_of_accepted {log : List Ev} {s : St} (h : runLog step init log = some s) : Inv s ∧ InvW s :=
  inv_of_runLog (fun s => Inv s ∧ InvW s)
    (fun _ _ _ hi hs => ⟨(Step.of_step hs).inv hi.1, (Step.of_step hs).invW hi.1 hi.2⟩)
    ⟨inv_init, invW_init⟩ h

end PikaVerif.Rw
