import PikaVerif.Lemmas.SSemT
import PikaVerif.Core.Prog
/-!
# Finite programs over the sliding semaphore model (C08t, sliding clause)

Same construction as `Lemmas/SemProg.lean`: a *program* gives every thread a finite list of
operations, `pstep` is `step` restricted to the logs of that program, and `phi` = `mu` + the
potential of the operations not yet started decreases with **every** accepted event.
-/
namespace PikaVerif.SSem

structure PSt where
  s : St
  prog : Nat → List Op

def pstep (p : PSt) : Ev → Option PSt
  | .inv t o =>
    match p.prog t with
    | o' :: rest =>
      if o' = o then (step p.s (.inv t o)).map (fun s' => ⟨s', upd p.prog t rest⟩) else none
    | [] => none
  | .done t => if p.prog t = [] then (step p.s (.done t)).map (fun s' => ⟨s', p.prog⟩) else none
  | .ret t r => (step p.s (.ret t r)).map (fun s' => ⟨s', p.prog⟩)
  | .slAcq t => (step p.s (.slAcq t)).map (fun s' => ⟨s', p.prog⟩)
  | .slRel t => (step p.s (.slRel t)).map (fun s' => ⟨s', p.prog⟩)
  | .cvEnq t z => (step p.s (.cvEnq t z)).map (fun s' => ⟨s', p.prog⟩)
  | .popResume t z g => (step p.s (.popResume t z g)).map (fun s' => ⟨s', p.prog⟩)
  | .cvNone t => (step p.s (.cvNone t)).map (fun s' => ⟨s', p.prog⟩)
  | .cvWoke t a => (step p.s (.cvWoke t a)).map (fun s' => ⟨s', p.prog⟩)
  | .pass t u l => (step p.s (.pass t u l)).map (fun s' => ⟨s', p.prog⟩)
  | .sig t l z => (step p.s (.sig t l z)).map (fun s' => ⟨s', p.prog⟩)
  | .suspend t => (step p.s (.suspend t)).map (fun s' => ⟨s', p.prog⟩)
  | .woke t => (step p.s (.woke t)).map (fun s' => ⟨s', p.prog⟩)

def pinit (n : Nat) (d l : Int) (prog : Nat → List Op) : PSt := ⟨init n d l, prog⟩

theorem layer : ProgLayer step pstep PSt.s PSt.prog .inv .done := by
  refine ⟨fun {p e p'} h => ?_, nofun⟩
  cases e
  case inv t o =>
    simp only [pstep] at h
    split at h
    · rename_i o' rest hp
      split at h
      · rename_i ho; subst ho
        obtain ⟨s₁, hs, rfl⟩ := Option.map_eq_some_iff.1 h
        exact ⟨hs, .inl ⟨t, o', rest, rfl, hp, rfl⟩⟩
      · cases h
    · cases h
  case done t =>
    simp only [pstep] at h
    split at h
    · rename_i hp
      obtain ⟨s₁, hs, rfl⟩ := Option.map_eq_some_iff.1 h
      exact ⟨hs, .inr ⟨fun _ _ => nofun, rfl, fun _ he => by cases he; exact hp⟩⟩
    · cases h
  all_goals
    obtain ⟨s₁, hs, rfl⟩ := Option.map_eq_some_iff.1 h
    exact ⟨hs, .inr ⟨fun _ _ => nofun, rfl, fun _ => nofun⟩⟩

theorem complete : ProgComplete step pstep PSt.s PSt.prog .inv .done :=
  ⟨fun {p e} h1 h2 h => by
    cases e <;> first | exact absurd rfl (h1 _ _) | exact absurd rfl (h2 _) | simpa [pstep] using h,
   fun hp h => by simpa [pstep, hp] using h, fun hp h => by simpa [pstep, hp] using h⟩

theorem runLog_n {s s' : St} {log : List Ev} (h : runLog step s log = some s') : s'.n = s.n :=
  inv_of_runLog (fun x => x.n = s.n) (fun a e b ha hs => (step_n a b e hs).trans ha) rfl h

/-- potential of the operations a thread has not started yet (in a system of `N` threads):
    `rank N (want o)` per operation -/
def progCost (N : Nat) : List Op → Nat
  | [] => 0
  | o :: l => rank N (.want o) + progCost N l

def phi (p : PSt) : Nat := mu p.s + sumTo p.s.n (fun t => progCost p.s.n (p.prog t))

theorem inv_lt {s s' : St} {t : Nat} {o : Op} (h : step s (.inv t o) = some s') : t < s.n := by
  cases step_iff.1 h with | inv htn _ => exact htn

theorem potential : Potential pstep .inv (Inv1 ·.s) (·.s.n) (mu ·.s) progCost :=
  ⟨fun hr h => have hs := (layer.sound h).1; ⟨hr.step hs, step_n _ _ _ hs⟩,
   fun _ h => have hs := (layer.sound h).1; ⟨inv_lt hs, fun l => by
    have := mu_inv _ _ _ _ hs
    simp only [progCost]; omega⟩,
   fun hr hne h => mu_step _ _ _ hr hne (layer.sound h).1⟩

/-- explicit bound on the number of events of a program with `n` threads:
    1 per thread (`done`), 11 per `wait` / `try_wait`, `15 n + 9` per `signal` -/
def bound (n : Nat) (prog : Nat → List Op) : Nat := n + sumTo n (fun t => progCost n (prog t))

theorem phi_pinit (n : Nat) (d l : Int) (prog : Nat → List Op) : phi (pinit n d l prog) = bound n prog := by
  simp only [phi, pinit, mu, init, bound]
  have h1 : ∀ k, sumTo k (fun _ => rank n Pc.idle) = k := by
    intro k
    induction k with
    | zero => rfl
    | succ k ih => simp only [sumTo_succ, ih]; rfl
  have h2 : sumTo n (fun _ => tokW 0) = 0 := sumTo_eq_zero (fun _ _ => rfl)
  rw [h1, h2]; omega

/-- no event at all is accepted: the run is maximal -/
def PStuck (p : PSt) : Prop := ∀ e, pstep p e = none

def FinOk (p : PSt) : Prop := ∀ t, p.s.pc t = .fin → p.prog t = []

theorem setPopped_not_fin {q q' : Pc} (h : setPopped q = some q') : q' ≠ .fin := by
  unfold setPopped at h
  split at h <;> cases h <;> nofun

theorem step_fin {s s' : St} {e : Ev} {u : Nat} (hs : step s e = some s') :
    s'.pc u = .fin → s.pc u = .fin ∨ e = .done u := by
  have mv : ∀ {f : Nat → Pc} {t : Nat} {p' : Pc}, p' ≠ .fin → upd f t p' u = .fin → f u = .fin :=
    fun {f t p'} hp' => by
      by_cases hu : u = t
      · subst hu; rw [upd_same]; exact fun h => absurd h hp'
      · rw [upd_other _ _ _ _ hu]; exact id
  cases step_iff.1 hs with
  | @done t =>
    by_cases hu : u = t
    · exact fun _ => .inr (hu ▸ rfl)
    · simp only [upd_other _ _ _ _ hu]; exact .inl
  | sig | acqLoop | relRes => exact fun h => .inl (mv (by split <;> nofun) h)
  | pop _ _ _ _ hp' => exact fun hu => .inl (mv (setPopped_not_fin hp') (mv (by nofun) hu))
  | _ => exact fun h => .inl (mv (by nofun) h)

theorem finOk_of_run {n : Nat} {d l : Int} {prog : Nat → List Op} {log : List Ev} {p : PSt}
    (h : runLog pstep (pinit n d l prog) log = some p) : FinOk p :=
  inv_of_runLog FinOk (fun _ _ _ => layer.finished_step (fin := fun s t => s.pc t = .fin) step_fin)
    (fun t ht => by simp [pinit, init] at ht) h

end PikaVerif.SSem
