import PikaVerif.Lemmas.BarrierProg
/-!# Sweep ghost for the ticket search (C09u): instrumented program layer

`GSt` = `PSt` + per-thread ghost `st` (cursor at which the thread entered its current round) and
`w` (the cursor has wrapped from `e` to `0` in this round; `e = (m + 1) / 2` is the number of nodes
of the round, so a cursor at `e` stands for node `0`).  `gstep` accepts exactly the events
`pstep` accepts.  Invariant `SW`: the nodes the thread has passed since it entered the round are
full for the current phase.
-/
namespace PikaVerif.Barrier

structure GSt where
  p : PSt
  /-- cursor at which thread `t` entered its current round -/
  st : Nat → Nat
  /-- the cursor of thread `t` has wrapped around in this round -/
  w : Nat → Bool

/-- the cursor is at `e`: the next CAS is on node `0` -/
def wrapNow : Pc → Bool
  | .try _ cur _ m => decide (cur = (m + 1) / 2)
  | _ => false

/-- the ghosts after event `e`: `start` and a CAS that goes up enter a round, a miss at the last
    node sets `w` -/
def ghost (g : GSt) (e : Ev) (p' : PSt) : GSt :=
  match e with
  | .start t cur => ⟨p', upd g.st t cur, upd g.w t false⟩
  | .cas t c _ .up => ⟨p', upd g.st t (c / 2), upd g.w t false⟩
  | .cas2 t c _ .up => ⟨p', upd g.st t (c / 2), upd g.w t false⟩
  | .cas t _ _ _ => ⟨p', g.st, upd g.w t (g.w t || wrapNow (g.p.s.pc t))⟩
  | _ => ⟨p', g.st, g.w⟩

def gstep (g : GSt) (e : Ev) : Option GSt := (pstep g.p e).map (ghost g e)

theorem ghost_p (g : GSt) (e : Ev) (p' : PSt) : (ghost g e p').p = p' := by
  unfold ghost; split <;> rfl

theorem gstep_pstep (g g' : GSt) (e : Ev) (h : gstep g e = some g') : pstep g.p e = some g'.p := by
  simp only [gstep, Option.map_eq_some_iff] at h
  obtain ⟨p', h1, h2⟩ := h
  rw [← h2, ghost_p]; exact h1

theorem runLog_gstep_pstep (log : List Ev) (g g' : GSt) (h : runLog gstep g log = some g') :
    runLog pstep g.p log = some g'.p := by
  simpa using runLog_map GSt.p id (fun a e b => gstep_pstep a b e) h

theorem runLog_pstep_gstep (log : List Ev) (g : GSt) (p' : PSt) (h : runLog pstep g.p log = some p') :
    ∃ g', runLog gstep g log = some g' ∧ g'.p = p' :=
  runLog_lift GSt.p (fun g e p' hs => ⟨ghost g e p', by simp [gstep, hs], ghost_p g e p'⟩) h

/-- the nodes passed since the thread entered round `r` (of `e` nodes) at `st` are full: the nodes
    `[st, cur)` before the wrap, `[st, e)` and `[0, cur)` after it -/
def Sweep (s : St) (r e cur st : Nat) (w : Bool) : Prop :=
  st < e ∧
  (if w then cur ≤ st ∧ (∀ c, st ≤ c → c < e → s.tk r c = fullB s.phase) ∧ (∀ c, c < cur → s.tk r c = fullB s.phase)
   else st ≤ cur ∧ ∀ c, st ≤ c → c < cur → s.tk r c = fullB s.phase)

/-- `Sweep` for a searching thread (only rounds with more than one participant have a search) -/
def SWt (s : St) (st : Nat) (w : Bool) : Pc → Prop
  | .try _ cur r m => 1 < m → Sweep s r ((m + 1) / 2) cur st w
  | .try2 _ c r m => 1 < m → Sweep s r ((m + 1) / 2) c st w ∧
      (s.tk r c = halfB s.phase ∨ s.tk r c = fullB s.phase)
  | _ => True

def SW (g : GSt) : Prop := ∀ t, SWt g.p.s (g.st t) (g.w t) (g.p.s.pc t)

/-- within a phase, full tickets stay full and half tickets become at most full -/
def TkMono (s s' : St) : Prop :=
  s'.phase = s.phase ∧ (∀ r c, s.tk r c = fullB s.phase → s'.tk r c = fullB s.phase) ∧
  (∀ r c, s.tk r c = halfB s.phase → s'.tk r c = halfB s.phase ∨ s'.tk r c = fullB s.phase)

theorem SWt_frame {s s' : St} (hm : TkMono s s') (st : Nat) (w : Bool) (pc : Pc) (h : SWt s st w pc) :
    SWt s' st w pc := by
  obtain ⟨hp, hf, hh⟩ := hm
  cases pc <;> simp only [SWt, Sweep, hp] at h ⊢
  case «try» u cur r m =>
    intro hm1
    obtain ⟨h1, h2⟩ := h hm1
    refine ⟨h1, ?_⟩
    cases w <;> simp only [Bool.false_eq_true, if_false, if_true] at h2 ⊢
    · exact ⟨h2.1, fun c a b => hf r c (h2.2 c a b)⟩
    · exact ⟨h2.1, fun c a b => hf r c (h2.2.1 c a b), fun c a => hf r c (h2.2.2 c a)⟩
  case try2 u cur r m =>
    intro hm1
    obtain ⟨⟨h1, h2⟩, h3⟩ := h hm1
    refine ⟨⟨h1, ?_⟩, ?_⟩
    · cases w <;> simp only [Bool.false_eq_true, if_false, if_true] at h2 ⊢
      · exact ⟨h2.1, fun c a b => hf r c (h2.2 c a b)⟩
      · exact ⟨h2.1, fun c a b => hf r c (h2.2.1 c a b), fun c a => hf r c (h2.2.2 c a)⟩
    · rcases h3 with h3 | h3
      · exact hh r cur h3
      · exact Or.inr (hf r cur h3)

theorem tkMono_of_eq {s s' : St} (hp : s'.phase = s.phase) (htk : s'.tk = s.tk) : TkMono s s' :=
  ⟨hp, fun r c h => by rw [htk]; exact h, fun r c h => by rw [htk]; exact .inl h⟩

theorem tkMono_of_upd2 {s s' : St} {r c v : Nat} (hp : s'.phase = s.phase) (htk : s'.tk = upd2 s.tk r c v)
    (h : s.tk r c = s.phase ∨ v = fullB s.phase) : TkMono s s' := by
  refine ⟨hp, fun r' c' hf => ?_, fun r' c' hh => ?_⟩ <;> rw [htk, upd2_apply] <;> split
  · next he =>
    obtain ⟨rfl, rfl⟩ := he
    exact h.elim (fun h => absurd (h.symm.trans hf) (fullB_ne _).symm) id
  · exact hf
  · next he =>
    obtain ⟨rfl, rfl⟩ := he
    exact h.elim (fun h => absurd (h.symm.trans hh) (halfB_ne _).symm) .inr
  · exact .inl hh

theorem step_tkMono (s s' : St) (e : Ev) (hb : InvB s) (hnp : ∀ t a b, e ≠ .publish t a b)
    (h : step s e = some s') : TkMono s s' := by
  cases step_iff.mp h with
  | publish t u r => exact absurd rfl (hnp t _ _)
  | casUp t c r u cur m ht hpc _ _ _ hv | casHalf t c r u cur m ht hpc _ _ _ hv =>
    exact tkMono_of_upd2 rfl rfl (.inl (hv.trans (hb.known ht hpc).2.2.1))
  | cas2Up t c r u m ht hpc =>
    exact tkMono_of_upd2 rfl rfl (.inr (by rw [(hb.known ht hpc).2.2.2.2.1]))
  | _ => exact tkMono_of_eq rfl rfl

theorem SWt_of_not_try {s : St} {st : Nat} {w : Bool} {pc : Pc} (h : isTry pc = false) : SWt s st w pc := by
  cases pc <;> simp [isTry] at h <;> simp [SWt]

/-- a miss on node `c` (`cur`, or `0` if `cur = e`; found full): the swept range grows by that node -/
theorem sweep_miss {s : St} {r e cur st c : Nat} {w : Bool} (h : Sweep s r e cur st w) (hle : cur ≤ e)
    (hc : c = if cur = e then 0 else cur) (hfull : s.tk r c = fullB s.phase)
    (hnot : ¬ ∀ c', c' < e → s.tk r c' = fullB s.phase) :
    Sweep s r e (c + 1) st (w || decide (cur = e)) := by
  obtain ⟨hst, h⟩ := h
  refine ⟨hst, ?_⟩
  by_cases hce : cur = e
  · rw [if_pos hce] at hc; subst hc
    cases w <;> simp only [Bool.false_eq_true, if_false, if_true, Bool.false_or, Bool.true_or, hce,
      decide_true] at h ⊢
    · refine ⟨?_, fun c' a b => h.2 c' a (by omega), fun c' a => ?_⟩
      · apply Classical.byContradiction; intro h0
        exact hnot (fun c' hc' => h.2 c' (by omega) (by omega))
      · have : c' = 0 := by omega
        subst this; exact hfull
    · omega
  · rw [if_neg hce] at hc; subst hc
    have hlt : c < e := by omega
    cases w <;> simp only [Bool.false_eq_true, if_false, if_true, Bool.false_or, Bool.true_or, hce,
      decide_false] at h ⊢
    · refine ⟨by omega, fun c' a b => ?_⟩
      by_cases hcc : c' = c
      · subst hcc; exact hfull
      · exact h.2 c' a (by omega)
    · refine ⟨?_, h.2.1, fun c' a => ?_⟩
      · apply Classical.byContradiction; intro h0
        apply hnot; intro c' hc'
        by_cases hcs : st ≤ c'
        · exact h.2.1 c' hcs hc'
        · exact h.2.2 c' (by omega)
      · by_cases hcc : c' = c
        · subst hcc; exact hfull
        · exact h.2.2 c' (by omega)

/-- `seen` on node `c` (`cur`, or `0` if `cur = e`): same swept range, the cursor becomes `c` -/
theorem sweep_seen {s : St} {r e cur st c : Nat} {w : Bool} (h : Sweep s r e cur st w) (hle : cur ≤ e)
    (hc : c = if cur = e then 0 else cur) :
    Sweep s r e c st (w || decide (cur = e)) := by
  obtain ⟨hst, h⟩ := h
  refine ⟨hst, ?_⟩
  by_cases hce : cur = e
  · rw [if_pos hce] at hc; subst hc
    cases w <;> simp only [Bool.false_eq_true, if_false, if_true, Bool.false_or, Bool.true_or, hce,
      decide_true] at h ⊢
    · exact ⟨by omega, fun c' a b => h.2 c' a (by omega), fun c' a => by omega⟩
    · omega
  · rw [if_neg hce] at hc; subst hc
    cases w <;> simp only [Bool.false_eq_true, if_false, if_true, Bool.false_or, Bool.true_or, hce,
      decide_false] at h ⊢ <;> exact h

theorem isTry_afterCall (aw : Bool) (u : Nat) : isTry (afterCall aw u) = false := by
  unfold afterCall; split
  · split <;> rfl
  · rfl

theorem ghost_local (g : GSt) (e : Ev) (p' : PSt) :
    ∀ u, u ≠ thr e → (ghost g e p').st u = g.st u ∧ (ghost g e p').w u = g.w u := by
  intro u hu
  cases e <;> simp only [thr] at hu
  case cas t a b o => cases o <;> simp [ghost, upd, hu]
  case cas2 t a b o => cases o <;> simp [ghost, upd, hu]
  all_goals simp [ghost, upd, hu]

theorem sweep_enter (s : St) (r e cur : Nat) (h : cur < e) : Sweep s r e cur cur false :=
  ⟨h, Nat.le_refl _, fun _ h1 h2 => absurd h1 (Nat.not_le.mpr h2)⟩

/-- **The sweep invariant holds along every instrumented run.**  The other threads keep their ghosts and
    program counters, and tickets only grow fuller within a phase; for the acting thread: `start` and a CAS that
    takes its node enter a round (nothing swept yet); `seen` normalises the cursor; a miss found its node full,
    which extends the swept range; `publish` leaves no thread in the search. -/
theorem sw_ghost (s s' : St) (prog prog' : Nat → List Op) (st : Nat → Nat) (w : Nat → Bool) (e : Ev)
    (ha : InvA s) (hb : InvB s) (hsw : ∀ t, SWt s (st t) (w t) (s.pc t)) (hs : step s e = some s') :
    SW (ghost ⟨⟨s, prog⟩, st, w⟩ e ⟨s', prog'⟩) := by
  intro v
  rw [ghost_p]
  by_cases hpub : ∃ t a b, e = .publish t a b
  · -- the phase store leaves no thread in the search
    obtain ⟨t, a, b, rfl⟩ := hpub
    cases step_iff.mp hs with
    | publish _ u r ht hpc =>
      exact SWt_of_not_try (forall_upd_of_others (I := fun p => arriving p = false) (F := fun p => isTry p = false)
        (fun _ h => (not_arriving h).2.2.2.1) (others_quiet ha hb (hb.known ht hpc).2.2.1)
        (isTry_afterCall _ _) v)
  have hm := step_tkMono s s' e hb (fun t a b he => hpub ⟨t, a, b, he⟩) hs
  by_cases hv : v = thr e
  case neg =>
    -- another thread: its ghosts and program counter stay, and tickets only grow fuller
    obtain ⟨h1, h2⟩ := ghost_local ⟨⟨s, prog⟩, st, w⟩ e ⟨s', prog'⟩ v hv
    rw [h1, h2, step_pc_other hs hv]
    exact SWt_frame hm _ _ _ (hsw v)
  subst hv
  -- what is known of a thread at `bar.try` of round `b` with `1 < m`
  have pro : ∀ {t u cur b m : Nat}, t < s.n → s.pc t = .try u cur b m → 1 < m →
      m = mr s.e0 b ∧ cur ≤ (m + 1) / 2 ∧ nodes s.e0 b = (m + 1) / 2 ∧ s.tok t = s.phase ∧
      Sweep s b ((m + 1) / 2) cur (st t) (w t) ∧ ¬ ∀ c', c' < (m + 1) / 2 → s.tk b c' = fullB s.phase := by
    intro t u cur b m ht hpc hm1
    obtain ⟨hmr, hcur, htp, -⟩ := hb.known ht hpc
    exact ⟨hmr, (hcur hm1).1, (hcur hm1).2, htp, (hpc ▸ hsw t : SWt s _ _ (.try u cur b m)) hm1,
      not_all_full hb ht (by rw [hpc]; exact if_pos rfl) hmr hm1⟩
  cases step_iff.mp hs <;> simp only [ghost, thr, upd_same]
  case publish t u r _ _ => exact absurd ⟨t, _, _, rfl⟩ hpub
  case start t a u ht hcur hpc _ => exact fun _ => sweep_enter _ _ _ _ hcur
  case casUp t a b u cur m ht hpc hm1 hnorm _ _ =>
    -- the node is taken: the thread enters round `b + 1` at node `a / 2`
    obtain ⟨-, hcur', -⟩ := pro ht hpc hm1
    have halt : a < (m + 1) / 2 := by rw [hnorm]; split <;> omega
    exact fun he1 => sweep_enter _ _ _ _ (by omega)
  case cas2Up t a b u m ht hpc _ =>
    obtain ⟨-, -, _, -⟩ := hb.known ht hpc
    exact fun he1 => sweep_enter _ _ _ _ (by omega)
  case casSeen t a b u cur m ht hpc hm1 hnorm _ hv2 =>
    obtain ⟨-, hcur', -, htp, hsweep, -⟩ := pro ht hpc hm1
    rw [hpc]
    exact fun _ => ⟨sweep_seen hsweep hcur' hnorm, .inl (hv2.trans (congrArg halfB htp))⟩
  case casMiss t a b u cur m ht hpc hm1 hnorm hv hl =>
    -- the node was full: it is neither untouched nor, unless it is the odd last node, half taken
    obtain ⟨hmr, hcur', hn, htp, hsweep, hnot⟩ := pro ht hpc hm1
    have halt : a < (m + 1) / 2 := by rw [hnorm]; split <;> omega
    have hfull : s.tk b a = fullB s.phase := by
      rcases hb.tix b a (hn ▸ halt) with h | h | h
      · exact absurd (h.trans htp.symm) hv
      · rcases hl with hl | hv2
        · have : cap s.e0 b a = 1 := by
            unfold cap; rw [hn, ← hmr, if_pos ⟨by omega, hl.2⟩]
          omega
        · exact absurd (by rw [h.1, htp]) hv2
      · exact h
    rw [hpc]
    exact fun _ => sweep_miss hsweep hcur' hnorm hfull hnot
  case cas2Miss t a b u m ht hpc hv =>
    obtain ⟨hmr, hm1, hcur, -, htp, -⟩ := hb.known ht hpc
    obtain ⟨hsweep, hhf⟩ := (hpc ▸ hsw t : SWt s _ _ (.try2 u a b m)) hm1
    have hnot := not_all_full hb ht (by rw [hpc]; exact if_pos rfl) hmr hm1
    have hfull : s.tk b a = fullB s.phase := hhf.resolve_left (fun h => hv (by rw [h, htp]))
    have := sweep_miss hsweep (Nat.le_of_lt hcur) (by rw [if_neg (by omega)]) hfull hnot
    rw [decide_eq_false (by omega), Bool.or_false] at this
    exact fun _ => this
  -- every other event takes its thread to a program counter outside the search
  case inv o _ _ _ => exact SWt_of_not_try (by cases o <;> rfl)
  case load | casHalf => exact SWt_of_not_try (isTry_afterCall _ _)
  case poll => exact SWt_of_not_try (by split <;> rfl)
  all_goals exact SWt_of_not_try rfl

theorem sw_step (g g' : GSt) (e : Ev) (ha : InvA g.p.s) (hb : InvB g.p.s) (hsw : SW g) (h : gstep g e = some g') :
    SW g' := by
  obtain ⟨p', hp, rfl⟩ := Option.map_eq_some_iff.mp h
  exact sw_ghost _ _ _ _ _ _ e ha hb hsw (pstep_step g.p p' e hp)

end PikaVerif.Barrier
