import PikaVerif.Model.Barrier
/-! Arithmetic of the tournament rounds (`mr`, `nodes`, `cap`), facts about the phase bytes, and that the
    capacities of a round add up to its participants. -/
namespace PikaVerif.Barrier

theorem halfB_ne (p : Nat) : halfB p ≠ p := by unfold halfB; omega
theorem fullB_ne (p : Nat) : fullB p ≠ p := by unfold fullB; omega
theorem fullB_ne_halfB (p : Nat) : fullB p ≠ halfB p := by unfold fullB halfB; omega
theorem fullB_lt (p : Nat) : fullB p < 256 := by unfold fullB; omega
theorem phase_succ (k : Nat) : (2 * (k + 1)) % 256 = fullB ((2 * k) % 256) := by unfold fullB; omega

/-- Number of ticket nodes of round `r` (`end_node`); 0 once a round has at most one participant
    (`if (current_expected <= 1) return true`). -/
def nodes (N r : Nat) : Nat := if mr N r ≤ 1 then 0 else (mr N r + 1) / 2

/-- Capacity of node `c` of round `r`: the last node of a round with an odd number of
    participants takes one arrival ("1 in 1"), every other node two. -/
def cap (N r c : Nat) : Nat := if c + 1 = nodes N r ∧ mr N r % 2 = 1 then 1 else 2

theorem mr_succ (N r : Nat) : mr N (r + 1) = (mr N r + 1) / 2 := rfl

theorem mr_succ_le (N r : Nat) : mr N (r + 1) ≤ mr N r := by rw [mr_succ]; omega

theorem mr_anti (N : Nat) {r k : Nat} (h : r ≤ k) : mr N k ≤ mr N r := by
  induction k with
  | zero => have : r = 0 := by omega
            subst this; exact Nat.le_refl _
  | succ k ih =>
    by_cases hk : r = k + 1
    · subst hk; exact Nat.le_refl _
    · exact Nat.le_trans (mr_succ_le N k) (ih (by omega))

theorem mr_mono {N N' : Nat} (h : N' ≤ N) (r : Nat) : mr N' r ≤ mr N r := by
  induction r with
  | zero => exact h
  | succ r ih => simp only [mr_succ]; omega

theorem mr_pos {N : Nat} (h : 1 ≤ N) (r : Nat) : 1 ≤ mr N r := by
  induction r with
  | zero => exact h
  | succ r ih => simp only [mr_succ]; omega

/-- The rounds end: after `N` rounds at most one participant is left. -/
theorem mr_le_sub (N r : Nat) : mr N r ≤ max 1 (N - r) := by
  induction r with
  | zero => simp [mr]; omega
  | succ r ih => simp only [mr_succ]; omega

theorem mr_top (N : Nat) : mr N N ≤ 1 := by
  have := mr_le_sub N N; omega

theorem nodes_le_mr_succ (N r : Nat) : nodes N r ≤ mr N (r + 1) := by
  unfold nodes; rw [mr_succ]; split <;> omega

theorem nodes_eq {N r : Nat} (h : 1 < mr N r) : nodes N r = (mr N r + 1) / 2 := by
  unfold nodes; split <;> omega

theorem nodes_top {N r : Nat} (h : mr N r ≤ 1) : nodes N r = 0 := by
  unfold nodes; split <;> omega

theorem nodes_mono {N N' : Nat} (h : N' ≤ N) (r : Nat) : nodes N' r ≤ nodes N r := by
  have := mr_mono h r
  unfold nodes; split <;> split <;> omega

theorem cap_pos (N r c : Nat) : 1 ≤ cap N r c := by unfold cap; split <;> omega
theorem cap_le (N r c : Nat) : cap N r c ≤ 2 := by unfold cap; split <;> omega

/-- Partial sums of the capacities, with `b` for "the round has an odd number of participants": every
    node counts 2, except that the last one counts 1 when `b`. -/
theorem sumTo_cap_aux (n : Nat) (b : Bool) (j : Nat) (hj : j ≤ n) :
    sumTo j (fun c => if c + 1 = n ∧ b = true then 1 else 2) + (if j = n ∧ 0 < n ∧ b = true then 1 else 0)
      = 2 * j := by
  induction j with
  | zero => simp; omega
  | succ k ih =>
    have h0 := ih (by omega)
    have hk : ¬ (k = n) := by omega
    simp only [hk, false_and, if_false, Nat.add_zero] at h0
    simp only [sumTo_succ, h0]
    by_cases hc : k + 1 = n ∧ b = true
    · have h2 : k + 1 = n ∧ 0 < n ∧ b = true := ⟨hc.1, by omega, hc.2⟩
      simp only [hc, h2, and_self, if_true]; omega
    · have h2 : ¬ (k + 1 = n ∧ 0 < n ∧ b = true) := fun h => hc ⟨h.1, h.2.2⟩
      simp only [hc, h2, if_false]; omega

/-- Total capacity of a round = its number of participants. -/
theorem sumTo_cap {N r : Nat} (h : 1 < mr N r) : sumTo (nodes N r) (cap N r) = mr N r := by
  have hn := nodes_eq h
  have := sumTo_cap_aux (nodes N r) (decide (mr N r % 2 = 1)) (nodes N r) (Nat.le_refl _)
  have he : (fun c => if c + 1 = nodes N r ∧ decide (mr N r % 2 = 1) = true then 1 else 2) = cap N r := by
    funext c; simp [cap]
  rw [he] at this
  have hpos : 0 < nodes N r := by omega
  by_cases hodd : mr N r % 2 = 1 <;> simp [hodd, hpos] at this <;> omega

end PikaVerif.Barrier
