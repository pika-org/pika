import PikaVerif.Lemmas.CVInner
import PikaVerif.Core.Prog
/-!
# Finite programs over the condition-variable model (C07t)

A *program* gives every thread a finite list of operations.  `pstep` is the model's `step`
restricted to the logs of that program: `inv t o` must be the next operation of thread `t`
(which is consumed), `done t` needs the thread's list to be empty, every other event is passed
to `step` unchanged: a program layer in the sense of `Core/Prog.lean` (`layer`) that refuses only what
the model or the program refuses (`complete`).
-/
namespace PikaVerif.CV

structure PSt where
  s : St
  prog : Nat → List Op

def pstep (p : PSt) (e : Ev) : Option PSt :=
  match e with
  | .inv t o =>
    match p.prog t with
    | o' :: rest =>
      if o' = o then (step p.s (.inv t o)).map (fun s' => ⟨s', upd p.prog t rest⟩) else none
    | [] => none
  | .done t => if p.prog t = [] then (step p.s (.done t)).map (fun s' => ⟨s', p.prog⟩) else none
  | e => (step p.s e).map (fun s' => ⟨s', p.prog⟩)

def pinit (n : Nat) (f : Bool) (prog : Nat → List Op) : PSt := ⟨init n f, prog⟩

def PStuck (p : PSt) : Prop := ∀ e, pstep p e = none

theorem layer : ProgLayer step pstep PSt.s PSt.prog .inv .done := by
  refine ⟨fun {p e p'} h => ?_, nofun⟩
  cases e
  case inv t o =>
    simp only [pstep] at h
    split at h
    · rename_i o' rest hp
      split at h
      · rename_i ho; subst ho
        obtain ⟨s₁, hs, rfl⟩ := Option.map_eq_some_iff.1 h
        exact ⟨hs, .inl ⟨t, o', rest, rfl, hp, rfl⟩⟩
      · cases h
    · cases h
  case done t =>
    simp only [pstep] at h
    split at h
    · rename_i hp
      obtain ⟨s₁, hs, rfl⟩ := Option.map_eq_some_iff.1 h
      exact ⟨hs, .inr ⟨fun _ _ => nofun, rfl, fun _ he => by cases he; exact hp⟩⟩
    · cases h
  all_goals
    obtain ⟨s₁, hs, rfl⟩ := Option.map_eq_some_iff.1 h
    exact ⟨hs, .inr ⟨fun _ _ => nofun, rfl, fun _ => nofun⟩⟩

theorem complete : ProgComplete step pstep PSt.s PSt.prog .inv .done :=
  ⟨fun {p e} h1 h2 h => by
    cases e <;> first | exact absurd rfl (h1 _ _) | exact absurd rfl (h2 _) | simpa [pstep] using h,
   fun hp h => by simpa [pstep, hp] using h, fun hp h => by simpa [pstep, hp] using h⟩

end PikaVerif.CV

/-! ## Finished threads

`fin` is only created by `done` (`step_fin`), which needs an empty program, so a finished thread has no
operation left along any run of a program (`FinOk`, `finOk_of_run`); and a state in which every thread is
finished or parked without a token accepts no event (`pstuck_of_rest`). -/
namespace PikaVerif.CV

theorem step_fin {s s' : St} {e : Ev} {u : Nat} (hs : step s e = some s') (hu : s'.pc u = .fin) :
    s.pc u = .fin ∨ e = .done u := by
  obtain ⟨p, p', _, _, hl, _, rfl⟩ := Step.of_step hs
  change upd (write s p e).pc (actor e) p' u = .fin at hu
  by_cases hut : u = actor e
  · rw [hut, upd_same] at hu
    rcases hl.target with hb | hi | hd
    · rw [hu] at hb; nomatch hb
    · nomatch hu.symm.trans hi
    · exact .inr (hut ▸ hd)
  · rw [upd_other _ _ _ _ hut] at hu
    rcases write_innerPc s p e u with h | ⟨_, hb⟩
    · exact .inl (h ▸ hu)
    · rw [hu] at hb; nomatch hb

def FinOk (p : PSt) : Prop := ∀ t, p.s.pc t = .fin → p.prog t = []

theorem finOk_of_run {n : Nat} {f : Bool} {prog : Nat → List Op} {log : List Ev} {p : PSt}
    (h : runLog pstep (pinit n f prog) log = some p) : FinOk p :=
  inv_of_runLog FinOk (fun _ _ _ => layer.finished_step (fin := fun s t => s.pc t = .fin) step_fin)
    (fun t ht => by simp [pinit, init] at ht) h

/-- a state in which every thread is finished or parked in an untimed wait without a wake-up token
    accepts no event: it ends a maximal run -/
theorem pstuck_of_rest (p : PSt)
    (h : ∀ t, t < p.s.n → p.s.pc t = .fin ∨ (p.s.pc t = .susp false ∧ p.s.tok t = 0)) : PStuck p := by
  intro e
  cases hs : pstep p e with
  | none => rfl
  | some p' =>
    -- an accepted event would be the step of a thread that is neither finished nor without token
    obtain ⟨ht, hnf, htok⟩ := step_runnable (layer.sound hs).1
    rcases h _ ht with hf | ⟨hp, h0⟩
    · exact absurd hf hnf
    · exact absurd (htok _ hp) (by omega)

end PikaVerif.CV
