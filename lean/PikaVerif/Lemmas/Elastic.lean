import PikaVerif.Lemmas.ElasticStep
/-! Inductive (per worker) invariant of the `Elastic` model. -/
namespace PikaVerif.Elastic

structure WInv (x : Wk) : Prop where
  /-- a guarded selector holds the pu mutex ⇒ the worker is still schedulable (or the state was
      changed behind the mutex' back by a pool suspend) -/
  selRun : ∀ a, x.lk = some (a, .sel true) → x.st ≤ rsSuspended ∨ x.dirty = true
  /-- the iteration-local `running == false` is never stale -/
  flagSt : x.flagRun = false → x.pc = .loop → rsPreSleep ≤ x.st
  commitSt : x.pc = .commit → x.st = rsPreSleep
  sleepSt : x.pc ≠ .loop → x.pc ≠ .commit → x.st = rsSleeping
  /-- converse of `sleepSt` -/
  stPc : x.st = rsSleeping → x.pc ≠ .loop ∧ x.pc ≠ .commit
  emptyFlag : x.emptySeen = true → x.flagRun = false ∧ x.pc = .loop
  /-- **nothing is stranded**: once the worker has seen its queues empty with `running == false`, or is past its
      loop, everything in its queues was placed unguarded since (`late` counts those placements; a guarded one
      needs `st ≤ suspended`, `selRun`) -/
  strand : (x.emptySeen = true ∨ x.pc ≠ .loop) → x.dirty = false → x.q ≤ x.late
  waitPre : x.waiters ≠ [] → x.st = rsPreSleep
  notif : x.notified = true → x.pc = .waiting

def Inv (s : St) : Prop := ∀ w, WInv (s.wk w)

theorem inv_init (cfg : Cfg) : Inv (init cfg) := fun _ =>
  ⟨nofun, nofun, nofun, fun h => absurd rfl h, nofun, nofun, fun _ _ => Nat.le_refl 0, fun h => absurd rfl h, nofun⟩

theorem casResult_cases (b : Nat) : (b = rsRunning ∧ casResult b = rsPreSleep) ∨ (b ≠ rsRunning ∧ casResult b = b) := by
  unfold casResult
  split
  · exact .inl ⟨‹_›, rfl⟩
  · exact .inr ⟨‹_›, rfl⟩

namespace WInv
variable {x : Wk}

/-- a worker past the store in `scheduler_base::suspend` is `sleeping` -/
theorem asleep (hi : WInv x) {p : WPc} (hpc : x.pc = p) (hp : p ≠ .loop ∧ p ≠ .commit := by decide) :
    x.st = rsSleeping :=
  hi.sleepSt (hpc ▸ hp.1) (hpc ▸ hp.2)

/-- what is queued on a worker that has left its loop was placed unguarded, pool suspends aside -/
theorem late_or_dirty (hi : WInv x) (hpc : x.pc ≠ .loop) : x.dirty = true ∨ x.q ≤ x.late := by
  cases hd : x.dirty with
  | true => exact .inl rfl
  | false => exact .inr (hi.strand (.inr hpc) hd)

/-- a worker past an emptiness check with `running == false`, or on the sleep path, has been asked to sleep -/
theorem asked (hi : WInv x) (hp : x.emptySeen = true ∨ x.pc ≠ .loop) : rsPreSleep ≤ x.st := by
  rcases hp with he | hpc
  · exact hi.flagSt (hi.emptyFlag he).1 (hi.emptyFlag he).2
  · by_cases hc : x.pc = .commit
    · exact Nat.le_of_eq (hi.commitSt hc).symm
    · rw [hi.sleepSt hpc hc]; decide

end WInv

variable {s s' : St} {e : Ev} {w : Nat} {x x' : Wk}

/-- `strand` one step on.  The clause speaks of a worker past its emptiness check or out of its loop:
    the events of the loop round other than the check itself leave it in the loop with the check
    forgotten, and those of the sleep path start outside the loop. -/
theorem WkStep.strand (h : WkStep s w x e x') (hi : WInv x)
    (hp : x'.emptySeen = true ∨ x'.pc ≠ .loop) (hd : x'.dirty = false) : x'.q ≤ x'.late := by
  cases h with
  -- back in the loop, the check forgotten
  | start hg | top hg | qlenWork hg | chkStay hg | incOwn _ hg | wake hg => simp_all
  -- the check itself: the length read is 0
  | qlenEmpty hlen _ he => have := hlen.symm.trans he.1; show x.q ≤ 0; omega
  -- `can_exit` was computed from that check
  | chkCommit hg hc => exact hi.strand (.inl (hg.2.2 hc.2)) hd
  | sleep hg | wait hg | woke hg => exact hi.strand (.inr (by rw [hg]; decide)) hd
  -- a guarded placement finds the worker schedulable (`selRun`), not asked to sleep
  | incGuarded _ hl =>
    have hst := (hi.selRun _ hl).resolve_right (by rw [hd]; nofun)
    exact absurd (Nat.le_trans (hi.asked hp) hst) (by decide)
  | incLate => exact Nat.succ_le_succ (hi.strand hp hd)
  | dec => exact Nat.sub_le_sub_right (hi.strand hp hd) 1
  | ucas => exact hi.strand hp (Bool.or_eq_false_iff.1 hd).1
  | _ => exact hi.strand hp hd

attribute [local grind] casResult in
/-- The other clauses relate the state word, the position of the thread and the flags of one record:
    each holds of the new record by the guard of its event. -/
theorem WkStep.inv (h : WkStep s w x e x') (hi : WInv x) : WInv x' := by
  have hs := h.strand hi
  obtain ⟨h1, h2, h3, h4, h5, h6, -, h8, h9⟩ := hi
  cases h <;> refine ⟨?_, ?_, ?_, ?_, ?_, ?_, hs, ?_, ?_⟩ <;> first | assumption | grind

theorem step_inv (hi : Inv s) (h : step s e = some s') : Inv s' :=
  (Step.of_step h).forall_wk hi fun hw => hw.inv (hi _)

theorem inv_of_accepted {cfg : Cfg} {log : List Ev} {s : St} (h : runLog step (init cfg) log = some s) :
    Inv s :=
  inv_of_runLog Inv (fun _ _ _ => step_inv) (inv_init cfg) h

end PikaVerif.Elastic
