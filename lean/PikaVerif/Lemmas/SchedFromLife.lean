import PikaVerif.Model.SchedFromLife
import PikaVerif.Lemmas.OpLife
/-!
Invariants of the life-cycle model of `schedule_from` (C03x), for the code as it is (`Cfg.ok`).  The acceptor as
a relation `Step` (one rule per outcome of an event); the chain of control and the stored objects are those of
`OpLife.View` (Lemmas/OpLife.lean), to which the state projects (`St.view`): every rule of `Step` is one of the
kinds of step there.  What is particular to this adaptor (`Loc`): no statement order is swapped, what the
history and the objects are at each program point (`ctlAt`, `objAt`), the reset before the forwarding, the
result.  Both are preserved event by event (`Full`, `step_full`); `CInv` is the summary of the chain of control
in this model's own terms (`Full.cinv`).
-/
namespace PikaVerif.SchedFromLife

/-- One rule per outcome of an event, with those guards of the model that some proof reads.  A throwing
    `ts.emplace` / `connect` ends the process; `reset` is the first statement of `set_*_scheduler_sender`,
    or the last one when swapped. -/
inductive Step (s : St) : Ev → St → Prop
  | start {t} : s.pc t = .idle → s.started = false →
      Step s (.start t) { s with pc := upd s.pc t .starting, started := true, uaf := s.uaf || s.freed }
  | pred {t c} : s.started = true → s.predSig = none →
      Step s (.pred t c)
        { s with pc := upd s.pc t (.pred c), predSig := some c, holder := some t, uaf := s.uaf || s.freed }
  | store {t v} : s.pc t = .pred (.value v) →
      Step s (.store t true)
        { s with pc := upd s.pc t .stored, ts := some v, tsCtor := s.tsCtor + 1, uaf := s.uaf || s.freed }
  | storeAbort {t v} : s.pc t = .pred (.value v) → Step s (.store t false) { s with aborted := true }
  | conn {t} : s.pc t = .stored →
      Step s (.conn t true)
        { s with pc := upd s.pc t .connected, sop := true, sopCtor := s.sopCtor + 1, uaf := s.uaf || s.freed }
  | connAbort {t} : s.pc t = .stored → Step s (.conn t false) { s with aborted := true }
  | sstart {t} : s.pc t = .connected →
      Step s (.sstart t)
        { s with pc := upd s.pc t .sstarted, holder := none, sopArmed := true, uaf := s.uaf || s.freed }
  | sch {t c} : s.sopArmed = true → s.schSig = none →
      Step s (.sch t c)
        { s with pc := upd s.pc t (.sch c), schSig := some c, holder := some t, uaf := s.uaf || s.freed }
  | reset {t c} : s.pc t = .sch c → Step s (.reset t) (doReset s t (.rst c) (some t))
  | resetLate {t c} : s.pc t = .fwdd c → Step s (.reset t) (doReset s t .out none)
  | fwdPred {t c} : s.pc t = .pred c → c.isValue = false → Step s (.fwd t c) (deliver s t c .out none)
  | fwdRst {t c q} : s.pc t = .rst q → outSig s q = some c → Step s (.fwd t c) (deliver s t c .out none)
  | fwdSwapped {t c q} : s.pc t = .sch q → s.cfg.swapped q = true →
      Step s (.fwd t c) (deliver s t c (.fwdd q) (some t))
  | ret {t} : (s.pc t = .out ∨ s.pc t = .sstarted ∨ s.pc t = .starting) →
      Step s (.ret t) { s with pc := upd s.pc t .idle }
  | destroy {t} : s.delivered = 1 → s.freed = false → Step s (.destroy t) (free s)
  | tdone {t} : s.pc t = .idle → Step s (.tdone t) { s with pc := upd s.pc t .fin }

theorem Step.of_step {s s' : St} {e : Ev} (h : step s e = some s') : Step s e s' := by
  cases e <;> simp only [step] at h <;> (repeat' split at h) <;>
    first
    | (cases h; done)
    | (cases h; subst_vars; constructor <;> first | assumption | (simp_all; done))
    | (cases h; exact .fwdRst ‹_› ‹_›)
    | (cases h; obtain rfl : _ = false := Bool.eq_false_iff.mpr ‹¬ _ = true›; constructor; assumption)

/-- At most one thread is inside the adaptor, the `holder`; nobody is once the downstream completion was
    issued.  `nsw`: no statement order is swapped (the code as it is); the `pc…` clauses say what the history
    fields hold while a thread is at that point; `progress`: what a started operation is waiting for. -/
structure CInv (s : St) : Prop where
  nsw : ∀ c, s.cfg.swapped c = false
  busyHolder : ∀ t, busy (s.pc t) = true → s.holder = some t
  holderBusy : ∀ t, s.holder = some t → busy (s.pc t) = true
  delivLe : s.delivered ≤ 1
  holderDeliv : ∀ t, s.holder = some t → s.delivered = 0
  predStarted : s.predSig ≠ none → s.started = true
  predNone : s.predSig = none → s.holder = none ∧ s.delivered = 0 ∧ s.sopArmed = false ∧ s.schSig = none
  armedWait : s.sopArmed = true → s.schSig = none → s.holder = none ∧ s.delivered = 0
  armedPred : s.sopArmed = true → ∃ v, s.predSig = some (.value v)
  schArmed : s.schSig ≠ none → s.sopArmed = true
  pcPred : ∀ t c, s.pc t = .pred c → s.predSig = some c ∧ s.sopArmed = false
  pcStored : ∀ t, s.pc t = .stored → s.sopArmed = false ∧ ∃ v, s.predSig = some (.value v)
  pcConn : ∀ t, s.pc t = .connected → s.sopArmed = false ∧ ∃ v, s.predSig = some (.value v)
  pcSch : ∀ t c, s.pc t = .sch c → s.schSig = some c
  pcRst : ∀ t c, s.pc t = .rst c → s.schSig = some c
  pcFwdd : ∀ t c, s.pc t ≠ .fwdd c
  progress : s.predSig ≠ none → s.delivered = 1 ∨ s.holder ≠ none ∨ (s.sopArmed = true ∧ s.schSig = none) ∨ s.aborted = true


/-- What `CInv` says at a thread's program point, as a function of the fields it reads there. -/
def ctlAt (predSig : Option Sig) (armed : Bool) (schSig : Option Sig) : Pc → Prop
  | .pred c => predSig = some c ∧ armed = false
  | .stored | .connected => armed = false ∧ ∃ v, predSig = some (.value v)
  | .sch c | .rst c => schSig = some c
  | .fwdd _ => False
  | _ => True

theorem ctlAt_of_not_busy {ps : Option Sig} {a : Bool} {ss : Option Sig} (p : Pc)
    (h : busy p = false) : ctlAt ps a ss p := by
  cases p <;> first | trivial | cases h

theorem not_waiting_of_busy {ps : Option Sig} {a : Bool} {ss : Option Sig} {p : Pc}
    (h : busy p = true) (hf : ctlAt ps a ss p) : ¬ (a = true ∧ ss = none) := by
  rintro ⟨ha, hs⟩
  cases p with
  | pred c => rw [hf.2] at ha; cases ha
  | stored => rw [hf.1] at ha; cases ha
  | connected => rw [hf.1] at ha; cases ha
  | sch c => rw [hs] at hf; cases hf
  | rst c => rw [hs] at hf; cases hf
  | fwdd c => exact hf
  | _ => cases h

/-- To prove `P` of the state after a completion: `deliver` leaves `s1` (named by the equation, so that it
    can be substituted or kept) when the receiver does not destroy the operation state, and `free s1` when
    it does; prove `P` of whichever the configuration selects. -/
theorem deliver_cases {P : St → Prop} {s : St} {t : Nat} {c : Sig} {nxt : Pc} {hd : Option Nat}
    (h : ∀ s1, s1 = { s with pc := upd s.pc t nxt, holder := hd, delivered := s.delivered + 1,
                             result := some c, uaf := s.uaf || s.freed } →
      (s.cfg.selfdel = true → P (SchedFromLife.free s1)) ∧ (s.cfg.selfdel = false → P s1)) :
    P (deliver s t c nxt hd) := by
  simp only [deliver]
  split
  · next hs => exact (h _ rfl).1 hs
  · next hs => exact (h _ rfl).2 (by simpa using hs)

def St.view (s : St) : OpLife.View :=
  { selfdel := s.cfg.selfdel, busy := fun t => busy (s.pc t), started := s.started, pred := s.predSig,
    armed := s.sopArmed, sig2 := s.schSig, holder := s.holder, ts := s.ts, tsCtor := s.tsCtor,
    tsDtor := s.tsDtor, sop := s.sop, sopCtor := s.sopCtor, sopDtor := s.sopDtor, delivered := s.delivered,
    result := s.result, freed := s.freed, nfree := s.nfree, uaf := s.uaf, stuck := s.aborted }

/-- The guard of every event that reads or writes the operation state, in the terms of the view. -/
theorem touching_of_step {s s' : St} {e : Ev} (h : step s e = some s') (ht : touches e = true) :
    OpLife.Touching s.view := by
  have hb : ∀ {t p}, s.pc t = p → busy p = true → OpLife.Touching s.view := fun {t _} hp hb =>
    .inr (.inr (.inl ⟨t, show busy (s.pc t) = true by rw [hp]; exact hb⟩))
  cases Step.of_step h with
  | start _ hs => exact .inl hs
  | pred _ hn => exact .inr (.inl hn)
  | store hp | storeAbort hp | conn hp | connAbort hp | sstart hp | reset hp | resetLate hp | fwdPred hp _
  | fwdRst hp _ | fwdSwapped hp _ => exact hb hp rfl
  | sch ha hsu => exact .inr (.inr (.inr ⟨ha, hsu⟩))
  | ret | destroy | tdone => cases ht

/-- What is known of the stored objects at a thread's program point. -/
def objAt (ts : Option Nat) (tc : Nat) (sop : Bool) (sc : Nat) : Pc → Prop
  | .pred _ => tc = 0 ∧ sc = 0 ∧ ts = none ∧ sop = false
  | .stored => ts ≠ none ∧ sc = 0 ∧ sop = false
  | .connected | .sch _ => ts ≠ none ∧ sop = true
  | .rst _ => ts ≠ none ∧ sop = false
  | _ => True

theorem objAt_of_not_busy {ts : Option Nat} {tc sc : Nat} {sop : Bool} (p : Pc)
    (h : busy p = false) : objAt ts tc sop sc p := by
  cases p <;> first | trivial | cases h

theorem outSig_denote (s : St) (q c : Sig) (v : Nat) (h : outSig s q = some c) (hv : s.ts = some v) :
    c = denote (.value v) q := by
  cases q <;> simp_all [outSig, denote]

theorem denote_nonvalue (p q : Sig) (h : p.isValue = false) : denote p q = p := by
  cases p <;> simp_all [denote, Sig.isValue]

theorem denote_value_nonvalue (v : Nat) (q : Sig) (h : q.isValue = false) : denote (.value v) q = q := by
  cases q <;> simp_all [denote, Sig.isValue]

/-- What is particular to `schedule_from`: no statement order is swapped (the code as it is), what the history
    and the stored objects are while a thread is at a program point, the scheduler's operation state reset
    before the forwarding, the result. -/
structure Loc (s : St) : Prop where
  nsw : ∀ c, s.cfg.swapped c = false
  ctl : ∀ t, ctlAt s.predSig s.sopArmed s.schSig (s.pc t)
  obj : ∀ t, objAt s.ts s.tsCtor s.sop s.sopCtor (s.pc t)
  armedPred : s.sopArmed = true → ∃ v, s.predSig = some (.value v)
  tsPred : ∀ v, s.ts = some v → s.predSig = some (.value v)
  delivSop : s.delivered = 1 → s.freed = false → s.sop = false
  resP : ∀ p, s.delivered = 1 → s.predSig = some p → p.isValue = false → s.result = some p
  resV : ∀ v q, s.delivered = 1 → s.predSig = some (.value v) → s.schSig = some q →
    s.result = some (denote (.value v) q)
  resS : ∀ v, s.delivered = 1 → s.predSig = some (.value v) → s.schSig ≠ none

structure Full (s : St) : Prop where
  view : OpLife.Inv s.view
  loc : Loc s

variable {ts' h' : Option Nat} {tc' sc' sd' : Nat} {ps' ss' : Option Sig} {sop' st u a' : Bool} {p' : Pc}
  {s : St} {t : Nat}

theorem Loc.outside (hl : Loc s) (hp' : busy p' = false) :
    Loc { s with pc := upd s.pc t p', started := st, uaf := u } :=
  { hl with
    ctl := forall_upd (P := fun _ p => ctlAt s.predSig s.sopArmed s.schSig p) hl.ctl (ctlAt_of_not_busy _ hp')
    obj := forall_upd (P := fun _ p => objAt s.ts s.tsCtor s.sop s.sopCtor p) hl.obj (objAt_of_not_busy _ hp') }

/-- `std::terminate`: no further event is accepted, everything else stays. -/
theorem Loc.abort (hl : Loc s) : Loc { s with aborted := true } :=
  { hl with }

/-- A step, before the completion, of the thread that holds the chain of control or takes it (every other
    thread is outside the adaptor). -/
theorem Loc.holder (hl : Loc s) (hoth : ∀ v, v ≠ t → busy (s.pc v) = false) (hd : s.delivered = 0)
    (hctl : ctlAt ps' a' ss' p') (hobj : objAt ts' tc' sop' sc' p')
    (harm : a' = true → ∃ v, ps' = some (.value v)) (htp : ∀ v, ts' = some v → ps' = some (.value v)) :
    Loc { s with pc := upd s.pc t p', predSig := ps', schSig := ss', holder := h', ts := ts', tsCtor := tc',
                 sop := sop', sopArmed := a', sopCtor := sc', sopDtor := sd', uaf := u } :=
  have h01 : s.delivered ≠ 1 := by omega
  ⟨hl.nsw, forall_upd_of_others ctlAt_of_not_busy hoth hctl, forall_upd_of_others objAt_of_not_busy hoth hobj,
    harm, htp, fun h => absurd h h01, fun _ h => absurd h h01, fun _ _ h => absurd h h01,
    fun _ h => absurd h h01⟩

theorem Loc.free (hl : Loc s) (hidle : ∀ t, busy (s.pc t) = false) : Loc (free s) :=
  { hl with obj := fun t => objAt_of_not_busy _ (hidle t), tsPred := nofun, delivSop := nofun }

/-- The completion `c`, issued by `t` after the reset (or without a scheduler operation state) while every
    other thread is outside the adaptor: it is the denoted one. -/
theorem Loc.complete (hl : Loc s) (hoth : ∀ v, v ≠ t → busy (s.pc v) = false) (hsop : s.sop = false) {c : Sig}
    (hP : ∀ p, s.predSig = some p → p.isValue = false → c = p)
    (hV : ∀ v, s.predSig = some (.value v) → s.schSig ≠ none ∧ ∀ q, s.schSig = some q → c = denote (.value v) q) :
    Loc { s with pc := upd s.pc t .out, holder := none, delivered := s.delivered + 1, result := some c,
                 uaf := u } :=
  ⟨hl.nsw, forall_upd_of_others ctlAt_of_not_busy hoth trivial, forall_upd_of_others objAt_of_not_busy hoth trivial,
    hl.armedPred, hl.tsPred, fun _ _ => hsop, fun p _ hp hnv => congrArg some (hP p hp hnv),
    fun v q _ hp hq => congrArg some ((hV v hp).2 q hq), fun v _ hp => (hV v hp).1⟩

theorem step_full (s : St) (e : Ev) (s' : St) (hf : Full s) (h : step s e = some s') : Full s' := by
  obtain ⟨hv, hl⟩ := hf
  -- what is known when thread `t` is at a point inside the adaptor
  have hbusy : ∀ {t p}, s.pc t = p → busy p = true →
      s.holder = some t ∧ (∀ u, u ≠ t → busy (s.pc u) = false) ∧ s.delivered = 0 ∧ s.freed = false ∧
      ctlAt s.predSig s.sopArmed s.schSig p ∧ objAt s.ts s.tsCtor s.sop s.sopCtor p := fun {t p} hp hb => by
    subst hp
    have hh : s.holder = some t := hv.busyHolder _ hb
    exact ⟨hh, hv.others (.inl hh), hv.holderDeliv _ hh, hv.not_freed (hv.holderDeliv _ hh), hl.ctl t, hl.obj t⟩
  have ofFalse : ∀ {a : Bool} {P : Prop}, a = false → a = true → P := fun h1 h2 =>
    absurd (h1.symm.trans h2) Bool.false_ne_true
  -- the completion; a self-deleting receiver destroys the operation state and the objects in it
  have fin : ∀ {t c p}, s.pc t = p → busy p = true →
      Loc { s with pc := upd s.pc t .out, holder := none, delivered := s.delivered + 1, result := some c,
                   uaf := s.uaf || s.freed } →
      Full (deliver s t c .out none) := fun {t c p} hp hb l1 => by
    obtain ⟨hh, hoth, hd, -, hctl, -⟩ := hbusy hp hb
    have hidle : ∀ u, busy (upd s.pc t .out u) = false :=
      forall_upd_of_others (I := fun p => busy p = false) (F := fun p => busy p = false) (fun _ h => h) hoth rfl
    refine deliver_cases (P := Full) fun s1 h1 => ?_
    have vv := hv.deliver (res := some c) (s2' := s.schSig) hd
      (fun h => by rw [show s.holder = none from (hv.predNone h).1] at hh; cases hh)
      (fun ha hs => not_waiting_of_busy hb hctl ⟨ha, hs⟩) hv.sig2Armed hidle s.cfg.poison (v1 := s1.view)
      (by rw [h1]; rfl)
    subst h1
    exact ⟨fun hs => ⟨vv.1 hs, l1.free hidle⟩, fun hs => ⟨vv.2 hs, l1⟩⟩
  cases Step.of_step h with
  | start hp hs =>
    have hd : s.delivered = 0 := hv.undelivered (.inl hs)
    exact ⟨hv.outside (apply_upd_of_eq busy (by rw [hp]; rfl)) (fun _ => rfl)
      (by rw [show s.uaf = false from hv.uafF, show s.freed = false from hv.not_freed hd]; rfl), hl.outside rfl⟩
  | ret hp =>
    exact ⟨hv.outside (st := s.started) (apply_upd_of_eq busy (by rcases hp with hp | hp | hp <;> rw [hp] <;> rfl)) id
      hv.uafF, hl.outside rfl⟩
  | tdone hp => exact ⟨hv.outside (st := s.started) (apply_upd_of_eq busy (by rw [hp]; rfl)) id hv.uafF, hl.outside rfl⟩
  | storeAbort | connAbort => exact ⟨hv.abort, hl.abort⟩
  | @pred t c hs hn =>
    obtain ⟨hh, hd, ha, -⟩ := hv.predNone hn
    obtain ⟨tc0, sc0, tsn, sopf, -⟩ := hv.predNoneO hn
    exact ⟨hv.take hh hd hs (Option.some_ne_none c) (ofFalse ha) hv.sig2Armed (apply_upd_same busy _ _ _)
        (fun _ => apply_upd_other busy _ _),
      hl.holder (hv.others (t := t) (.inr hh)) hd (p' := .pred c) ⟨rfl, ha⟩ ⟨tc0, sc0, tsn, sopf⟩ (ofFalse ha)
        (fun v h => by rw [show s.ts = none from tsn] at h; cases h)⟩
  | @sch t c ha hsu =>
    -- the scheduler's completion takes the chain of control
    obtain ⟨hh, hd⟩ := hv.armedWait ha hsu
    obtain ⟨v, hpv⟩ := hl.armedPred ha
    exact ⟨hv.take (p' := s.predSig) hh hd (hv.predStarted (by rw [show s.view.pred = s.predSig from rfl, hpv]; nofun))
        (by rw [hpv]; nofun) (fun _ => Option.some_ne_none c) (fun _ => ha) (apply_upd_same busy _ _ _)
        (fun _ => apply_upd_other busy _ _),
      hl.holder (hv.others (t := t) (.inr hh)) hd (p' := .sch c) rfl (hv.armedO ha hsu) hl.armedPred hl.tsPred⟩
  | @store t v hp =>
    -- the values are constructed in the operation state
    obtain ⟨hh, hoth, hd, hf, ⟨hpv, ha⟩, tc0, sc0, tsn, sopf⟩ := hbusy hp rfl
    have hcnt : s.tsCtor = s.tsDtor + b2n s.ts.isSome := hv.tsCount hf
    rw [tsn] at hcnt
    exact ⟨hv.advance hh hh (apply_upd_same busy _ _ _) (fun _ => apply_upd_other busy _ _) (by rw [hcnt]; rfl)
        (hv.sopCount hf) ⟨by show s.tsCtor + 1 ≤ 1; omega, hv.ctorLe.2⟩,
      hl.holder hoth hd (p' := .stored) ⟨ha, v, hpv⟩ ⟨nofun, sc0, sopf⟩ hl.armedPred
        (fun w hw => by cases hw; exact hpv)⟩
  | @conn t hp =>
    -- the scheduler's operation state is constructed
    obtain ⟨hh, hoth, hd, hf, hctl, tsne, sc0, sopf⟩ := hbusy hp rfl
    have hcnt : s.sopCtor = s.sopDtor + b2n s.sop := hv.sopCount hf
    rw [sopf] at hcnt
    exact ⟨hv.advance hh hh (apply_upd_same busy _ _ _) (fun _ => apply_upd_other busy _ _) (hv.tsCount hf)
        (by rw [hcnt]; rfl) ⟨hv.ctorLe.1, by show s.sopCtor + 1 ≤ 1; omega⟩,
      hl.holder hoth hd (p' := .connected) hctl ⟨tsne, rfl⟩ hl.armedPred hl.tsPred⟩
  | @sstart t hp =>
    -- the holder hands the chain of control to the scheduler
    obtain ⟨hh, hoth, hd, -, ⟨ha, hpv⟩, tsne, sopt⟩ := hbusy hp rfl
    exact ⟨hv.handover hh ha tsne sopt (apply_upd_same busy _ _ _) (fun _ => apply_upd_other busy _ _),
      hl.holder hoth hd (p' := .sstarted) trivial trivial (fun _ => hpv) hl.tsPred⟩
  | @reset t c hp =>
    -- the scheduler's operation state is destroyed
    obtain ⟨hh, hoth, hd, hf, hctl, tsne, -⟩ := hbusy hp rfl
    exact ⟨hv.advance hh rfl (apply_upd_same busy _ _ _) (fun _ => apply_upd_other busy _ _) (hv.tsCount hf)
        (by show s.sopCtor = s.sopDtor + b2n s.sop + b2n false; rw [show s.sopCtor = _ from hv.sopCount hf]; rfl)
        hv.ctorLe,
      hl.holder hoth hd (p' := .rst c) hctl ⟨tsne, rfl⟩ hl.armedPred hl.tsPred⟩
  | @resetLate t c hp => have := hl.ctl t; rw [hp] at this; exact this.elim
  | @fwdPred t c hp hnv =>
    -- the predecessor's error / stopped passes through
    obtain ⟨-, hoth, -, -, ⟨hpc, -⟩, -, -, -, sopf⟩ := hbusy hp rfl
    exact fin hp rfl (hl.complete hoth sopf
      (fun p h _ => Option.some.inj (hpc.symm.trans h))
      fun v h => by rw [hpc] at h; cases h; cases hnv)
  | @fwdRst t c q hp hout =>
    -- after the hop: the stored values, or the scheduler's error / stopped
    obtain ⟨-, hoth, -, -, hq, tsne, sopf⟩ := hbusy hp rfl
    obtain ⟨v, hpv⟩ := hl.armedPred (hv.sig2Armed (by rw [show s.view.sig2 = s.schSig from rfl, hq]; nofun))
    obtain ⟨w, hw⟩ := Option.ne_none_iff_exists'.mp tsne
    obtain rfl : w = v := by have := hl.tsPred w hw; rw [hpv] at this; cases this; rfl
    have hc' := outSig_denote s q c w hout hw
    exact fin hp rfl (hl.complete hoth sopf
      (fun p h hnv => by rw [hpv] at h; cases h; cases hnv)
      fun v' h => by
        rw [hpv] at h; cases h
        exact ⟨by rw [hq]; nofun, fun q' h' => by rw [hq] at h'; cases h'; exact hc'⟩)
  | @fwdSwapped t c q _ hq => rw [hl.nsw q] at hq; cases hq
  | destroy hd hf =>
    exact ⟨OpLife.Inv.destroy (v := s.view) (sd := s.cfg.selfdel) hv hd hf s.cfg.poison, hl.free fun t => by
      cases hb : busy (s.pc t)
      · rfl
      · have : s.delivered = 0 := hv.holderDeliv t (hv.busyHolder t hb)
        rw [hd] at this; cases this⟩

theorem full_init (c : Cfg) (hc : c.ok) : Full (init c) := by
  obtain ⟨h1, h2, h3⟩ := hc
  refine ⟨?_, ?_⟩ <;> constructor <;> simp [init, St.view, busy, b2n, ctlAt, objAt]
  intro x; cases x <;> simp [Cfg.swapped, *]

theorem full_of_runLog {c : Cfg} (hc : c.ok) {log : List Ev} {s : St} (h : runLog step (init c) log = some s) :
    Full s :=
  inv_of_runLog Full step_full (full_init c hc) h

/-- An event that reads or writes the operation state is accepted only before the downstream completion. -/
theorem touch_before_delivery {s s' : St} {e : Ev} (hf : Full s) (h : step s e = some s')
    (ht : touches e = true) : s.delivered = 0 :=
  hf.view.undelivered (touching_of_step h ht)

theorem Full.cinv {s : St} (hf : Full s) : CInv s :=
  have hv := hf.view
  have hpc := hf.loc.ctl
  { nsw := hf.loc.nsw, busyHolder := hv.busyHolder, holderBusy := hv.holderBusy, delivLe := hv.delivLe
    holderDeliv := hv.holderDeliv, predStarted := hv.predStarted, predNone := hv.predNone
    armedWait := hv.armedWait, armedPred := hf.loc.armedPred, schArmed := hv.sig2Armed
    pcPred := fun t c h => by have := hpc t; rwa [h] at this
    pcStored := fun t h => by have := hpc t; rwa [h] at this
    pcConn := fun t h => by have := hpc t; rwa [h] at this
    pcSch := fun t c h => by have := hpc t; rwa [h] at this
    pcRst := fun t c h => by have := hpc t; rwa [h] at this
    pcFwdd := fun t c h => by have := hpc t; rwa [h] at this
    progress := hv.progress }

theorem cinv_init (c : Cfg) (hc : c.ok) : CInv (init c) := (full_init c hc).cinv

theorem cfg_of_runLog {s0 s : St} {log : List Ev} (h : runLog step s0 log = some s) : s.cfg = s0.cfg := by
  refine inv_of_runLog (fun s => s.cfg = s0.cfg) (fun s e s' hc hs => ?_) rfl h
  rw [← hc]
  cases Step.of_step hs <;> first | rfl | (simp only [deliver]; split <;> rfl)

end PikaVerif.SchedFromLife
