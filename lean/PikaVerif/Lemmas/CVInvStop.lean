import PikaVerif.Lemmas.CVInvResults
/-! Third group of invariants of the condition-variable model: the stop-token wait
    (`condition_variable_any::wait(lock, stop_token, pred)`) and `request_stop`.

    The central field is `covered`: once stop has been requested, every thread of a
    stop-token wait that has passed the `stop_requested()` re-check under the internal lock
    (S1) and has not been notified since still has its callback in the stop state's list, or
    the requester has that callback in its hand and has not finished the `notify_all` of the
    callback.  Together with `Inv.qIff` this is what makes the stop request impossible to
    lose between the waiter's check and its enqueue.

    All other fields but `cbsNodup` and `doneOk` speak of one thread at a time: `Inv3At` is that
    statement for one thread, `Inv3.of_step` carries it over an event of another thread (`of_step_cov`
    where `covered` is inherited), and the lemmas in `namespace Inv3At` say what an event does to its own
    thread. -/
namespace PikaVerif.CV

/-- Program counters at which the thread holds the lock bit of the stop state. -/
def holdsS : Pc → Bool
  | .sRegLk | .rsLocked | .sRm _ => true
  | _ => false

/-- `~stop_callback` of a registered callback is running. -/
def dtorPc : Pc → Bool
  | .sDtor _ | .sRm _ | .sRmChk _ | .sRmWait _ => true
  | _ => false

/-- After an unlink attempt that found the callback already dequeued. -/
def rmPc : Pc → Bool
  | .sRmChk _ | .sRmWait _ => true
  | _ => false

/-- The body of a wait form after the construction of the stop callback (loop, `cond_.wait`). -/
def bodyPc : Pc → Bool
  | .predChk _ | .want | .sChk1 | .sStopped | .locked | .released | .enq _ | .unl _ _ | .susp _ | .slp _
  | .wokeNL _ _ | .relk _ _ | .post _ | .relockU _ | .postS _ => true
  | _ => false

/-- The callback runs on the registering thread (stop already requested). -/
def inlPc : Pc → Bool
  | .cWant k | .cLocked k | .cAll k | .cRet k => k
  | _ => false

/-- `request_stop` between winning the stop bit and leaving its callback loop. -/
def reqPc : Pc → Bool
  | .rsLocked | .rsRelock => true
  | .cWant k | .cLocked k | .cAll k | .cRet k => !k
  | _ => false

/-- `request_stop` has a dequeued callback in its hand (before the finished store). -/
def curHeldPc : Pc → Bool
  | .cWant k | .cLocked k | .cAll k | .cRet k => !k
  | _ => false

/-- … and has not yet completed the `notify_all` of that callback. -/
def popPending : Pc → Bool
  | .cWant k | .cLocked k | .cAll k => !k
  | _ => false

/-- Passed the S1 check (`stop_requested()` read false under the internal lock) and not
    notified since: on the way to, or parked in, `agent.suspend`. -/
def exposed : Pc → Bool
  | .locked | .released | .enq _ => true
  | .unl _ p | .susp p => !p
  | _ => false

/-- The stop bit was observed by this wait. -/
def sawStop : Pc → Bool
  | .predChk f => f
  | .sStopped => true
  | _ => false

/-- Result of a wait form once computed. -/
def resAll : Pc → Option Nat
  | .retn r | .sDtor r | .sRm r | .sRmChk r | .sRmWait r => some r
  | _ => none

structure Inv3 (s : St) : Prop where
  sHolder : ∀ t, holdsS (s.pc t) = true → s.sLock = some t
  sConv : ∀ r, s.sLock = some r → holdsS (s.pc r) = true ∧ r < s.n
  keptOk : ∀ t, s.kept t = true → isStop (s.curOp t) = true ∧ (bodyPc (s.pc t) = true ∨ dtorPc (s.pc t) = true)
  dtorKept : ∀ t, dtorPc (s.pc t) = true → s.kept t = true
  cbsOk : ∀ t, t ∈ s.cbs → s.kept t = true ∧ s.cbFin t = false
  cbsNodup : s.cbs.Nodup
  curOk : ∀ c, s.cur = some c → s.kept c = true ∧ c ∉ s.cbs ∧ s.cbFin c = false
  regOk : ∀ t, s.kept t = true → t ∈ s.cbs ∨ s.cur = some t ∨ s.cbFin t = true
  rmOk : ∀ t, rmPc (s.pc t) = true → t ∉ s.cbs
  reqOk : ∀ t, reqPc (s.pc t) = true → s.stopReq = true ∧ s.reqT = t ∧ s.stopDone = false
  curHeld : ∀ t, curHeldPc (s.pc t) = true → s.cur ≠ none
  curConv : ∀ c, s.cur = some c → curHeldPc (s.pc s.reqT) = true
  finReq : ∀ t, s.kept t = true → s.cbFin t = true → s.stopReq = true
  unregReq : ∀ t, isStop (s.curOp t) = true → s.kept t = false → (bodyPc (s.pc t) = true ∨ inlPc (s.pc t) = true) →
    s.stopReq = true
  regLkOk : ∀ t, s.pc t = .sRegLk → s.stopReq = false
  covered : s.stopReq = true → ∀ t, isStop (s.curOp t) = true → exposed (s.pc t) = true →
    t ∈ s.cbs ∨ (s.cur = some t ∧ popPending (s.pc s.reqT) = true)
  doneOk : s.stopDone = true → s.stopReq = true ∧ s.cbs = [] ∧ s.cur = none
  activeOk : s.stopReq = true → s.stopDone = false → reqPc (s.pc s.reqT) = true
  sawOk : ∀ t, s.curOp t = .swait false → sawStop (s.pc t) = true → s.stopReq = true
  swRes : ∀ t r, s.curOp t = .swait false → resAll (s.pc t) = some r → r = 1 ∨ s.stopReq = true

theorem curHeld_req {p : Pc} (h : curHeldPc p = true) : reqPc p = true := by
  cases p <;> first | exact h | cases h

theorem popPending_curHeld {p : Pc} (h : popPending p = true) : curHeldPc p = true := by
  cases p <;> first | exact h | cases h

theorem exposed_body {p : Pc} (h : exposed p = true) : bodyPc p = true := by
  cases p <;> first | rfl | cases h

theorem exposed_holds_or_inQ {p : Pc} (h : exposed p = true) : holds p = true ∨ inQ p = true := by
  cases p <;> first | exact .inl rfl | exact .inr h | exact .inr rfl | cases h

/-- What `Inv3` says about one thread `t`, as a statement about that thread's values and the shared
    stop state: all fields of `Inv3` but `cbsNodup`, `doneOk` (no thread) and `covered` (two threads:
    the waiter and the requester) are statements about each thread separately. -/
def Inv3At (n : Nat) (sl : Option Nat) (cbs : List Nat) (cur : Option Nat) (sr : Bool) (rq : Nat) (sd : Bool)
    (t : Nat) (p : Pc) (c : Op) (kp cf : Bool) : Prop :=
  (holdsS p = true → sl = some t) ∧ (sl = some t → holdsS p = true ∧ t < n) ∧
  (kp = true → isStop c = true ∧ (bodyPc p = true ∨ dtorPc p = true)) ∧ (dtorPc p = true → kp = true) ∧
  (t ∈ cbs → kp = true ∧ cf = false) ∧ (cur = some t → kp = true ∧ t ∉ cbs ∧ cf = false) ∧
  (kp = true → t ∈ cbs ∨ cur = some t ∨ cf = true) ∧ (rmPc p = true → t ∉ cbs) ∧
  (reqPc p = true → sr = true ∧ rq = t ∧ sd = false) ∧ (curHeldPc p = true → cur ≠ none) ∧
  (rq = t → cur ≠ none → curHeldPc p = true) ∧ (kp = true → cf = true → sr = true) ∧
  (isStop c = true → kp = false → (bodyPc p = true ∨ inlPc p = true) → sr = true) ∧
  (p = .sRegLk → sr = false) ∧ (rq = t → sr = true → sd = false → reqPc p = true) ∧
  (c = .swait false → sawStop p = true → sr = true) ∧
  (∀ r, c = .swait false → resAll p = some r → r = 1 ∨ sr = true)

theorem Inv3.at {s : St} (hi : Inv3 s) (t : Nat) :
    Inv3At s.n s.sLock s.cbs s.cur s.stopReq s.reqT s.stopDone t (s.pc t) (s.curOp t) (s.kept t) (s.cbFin t) :=
  ⟨hi.sHolder t, hi.sConv t, hi.keptOk t, hi.dtorKept t, hi.cbsOk t, hi.curOk t, hi.regOk t, hi.rmOk t,
    hi.reqOk t, hi.curHeld t, fun e hc => by cases hc' : s.cur with
      | none => exact absurd hc' hc
      | some c => exact e ▸ hi.curConv c hc',
    hi.finReq t, hi.unregReq t, hi.regLkOk t, fun e => e ▸ hi.activeOk, hi.sawOk t, hi.swRes t⟩

theorem Inv3.of_at {s : St}
    (h : ∀ t, Inv3At s.n s.sLock s.cbs s.cur s.stopReq s.reqT s.stopDone t (s.pc t) (s.curOp t) (s.kept t)
      (s.cbFin t))
    (hnd : s.cbs.Nodup) (hd : s.stopDone = true → s.stopReq = true ∧ s.cbs = [] ∧ s.cur = none)
    (hcov : s.stopReq = true → ∀ t, isStop (s.curOp t) = true → exposed (s.pc t) = true →
      t ∈ s.cbs ∨ (s.cur = some t ∧ popPending (s.pc s.reqT) = true)) : Inv3 s :=
  ⟨fun t => (h t).1, fun t => (h t).2.1, fun t => (h t).2.2.1, fun t => (h t).2.2.2.1,
    fun t => (h t).2.2.2.2.1, hnd, fun t => (h t).2.2.2.2.2.1, fun t => (h t).2.2.2.2.2.2.1,
    fun t => (h t).2.2.2.2.2.2.2.1, fun t => (h t).2.2.2.2.2.2.2.2.1, fun t => (h t).2.2.2.2.2.2.2.2.2.1,
    fun c hc => (h s.reqT).2.2.2.2.2.2.2.2.2.2.1 rfl (by rw [hc]; nofun),
    fun t => (h t).2.2.2.2.2.2.2.2.2.2.2.1, fun t => (h t).2.2.2.2.2.2.2.2.2.2.2.2.1,
    fun t => (h t).2.2.2.2.2.2.2.2.2.2.2.2.2.1, hcov, hd, (h s.reqT).2.2.2.2.2.2.2.2.2.2.2.2.2.2.1 rfl,
    fun t => (h t).2.2.2.2.2.2.2.2.2.2.2.2.2.2.2.1, fun t => (h t).2.2.2.2.2.2.2.2.2.2.2.2.2.2.2.2⟩

theorem inv3_init (n : Nat) (f : Bool) : Inv3 (init n f) :=
  .of_at (fun _ => ⟨nofun, nofun, nofun, nofun, nofun, nofun, nofun, nofun, nofun, nofun, fun _ h => absurd rfl h,
    nofun, nofun, nofun, nofun, nofun, nofun⟩) .nil nofun nofun

section local_steps
-- `n sl cbs cur sr rq sd`: `n`, `sLock`, `cbs`, `cur`, `stopReq`, `reqT`, `stopDone`; `t` is the acting thread and
-- `c kp cf` its `curOp`, `kept`, `cbFin`; in the `_other` lemmas `u ≠ t` is another thread
variable {n rq t u x : Nat} {sl cur : Option Nat} {cbs rest : List Nat} {sr sd kp cf : Bool} {c : Op} {p : Pc}

namespace Inv3At

/-- A move between program counters that `Inv3` does not tell apart. -/
theorem congr {p p' : Pc} (h : Inv3At n sl cbs cur sr rq sd t p c kp cf)
    (he : (holdsS p', bodyPc p', dtorPc p', reqPc p', curHeldPc p') =
      (holdsS p, bodyPc p, dtorPc p, reqPc p, curHeldPc p))
    (hrm : rmPc p' = true → rmPc p = true) (hin : inlPc p' = true → inlPc p = true)
    (hreg : p' = .sRegLk → p = .sRegLk) (hsaw : sawStop p' = true → sawStop p = true)
    (hres : ∀ r, resAll p' = some r → resAll p = some r) : Inv3At n sl cbs cur sr rq sd t p' c kp cf := by
  simp only [Prod.mk.injEq] at he
  obtain ⟨e1, e2, e3, e4, e5⟩ := he
  obtain ⟨h1, h2, h3, h4, h5, h6, h7, h8, h9, h10, h11, h12, h13, h14, h15, h16, h17⟩ := h
  rw [← e1] at h1 h2; rw [← e2, ← e3] at h3; rw [← e3] at h4; rw [← e4] at h9 h15; rw [← e5] at h10 h11
  rw [← e2] at h13
  exact ⟨h1, h2, h3, h4, h5, h6, h7, fun h => h8 (hrm h), h9, h10, h11, h12,
    fun a b x => h13 a b (x.imp id hin), fun h => h14 (hreg h), h15, fun a b => h16 a (hsaw b),
    fun r a b => h17 r a (hres r b)⟩

/-- The target of a pop: `Inv3` does not tell the two program counters apart; the thread is not exposed
    afterwards and was not inside a callback. -/
theorem popped {p p' : Pc} (h : Inv3At n sl cbs cur sr rq sd t p c kp cf) (hs : setPopped p = some p') :
    Inv3At n sl cbs cur sr rq sd t p' c kp cf ∧ (exposed p' = true → exposed p = true) ∧ popPending p = false := by
  rcases setPopped_some hs with ⟨tm, rfl, rfl⟩ | ⟨rfl, rfl⟩ | ⟨rfl, rfl⟩ | ⟨tm, rfl, rfl⟩ <;>
    exact ⟨h.congr rfl nofun nofun nofun nofun nofun, nofun, rfl⟩

attribute [local grind] isTimed isPred isWait isStop b2n holdsS dtorPc rmPc bodyPc inlPc reqPc curHeldPc
  sawStop resAll entryPc

theorem ulAcq {st ss : Bool} (h : Inv3At n sl cbs cur sr rq sd t (.relockU st) c kp cf) :
    Inv3At n sl cbs cur sr rq sd t
      (if isPred c then .predChk (if isStop c && isTimed c then ss else isTimed c && st)
       else .retn (b2n (isTimed c && st))) c kp cf := by
  cases c <;> (unfold Inv3At at *; grind)

theorem pred {final fl : Bool} (h : Inv3At n sl cbs cur sr rq sd t (.predChk final) c kp cf) :
    Inv3At n sl cbs cur sr rq sd t
      (if final then (if isStop c = true ∧ kp = true then .sDtor (b2n fl) else .retn (b2n fl))
       else if fl then (if isStop c = true ∧ kp = true then .sDtor 1 else .retn 1) else .want) c kp cf := by
  unfold Inv3At at *; grind

theorem slRel_sStopped (h : Inv3At n sl cbs cur sr rq sd t .sStopped c kp cf) :
    Inv3At n sl cbs cur sr rq sd t (if isStop c = true ∧ kp = true then .sDtor 0 else .retn 0) c kp cf := by
  unfold Inv3At at *; grind

theorem stop0 (h : Inv3At n sl cbs cur sr rq sd t .sChk0 c kp cf) :
    Inv3At n sl cbs cur sr rq sd t (if sr then .predChk true else .sReg) c kp cf := by
  unfold Inv3At at *; grind

theorem stop1 (h : Inv3At n sl cbs cur sr rq sd t .sChk1 c kp cf) :
    Inv3At n sl cbs cur sr rq sd t (if sr then .sStopped else .locked) c kp cf := by
  unfold Inv3At at *; grind

theorem stSeen (hsr : sr = true) (h : Inv3At n sl cbs cur sr rq sd t .sReg c kp cf) :
    Inv3At n sl cbs cur sr rq sd t (.cWant true) c kp cf := by
  unfold Inv3At at *; grind

/-- An operation starts at `idle`, where no callback is registered (`kp = false`: a registered one is
    at a body or destructor program counter). -/
theorem start (h : Inv3At n sl cbs cur sr rq sd t .idle c kp cf) (o : Op) :
    Inv3At n sl cbs cur sr rq sd t (entryPc o) o false cf ∧ kp = false := by
  cases o <;> (unfold Inv3At at *; grind)

theorem stInFin (h : Inv3At n sl cbs cur sr rq sd t (.cRet true) c kp cf) (hop : isStop c = true) :
    Inv3At n sl cbs cur sr rq sd t (.predChk false) c kp true := by
  unfold Inv3At at *; grind

theorem stWaited {r : Nat} (h : Inv3At n sl cbs cur sr rq sd t (.sRmWait r) c kp cf) (hf : cf = true) :
    Inv3At n sl cbs cur sr rq sd t (.retn r) c false cf := by
  unfold Inv3At at *; grind

theorem sLock_other {sl' : Option Nat} (h : Inv3At n sl cbs cur sr rq sd u p c kp cf) (hu : u ≠ t)
    (h1 : sl = none ∨ sl = some t) (h2 : sl' = none ∨ sl' = some t) :
    Inv3At n sl' cbs cur sr rq sd u p c kp cf := by
  unfold Inv3At at *; grind

theorem stAcq_sReg (h : Inv3At n none cbs cur sr rq sd t .sReg c kp cf) (ht : t < n) (hsr : sr = false) :
    Inv3At n (some t) cbs cur sr rq sd t .sRegLk c kp cf := by
  unfold Inv3At at *; grind

theorem stAcq_rsRelock (h : Inv3At n none cbs cur sr rq sd t .rsRelock c kp cf) (ht : t < n) :
    Inv3At n (some t) cbs cur sr rq sd t .rsLocked c kp cf := by
  unfold Inv3At at *; grind

theorem stAcq_sDtor {r : Nat} (h : Inv3At n none cbs cur sr rq sd t (.sDtor r) c kp cf) (ht : t < n) :
    Inv3At n (some t) cbs cur sr rq sd t (.sRm r) c kp cf := by
  unfold Inv3At at *; grind

theorem stAcq_rsWant_other (h : Inv3At n none cbs cur false rq sd u p c kp cf) (hu : u ≠ t) :
    Inv3At n (some t) cbs cur true t sd u p c kp cf := by
  unfold Inv3At at *; grind

theorem stAcq_rsWant (h : Inv3At n none cbs cur false rq sd t .rsWant c kp cf) (ht : t < n)
    (hcur : cur = none) (hsd : sd = false) : Inv3At n (some t) cbs cur true t sd t .rsLocked c kp cf := by
  unfold Inv3At at *; grind

theorem stPush_other (h : Inv3At n (some t) cbs cur sr rq sd u p c kp cf) (hu : u ≠ t) :
    Inv3At n none (t :: cbs) cur sr rq sd u p c kp cf := by
  unfold Inv3At at *; grind

/-- Also: the callback was not linked before, and `add_callback` holds the lock only while stop has not
    been requested. -/
theorem stPush (h : Inv3At n (some t) cbs cur sr rq sd t .sRegLk c kp cf) (hop : isStop c = true) :
    Inv3At n none (t :: cbs) cur sr rq sd t (.predChk false) c true false ∧ t ∉ cbs ∧ sr = false := by
  unfold Inv3At at *; grind

theorem stDeq_other (h : Inv3At n (some t) (x :: rest) none sr t sd u p c kp cf) (hu : u ≠ t)
    (hnd : x ∉ rest) : Inv3At n none rest (some x) sr t sd u p c kp cf := by
  unfold Inv3At at *; grind

/-- Also: the thread at `rsLocked` is the requester, holds no callback yet, and has not finished. -/
theorem stDeq (h : Inv3At n (some t) (x :: rest) cur sr rq sd t .rsLocked c kp cf) (hop : c = .stop) :
    Inv3At n none rest (some x) sr rq sd t (.cWant false) c kp cf ∧ rq = t ∧ cur = none ∧ sr = true ∧ sd = false := by
  unfold Inv3At at *; grind

theorem stFin_other (h : Inv3At n sl cbs (some x) sr t sd u p c kp cf) (hu : u ≠ t) (hsr : sr = true) :
    Inv3At n sl cbs none sr t sd u p c kp (if u = x then true else cf) := by
  have := @curHeld_req p
  unfold Inv3At at *; grind

/-- Also: the thread at `cRet false` is the requester, and the callback it ran is not its own. -/
theorem stFin (h : Inv3At n sl cbs (some x) sr rq sd t (.cRet false) c kp cf) (hop : c = .stop) :
    Inv3At n sl cbs none sr rq sd t .rsRelock c kp cf ∧ rq = t ∧ sr = true ∧ x ≠ t := by
  unfold Inv3At at *; grind

theorem stUnlink_other (h : Inv3At n (some t) cbs cur sr rq sd u p c kp cf) (hu : u ≠ t) :
    Inv3At n none (cbs.erase t) cur sr rq sd u p c kp cf := by
  unfold Inv3At at *; grind

theorem stUnlink_true {r : Nat} (h : Inv3At n (some t) cbs cur sr rq sd t (.sRm r) c kp cf) (hm : t ∈ cbs)
    (hnd : cbs.Nodup) : Inv3At n none (cbs.erase t) cur sr rq sd t (.retn r) c false cf := by
  unfold Inv3At at *; grind [List.Nodup.mem_erase_iff]

theorem stUnlink_false {r : Nat} (h : Inv3At n (some t) cbs cur sr rq sd t (.sRm r) c kp cf) (hm : t ∉ cbs) :
    Inv3At n none cbs cur sr rq sd t (.sRmChk r) c kp cf := by
  unfold Inv3At at *; grind

theorem stRsDone_other (h : Inv3At n (some t) cbs cur sr t sd u p c kp cf) (hu : u ≠ t) :
    Inv3At n none cbs cur sr t true u p c kp cf := by
  unfold Inv3At at *; grind

/-- Also: the thread at `rsLocked` is the requester and holds no callback. -/
theorem stRsDone (h : Inv3At n (some t) cbs cur sr rq sd t .rsLocked c kp cf) :
    Inv3At n none cbs cur sr rq true t (.rsRet true) c kp cf ∧ rq = t ∧ sr = true ∧ cur = none := by
  unfold Inv3At at *; grind

end Inv3At

end local_steps

/-- `request_stop` holds a callback only while it is active (so stop has been requested). -/
theorem Inv3.curReq {s : St} (hi : Inv3 s) (c : Nat) (hc : s.cur = some c) :
    s.stopReq = true ∧ s.stopDone = false ∧ reqPc (s.pc s.reqT) = true ∧ curHeldPc (s.pc s.reqT) = true := by
  have h1 := hi.curConv c hc
  have h2 := hi.reqOk s.reqT (curHeld_req h1)
  exact ⟨h2.1, h2.2.2, curHeld_req h1, h1⟩

/-- Before the stop bit is set, every stop-token waiter past its S1 check has its callback
    linked in the stop state. -/
theorem Inv3.preLinked {s : St} (hi : Inv3 s) (hq : s.stopReq = false) (u : Nat)
    (hc : isStop (s.curOp u) = true) (he : exposed (s.pc u) = true) : u ∈ s.cbs := by
  have hk : s.kept u = true := by
    cases hk : s.kept u with
    | true => rfl
    | false => have := hi.unregReq u hc hk (Or.inl (exposed_body he)); rw [hq] at this; cases this
  rcases hi.regOk u hk with h | h | h
  · exact h
  · have := (hi.curReq u h).1; rw [hq] at this; cases this
  · have := hi.finReq u hk h; rw [hq] at this; cases this

theorem exposed_entryPc (o : Op) : exposed (entryPc o) = false := by
  cases o with
  | wait _ pr => cases pr <;> rfl
  | _ => rfl

/-- Every thread the event leaves alone keeps its program counter, operation and `kept` (`step_other`), and
    the target of a pop moves between program counters that `Inv3` does not tell apart.  What is left: the
    acting thread `t`; that the part of `Inv3` of another thread survives what the event does to the stop
    state (`hoth`); and `covered`, where only threads exposed before are exposed after (`hex` for `t`). -/
theorem Inv3.of_step {s s' : St} {e : Ev} (hi : Inv3 s) (h : step s e = some s') {t : Nat}
    (ht : actor e = t)
    (hoth : ∀ {p} u, u ≠ t →
      Inv3At s.n s.sLock s.cbs s.cur s.stopReq s.reqT s.stopDone u p (s.curOp u) (s.kept u) (s.cbFin u) →
      Inv3At s.n s'.sLock s'.cbs s'.cur s'.stopReq s'.reqT s'.stopDone u p (s.curOp u) (s.kept u) (s'.cbFin u))
    {p' : Pc} (hpc : s'.pc t = p')
    (hself : Inv3At s.n s'.sLock s'.cbs s'.cur s'.stopReq s'.reqT s'.stopDone t p' (s'.curOp t) (s'.kept t)
      (s'.cbFin t))
    (hnd : s'.cbs.Nodup) (hd : s'.stopDone = true → s'.stopReq = true ∧ s'.cbs = [] ∧ s'.cur = none)
    (hex : exposed p' = true → s'.stopReq = true → isStop (s'.curOp t) = true →
      isStop (s.curOp t) = true ∧ exposed (s.pc t) = true)
    (hcov : s'.stopReq = true → ∀ u, isStop (s.curOp u) = true → exposed (s.pc u) = true →
      u ∈ s'.cbs ∨ (s'.cur = some u ∧ popPending (s'.pc s'.reqT) = true)) : Inv3 s' := by
  refine .of_at (fun u => ?_) hnd hd fun hq u hc he => ?_
  · rw [step_n h]
    by_cases hu : u = t
    · rw [hu, hpc]; exact hself
    · obtain ⟨hc, _, hk, _⟩ := step_own h (ht ▸ hu)
      rw [hc, hk]
      by_cases hg : popTarget e = some u
      · exact hoth u hu ((hi.at u).popped (step_target h hg (ht ▸ hu))).1
      · rw [(step_other h (ht ▸ hu) hg).1]; exact hoth u hu (hi.at u)
  · by_cases hu : u = t
    · subst hu; rw [hpc] at he; obtain ⟨hc, he⟩ := hex he hq hc; exact hcov hq u hc he
    · rw [(step_own h (ht ▸ hu)).1] at hc
      by_cases hg : popTarget e = some u
      · exact hcov hq u hc (((hi.at u).popped (step_target h hg (ht ▸ hu))).2.1 he)
      · rw [(step_other h (ht ▸ hu) hg).1] at he; exact hcov hq u hc he

/-- As `Inv3.of_step`, where the event leaves alone what `covered` reads of the stop state and `t` does not
    leave the `notify_all` of a callback it holds: `covered` is inherited. -/
theorem Inv3.of_step_cov {s s' : St} {e : Ev} (hi : Inv3 s) (h : step s e = some s') {t : Nat}
    (ht : actor e = t)
    (hoth : ∀ {p} u, u ≠ t →
      Inv3At s.n s.sLock s.cbs s.cur s.stopReq s.reqT s.stopDone u p (s.curOp u) (s.kept u) (s.cbFin u) →
      Inv3At s.n s'.sLock s'.cbs s'.cur s'.stopReq s'.reqT s'.stopDone u p (s.curOp u) (s.kept u) (s'.cbFin u))
    {p p' : Pc} (hpc : s'.pc t = p')
    (hself : Inv3At s.n s'.sLock s'.cbs s'.cur s'.stopReq s'.reqT s'.stopDone t p' (s'.curOp t) (s'.kept t)
      (s'.cbFin t))
    (hp : s.pc t = p)
    (hs : (s'.cbs, s'.cur, s'.stopReq, s'.reqT, s'.stopDone) = (s.cbs, s.cur, s.stopReq, s.reqT, s.stopDone))
    (hex : exposed p' = true → s.stopReq = true → isStop (s'.curOp t) = true →
      isStop (s.curOp t) = true ∧ exposed p = true)
    (hpp : popPending p = true → popPending p' = true) : Inv3 s' := by
  simp only [Prod.mk.injEq] at hs
  obtain ⟨hcbs, hcur, hsr, hrq, hsd⟩ := hs
  subst hp
  refine hi.of_step h ht hoth hpc hself (hcbs ▸ hi.cbsNodup) (by rw [hsd, hsr, hcbs, hcur]; exact hi.doneOk)
    (by rw [hsr]; exact hex) fun hq u hc he => ?_
  rw [hsr] at hq
  rw [hcbs, hcur, hrq]
  refine (hi.covered hq u hc he).imp id (·.imp id fun hr => ?_)
  -- the requester is still inside the `notify_all` of the callback
  by_cases hu : s.reqT = t
  · rw [hu, hpc]; rw [hu] at hr; exact hpp hr
  · by_cases hg : popTarget e = some s.reqT
    · rw [((hi.at _).popped (step_target h hg (ht ▸ hu))).2.2] at hr; cases hr
    · rw [(step_other h (ht ▸ hu) hg).1]; exact hr

theorem step_inv3 (s s' : St) (e : Ev) (hA : Inv s) (hB : Inv2 s) (hi : Inv3 s) (h : step s e = some s') :
    Inv3 s' := by
  obtain ⟨p, p', ht, hp, hloc, hg, rfl⟩ := Step.of_step h
  have h0 := hi.at (actor e)
  rw [hp] at h0
  have hop := hB.opOk (actor e)
  rw [hp] at hop
  cases hloc <;> simp only [actor, Guard, write] at ht hp hg h0 hop h ⊢
  case inv t o =>
    obtain ⟨hst, hk⟩ := h0.start o
    have hk' : (if isStop o then upd s.kept t false else s.kept) t = false := by
      split
      · exact upd_same ..
      · exact hk
    refine hi.of_step_cov h rfl (fun _ _ => id) (upd_same ..) ?_ hp rfl
      (fun he => by rw [exposed_entryPc] at he; cases he) nofun
    simp only [actor, upd_same, hk']; exact hst
  case ulAcqW =>
    exact hi.of_step_cov h rfl (fun _ _ => id) (upd_same ..) h0.ulAcq hp rfl (fun h => by split at h <;> cases h) nofun
  case pred t v final =>
    refine hi.of_step_cov h rfl (fun _ _ => id) (upd_same ..) (h0.pred (fl := v)) hp rfl (fun h => ?_) nofun
    unfold exitPc at h; (repeat' split at h) <;> cases h
  case acqW t =>
    refine hi.of_step_cov h rfl (fun _ _ => id) (upd_same ..) ?_ hp rfl (fun he _ hc => ?_) nofun
    · split <;> exact h0.congr rfl nofun nofun nofun nofun nofun
    · rw [if_pos (show isStop (s.curOp t) = true from hc)] at he; cases he
  case acqC =>
    exact hi.of_step_cov h rfl (fun _ _ => id) (upd_same ..) (h0.congr rfl nofun id nofun nofun nofun) hp rfl nofun id
  case relE =>
    exact hi.of_step_cov h rfl (fun _ _ => id) (upd_same ..) (h0.congr rfl nofun nofun nofun nofun nofun) hp rfl
      (fun _ _ hc => ⟨hc, rfl⟩) nofun
  case relC t k hq =>
    -- the end of a callback's `notify_all`: the queue is empty and `t` holds the internal lock, so
    -- no thread is exposed any more
    refine hi.of_step h rfl (fun _ _ => id) (upd_same ..) (h0.congr rfl nofun id nofun nofun nofun) hi.cbsNodup
      hi.doneOk nofun fun _ u _ he => ?_
    rcases exposed_holds_or_inQ he with h1 | h1
    · have := Option.some.inj ((hA.lockHolder u h1).symm.trans hg)
      rw [this, hp] at he; cases he
    · have := (hA.qIff u).2 h1; rw [hq] at this; cases this
  case relX =>
    refine hi.of_step_cov h rfl (fun _ _ => id) (upd_same ..) h0.slRel_sStopped hp rfl (fun h => ?_) nofun
    unfold exitPc at h; split at h <;> cases h
  case pop1 =>
    exact hi.of_step_cov h rfl (fun _ _ => id) (upd_same ..) (h0.congr rfl nofun nofun nofun nofun nofun) hp rfl
      nofun nofun
  case popA | popC => exact hi.of_step_cov h rfl (fun _ _ => id) (upd_same ..) h0 hp rfl nofun id
  case stop0 =>
    subst hg
    exact hi.of_step_cov h rfl (fun _ _ => id) (upd_same ..) h0.stop0 hp rfl (fun h => by split at h <;> cases h) nofun
  case stop1 =>
    obtain ⟨_, rfl⟩ := hg
    refine hi.of_step_cov h rfl (fun _ _ => id) (upd_same ..) h0.stop1 hp rfl (fun he hq => ?_) nofun
    rw [hq] at he; cases he
  case seen => exact hi.of_step_cov h rfl (fun _ _ => id) (upd_same ..) (h0.stSeen hg) hp rfl nofun nofun
  case sAcqQ t hsr =>
    -- `request_stop` wins: every exposed waiter's callback is still linked (`preLinked`)
    have hcur : s.cur = none := by
      cases hc : s.cur with
      | none => rfl
      | some c => have := (hi.curReq c hc).1; rw [hsr] at this; cases this
    have hsd : s.stopDone = false := by
      cases hd : s.stopDone with
      | false => rfl
      | true => have := (hi.doneOk hd).1; rw [hsr] at this; cases this
    rw [hg, hsr] at h0
    exact hi.of_step h rfl (fun u hu h => by rw [hg, hsr] at h; exact h.stAcq_rsWant_other hu) (upd_same ..)
      (h0.stAcq_rsWant ht hcur hsd) hi.cbsNodup (fun hd => by rw [hsd] at hd; cases hd) nofun
      fun _ u hc he => .inl (hi.preLinked hsr u hc he)
  case sAcqG t hsr =>
    exact hi.of_step_cov h rfl (fun u hu h => h.sLock_other hu (.inl hg) (.inr rfl)) (upd_same ..)
      ((hg ▸ h0).stAcq_sReg ht hsr) hp rfl nofun nofun
  case sAcqL t =>
    exact hi.of_step_cov h rfl (fun u hu h => h.sLock_other hu (.inl hg) (.inr rfl)) (upd_same ..)
      ((hg ▸ h0).stAcq_rsRelock ht) hp rfl nofun nofun
  case sAcqD t r =>
    exact hi.of_step_cov h rfl (fun u hu h => h.sLock_other hu (.inl hg) (.inr rfl)) (upd_same ..)
      ((hg ▸ h0).stAcq_sDtor ht) hp rfl nofun nofun
  case push t b =>
    rw [hg.1] at h0
    obtain ⟨hself, hm, hsr⟩ := h0.stPush hop
    have hsd : s.stopDone = false := by
      cases hd : s.stopDone with
      | false => rfl
      | true => have := (hi.doneOk hd).1; rw [hsr] at this; cases this
    refine hi.of_step h rfl (fun u (hu : u ≠ t) h => ?_) (upd_same ..) (by simpa only [actor, upd_same] using hself)
      (List.nodup_cons.2 ⟨hm, hi.cbsNodup⟩) (fun hd => by rw [hsd] at hd; cases hd) nofun
      fun hq => by rw [hsr] at hq; cases hq
    rw [hg.1] at h
    simpa only [upd_other _ _ _ _ hu] using h.stPush_other hu
  case deq t c b =>
    obtain ⟨hsl, hc, _⟩ := hg
    obtain ⟨rest, hcbs⟩ : ∃ rest, s.cbs = c :: rest := by
      cases hl : s.cbs with
      | nil => rw [hl] at hc; cases hc
      | cons x rest => rw [hl] at hc; cases hc; exact ⟨rest, rfl⟩
    rw [hsl, hcbs] at h0
    obtain ⟨hself, hrq, hcur, hsr, hsd⟩ := h0.stDeq (of_decide_eq_true hop)
    have hnd := hi.cbsNodup
    rw [hcbs] at hnd
    obtain ⟨hx, hnd⟩ := List.nodup_cons.1 hnd
    have hw : s.cbs.tail = rest := by rw [hcbs]; rfl
    refine hi.of_step h rfl (fun u hu h => ?_) (upd_same ..) (hw ▸ hself) (hw ▸ hnd)
      (fun hd => by rw [hsd] at hd; cases hd) nofun fun hq u hc he => ?_
    · rw [hsl, hcbs, hcur, hrq] at h
      exact hw ▸ hrq ▸ h.stDeq_other hu hx
    · -- the dequeued callback is in the requester's hand, whose `notify_all` is still to come
      rcases hi.covered hq u hc he with h | ⟨h, _⟩
      · rw [hcbs] at h
        rcases List.mem_cons.1 h with h | h
        · exact .inr ⟨by rw [h], by simp only [hrq, upd_same]; rfl⟩
        · exact .inl (hw ▸ h)
      · rw [hcur] at h; cases h
  case fin t c b =>
    obtain ⟨hcur, _⟩ := hg
    rw [hcur] at h0
    obtain ⟨hself, hrq, hsr, hct⟩ := h0.stFin (of_decide_eq_true hop)
    refine hi.of_step h rfl (fun u hu h => ?_) (upd_same ..)
      (by simpa only [actor, upd_other _ _ _ _ (Ne.symm hct)] using hself)
      hi.cbsNodup (fun hd => by have := (hi.doneOk hd).2.2; rw [hcur] at this; cases this) nofun
      fun hq u hc he => ?_
    · rw [hcur, hrq] at h
      have := h.stFin_other hu hsr
      rw [← hrq] at this
      simpa only [upd, eq_comm] using this
    · rcases hi.covered hq u hc he with h | ⟨_, h⟩
      · exact .inl h
      · rw [hrq, hp] at h; cases h
  case inFin t =>
    refine hi.of_step_cov h rfl (fun u (hu : u ≠ t) h => ?_) (upd_same ..) ?_ hp rfl nofun nofun
    · simpa only [upd_other _ _ _ _ hu] using h
    · simpa only [actor, upd_same] using h0.stInFin hop
  case unlinkG t res =>
    have hm : t ∉ s.cbs := of_decide_eq_false hg.2.symm
    exact hi.of_step_cov h rfl (fun u hu h => h.sLock_other hu (.inr hg.1) (.inl rfl)) (upd_same ..)
      ((hg.1 ▸ h0).stUnlink_false hm) hp rfl nofun nofun
  case unlink t res =>
    have hm : t ∈ s.cbs := of_decide_eq_true hg.2.symm
    rw [hg.1] at h0
    refine hi.of_step h rfl (fun u (hu : u ≠ t) h => ?_) (upd_same ..)
      (by simpa only [actor, upd_same] using h0.stUnlink_true hm hi.cbsNodup)
      (hi.cbsNodup.erase t) (fun hd => ?_) nofun fun hq u hc he => ?_
    · rw [hg.1] at h
      simpa only [upd_other _ _ _ _ hu] using h.stUnlink_other hu
    · obtain ⟨a, b, c⟩ := hi.doneOk hd
      exact ⟨a, by rw [b]; rfl, c⟩
    · have hu : u ≠ t := fun e => by rw [e, hp] at he; cases he
      exact (hi.covered hq u hc he).imp (List.mem_erase_of_ne hu).2 fun h => ⟨h.1, by
        by_cases e : s.reqT = t
        · rw [e, hp] at h; cases h.2
        · exact (congrArg popPending (upd_other _ _ _ _ e)).trans h.2⟩
  case waited t res =>
    refine hi.of_step_cov h rfl (fun _ _ => id) (upd_same ..) ?_ hp rfl nofun nofun
    simpa only [actor, upd_same] using h0.stWaited hg
  case rsDone t =>
    obtain ⟨hsl, hcbs⟩ := hg
    rw [hsl] at h0
    obtain ⟨hself, hrq, hsr, hcur⟩ := h0.stRsDone
    refine hi.of_step h rfl (fun u hu h => ?_) (upd_same ..) hself hi.cbsNodup
      (fun _ => ⟨hsr, hcbs, hcur⟩) nofun fun hq u hc he => ?_
    · rw [hsl, hrq] at h
      exact hrq ▸ h.stRsDone_other hu
    · -- all callbacks have run: nobody is exposed any more
      rcases hi.covered hq u hc he with h | ⟨h, _⟩
      · rw [hcbs] at h; cases h
      · rw [hcur] at h; cases h
  case wokeK t still tm =>
    cases still <;>
      exact hi.of_step_cov h rfl (fun _ _ => id) (upd_same ..) (h0.congr rfl nofun nofun nofun nofun nofun) hp rfl
        nofun nofun
  -- the other lines lead between program counters that `Inv3` does not tell apart (`Inv3At.congr`); the
  -- side conditions compare the classifying functions there and hold by computation
  all_goals
    exact hi.of_step_cov h rfl (fun _ _ => id) (upd_same ..)
      (h0.congr (by rfl) (by first | exact id | (intro h; cases h)) (by first | exact id | (intro h; cases h))
        (by intro h; cases h) (by intro h; cases h) (by first | exact fun _ => id | (intro _ h; cases h))) hp rfl
      (by first | exact fun he _ hc => ⟨hc, he⟩ | (intro h; cases h))
      (by first | exact id | (intro h; cases h))

theorem inv3_of_accepted {n : Nat} {f : Bool} {log : List Ev} {s : St}
    (h : runLog step (init n f) log = some s) : Inv s ∧ Inv2 s ∧ Inv3 s :=
  inv_of_runLog (fun s => Inv s ∧ Inv2 s ∧ Inv3 s)
    (fun s e s' hi hs => ⟨step_inv s s' e hi.1 hs, step_inv2 s s' e hi.1 hi.2.1 hs,
      step_inv3 s s' e hi.1 hi.2.1 hi.2.2 hs⟩) ⟨inv_init n f, inv2_init n f, inv3_init n f⟩ h

/-- For the trace form of "no lost stop": a stop-token waiter that has passed its S1 check and has not been
    notified stays in that condition until a notifier pops it or the agent wakes it. -/
theorem exposed_step (s s' : St) (hB : Inv2 s) (e : Ev) (w : Nat)
    (hc : s.curOp w = .swait false) (he : exposed (s.pc w) = true) (h : step s e = some s') :
    (∃ x z d, e = .popAll x z w d) ∨ (∃ x z d, e = .popResume x z w d) ∨ e = .woke w ∨
    (s'.curOp w = .swait false ∧ exposed (s'.pc w) = true) := by
  by_cases hg : popTarget e = some w
  · cases e with
    | popResume x z g d => cases hg; exact .inr (.inl ⟨x, z, d, rfl⟩)
    | popAll x z g d => cases hg; exact .inl ⟨x, z, d, rfl⟩
    | _ => cases hg
  by_cases hne : w ≠ actor e
  · -- another thread's event
    obtain ⟨h1, h2, _⟩ := step_other h hne hg
    exact .inr (.inr (.inr ⟨h2.trans hc, h1 ▸ he⟩))
  -- `w`'s own events: from an exposed program counter it can only go on towards `agent.suspend`
  obtain ⟨p, p', _, hp, hloc, _, rfl⟩ := Step.of_step h
  obtain rfl : w = actor e := Classical.not_not.1 hne
  have hex : exposed p = true := hp ▸ he
  have hop := hB.opOk (actor e)
  rw [hp, hc] at hop
  refine .inr (.inr ?_)
  -- the lines of the text at an exposed program counter: `ul.rel`, `cv.enq`, `sl.rel` and `ag.suspend` lead
  -- to an exposed one again, `ag.woke` is the event named, and a wait without deadline does not sleep (`hop`)
  cases hloc <;> first
    | (cases hex; done) | (cases hop; done) | exact .inl rfl
    | exact .inr ⟨hc, (congrArg exposed (upd_same ..)).trans (by first | rfl | exact hex)⟩

end PikaVerif.CV
