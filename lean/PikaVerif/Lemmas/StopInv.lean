import PikaVerif.Lemmas.StopDtor
/-! All invariants of the stop_state model in one bundle, the one induction over the log, and the state
    lemmas the property theorems are made of. -/
namespace PikaVerif.Stop

/-! ## Who invoked a callback -/

def inlRun (s : St) (c : Nat) : Prop := ∃ a, s.pc a = .body c true ∨ s.pc a = .post c true

/-- A callback that has been invoked was taken from the list by request_stop (`deqd`), or was run from its
    constructor (`ranInl`, set at the constructor's finished store), or that inline run is still in progress. -/
structure InvRun (s : St) : Prop where
  ranWhy : ∀ c, 0 < s.runs c → s.deqd c = true ∨ s.ranInl c = true ∨ inlRun s c

theorem inl_step {s s' : St} {e : Ev} {a c : Nat} (h : step s e = some s')
    (hw : s.pc a = .body c true ∨ s.pc a = .post c true) :
    (s'.pc a = .body c true ∨ s'.pc a = .post c true) ∨ s'.ranInl c = true := by
  by_cases ha : a = actor e
  · obtain ⟨p', hpc, hm⟩ := (step_frame h).move
    rw [← ha] at hm hpc
    rw [hpc, upd_same]
    rcases hw with hw | hw <;> rw [hw] at hm
    · cases hm with
      | cbEnd => exact .inl (.inr rfl)
      | _ => exact .inl (.inl rfl)
    · cases hm with
      | inFin => obtain ⟨-, -, rfl⟩ := step_inFin h; exact .inr (upd_same ..)
      | _ => exact .inl (.inr rfl)
  · rw [step_pc_other h ha]; exact .inl hw

theorem stepRun (s s' : St) (e : Ev) (hB : InvB s) (hi : InvRun s) (h : step s e = some s') : InvRun s' := by
  refine ⟨fun c hc => ?_⟩
  -- `c` had run before, or this is its `cb.begin`
  have hr : 0 < s.runs c ∨ ∃ a inl, e = .cbBegin a c ∧ s.pc a = .exec c inl := by
    rcases (step_frame h).runs with hr | ⟨a, c', inl, he, hp, hr⟩
    · exact .inl (hr ▸ hc)
    · by_cases hcc : c = c'
      · exact .inr ⟨a, inl, hcc ▸ he, hcc ▸ hp⟩
      · rw [hr, upd_other _ _ _ _ hcc] at hc; exact .inl hc
  rcases hr with hr | ⟨a, inl, rfl, hp⟩
  · rcases hi.ranWhy c hr with h2 | h2 | ⟨a, h2⟩
    · exact .inl ((step_frame h).deqd c h2)
    · exact .inr (.inl ((step_frame h).ranInl c h2))
    · rcases inl_step h h2 with h3 | h3
      · exact .inr (.inr ⟨a, h3⟩)
      · exact .inr (.inl h3)
  · obtain ⟨inl', -, hp', rfl⟩ := step_cbBegin h
    rw [hp] at hp'; cases hp'
    cases inl
    · exact .inl (hB.winP a c (by rw [hp]; rfl))
    · exact .inr (.inr ⟨a, .inl (upd_same ..)⟩)

/-! ## The bundle -/

/-- Everything that holds after an accepted log of the repaired lock loops.  The layers that speak of
    threads (D, C) need identities that tell the threads apart (`Faith`), a constant of the run. -/
structure Inv (s : St) : Prop where
  A : InvA s
  B : InvB s
  S : InvS s
  U : InvU s
  Run : InvRun s
  finTop : ∀ a, s.pc a = .fin → a < s.K
  thr : Faith s → InvF s

theorem Inv.D {s : St} (hi : Inv s) (hf : Faith s) : InvD s := (hi.thr hf).D

theorem Inv.C {s : St} (hi : Inv s) (hf : Faith s) : InvC s := (hi.thr hf).C

/-- The invariant of the faithful runs: everything that holds after every accepted log of the repaired lock loops
    (`Inv`), and identities that tell the threads apart (`Faith`), under which the layers D and C hold as well. -/
structure InvSafe (s : St) : Prop where
  inv : Inv s
  faith : Faith s

theorem Inv.step {s s' : St} {e : Ev} (hi : Inv s) (h : step s e = some s') : Inv s' :=
  have hdtor := step_dtor hi.A hi.B h
  { A := stepA s s' e hi.A h
    B := stepB s s' e hi.A hi.B h
    S := stepS s s' e hi.S h
    U := hdtor.1 hi.U
    Run := stepRun s s' e hi.B hi.Run h
    finTop := finTop_step s s' e hi.finTop h
    thr := fun hf' =>
      have hf := (step_faith_iff h).1 hf'
      hdtor.2 hi.S hf (hi.thr hf) }

theorem inv_init (n K : Nat) (ident : Nat → Nat) (fc : Bool) (srcs : Nat) : Inv (init n K ident true fc srcs) :=
  ⟨invA_init .., invB_init .., invS_init .., invU_init .., ⟨nofun⟩,
   finTop_init n K ident true fc srcs, fun _ => ⟨invD_init .., nofun, nofun, nofun⟩⟩

theorem inv_of_accepted {n K : Nat} {ident : Nat → Nat} {fc : Bool} {srcs : Nat} {log : List Ev} {s : St}
    (h : runLog step (init n K ident true fc srcs) log = some s) : Inv s :=
  inv_of_runLog Inv (fun _ _ _ hi hs => hi.step hs) (inv_init n K ident fc srcs) h

/-- The constants of a run that the invariants take as hypotheses. -/
theorem consts_of_accepted {n K : Nat} {ident : Nat → Nat} {fa fc : Bool} {srcs : Nat} {log : List Ev} {s : St}
    (hK : 0 < K) (hid : ∀ a b, ident a = ident b ↔ a % K = b % K)
    (h : runLog step (init n K ident fa fc srcs) log = some s) : Faith s ∧ s.fixCtor = fc :=
  inv_of_runLog (fun s => Faith s ∧ s.fixCtor = fc)
    (fun s e s' hi hs => ⟨step_faith s s' e hs hi.1, (step_consts s s' e hs).2.2.2.2.trans hi.2⟩) ⟨⟨hK, hid⟩, rfl⟩ h

/-! ## State lemmas -/

/-- the callback object `c` exists and no destructor of it has returned or is even past its
    last access to the stop state (only the `return` of `remove_callback` left) -/
def intact (s : St) (c : Nat) : Prop :=
  s.life c ≠ .dead ∧ s.life c ≠ .new ∧ ∀ b, retUnreg (s.pc b) ≠ some c

theorem intact_not_gone {s : St} {c : Nat} (h : intact s c) : ¬ gone s c := by
  exact fun hg => hg.elim h.1 (h.2.2 _)

/-- While request_stop `w` is between the store of `is_removed_` and the finished store for `c`, its local
    `is_removed` is set exactly when the destructor of `c` has returned or is at its `return`: `←` is layer C,
    `→` is `InvU.rem` with `InvB.dying`. -/
theorem Inv.flag_iff_gone {s : St} (hi : Inv s) (hf : Faith s) {w c : Nat} (hw : runPhase (s.pc w) = some c) :
    s.remFlag w = true ↔ gone s c := by
  have hC := hi.C hf
  refine ⟨fun hfl => ?_, fun hg => hg.elim (hC.convD w c hw) (hC.convR w c _ hw)⟩
  have hch := hi.U.rem w c hw hfl
  have hpu := (hi.B.cb c).deqPushed (hi.B.winP w c (runPhase_win hw))
  cases hl : s.life c with
  | new => have := ((hi.B.cb c).fresh hl).1; rw [hpu] at this; cases this
  | ctor | live => exact absurd (.inl (by rw [hl]; rfl)) hch
  | dead => exact .inl hl
  | dying => exact (unregOf_split (hi.B.dying c hl)).elim (fun h => absurd (.inr ⟨_, h⟩) hch) .inr

theorem Inv.pending_intact {s : St} (hi : Inv s) (hf : Faith s) {c : Nat} (hd : s.deqd c = true)
    (hr : s.runs c = 0) : intact s c := by
  refine ⟨((hi.D hf).pend c hd hr).1, fun hn => ?_, ((hi.D hf).pend c hd hr).2⟩
  rw [((hi.B.cb c).fresh hn).2.1] at hd; cases hd

theorem Inv.ctor_intact {s : St} (hi : Inv s) {c : Nat} (hl : s.life c = .ctor) : intact s c := by
  refine ⟨by simp [hl], by simp [hl], fun b hb => ?_⟩
  rw [hi.B.unregP b c (unregDone_unregOf (retUnreg_unregDone hb))] at hl; cases hl

/-- once the winning request_stop has left its callback loop the list is empty … -/
theorem list_nil_of_done {s : St} (hA : InvA s) (hq : s.req = true)
    (hdone : ∀ w, s.winner = some w → wAct (s.pc w) = 0) : s.list = [] := by
  cases hw : s.winner with
  | none => rw [hA.winReq2 hw] at hq; cases hq
  | some w =>
    apply Classical.byContradiction
    intro hne
    have := hA.listWin hne w hw
    rw [hdone w hw] at this; cases this

/-- … and every callback it took from the list has been invoked: before the invocation its owner,
    the winner, is still at `pre` or `exec` -/
theorem runs_of_deqd_of_done {s : St} (hB : InvB s) (hdone : ∀ w, s.winner = some w → wAct (s.pc w) = 0)
    {c : Nat} (hd : s.deqd c = true) : s.runs c = 1 := by
  have hle := (hB.cb c).runsLe
  by_cases h0 : s.runs c = 0
  · have hz := hdone _ ((hB.cb c).deqWinner hd)
    rcases hB.deqRuns c hd h0 with hpc | hpc <;> rw [hpc] at hz <;> cases hz
  · omega

end PikaVerif.Stop
