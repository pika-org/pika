import PikaVerif.Props.C09
import PikaVerif.Lemmas.LatchU2
/-!
# Final states of maximal runs of a latch program (C09u)

`PInv` (what a run of a program carries along), `final_fin_or_blocked`, `final_covered`,
`final_short`: the final states; besides, `pstuck_of_rest` (a sufficient condition for a state to
be maximal, for the counterexamples) and `progCost_le`, `bound_le` (the bound is linear).
-/
namespace PikaVerif.Latch
open PikaVerif.C09

variable {e : Ev} {p p' : PSt} {n : Nat} {c : Int} {prog : Nat → List Op}

theorem complete : ProgComplete step pstep PSt.s PSt.prog .inv .done :=
  ⟨fun {p e} h1 h2 h => by
    cases e <;> first | exact absurd rfl (h1 _ _) | exact absurd rfl (h2 _) | simpa [pstep] using h,
   fun hp h => by simpa [pstep, hp] using h, fun hp h => by simpa [pstep, hp] using h⟩

theorem pstuck_not_idle (h : PStuck p) (t : Nat) (ht : t < p.s.n) : p.s.pc t ≠ .idle := fun hidle => by
  rcases complete.stuck_thread h t with h | ⟨o, h⟩ <;> simp [step, ht, hidle] at h

structure PInv (n : Nat) (c : Int) (prog0 : Nat → List Op) (p : PSt) : Prop where
  reach : LReachable p.s
  nEq : p.s.n = n
  initEq : p.s.init = c
  tot : totSum p = progTotal n prog0
  free : progFree n prog0 ≤ freeSum p
  fin : FinOk p

theorem PInv.inv {prog0 : Nat → List Op} (hi : PInv n c prog0 p) : Inv p.s :=
  let ⟨_, _, _, hl⟩ := hi.reach; (inv_of_accepted hl).1

theorem pinv_pinit (n : Nat) (c : Int) (prog : Nat → List Op) : PInv n c prog (pinit n c prog) :=
  ⟨⟨n, c, [], rfl⟩, rfl, rfl, (cover_pinit n c prog).1,
    Nat.le_of_eq (cover_pinit n c prog).2.symm, fun t ht => by simp [pinit, init] at ht⟩

theorem pinv_step (hi : PInv n c prog p) (h : pstep p e = some p') : PInv n c prog p' :=
  have hs := (layer.sound h).1
  ⟨hi.reach.extend [e] (by simp [runLog, hs]), (step_n hs).1.trans hi.nEq,
    (step_n hs).2.trans hi.initEq, (cover_step h).1.trans hi.tot,
    Nat.le_trans hi.free (cover_step h).2, finOk_step hi.fin h⟩

theorem pinv_of_run {log : List Ev} (h : runLog pstep (pinit n c prog) log = some p) :
    PInv n c prog p :=
  inv_of_runLog (PInv n c prog) (fun _ _ _ hi hs => pinv_step hi hs) (pinv_pinit n c prog) h

theorem final_fin_or_blocked (hi : PInv n c prog p) (hst : PStuck p) (t : Nat) (ht : t < n) :
    (p.s.pc t = .fin ∧ p.prog t = []) ∨ LBlocked p.s t := by
  have htn : t < p.s.n := by rw [hi.nEq]; exact ht
  rcases C09_latch_stuck_only_when_blocked p.s hi.reach (complete.stuck hst) t htn with h | h | h
  · exact absurd h (pstuck_not_idle hst t htn)
  · exact Or.inl ⟨h, hi.fin t h⟩
  · exact Or.inr h

theorem counter_ge (hi : PInv n c prog p) : c - (progTotal n prog : Int) ≤ p.s.counter := by
  have := hi.tot; have := hi.inv.account; have := hi.initEq
  simp only [totSum] at *; omega

theorem final_decSum_ge (hi : PInv n c prog p) (hst : PStuck p) : progFree n prog ≤ p.s.decSum := by
  have hz : sumTo p.s.n (remFree p) = 0 := by
    apply sumTo_eq_zero
    intro t ht
    rcases final_fin_or_blocked hi hst t (by rw [← hi.nEq]; exact ht) with h | h
    · simp [remFree, h.1, h.2, pend, inWait, Latch.free]
    · simp [remFree, h.1, pend, inWait]
  have := hi.free
  simp only [freeSum, hz] at this
  omega

/-- **covered programs**: all threads finished -/
theorem final_covered (hi : PInv n c prog p) (hst : PStuck p)
    (hpre : (progTotal n prog : Int) ≤ c) (hcov : c ≤ (progFree n prog : Int)) :
    p.s.counter = 0 ∧ ∀ t, t < n → p.s.pc t = .fin ∧ p.prog t = [] := by
  have h1 := counter_ge hi
  have h2 := final_decSum_ge hi hst
  have h3 := hi.inv.account
  rw [hi.initEq] at h3
  have hc : p.s.counter = 0 := by omega
  refine ⟨hc, fun t ht => ?_⟩
  rcases final_fin_or_blocked hi hst t ht with h | h
  · exact h
  · exact absurd hc (C09_latch_all_released p.s hi.reach (complete.stuck hst) t h)

def Nw (prog0 : Nat → List Op) (p : PSt) : Prop :=
  ∀ t, hasWait (prog0 t) = false → hasWait (p.prog t) = false ∧ inWait (p.s.pc t) = false

theorem nw_step (prog0 : Nat → List Op) (hw : Nw prog0 p) (h : pstep p e = some p') :
    Nw prog0 p' := by
  intro u hu
  obtain ⟨hs, ⟨t, o, rest, rfl, hp, hp'⟩ | ⟨hne, hp', _⟩⟩ := layer.sound h
  · obtain ⟨_, _, hs⟩ := step_inv hs
    rw [hs, hp']
    by_cases hut : u = t
    · subst hut
      have h1 := (hw u hu).1
      rw [hp] at h1
      simp only [hasWait, Bool.or_eq_false_iff] at h1
      simp only [upd_same]
      refine ⟨h1.2, ?_⟩
      cases o <;> simp [isWaitOp] at h1 <;> simp [inWait]
    · simp only [upd_other _ _ _ _ hut]; exact hw u hu
  · obtain ⟨t, -, ho, -, -, hwt, -⟩ := acc_step hne hs
    rw [hp']
    refine ⟨(hw u hu).1, ?_⟩
    by_cases hut : u = t
    · subst hut
      cases hx : inWait (p'.s.pc u) with
      | false => rfl
      | true => have := hwt hx; rw [(hw u hu).2] at this; cases this
    · rw [(ho u hut).2.2.1]; exact (hw u hu).2

/-- **short programs**: every thread whose program contains a `wait` / `arrive_and_wait` is blocked,
    every other thread has finished -/
theorem final_short {log : List Ev} (h : runLog pstep (pinit n c prog) log = some p) (hst : PStuck p)
    (hshort : (progTotal n prog : Int) < c) :
    0 < p.s.counter ∧ ∀ t, t < n →
      (hasWait (prog t) = true → LBlocked p.s t) ∧
      (hasWait (prog t) = false → p.s.pc t = .fin ∧ p.prog t = []) := by
  -- the updates never reach the count, so the counter stays positive and `Wt` is kept all along
  obtain ⟨hi, hw, hnw⟩ := inv_of_runLog (fun p => PInv n c prog p ∧ Wt prog p ∧ Nw prog p)
    (fun p e p' hi hs =>
      have hi' := pinv_step hi.1 hs
      ⟨hi', wt_step prog hi.1.inv (by have := counter_ge hi'; omega) hi.2.1 hs, nw_step prog hi.2.2 hs⟩)
    ⟨pinv_pinit n c prog, fun t ht => Or.inl ht, fun u hu => ⟨hu, by simp [pinit, init, inWait]⟩⟩ h
  refine ⟨by have := counter_ge hi; omega, fun t ht => ?_⟩
  rcases final_fin_or_blocked hi hst t ht with h1 | h1
  · refine ⟨fun hwt => ?_, fun _ => h1⟩
    rcases hw t hwt with h2 | h2
    · rw [h1.2] at h2; simp [hasWait] at h2
    · rw [h1.1] at h2; simp [waitingPc] at h2
  · refine ⟨fun _ => h1, fun hn => ?_⟩
    -- a blocked thread is inside a waiting operation: its program contains one
    have := (hnw t hn).2
    rw [h1.1] at this; simp [inWait] at this

theorem pstuck_of_rest (p : PSt) (hl : p.s.lock = none)
    (h : ∀ t, t < p.s.n → p.s.pc t = .fin ∨ (p.s.pc t = .susp false ∧ p.s.tok t = 0)) : PStuck p := by
  intro e
  cases e <;> simp only [pstep, step] <;> (repeat' split) <;>
    first
    | rfl
    | (simp_all; done)
    | grind

theorem progCost_le : ∀ l : List Op, progCost l ≤ 14 * l.length
  | [] => Nat.le_refl _
  | o :: l => by
    have := progCost_le l
    simp only [progCost, List.length_cons]
    cases o <;> simp only [opRank] <;> omega

theorem bound_le (n : Nat) (prog : Nat → List Op) :
    bound n prog ≤ n + 14 * sumTo n (fun t => (prog t).length) := by
  have h1 : sumTo n (fun t => progCost (prog t)) ≤ sumTo n (fun t => 14 * (prog t).length) :=
    sumTo_mono (fun t _ => progCost_le (prog t))
  have h2 : ∀ m, sumTo m (fun t => 14 * (prog t).length) = 14 * sumTo m (fun t => (prog t).length) := by
    intro m
    induction m with
    | zero => rfl
    | succ k ih => simp only [sumTo_succ, ih]; omega
  simp only [bound]
  rw [h2] at h1
  omega

end PikaVerif.Latch
