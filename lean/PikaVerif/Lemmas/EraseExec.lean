import PikaVerif.Lemmas.EraseSim
import PikaVerif.Lemmas.EraseLed
/-! One pass over the branches of `exec` (shipped configuration) for its three properties: the
    invariant is kept, the step is the specification's step, the events are accepted by the ledger. -/
namespace PikaVerif.Erase

/-- The outcome `o` of an operation on `s` against the outcome `a` of the specification: `o` keeps
    the invariant, abstracts to `a`, and its events are accepted from the ledger of `s` and lead to
    the ledger of its state. -/
def Sound (c : Cfg) (s : St) (a : ASt × Res) (o : Out) : Prop :=
  Inv c o.st ∧ (absSt o.st, o.res.core) = a ∧ runLog ledStep (ledOf s) o.evs = some (ledOf o.st)

variable {c : Cfg} {s : St} {p : Prop} [Decidable p] {a b : ASt × Res} {x y : Out}

/-- both sides branch on the same condition -/
theorem Sound.ite (h1 : p → Sound c s a x) (h2 : ¬p → Sound c s b y) :
    Sound c s (if p then a else b) (if p then x else y) := by
  split
  · exact h1 ‹_›
  · exact h2 ‹_›

theorem Sound.iteOut (h1 : p → Sound c s a x) (h2 : ¬p → Sound c s a y) : Sound c s a (if p then x else y) :=
  ite_ind (P := Sound c s a) h1 h2

attribute [local simp] ASt.construct ASt.set absSt_arm absSlot Res.core Slot.emptyW Slot.dead

/-- `execStore` is sound.  The invariant: `Inv.storeFail` / `Inv.storeOk`, with `Holds.store` for the
    new slot.  The trace: its events are `C a`, `dEv` of the old object, then `F a, D a` (the
    constructor threw) or `inEv b a, D a`; they are replayed one by one against `born 1`, `dieO`,
    (`born 1`,) `die a` (`ok` below), which is the ledger of the result up to the order in which the
    model applies `born` and `dieO`.  The temporary `a = s.next` stays alive until its own `D`
    because the old object's id is below `s.next` (`hA`). -/
theorem store_sound (hc : c.sbo = false) (hpin : c.pinned = false) (hi : Inv c s)
    (i : Nat) (ty : PTy) (v : Int) (cp fresh : Bool) :
    Sound c s (if i < c.n ∧ (s.slot i).live = !fresh ∧ admits (c.kind i) ty cp = true then
        (absSt s).construct i ty v (if fresh then .dead else .empty) else (absSt s, .invalid))
      (execStore c s i ty v cp fresh) := by
  have hsl := hi.slots i
  have ha := hi.alive (i := i) rfl
  have hA : Alive ((s.born 1).dieO (s.slot i).obj) s.next :=
    (hi.bornAlive 1 (Nat.le_refl _) (Nat.lt_succ_self _)).dieO fun y hy e => absurd (ha y hy).1 (by omega)
  have ok : ∀ st, ledOf st = ledOf ((((s.born 1).dieO (s.slot i).obj).born 1).die s.next) →
      runLog ledStep (ledOf s) (.C s.next v :: (dEv (s.slot i).obj ++ [inEv cp (s.next + 1) s.next, .D s.next])) =
        some (ledOf st) := by
    intro st hst
    rw [led_C, led_dEv (fun x hx => (ha x hx).born 1), led_in (b := s.next + 1) (dieO_next (s.born 1) _).symm hA,
      led_D (hA.born 1), hst]
    rfl
  simp only [execStore, hpin, Bool.false_eq_true, and_false, false_and, if_false, List.cons_append,
    List.nil_append]
  refine Sound.ite (fun hg => ?_) (fun _ => ⟨hi, rfl, rfl⟩)
  obtain ⟨hin, hl, hadm⟩ := hg
  refine Sound.iteOut (fun h => absurd (hsl.holds.fnN h.2.2) (by simp [h.2.1])) (fun _ => Sound.iteOut (fun harm => ?_)
    (fun harm => Sound.iteOut (fun hf => Sound.iteOut (fun hv => ?_) (fun _ => ?_)) (fun hf => ?_)))
  · refine ⟨Inv.tick (hi.storeFail rfl ?_ ?_), ?_, ?_⟩
    · cases fresh
      · rfl
      · exact hsl.dead (by simpa using hl)
    · cases fresh
      · exact slotOk_emptyW hin
      · exact hsl
    · cases fresh
      · simp [*]
      · simp [harm, show (s.slot i).live = false by simpa using hl]
    · rw [led_C, led_dEv (fun x hx => (ha x hx).born 1), led_use hA (.inr (.inr rfl)), led_D hA]
      rfl
  · cases ho : (s.slot i).obj with
    | some o =>
      have ho' := hsl.holds.fnV o ho hf
      have := ok _ (by rw [ho])
      rw [ho] at this
      refine ⟨Inv.tick (hi.storeOk ho rfl rfl (slotOk_live hin rfl
        (Holds.store hc hadm rfl (by simp [hf, hv]) ?_))), by simp [*], this⟩
      simp [hf, ho'.2, Option.some.inj (ho'.1.symm.trans hv)]
    | none => exact absurd (hsl.holds.fnN ho) (by simp [hv])
  -- another class of callable, or a sender: nothing of the old slot is reused
  all_goals exact ⟨Inv.tick (hi.storeOk rfl rfl rfl (slotOk_live hin rfl
    (Holds.store hc hadm rfl (by simp [hf]) (by simp [hf])))), by simp [*],
    ok _ (by cases (s.slot i).obj <;> rfl)⟩

/-- Every branch of `exec` is one of the moves and one step of the specification, and its events,
    read in order, rebuild the ledger of the state it produces. -/
theorem exec_sound (c : Cfg) (s : St) (hc : c.sbo = false) (hpin : c.pinned = false) (hi : Inv c s) (op : Op) :
    Sound c s (specExec c (absSt s) op) (exec c s op) := by
  have same : ∀ {r : Res}, Sound c s (absSt s, r.core) ⟨s, r, []⟩ := ⟨hi, rfl, rfl⟩
  cases op <;> simp only [exec, specExec, absSt_live, hpin, Bool.false_eq_true, if_false]
  case new i =>
    exact Sound.ite (fun h => ⟨hi.drop (o := none) ((hi.slots i).dead h.2) rfl (slotOk_emptyW h.1),
      by simp [*], rfl⟩) (fun _ => same)
  case newp i ty v cp => exact store_sound hc hpin hi i ty v cp true
  case set i ty v cp => exact store_sound hc hpin hi i ty v cp false
  case del i =>
    exact Sound.ite (fun _ => ⟨hi.drop rfl rfl (slotOk_dead c i), by simp [*], led_drop (hi.alive rfl)⟩)
      (fun _ => same)
  case reset i =>
    exact Sound.ite (fun h => ⟨hi.drop rfl rfl (slotOk_emptyW h.1), by simp [*], led_drop (hi.alive rfl)⟩)
      (fun _ => same)
  case copy i j =>
    refine Sound.ite (fun hg => ?_) (fun _ => same)
    obtain ⟨hin, -, hl, hlj, hk, -⟩ := hg
    have Hi := (hi.slots i).holds
    have Hj : Holds (c.kind i) _ _ := hk ▸ (hi.slots j).holds
    have hai := hi.alive (i := i) rfl
    by_cases hij : i = j
    · subst hij
      simp only [if_true]
      refine Sound.iteOut (fun _ => ?_) (fun _ => same)
      cases (s.slot i).obj <;> exact same
    simp only [hij, if_false]
    cases hoj : (s.slot j).obj with
    | none =>
      rw [absSt_empty hlj hoj]
      refine Sound.iteOut (fun hf => Sound.iteOut (fun hv => ?_) (fun _ => ?_)) (fun hf => ?_)
      · cases hoi : (s.slot i).obj with
        | none =>
          have e := upd_self (absSt s).slots i
          rw [absSt_empty hl hoi] at e
          exact ⟨hi, by simp [e]; rfl, rfl⟩
        | some oi => exact absurd hv (by simp [(Hi.fnV oi hoi hf).1, Hj.fnN hoj])
      · exact ⟨hi.drop rfl rfl (slotOk_live hin hl (.none (Hj.fnN hoj))), by simp [*], led_drop hai⟩
      · exact ⟨hi.drop rfl rfl (slotOk_live hin hl (.none (Hi.sndV (Bool.of_not_eq_true hf)))),
          by simp [*], led_drop hai⟩
    | some oj =>
      -- the source object outlives the target's old object
      have hA : Alive (s.dieO (s.slot i).obj) oj.id :=
        (hi.alive hoj oj rfl).dieO fun y hy => (hi.noShare hij hy hoj).symm
      rw [absSt_full hlj hoj]
      rw [hoj] at Hj
      refine Sound.iteOut (fun hf => Sound.iteOut (fun hv => ?_) (fun _ => ?_)) (fun hf => ?_)
      · cases hoi : (s.slot i).obj with
        | none => exact absurd hv (by simp [Hi.fnN hoi, (Hj.fnV oj rfl hf).1])
        | some oi =>
          rw [hoi] at hA Hi
          refine Sound.iteOut (fun harm => ⟨?_, by simp [*], ?_⟩)
            (fun harm => ⟨?_, by simp [*], ?_⟩)
          · exact Inv.tick (hi.drop (o := some oi) hoi rfl (slotOk_live hin hl (.none rfl)))
          · rw [led_D (hai oi hoi), led_use (s := s.die oi.id) hA (.inr (.inr rfl))]; rfl
          · refine Inv.tick (hi.assign (o := some oi) hoi rfl rfl (slotOk_live hin hl ?_))
            have e : oi.ty = oj.ty :=
              Option.some.inj ((Hi.fnV oi rfl hf).1.symm.trans (hv.trans (Hj.fnV oj rfl hf).1))
            exact (hv ▸ Hj).congr rfl (by simp [(Hi.fnV oi rfl hf).2, (Hj.fnV oj rfl hf).2, e])
          · rw [led_D (hai oi hoi), led_K (s := s.die oi.id) (b := s.next) rfl hA]; rfl
      · refine Sound.iteOut (fun harm => ⟨?_, by simp [*], ?_⟩)
          (fun harm => ⟨?_, by simp [*], ?_⟩)
        · exact Inv.tick (hi.drop rfl rfl (slotOk_live hin hl (.none rfl)))
        · rw [led_dEv hai, led_use hA (.inr (.inr rfl))]; rfl
        · exact Inv.tick (hi.assign rfl rfl rfl
            (slotOk_live hin hl (Hj.congr rfl (Hj.fnV oj rfl hf).2.symm)))
        · rw [led_dEv hai, led_K (dieO_next s _).symm hA]; cases (s.slot i).obj <;> rfl
      · have hf := Bool.of_not_eq_true hf
        refine Sound.iteOut (fun harm => ⟨?_, by simp [*], ?_⟩)
          (fun harm => ⟨?_, by simp [*], ?_⟩)
        · exact Inv.tick (hi.drop rfl rfl (slotOk_live hin hl (.none (Hi.sndV hf))))
        · rw [led_dEv hai, led_use hA (.inr (.inr rfl))]; rfl
        · exact Inv.tick (hi.assign rfl rfl rfl
            (slotOk_live hin hl ((Hi.sndV hf).trans (Hj.sndV hf).symm ▸ Hj.congr rfl rfl)))
        · rw [led_dEv hai, led_K (dieO_next s _).symm hA]; cases (s.slot i).obj <;> rfl
  case move i j =>
    refine Sound.ite (fun hg => ?_) (fun _ => same)
    obtain ⟨hin, hjn, hl, hlj, hm⟩ := hg
    have Hi := (hi.slots i).holds
    have Hj := ((hi.slots j).holds).moved hm
    have hai := hi.alive (i := i) rfl
    refine Sound.ite (fun _ => same) (fun hij => Sound.iteOut (fun _ => ⟨?_, ?_, ?_⟩) (fun hf => ?_))
    · exact hi.transfer hij rfl rfl rfl rfl (slotOk_live hin hl Hj) (slotOk_emptyW hjn)
    · simp [absSt_slots, *]
    · rw [led_drop hai]; cases (s.slot i).obj <;> cases (s.slot j).obj <;> rfl
    · have hf := Bool.of_not_eq_true hf
      cases hoj : (s.slot j).obj with
      | some oj =>
        rw [hoj] at Hj
        refine Sound.iteOut (fun _ => ⟨?_, by simp [absSt_slots, hl, hlj, hoj], led_drop hai⟩)
          (fun h => absurd (Hj.sndH oj rfl hf) h)
        exact hi.transfer (oj := some oj) hij rfl hoj rfl rfl
          (slotOk_live hin hl ((Hi.sndV hf).trans (Hj.sndV hf).symm ▸ Hj)) (slotOk_emptyW hjn)
      | none =>
        have e := upd_self (absSt s).slots j
        rw [absSt_empty hlj hoj] at e
        exact ⟨hi.drop rfl rfl (slotOk_live hin hl (.none (Hi.sndV hf))),
          by simp [absSt_empty hlj hoj, e, hl], led_drop hai⟩
  case cctor i j =>
    refine Sound.ite (fun hg => ?_) (fun _ => same)
    obtain ⟨hin, -, hd, hlj, hk, -⟩ := hg
    have hd' := (hi.slots i).dead hd
    have Hj : Holds (c.kind i) _ _ := hk ▸ (hi.slots j).holds
    cases hoj : (s.slot j).obj with
    | some oj =>
      have haj := hi.alive hoj oj rfl
      have e := upd_self (absSt s).slots i
      rw [absSt_dead hd] at e
      rw [absSt_full hlj hoj]
      rw [hoj] at Hj
      refine Sound.iteOut (fun harm => ⟨hi.tick, by simp [*], by rw [led_use haj (.inr (.inr rfl))]; rfl⟩)
        (fun harm => ⟨?_, by simp [*], by rw [led_K rfl haj]; rfl⟩)
      refine Inv.tick (hi.assign (o := none) hd' rfl rfl (slotOk_live hin rfl (Hj.congr rfl ?_)))
      cases hf : (c.kind i).isFn
      · rfl
      · exact (Hj.fnV oj rfl hf).2.symm
    | none =>
      rw [absSt_empty hlj hoj]
      exact ⟨hi.drop (o := none) hd' rfl (slotOk_live hin rfl (.none (Hj.fnN hoj))), by simp [*], rfl⟩
  case mctor i j =>
    refine Sound.ite (fun hg => ?_) (fun _ => same)
    obtain ⟨hin, hjn, hd, hl, hm⟩ := hg
    have hij : i ≠ j := fun e => by rw [e, hl] at hd; cases hd
    have hd := (hi.slots i).dead hd
    have Hj := ((hi.slots j).holds).moved hm
    cases hoj : (s.slot j).obj with
    | some oj =>
      rw [hoj] at Hj
      refine Sound.iteOut (fun _ => ⟨?_, by simp [absSt_full hl hoj], rfl⟩)
        (fun h => absurd (.inr (Hj.sndH oj rfl (by simpa using mt .inl h))) h)
      exact hi.transfer (o := none) (oj := some oj) hij hd hoj rfl rfl
        (slotOk_live hin rfl Hj) (slotOk_emptyW hjn)
    | none =>
      exact ⟨hi.transfer (o := none) (oj := none) hij hd hoj rfl rfl (slotOk_emptyW hin) (slotOk_emptyW hjn),
        by simp [absSt_empty hl hoj], rfl⟩
  case swap i j =>
    refine Sound.ite (fun hg => ?_) (fun _ => same)
    obtain ⟨hin, hjn, hli, hlj, hk, -⟩ := hg
    refine Sound.iteOut (fun hij => ⟨hi, by subst hij; simp; rfl, rfl⟩) (fun hij => ⟨?_, ?_, ?_⟩)
    · exact hi.swap hij rfl rfl rfl rfl (slotOk_live hin hli (hk ▸ (hi.slots j).holds))
        (slotOk_live hjn hlj (hk ▸ (hi.slots i).holds))
    · simp [absSt_slots, *]
    · cases (s.slot i).obj <;> cases (s.slot j).obj <;> rfl
  case empty i =>
    refine Sound.ite (fun h => ⟨hi, ?_, rfl⟩) (fun _ => same)
    cases ho : (s.slot i).obj <;> simp [absSt, absSlot, h.2, ho]
  case call i x =>
    have H := (hi.slots i).holds
    refine Sound.ite (fun h => ?_) (fun _ => same)
    cases ho : (s.slot i).obj with
    | none =>
      rw [absSt_empty h.2.1 ho, H.fnN ho]
      exact same
    | some o =>
      rw [absSt_full h.2.1 ho, (H.fnV o ho h.2.2).1]
      exact Sound.iteOut (fun _ => ⟨hi, by simp [-Res.core, callRes_core], rfl⟩) (fun h' => absurd rfl h')
  case run i =>
    have H := (hi.slots i).holds
    refine Sound.ite (fun h => ?_) (fun _ => same)
    cases ho : (s.slot i).obj with
    | none => rw [absSt_empty h.2.1 ho]; exact same
    | some o =>
      have ha := hi.alive ho o rfl
      rw [absSt_full h.2.1 ho]
      refine Sound.iteOut (fun _ => ⟨?_, by simp [-Res.core, absSlot, h.2.1, complRes_core],
        by rw [led_use ha (.inl rfl), led_D ha]; rfl⟩) (fun h' => absurd (H.sndH o ho h.2.2) h')
      exact hi.drop (o := some o) ho rfl (slotOk_live h.1 h.2.1 (.none (H.sndV h.2.2)))
  case runc i =>
    refine Sound.ite (fun h => ?_) (fun _ => same)
    cases ho : (s.slot i).obj with
    | none => rw [absSt_empty h.2.1 ho]; exact same
    | some o =>
      rw [absSt_full h.2.1 ho]
      exact ⟨hi, by simp [-Res.core, complRes_core], by rw [led_use (hi.alive ho o rfl) (.inr (.inl rfl))]; rfl⟩
  case arm k => exact ⟨hi.arm k, rfl, rfl⟩

variable (c : Cfg) (s : St) (hc : c.sbo = false) (hpin : c.pinned = false)
include hc hpin

theorem exec_inv (hi : Inv c s) (op : Op) : Inv c (exec c s op).st := (exec_sound c s hc hpin hi op).1

/-- One step of the implementation model is one step of the specification. -/
theorem sim_exec (hi : Inv c s) (op : Op) :
    (absSt (exec c s op).st, (exec c s op).res.core) = specExec c (absSt s) op := (exec_sound c s hc hpin hi op).2.1

theorem sim_st (hi : Inv c s) (op : Op) : absSt (exec c s op).st = (specExec c (absSt s) op).1 :=
  congrArg Prod.fst (sim_exec c s hc hpin hi op)

theorem sim_res (hi : Inv c s) (op : Op) : (exec c s op).res.core = (specExec c (absSt s) op).2 :=
  congrArg Prod.snd (sim_exec c s hc hpin hi op)

/-- A history keeps the invariant, gives the results of the specification, and its events are
    accepted by the ledger. -/
theorem run_sound (ops : List Op) : ∀ s, Inv c s →
    Inv c (finalSt c s ops) ∧ (runOps c s ops).2.map (·.1.core) = specRun c (absSt s) ops ∧
    runLog ledStep (ledOf s) ((runOps c s ops).2.map (·.2)).flatten = some (ledOf (finalSt c s ops)) := by
  induction ops with
  | nil => exact fun s hi => ⟨hi, rfl, rfl⟩
  | cons op ops ih =>
    intro s hi
    obtain ⟨h1, h2, h3⟩ := exec_sound c s hc hpin hi op
    obtain ⟨k1, k2, k3⟩ := ih _ h1
    refine ⟨k1, ?_, ?_⟩
    · simp only [runOps_cons, List.map_cons, specRun, ← h2, k2]
    · simp only [runOps_cons, List.map_cons, List.flatten_cons, runLog_append, h3]
      exact k3

end PikaVerif.Erase
