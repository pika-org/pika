import PikaVerif.Core.Run
import PikaVerif.Core.Sum
/-! Small general lemmas used by the mutex proofs.  `sumTo_flag_le_one` (exclusive flags count to at
    most 1, from `sumTo_le_one`) serves the no-overlap theorems of all three models in `Props/C06.lean`;
    `occ_mark` is the bookkeeping of one `cs.enter` / `cs.exit` mark (`Lemmas/Mtx2.lean`);
    `ite_upd` normalises a conditional `upd` (`Lemmas/MtxStep.lean`). -/
namespace PikaVerif

/-- A conditional update is an update by a conditional value, so that every register map of a
    successor state is the old map or an `upd` of it at the moving task. -/
theorem ite_upd {α : Type} (c : Prop) [Decidable c] (f : Nat → α) (t : Nat) (v : α) :
    (if c then upd f t v else f) = upd f t (if c then v else f t) := by
  split
  · rfl
  · exact (upd_self f t).symm

theorem sumTo_le_one {n : Nat} {f : Nat → Nat} (h1 : ∀ t, f t ≤ 1)
    (hu : ∀ t u, t < n → u < n → 0 < f t → 0 < f u → t = u) : sumTo n f ≤ 1 := by
  induction n with
  | zero => simp
  | succ k ih =>
    simp only [sumTo_succ]
    by_cases hk : f k = 0
    · have := ih (fun t u ht hu' => hu t u (Nat.lt_succ_of_lt ht) (Nat.lt_succ_of_lt hu'))
      omega
    · have hz : sumTo k f = 0 := by
        apply sumTo_eq_zero
        intro t ht
        by_cases hft : f t = 0
        · exact hft
        · have := hu t k (Nat.lt_succ_of_lt ht) (Nat.lt_succ_self k) (by omega) (by omega)
          omega
      have := h1 k
      omega

theorem sumTo_flag_le_one {n : Nat} {c : Nat → Bool} (h : ∀ t u, c t = true → c u = true → t = u) :
    sumTo n (fun t => if c t then 1 else 0) ≤ 1 := by
  have pos : ∀ t, 0 < (if c t then 1 else 0) → c t = true := fun t ht => by
    cases hc : c t
    · rw [hc] at ht; cases ht
    · rfl
  exact sumTo_le_one (fun t => by split <;> omega) fun t u _ _ ht hu => h t u (pos t ht) (pos u hu)

/-- Setting (`b = true`) or clearing the flag of one thread moves the count of flags by one: what an
    `enters = exits + flags` bookkeeping needs at a `cs.enter` / `cs.exit` mark. -/
theorem occ_mark {n t : Nat} {c : Nat → Bool} (ht : t < n) (b : Bool) (hc : c t = !b) {en ex : Nat}
    (h : en = ex + sumTo n fun u => if c u then 1 else 0) :
    en + (if b then 1 else 0) = ex + (if b then 0 else 1) + sumTo n fun u => if upd c t b u then 1 else 0 := by
  have := sumTo_upd n (fun x : Bool => if x then 1 else 0) c t b ht
  rw [hc] at this
  cases b <;> simp at this ⊢ <;> omega

end PikaVerif
