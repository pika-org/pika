import PikaVerif.Model.Elastic
import PikaVerif.Core.Run
/-! What an accepted event of the `Elastic` model does: it replaces the record of the one worker it
    is about (`WkStep`), or changes the low-priority counter or an actor's call state, or is a poll
    that leaves the state as it is (`Step`, `Step.of_step`).  Every later proof about a single `step`
    starts from `Step.of_step`; of the guard of `qlen` the relation keeps the length only where a
    proof reads it (the emptiness check). -/
namespace PikaVerif.Elastic

/-- `WkStep s w x e x'`: in `s` the event `e` is accepted and replaces the record `x` of worker `w` by `x'` -/
inductive WkStep (s : St) (w : Nat) (x : Wk) : Ev → Wk → Prop
  | start {a old} (hg : old = x.st ∧ old ≤ rsRunning ∧ x.pc = .loop) :
      WkStep s w x (.start a w old)
        { x with st := rsRunning, actor := some a, flagRun := true, emptySeen := false }
  | top {v} (hg : v = x.st ∧ x.pc = .loop) :
      WkStep s w x (.top w v) { x with flagRun := decide (v < rsPreSleep), emptySeen := false }
  | qlenEmpty {a len} (hlen : len = x.q + (if w = s.cfg.last then s.lowq else 0))
      (ha : x.actor = some a ∧ x.pc = .loop) (he : len = 0 ∧ x.flagRun = false) :
      WkStep s w x (.qlen a w len) { x with emptySeen := true, late := 0 }
  | qlenWork {a len} (ha : x.actor = some a ∧ x.pc = .loop) (he : ¬ (len = 0 ∧ x.flagRun = false)) :
      WkStep s w x (.qlen a w len) { x with emptySeen := false }
  | chkCommit {v c} (hg : v = x.st ∧ x.pc = .loop ∧ (c = true → x.emptySeen = true))
      (hc : v = rsPreSleep ∧ c = true) :
      WkStep s w x (.chk w v c) { x with pc := .commit, emptySeen := false }
  | chkStay {v c} (hg : v = x.st ∧ x.pc = .loop ∧ (c = true → x.emptySeen = true))
      (hc : ¬ (v = rsPreSleep ∧ c = true)) :
      WkStep s w x (.chk w v c) { x with emptySeen := false }
  | sleep (hg : x.pc = .commit) :
      WkStep s w x (.sleep w) { x with st := rsSleeping, pc := .stored, waiters := [], notified := false }
  | wait (hg : x.pc = .stored) : WkStep s w x (.wait w) { x with pc := .waiting }
  | woke (hg : x.pc = .waiting) :
      WkStep s w x (.woke w) { x with pc := .woken, notified := false }
  | wake {b af} (hg : x.pc = .woken ∧ b = x.st ∧
        af = (if b = rsSleeping then rsRunning else b)) :
      WkStep s w x (.wake w b af)
        { x with st := af, pc := .loop, flagRun := true, emptySeen := false, dirty := false }
  /-- the worker itself re-queues or converts a task -/
  | incOwn {a} (ha : x.actor = some a) (hpc : x.pc = .loop) :
      WkStep s w x (.inc a w) { x with q := x.q + 1, emptySeen := false }
  | incGuarded {a} (ha : ¬ x.actor = some a) (hl : x.lk = some (a, .sel true)) :
      WkStep s w x (.inc a w) { x with q := x.q + 1 }
  | incLate {a} (ha : ¬ x.actor = some a) (hl : ¬ x.lk = some (a, .sel true)) :
      WkStep s w x (.inc a w) { x with q := x.q + 1, late := x.late + 1 }
  | dec {a} (hg : 0 < x.q ∧ (x.actor = some a ∨ s.cfg.stealing = true)) :
      WkStep s w x (.dec a w) { x with q := x.q - 1, late := x.late - 1 }
  | sel {a v mx owns ok}
      (hg : s.cfg.elastic = true ∧ v = x.st ∧ ok = (owns && decide (v ≤ mx)))
      (hok : ok = true) (hl : x.lk = none) :
      WkStep s w x (.sel a w v mx owns ok) { x with lk := some (a, .sel (decide (mx ≤ rsSuspended))) }
  | unl {a g} (hl : x.lk = some (a, .sel g)) : WkStep s w x (.unl a w) { x with lk := none }
  | slock {a} (hg : x.lk = none ∧ mayAct s a = true) :
      WkStep s w x (.slock a w) { x with lk := some (a, .susp) }
  | cas {a b af} (hg : x.lk = some (a, .susp) ∧ b = x.st ∧ af = casResult b) :
      WkStep s w x (.cas a w b af)
        { x with st := af, waiters := if af = rsPreSleep then a :: x.waiters else x.waiters }
  | sunl {a} (hg : x.lk = some (a, .susp)) : WkStep s w x (.sunl a w) { x with lk := none }
  | ucas {a b af} (hg : b = x.st ∧ af = casResult b ∧ mayAct s a = true) :
      WkStep s w x (.ucas a w b af)
        { x with st := af, dirty := (x.dirty || decide (b = rsRunning)) }
  | notify {a} (hg : x.pc = .waiting) : WkStep s w x (.notify a w) { x with notified := true }

inductive Step (s : St) : Ev → St → Prop
  | wk {e w x'} (h : WkStep s w (s.wk w) e x') : Step s e { s with wk := upd s.wk w x' }
  /-- the polls: accepted, nothing changes -/
  | qlenOther {a w len} (ha : ¬ ((s.wk w).actor = some a ∧ (s.wk w).pc = .loop)) : Step s (.qlen a w len) s
  | selFail {a w v mx owns ok} (hok : ¬ ok = true) : Step s (.sel a w v mx owns ok) s
  | unlNone {a w} (hl : (s.wk w).lk = none) : Step s (.unl a w) s
  | sdone {a w v} (hg : a ∉ (s.wk w).waiters) : Step s (.sdone a w v) s
  | notifyLost {a w} (hg : ¬ (s.wk w).pc = .waiting) : Step s (.notify a w) s
  | rload {a w v} (hg : v = (s.wk w).st) : Step s (.rload a w v) s
  | incLow {a} : Step s (.incLow a) { s with lowq := s.lowq + 1 }
  | decLow {a} (hg : 0 < s.lowq) : Step s (.decLow a) { s with lowq := s.lowq - 1 }
  | refuse {a} (hg : s.apc a = .idle) : Step s (.refuse a) { s with apc := upd s.apc a .refused }
  | ret {a} : Step s (.ret a) { s with apc := upd s.apc a .idle }

theorem Step.of_step {s s' : St} {e : Ev} (h : step s e = some s') : Step s e s' := by
  cases e with
  | wake w b af => obtain ⟨hg, rfl⟩ := of_ite_some h; exact .wk (.wake hg)
  | cas a w b af => obtain ⟨hg, rfl⟩ := of_ite_some h; exact .wk (.cas hg)
  | qlen a w len =>
    simp only [step] at h
    obtain ⟨hlen, h⟩ := of_ite h
    split at h
    · split at h <;> cases h
      · exact .wk (.qlenEmpty hlen ‹_› ‹_›)
      · exact .wk (.qlenWork ‹_› ‹_›)
    · cases h; exact .qlenOther ‹_›
  | unl a w =>
    simp only [step] at h
    split at h
    · cases h; exact .unlNone ‹_›
    · obtain ⟨rfl, rfl⟩ := of_ite_some h; exact .wk (.unl ‹_›)
    · cases h
  | _ =>
    simp only [step] at h
    (repeat' split at h) <;> cases h <;>
      first
      | exact .wk (by constructor <;> assumption)
      | (constructor <;> assumption)

/-- a fact about every worker record carries over a step if the one replaced record has it -/
theorem Step.forall_wk {s s' : St} {e : Ev} {P : Wk → Prop} (h : Step s e s') (hp : ∀ w, P (s.wk w))
    (hw : ∀ {w x'}, WkStep s w (s.wk w) e x' → P x') : ∀ w, P (s'.wk w) := by
  cases h with
  | wk h => exact forall_upd (P := fun _ => P) hp (hw h)
  | _ => exact hp

end PikaVerif.Elastic
