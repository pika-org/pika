import PikaVerif.Lemmas.RwT
import PikaVerif.Lemmas.RwProgress
/-!
Programs over the async_rw_mutex model as a client layer of it (`pstep_client`), and the final states
of their maximal runs (used by `Props/C04r.lean`).

A *program* is what a finite C++ program can ask of one mutex:
* `kinds`: the finite sequence of requests of the owner (`false` = `read()`, `true` = `readwrite()`),
  followed by the destruction of the mutex object;
* for every sender obtained: it is started (`start … det = false`) or dropped unstarted
  (`det = true`, `start_detached` from the sender's destructor) - by any thread, at any time after
  the request;
* for every wrapper delivered: it may be copied, read and written through while it is held, within
  the finite budgets `copies` / `reads` / `writes` of the program, and every copy is destroyed
  (`rel`) - by any thread, at any time.
The order is the one the model requires (`step` rejects everything else): requests in order, the
mutex destroyed after the last request, `start a` after `req a`, wrapper operations between grant and
the last release.  Thread placement is arbitrary: every operation may be executed by any thread id.
-/
namespace PikaVerif.Rw
open PikaVerif PikaVerif.C04

/-! ## Programs -/

structure PSt where
  s : St
  /-- requests the owner has still to make -/
  reqs : List Bool
  /-- remaining budget of wrapper copies / modifications / reads -/
  copies : Nat
  writes : Nat
  reads : Nat

def pinit (kinds : List Bool) (c w r : Nat) : PSt := ⟨init, kinds, c, w, r⟩

def pstep (p : PSt) : Ev → Option PSt
  | .req t a w newg died =>
    match p.reqs with
    | k :: rest =>
      if k = w then (step p.s (.req t a w newg died)).map (fun s' => { p with s := s', reqs := rest })
      else none
    | [] => none
  | .destroy t died =>
    if p.reqs = [] then (step p.s (.destroy t died)).map (fun s' => { p with s := s' }) else none
  | .copy t a =>
    if 0 < p.copies then (step p.s (.copy t a)).map (fun s' => { p with s := s', copies := p.copies - 1 })
    else none
  | .write t a v =>
    if 0 < p.writes then (step p.s (.write t a v)).map (fun s' => { p with s := s', writes := p.writes - 1 })
    else none
  | .readv t a v =>
    if 0 < p.reads then (step p.s (.readv t a v)).map (fun s' => { p with s := s', reads := p.reads - 1 })
    else none
  | e => (step p.s e).map (fun s' => { p with s := s' })

/-- the work the remaining operations of the program can still create (weights as in `gain`) -/
def budget (p : PSt) : Nat := 7 * p.reqs.length + 2 * p.copies + p.writes + p.reads

/-- Every program step is a model step that pays for the work it creates out of the budget; a
    request takes the next entry of `reqs`, and the mutex is destroyed only after the last request. -/
theorem pstep_spec {p p' : PSt} {e : Ev} (h : pstep p e = some p') :
    step p.s e = some p'.s ∧ budget p' + gain e = budget p ∧
    p'.reqs.length + reqN e = p.reqs.length ∧ ((∃ t d, e = .destroy t d) → p.reqs = []) := by
  cases e <;> simp only [pstep, Option.ite_none_right_eq_some, Option.map_eq_some_iff] at h
  case req =>
    split at h
    · rename_i hr
      simp only [Option.ite_none_right_eq_some, Option.map_eq_some_iff] at h
      obtain ⟨_, s', hs, rfl⟩ := h
      refine ⟨hs, ?_, ?_, nofun⟩ <;> simp only [budget, hr, gain, reqN, List.length_cons] <;> omega
    · cases h
  case destroy =>
    obtain ⟨hr, s', hs, rfl⟩ := h
    exact ⟨hs, rfl, rfl, fun _ => hr⟩
  case copy | write | readv =>
    obtain ⟨_, s', hs, rfl⟩ := h
    refine ⟨hs, ?_, rfl, nofun⟩
    simp only [budget, gain]; omega
  all_goals
    obtain ⟨s', hs, rfl⟩ := h
    exact ⟨hs, rfl, rfl, nofun⟩

theorem pstep_step {p p' : PSt} {e : Ev} (h : pstep p e = some p') : step p.s e = some p'.s :=
  (pstep_spec h).1

/-- programs are a client layer in the sense of `runLog_client` -/
theorem pstep_client (p : PSt) (e : Ev) (p' : PSt) (h : pstep p e = some p') :
    step p.s e = some p'.s ∧ budget p' + gain e = budget p :=
  ⟨(pstep_spec h).1, (pstep_spec h).2.1⟩

theorem pstep_none (p : PSt) (e : Ev) (h : step p.s e = none) : pstep p e = none := by
  cases hp : pstep p e with
  | none => rfl
  | some p' => exact nomatch h.symm.trans (pstep_step hp)

theorem runLog_pstep_step (log : List Ev) (p p' : PSt) (h : runLog pstep p log = some p') :
    runLog step p.s log = some p'.s := by
  simpa using runLog_map PSt.s id (fun _ _ _ => pstep_step) h

def phi (p : PSt) : Nat := mu p.s + budget p

/-- the bound: 2 (destruction of the mutex and of the value) + the work of the program's operations
    (`gain`: 7 per request, 2 per wrapper copy, 1 per read / modification of the value) -/
def bound (kinds : List Bool) (c w r : Nat) : Nat := 2 + 7 * kinds.length + 2 * c + w + r

theorem phi_step (p p' : PSt) (e : Ev) (hi : Inv p.s) (h : pstep p e = some p') :
    phi p' + cost e ≤ phi p := by
  obtain ⟨hs, hb, _⟩ := pstep_spec h
  have := mu_step p.s p'.s e hi hs
  simp only [phi]; omega

theorem runLog_pna (log : List Ev) (p p' : PSt) (h : runLog pstep p log = some p') :
    p'.s.na + p'.reqs.length = p.s.na + p.reqs.length :=
  inv_of_runLog (fun q => q.s.na + q.reqs.length = p.s.na + p.reqs.length)
    (fun q e q' hq h => by
      have := (Step.of_step (pstep_step h)).na
      have := (pstep_spec h).2.2.1
      omega) rfl h

/-! ## The mutex is alive as long as the owner has requests to make -/

def PAlive (p : PSt) : Prop := p.reqs ≠ [] → p.s.alive = true

theorem palive_step (p p' : PSt) (e : Ev) (ha : PAlive p) (h : pstep p e = some p') : PAlive p' := by
  obtain ⟨hs, _, hl, hd⟩ := pstep_spec h
  intro hne
  have hne' : p.reqs ≠ [] := fun h0 => by
    rw [h0, List.length_nil] at hl
    exact hne (List.eq_nil_of_length_eq_zero (by omega))
  rw [(Step.of_step hs).alive fun t d he => hne' (hd ⟨t, d, he⟩)]
  exact ha hne'

/-! ## Final states -/

/-- Nothing is left to do: no step of the implementation (`Stuck`: `add_op_state`, `done()`), no
    sender left to start or drop, no wrapper left to destroy, the mutex object destroyed, the value
    destructor not pending. -/
def Quiescent (s : St) : Prop :=
  Stuck s ∧ (∀ t a det, step s (.start t a det) = none) ∧ (∀ t a d, step s (.rel t a d) = none) ∧
    (∀ t, step s (.vfree t) = none) ∧ s.alive = false

/-- **Final states.**  In a reachable quiescent state every requested access has been granted
    exactly once and is completely released, every shared state has been destroyed (reference
    count zero, `done()` finished, queue closed and empty) and the value has been destroyed. -/
theorem final_of_quiescent (s : St) (hr : Reachable s) (hq : Quiescent s) :
    (∀ a, a < s.na → s.acc a = .released ∧ s.grants a = 1) ∧
    (∀ g, g < s.ng → s.dead g = true ∧ s.rc g = 0 ∧ s.head g = none ∧ ∃ t, s.dn g = .drain t []) ∧
    s.vfreed = true := by
  obtain ⟨hstuck, hstart, hrel, hvf, hal⟩ := hq
  have ⟨log, hlog⟩ := hr
  have hi := inv_of_accepted hlog
  obtain ⟨p1, p2, p3⟩ := progress hi hstuck
  -- an access that is not released is queued, and then some earlier group is not released either
  have hall : ∀ a, a < s.na → s.acc a = .released := by
    intro a
    induction hn : s.grp a using Nat.strongRecOn generalizing a with
    | _ n ih =>
      subst hn
      intro ha
      have hw := no_stall hi hstuck a ha
      unfold Started WasGranted at hw
      cases hx : s.acc a with
      | none => exact absurd hx (hi.accSome a ha)
      | sender => exact nomatch (hstart 0 a false).symm.trans (Step.start 0 false hx).step
      | starting t d => exact absurd hx (p1 a t d)
      | loaded t d h => exact absurd hx (p2 a t d h)
      | queued d =>
        rw [hx] at hw
        exact nomatch hw ⟨nofun, nofun⟩ fun b hb hlt => ih _ hlt b rfl hb
      | granted c => exact nomatch (hrel 0 a _).symm.trans (Step.rel 0 hx).step
      | released => rfl
  have hdead : ∀ g, g < s.ng → s.dead g = true := fun g hg =>
    (dead_iff hi hg).2 ⟨.inl hal, fun b hb _ => hall b hb⟩
  refine ⟨fun a ha => ⟨hall a ha, ?_⟩, fun g hg => ?_, ?_⟩
  · simpa [hall a ha, post] using hi.grantsOk a
  · have hd := hdead g hg
    obtain hidle | ⟨t, ht⟩ := p3 g hg
    · have := (hi.dnIdle g hg).1 hidle
      rw [hdead (g - 1) (by omega)] at this
      exact nomatch this.2
    · have hh := hi.headDn g hg
      rw [ht] at hh
      exact ⟨hd, (hi.deadRc g hg).1 hd, Option.isNone_iff_eq_none.1 hh, t, ht⟩
  · cases hv : s.vfreed with
    | true => rfl
    | false =>
      refine nomatch (hvf 0).symm.trans (Step.vfree 0 hal ?_ hv).step
      by_cases h0 : s.ng = 0
      · exact .inl h0
      · exact .inr (hdead _ (by omega))

def PMax (p : PSt) : Prop := ∀ e, pstep p e = none

theorem quiescent_of_pmax (p : PSt) (ha : PAlive p) (hm : PMax p) :
    p.reqs = [] ∧ Quiescent p.s := by
  have hreq : p.reqs = [] := by
    cases hr : p.reqs with
    | nil => rfl
    | cons k rest =>
      exfalso
      have hal := ha (by rw [hr]; nofun)
      by_cases hn : k = true ∨ p.s.lastRw = true
      · have := hm (.req 0 p.s.na k true (decide (0 < p.s.ng) && decide (p.s.rc (p.s.ng - 1) = 1)))
        simp [pstep, hr, step, hal, hn] at this
      · have := hm (.req 0 p.s.na k false false)
        simp [pstep, hr, step, hal, hn] at this
  refine ⟨hreq, fun e he => ?_, fun t a det => ?_, fun t a d => ?_, fun t => ?_, ?_⟩
  · have := hm e
    cases e <;> first | exact he.elim | simpa [pstep] using this
  · simpa [pstep] using hm (.start t a det)
  · simpa [pstep] using hm (.rel t a d)
  · simpa [pstep] using hm (.vfree t)
  · cases hal : p.s.alive with
    | false => rfl
    | true =>
      exfalso
      by_cases hng : 0 < p.s.ng
      · have := hm (.destroy 0 (decide (p.s.rc (p.s.ng - 1) = 1)))
        simp [pstep, hreq, step, hal, hng] at this
      · have := hm (.destroy 0 false)
        simp [pstep, hreq, step, hal, hng] at this

end PikaVerif.Rw
