import PikaVerif.Lemmas.StopLock
/-!
# Invariant B of the stop_state model: life cycle of the callbacks

B is stated callback by callback: `InvB.Cb s c` is what it says of the record of callback `c` alone,
`InvB.At s a p c` what it says of `c` and an activity `a` standing at `p` (constructor, processing
by `request_stop`, destructor of `c`).  An event is a move of one activity, and it writes the
record of at most one callback `c`; the activity has `c` to itself as far as the written fields
go (`owner`, `ctorBy`, `dtorBy` name it), so for every other activity and every other callback
nothing is to be shown.  The facts grouped in `At` are available one by one (`InvB.ownerW`, `InvB.winP` …).

A proof of `At s a p' c` for a concrete `p'` is written `⟨reg, regLock, win, retReg, unreg, out⟩`: a
component is `nofun` where the phase function computes to `none` at `p'`, and the component of the
old `At s a p c` where `p` and `p'` are in the same phase (the two statements unfold to the same).
-/
namespace PikaVerif.Stop

theorem mem_of_mem_erase' {l : List Nat} {c d : Nat} (h : d ∈ l.erase c) : d ∈ l := List.mem_of_mem_erase h

theorem mem_erase_ne {l : List Nat} {c d : Nat} (h : d ∈ l) (hne : d ≠ c) : d ∈ l.erase c :=
  (List.mem_erase_of_ne hne).2 h

theorem not_mem_erase_self {l : List Nat} {c : Nat} (h : l.Nodup) : c ∉ l.erase c := by
  intro hm; exact ((List.Nodup.mem_erase_iff h).1 hm).1 rfl

/-- What B says of the record of callback `c` alone. -/
structure InvB.Cb (s : St) (c : Nat) : Prop where
  inList : c ∈ s.list → s.pushed c = true ∧ s.deqd c = false ∧ s.runs c = 0 ∧ s.life c ≠ .new ∧ s.life c ≠ .dead
  fresh : s.life c = .new → s.pushed c = false ∧ s.deqd c = false ∧ s.runs c = 0 ∧ s.ranInl c = false ∧ s.fin c = false
  pushedWhere : s.pushed c = true → c ∈ s.list ∨ s.deqd c = true ∨ s.life c = .dying ∨ s.life c = .dead
  deqPushed : s.deqd c = true → s.pushed c = true
  deqWinner : s.deqd c = true → s.winner = some (s.owner c)
  inlRuns : s.ranInl c = true → s.runs c = 1
  runsLe : s.runs c ≤ 1
  finRuns : s.fin c = true → s.runs c = 1
  keptP : started (s.life c) = true → s.kept c = s.pushed c
  atRegReq : s.reqAtReg c = true → s.req = true
  atRegLive : started (s.life c) = true → s.reqAtReg c = true → s.ranInl c = true

/-- What B says of callback `c` and an activity `a` that stands at `p`. -/
structure InvB.At (s : St) (a : Nat) (p : Pc) (c : Nat) : Prop where
  reg : regPhase p = some c → s.owner c = a ∧ s.ctorBy c = a ∧ s.life c = .ctor ∧
    s.pushed c = false ∧ s.ranInl c = false ∧ s.runs c = ranOf p
  regLock : regLockPhase p = some c → s.reqAtReg c = false
  win : winPhase p = some c → s.owner c = a ∧ s.deqd c = true ∧ s.runs c = ranOf p
  retReg : ∀ b, p = .retn (.reg c) b → s.life c = .ctor ∧ b = s.pushed c ∧ s.ctorBy c = a ∧
    (s.reqAtReg c = true → s.ranInl c = true)
  unreg : unregOf p = some c → s.life c = .dying ∧ s.dtorBy c = a
  out : unregDone p = some c → c ∉ s.list

/-- Invariant B: the list, the callbacks one by one, the activities one by one, and the two facts that join a
    callback to the program counter of another activity (its owner, its destructor). -/
structure InvB (s : St) : Prop where
  nodup : s.list.Nodup
  cb : ∀ c, InvB.Cb s c
  deqRuns : ∀ c, s.deqd c = true → s.runs c = 0 → (s.pc (s.owner c) = .pre c ∨ s.pc (s.owner c) = .exec c false)
  /-- while a callback is being destroyed the activity recorded in `dtorBy` is inside `remove_callback`
      (or at the `return` of the destructor) -/
  dying : ∀ c, s.life c = .dying → unregOf (s.pc (s.dtorBy c)) = some c
  «at» : ∀ a c, InvB.At s a (s.pc a) c

open InvB (Cb At)

section
variable {s : St} (hi : InvB s)
include hi

theorem InvB.ownerR (a c : Nat) (h : regPhase (s.pc a) = some c) : s.owner c = a := ((hi.at a c).reg h).1
theorem InvB.ownerW (a c : Nat) (h : winPhase (s.pc a) = some c) : s.owner c = a := ((hi.at a c).win h).1
theorem InvB.regP (a c : Nat) (h : regPhase (s.pc a) = some c) :
    s.life c = .ctor ∧ s.pushed c = false ∧ s.ranInl c = false :=
  have ⟨_, _, h3, h4, h5, _⟩ := (hi.at a c).reg h
  ⟨h3, h4, h5⟩
theorem InvB.winP (a c : Nat) (h : winPhase (s.pc a) = some c) : s.deqd c = true := ((hi.at a c).win h).2.1
theorem InvB.runsR (a c : Nat) (h : regPhase (s.pc a) = some c) : s.runs c = ranOf (s.pc a) :=
  ((hi.at a c).reg h).2.2.2.2.2
theorem InvB.runsW (a c : Nat) (h : winPhase (s.pc a) = some c) : s.runs c = ranOf (s.pc a) := ((hi.at a c).win h).2.2
theorem InvB.retRegP (a c : Nat) (b : Bool) (h : s.pc a = .retn (.reg c) b) : s.life c = .ctor ∧ b = s.pushed c :=
  ⟨((hi.at a c).retReg b h).1, ((hi.at a c).retReg b h).2.1⟩
theorem InvB.unregP (a c : Nat) (h : unregOf (s.pc a) = some c) : s.life c = .dying := ((hi.at a c).unreg h).1
theorem InvB.dtorP (a c : Nat) (h : unregOf (s.pc a) = some c) : s.dtorBy c = a := ((hi.at a c).unreg h).2
theorem InvB.unregOut (a c : Nat) (h : unregDone (s.pc a) = some c) : c ∉ s.list ∧ s.life c = .dying ∧ s.dtorBy c = a :=
  ⟨(hi.at a c).out h, (hi.at a c).unreg (unregDone_unregOf h)⟩

end

theorem invB_init (n K : Nat) (id : Nat → Nat) (f1 f2 : Bool) (m : Nat) : InvB (init n K id f1 f2 m) := by
  refine ⟨List.nodup_nil, fun c => ?_, by simp [init], by simp [init], fun a c => ?_⟩
  · refine ⟨?_, ?_, ?_, ?_, ?_, ?_, ?_, ?_, ?_, ?_, ?_⟩ <;> simp [init, started]
  · exact ⟨nofun, nofun, nofun, nofun, nofun, nofun⟩

/-- `Cb` and `At` depend on the state through the fields they name only: unfolded, a state that
    differs elsewhere gives the same proposition, and `upd … c' = …` can be rewritten. -/
theorem cb_iff {s : St} {c : Nat} : Cb s c ↔
    (c ∈ s.list → s.pushed c = true ∧ s.deqd c = false ∧ s.runs c = 0 ∧ s.life c ≠ .new ∧ s.life c ≠ .dead) ∧
    (s.life c = .new → s.pushed c = false ∧ s.deqd c = false ∧ s.runs c = 0 ∧ s.ranInl c = false ∧ s.fin c = false) ∧
    (s.pushed c = true → c ∈ s.list ∨ s.deqd c = true ∨ s.life c = .dying ∨ s.life c = .dead) ∧
    (s.deqd c = true → s.pushed c = true) ∧ (s.deqd c = true → s.winner = some (s.owner c)) ∧
    (s.ranInl c = true → s.runs c = 1) ∧ s.runs c ≤ 1 ∧ (s.fin c = true → s.runs c = 1) ∧
    (started (s.life c) = true → s.kept c = s.pushed c) ∧ (s.reqAtReg c = true → s.req = true) ∧
    (started (s.life c) = true → s.reqAtReg c = true → s.ranInl c = true) :=
  ⟨fun ⟨a, b, c, d, e, f, g, h, i, j, k⟩ => ⟨a, b, c, d, e, f, g, h, i, j, k⟩,
   fun ⟨a, b, c, d, e, f, g, h, i, j, k⟩ => ⟨a, b, c, d, e, f, g, h, i, j, k⟩⟩

theorem at_iff {s : St} {a c : Nat} {p : Pc} : At s a p c ↔
    (regPhase p = some c → s.owner c = a ∧ s.ctorBy c = a ∧ s.life c = .ctor ∧
      s.pushed c = false ∧ s.ranInl c = false ∧ s.runs c = ranOf p) ∧
    (regLockPhase p = some c → s.reqAtReg c = false) ∧
    (winPhase p = some c → s.owner c = a ∧ s.deqd c = true ∧ s.runs c = ranOf p) ∧
    (∀ b, p = .retn (.reg c) b → s.life c = .ctor ∧ b = s.pushed c ∧ s.ctorBy c = a ∧
      (s.reqAtReg c = true → s.ranInl c = true)) ∧
    (unregOf p = some c → s.life c = .dying ∧ s.dtorBy c = a) ∧ (unregDone p = some c → c ∉ s.list) :=
  ⟨fun ⟨a, b, c, d, e, f⟩ => ⟨a, b, c, d, e, f⟩, fun ⟨a, b, c, d, e, f⟩ => ⟨a, b, c, d, e, f⟩⟩

theorem at_upd {s : St} {f : Nat → Pc} {a : Nat} {p' : Pc} (hnew : ∀ c, At s a p' c)
    (hoth : ∀ u, u ≠ a → ∀ c, At s u (f u) c) : ∀ u c, At s u (upd f a p' u) c := by
  intro u c
  by_cases e : u = a
  · rw [e, upd_same]; exact hnew c
  · rw [upd_other _ _ _ _ e]; exact hoth u e c

/-- After a move of `a` from `p` to `p'` a dequeued callback that has not run yet still finds its owner
    before the call, unless `a` was that owner and `p'` is elsewhere. -/
theorem InvB.deqRuns_upd {s : St} (hi : InvB s) {a c : Nat} {p p' : Pc} (hp : s.pc a = p)
    (hd : s.deqd c = true) (hr : s.runs c = 0)
    (ha : winPhase p = some c → ranOf p = 0 → p' = .pre c ∨ p' = .exec c false) :
    upd s.pc a p' (s.owner c) = .pre c ∨ upd s.pc a p' (s.owner c) = .exec c false := by
  have ho := hi.deqRuns c hd hr
  by_cases e : s.owner c = a
  · rw [e, hp] at ho
    rw [e, upd_same]
    apply ha <;> rcases ho with rfl | rfl <;> rfl
  · rw [upd_other _ _ _ _ e]; exact ho

/-- After a move of `a` from `p` to `p'` the destructor of a dying callback is still inside `remove_callback`, if `p'`
    is a point of that destructor whenever `p` is. -/
theorem InvB.dying_upd {s : St} (hi : InvB s) {a c : Nat} {p p' : Pc} (hp : s.pc a = p) (hd : s.life c = .dying)
    (ha : unregOf p = some c → unregOf p' = some c) : unregOf (upd s.pc a p' (s.dtorBy c)) = some c := by
  have ho := hi.dying c hd
  by_cases e : s.dtorBy c = a
  · rw [e, hp] at ho
    rw [e, upd_same]; exact ha ho
  · rw [upd_other _ _ _ _ e]; exact ho

theorem InvB.move {s : St} (hi : InvB s) {a : Nat} {p p' : Pc}
    {lock : Option Nat} {remPtr : Nat → Option Nat} {remFlag running : Nat → Bool} {rsTrue srcs sig : Nat}
    (hp : s.pc a = p) (hnew : ∀ c, At s a p c → At s a p' c)
    (hdeq : ∀ c, winPhase p = some c → ranOf p = 0 → p' = .pre c ∨ p' = .exec c false)
    (hun : unregOf p' = unregOf p := by rfl) :
    InvB { s with pc := upd s.pc a p', lock := lock, remPtr := remPtr, remFlag := remFlag,
                  running := running, rsTrue := rsTrue, srcs := srcs, sig := sig } := by
  refine InvB.mk hi.nodup (fun c => cb_iff.2 ((cb_iff (s := s)).1 (hi.cb c))) (fun c hd hr => ?_)
    (fun c hd => hi.dying_upd hp hd hun.trans) (fun u c => ?_)
  · exact hi.deqRuns_upd hp hd hr (hdeq c)
  · exact at_iff.2 ((at_iff (s := s)).1 (at_upd (fun c => hnew c (hp ▸ hi.at a c)) (fun u _ => hi.at u) u c))

theorem InvB.srcs {s : St} (hi : InvB s) (n : Nat) : InvB { s with srcs := n } :=
  InvB.mk hi.nodup (fun c => cb_iff.2 ((cb_iff (s := s)).1 (hi.cb c))) hi.deqRuns hi.dying
    (fun u c => at_iff.2 ((at_iff (s := s)).1 (hi.at u c)))

theorem InvB.reqAtReg_false {s : St} (hi : InvB s) (h : s.req = false) (c : Nat) : s.reqAtReg c = false := by
  cases hc : s.reqAtReg c with
  | false => rfl
  | true => rw [(hi.cb c).atRegReq hc] at h; cases h

theorem at_checked {s : St} {a c : Nat} {k : Kind} {q : Pc} {lk rq : Bool} {src : Nat}
    (h : At s a q c) (hq : q = .ld k ∨ (∃ b, q = .cas k b) ∨ q = .spin k)
    (hr : rq = false → ∀ c, s.reqAtReg c = false) : At s a (checked k lk rq src) c := by
  cases k with
  | rs =>
    simp only [checked]
    repeat' split
    all_goals exact ⟨nofun, nofun, nofun, nofun, nofun, nofun⟩
  | relock => simp only [checked]; split <;> exact ⟨nofun, nofun, nofun, nofun, nofun, nofun⟩
  | unreg d =>
    simp only [checked]
    rcases hq with rfl | ⟨b, rfl⟩ | rfl <;> split <;> exact ⟨nofun, nofun, nofun, nofun, h.unreg, nofun⟩
  | reg d =>
    have hreg : At s a (.ld (.reg d)) c := by
      rcases hq with rfl | ⟨b, rfl⟩ | rfl <;> exact ⟨h.reg, nofun, nofun, nofun, nofun, nofun⟩
    have hreg := hreg.reg
    simp only [checked]
    split
    · exact ⟨hreg, nofun, nofun, nofun, nofun, nofun⟩
    · next hrq =>
      have hr := hr (Bool.eq_false_iff.mpr hrq)
      repeat' split
      · refine ⟨nofun, nofun, nofun, fun b e => ?_, nofun, nofun⟩
        cases e
        obtain ⟨_, h2, h3, h4, _, _⟩ := hreg rfl
        exact ⟨h3, h4.symm, h2, fun e => by rw [hr] at e; cases e⟩
      · exact ⟨hreg, fun _ => hr c, nofun, nofun, nofun, nofun⟩
      · exact ⟨hreg, fun _ => hr c, nofun, nofun, nofun, nofun⟩

/-- The constructor of `c` begins: `c` is new, so no activity stands at it. -/
theorem stepB_invReg {s s' : St} {a c : Nat} (hi : InvB s) (h : step s (.inv a (.reg c)) = some s') :
    InvB s' := by
  obtain ⟨_, hp, _, ⟨e, _⟩ | ⟨_, e, hl, rfl⟩ | ⟨_, e, _⟩⟩ := step_inv h <;> cases e
  obtain ⟨f1, f2, f3, f4, f5⟩ := (hi.cb c).fresh hl
  have hnl : c ∉ s.list := fun hm => ((hi.cb c).inList hm).2.2.2.1 hl
  refine InvB.mk hi.nodup (fun c' => ?_) (fun c' hd hr => ?_)
    (fun c' hd => hi.dying_upd hp (upd_eq_ne hd nofun).2 nofun) (at_upd (fun c' => ?_) (fun u hu c' => ?_))
  · by_cases e : c' = c
    · subst e; simp [cb_iff, started, f1, f2, f3, f4, f5, hnl]
    · simpa only [cb_iff, upd_other _ _ _ _ e] using hi.cb c'
  · have e : c' ≠ c := fun e => by rw [e] at hd; exact absurd hd (by rw [f2]; nofun)
    simp only [upd_other _ _ _ _ e]
    exact hi.deqRuns_upd hp hd hr nofun
  · refine ⟨fun h => ?_, nofun, nofun, nofun, nofun, nofun⟩
    cases h
    exact ⟨upd_same .., upd_same .., upd_same .., f1, f4, f3⟩
  · by_cases e : c' = c
    · subst e
      have hu := hi.at u c'
      exact ⟨fun h => absurd (hu.reg h).2.2.1 (by rw [hl]; nofun),
        fun h => absurd (hu.reg (regLock_reg h)).2.2.1 (by rw [hl]; nofun),
        fun h => absurd (hu.win h).2.1 (by rw [f2]; nofun),
        fun b h => absurd (hu.retReg b h).1 (by rw [hl]; nofun),
        fun h => absurd (hu.unreg h).1 (by rw [hl]; nofun), hu.out⟩
    · simpa only [at_iff, upd_other _ _ _ _ e] using hi.at u c'

/-- The destructor of `c` begins.  `c` is live: its constructor has returned and no other destructor
    is under way; `request_stop` may be processing it, and of that nothing changes. -/
theorem stepB_invUnreg {s s' : St} {a c : Nat} (hi : InvB s) (h : step s (.inv a (.unreg c)) = some s') :
    InvB s' := by
  obtain ⟨_, hp, _, ⟨e, _⟩ | ⟨_, e, _⟩ | ⟨_, e, hl, rfl⟩⟩ := step_inv h <;> cases e
  have hst : started (s.life c) = true := by rw [hl]; rfl
  refine InvB.mk hi.nodup (fun c' => ?_) (fun c' hd hr => hi.deqRuns_upd hp hd hr nofun)
    (fun c' hd => by
      by_cases e : c' = c
      · subst e; simp only [upd_same]; split <;> rfl
      · simp only [upd_other _ _ _ _ e] at hd ⊢; exact hi.dying_upd hp hd nofun)
    (at_upd (fun c' => ?_) (fun u hu c' => ?_))
  · by_cases e : c' = c
    · subst e
      have hc := hi.cb c'
      refine ⟨fun hm => ?_, fun h => ?_, fun _ => .inr (.inr (.inl (upd_same ..))), hc.deqPushed, hc.deqWinner,
        hc.inlRuns, hc.runsLe, hc.finRuns, fun _ => hc.keptP hst, hc.atRegReq, fun _ => hc.atRegLive hst⟩
      · obtain ⟨x1, x2, x3, _, _⟩ := hc.inList hm
        exact ⟨x1, x2, x3, upd_same_ne nofun, upd_same_ne nofun⟩
      · exact absurd h (upd_same_ne nofun)
    · simpa only [cb_iff, upd_other _ _ _ _ e] using hi.cb c'
  · split
    · next hk =>
      -- `add_callback` returned false: `c` was never linked
      refine ⟨nofun, nofun, nofun, nofun, fun h => ?_, fun h hm => ?_⟩ <;> cases h
      · exact ⟨upd_same .., upd_same ..⟩
      · have := ((hi.cb c).inList hm).1
        rw [← (hi.cb c).keptP hst, hk.2] at this
        cases this
    · refine ⟨nofun, nofun, nofun, nofun, fun h => ?_, nofun⟩
      cases h
      exact ⟨upd_same .., upd_same ..⟩
  · by_cases e : c' = c
    · subst e
      have hu := hi.at u c'
      exact ⟨fun h => absurd (hu.reg h).2.2.1 (by rw [hl]; nofun),
        fun h => absurd (hu.reg (regLock_reg h)).2.2.1 (by rw [hl]; nofun), hu.win,
        fun b h => absurd (hu.retReg b h).1 (by rw [hl]; nofun),
        fun h => absurd (hu.unreg h).1 (by rw [hl]; nofun), hu.out⟩
    · simpa only [at_iff, upd_other _ _ _ _ e] using hi.at u c'

theorem stepB_ret {s s' : St} {a : Nat} {r : Bool} (hi : InvB s) (h : step s (.ret a r) = some s') :
    InvB s' := by
  obtain ⟨_, ⟨hp, rfl⟩ | ⟨c, b, hp, rfl⟩ | ⟨c, b, hp, rfl⟩⟩ := step_ret h
  · exact hi.move hp (fun c _ => ⟨nofun, nofun, nofun, nofun, nofun, nofun⟩) nofun
  · obtain ⟨hl, hb, hct, hrr⟩ := (hp ▸ hi.at a c).retReg b rfl
    refine InvB.mk hi.nodup (fun c' => ?_) (fun c' hd hr => hi.deqRuns_upd hp hd hr nofun)
      (fun c' hd => hi.dying_upd hp (upd_eq_ne hd nofun).2 nofun)
      (at_upd (fun c' => ⟨nofun, nofun, nofun, nofun, nofun, nofun⟩) (fun u hu c' => ?_))
    · by_cases e : c' = c
      · subst e
        have hc := hi.cb c'
        refine ⟨fun hm => ?_, fun h => ?_, fun h => ?_, hc.deqPushed, hc.deqWinner,
          hc.inlRuns, hc.runsLe, hc.finRuns, fun _ => ?_, hc.atRegReq, fun _ => hrr⟩
        · obtain ⟨x1, x2, x3, _, _⟩ := hc.inList hm
          exact ⟨x1, x2, x3, upd_same_ne nofun, upd_same_ne nofun⟩
        · exact absurd h (upd_same_ne nofun)
        · rcases hc.pushedWhere h with x | x | x | x
          · exact .inl x
          · exact .inr (.inl x)
          · rw [hl] at x; cases x
          · rw [hl] at x; cases x
        · show upd s.kept c' b c' = _
          rw [upd_same]; exact hb
      · simpa only [cb_iff, upd_other _ _ _ _ e] using hi.cb c'
    · by_cases e : c' = c
      · subst e
        have hu' := hi.at u c'
        exact ⟨fun h => absurd ((hu'.reg h).2.1.symm.trans hct) hu,
          fun h => absurd ((hu'.reg (regLock_reg h)).2.1.symm.trans hct) hu, hu'.win,
          fun b h => absurd ((hu'.retReg b h).2.2.1.symm.trans hct) hu,
          fun h => absurd (hu'.unreg h).1 (by rw [hl]; nofun), hu'.out⟩
      · simpa only [at_iff, upd_other _ _ _ _ e] using hi.at u c'
  · have ha := hp ▸ hi.at a c
    obtain ⟨hl, hdt⟩ := ha.unreg rfl
    have hnl := ha.out rfl
    have hst : started (s.life c) = true := by rw [hl]; rfl
    refine InvB.mk hi.nodup (fun c' => ?_) (fun c' hd hr => hi.deqRuns_upd hp hd hr nofun)
      (fun c' hd => hi.dying_upd hp (upd_eq_ne hd nofun).2 fun h =>
        absurd (Option.some.inj h).symm (upd_eq_ne hd nofun).1)
      (at_upd (fun c' => ⟨nofun, nofun, nofun, nofun, nofun, nofun⟩) (fun u hu c' => ?_))
    · by_cases e : c' = c
      · subst e
        have hc := hi.cb c'
        exact ⟨fun hm => absurd hm hnl, fun h => absurd h (upd_same_ne nofun),
          fun _ => .inr (.inr (.inr (upd_same ..))), hc.deqPushed, hc.deqWinner,
          hc.inlRuns, hc.runsLe, hc.finRuns, fun _ => hc.keptP hst, hc.atRegReq, fun _ => hc.atRegLive hst⟩
      · simpa only [cb_iff, upd_other _ _ _ _ e] using hi.cb c'
    · by_cases e : c' = c
      · subst e
        have hu' := hi.at u c'
        exact ⟨fun h => absurd (hu'.reg h).2.2.1 (by rw [hl]; nofun),
          fun h => absurd (hu'.reg (regLock_reg h)).2.2.1 (by rw [hl]; nofun), hu'.win,
          fun b h => absurd (hu'.retReg b h).1 (by rw [hl]; nofun),
          fun h => absurd ((hu'.unreg h).2.symm.trans hdt) hu, hu'.out⟩
      · simpa only [at_iff, upd_other _ _ _ _ e] using hi.at u c'

/-- A successful CAS.  That of `lock_and_request_stop` finds stop not requested (`InvA.casNoReq`), so
    there is no winner yet and nothing has been dequeued. -/
theorem stepB_acq {s s' : St} {a : Nat} (hA : InvA s) (hi : InvB s) (h : step s (.acq a) = some s') :
    InvB s' := by
  obtain ⟨_, _, ⟨hp, rfl⟩ | ⟨k, hk, hp, rfl⟩⟩ := step_acq h
  · have hw : s.winner = none := hA.winReq (hA.casNoReq a _ hp)
    have hnd : ∀ c, s.deqd c ≠ true := fun c hd => by
      have := (hi.cb c).deqWinner hd
      rw [hw] at this; cases this
    refine InvB.mk hi.nodup (fun c => ?_) (fun c hd => absurd hd (hnd c))
      (fun c hd => hi.dying_upd hp hd nofun)
      (at_upd (fun c => ⟨nofun, nofun, nofun, nofun, nofun, nofun⟩)
        (fun u _ c => at_iff.2 ((at_iff (s := s)).1 (hi.at u c))))
    have hc := hi.cb c
    exact ⟨hc.inList, hc.fresh, hc.pushedWhere, hc.deqPushed, fun hd => absurd hd (hnd c), hc.inlRuns,
      hc.runsLe, hc.finRuns, hc.keptP, fun _ => rfl, hc.atRegLive⟩
  · refine hi.move hp (fun c h => ?_) nofun (phases_unreg ((phases_locked k).trans (phases_cas k _).symm))
    cases k with
    | rs => exact absurd rfl hk
    | reg d => exact ⟨h.reg, h.regLock, nofun, nofun, nofun, nofun⟩
    | unreg d => exact ⟨nofun, nofun, nofun, nofun, h.unreg, nofun⟩
    | relock => exact ⟨nofun, nofun, nofun, nofun, nofun, nofun⟩

/-- `request_stop` takes the head `c` of the list: it becomes the owner; the constructor of `c` may
    still be returning and its destructor may be waiting for the lock. -/
theorem stepB_deq {s s' : St} {a c : Nat} {more : Bool} (hA : InvA s) (hi : InvB s)
    (h : step s (.deq a c more) = some s') : InvB s' := by
  obtain ⟨rest, _, _, hp, hl, _, rfl⟩ := step_deq h
  have hw := hA.loopWinner a hp
  have hnd := hi.nodup
  rw [hl, List.nodup_cons] at hnd
  obtain ⟨x1, x2, x3, x4, x5⟩ := (hi.cb c).inList (by rw [hl]; exact List.mem_cons_self)
  refine InvB.mk hnd.2 (fun c' => ?_) (fun c' hd hr => ?_)
    (fun c' hd => by rcases hp with hp | hp <;> exact hi.dying_upd hp hd nofun)
    (at_upd (fun c' => ?_) (fun u hu c' => ?_))
  · by_cases e : c' = c
    · subst e
      have hc := hi.cb c'
      exact ⟨fun hm => absurd hm hnd.1, fun h => absurd h x4, fun _ => .inr (.inl (upd_same ..)), fun _ => x1,
        fun _ => hw.trans (congrArg some (upd_same ..).symm), hc.inlRuns, hc.runsLe, hc.finRuns, hc.keptP,
        hc.atRegReq, hc.atRegLive⟩
    · simpa [cb_iff, upd_other _ _ _ _ e, hl, e] using hi.cb c'
  · by_cases e : c' = c
    · subst e; exact .inl (by simp only [upd_same])
    · simp only [upd_other _ _ _ _ e] at hd ⊢
      rcases hp with hp | hp <;> exact hi.deqRuns_upd hp hd hr nofun
  · refine ⟨nofun, nofun, fun h => ?_, nofun, nofun, nofun⟩
    cases h
    exact ⟨upd_same .., upd_same .., x3⟩
  · by_cases e : c' = c
    · subst e
      have hu' := hi.at u c'
      exact ⟨fun h => absurd (hu'.reg h).2.2.2.1 (by rw [x1]; nofun),
        fun h => absurd (hu'.reg (regLock_reg h)).2.2.2.1 (by rw [x1]; nofun),
        fun h => absurd (hu'.win h).2.1 (by rw [x2]; nofun), hu'.retReg, hu'.unreg, fun _ => hnd.1⟩
    · simpa [at_iff, upd_other _ _ _ _ e, hl, e] using hi.at u c'

/-- The callback body is entered, by the owner of `c` (its constructor or `request_stop`), for the
    first time: `runs c` goes from 0 to 1. -/
theorem stepB_cbBegin {s s' : St} {a c : Nat} (hi : InvB s) (h : step s (.cbBegin a c) = some s') :
    InvB s' := by
  obtain ⟨inl, _, hp, rfl⟩ := step_cbBegin h
  have ha := hp ▸ hi.at a c
  obtain ⟨ho, hr, hnl, hnn⟩ : s.owner c = a ∧ s.runs c = 0 ∧ c ∉ s.list ∧ s.life c ≠ .new := by
    cases inl with
    | true =>
      obtain ⟨y1, _, y3, y4, _, y6⟩ := ha.reg rfl
      exact ⟨y1, y6, fun hm => (by rw [((hi.cb c).inList hm).1] at y4; cases y4), (by rw [y3]; nofun)⟩
    | false =>
      obtain ⟨y1, y2, y3⟩ := ha.win rfl
      exact ⟨y1, y3, fun hm => (by rw [((hi.cb c).inList hm).2.1] at y2; cases y2),
        fun hl => (by rw [((hi.cb c).fresh hl).2.1] at y2; cases y2)⟩
  have hr' : upd s.runs c (s.runs c + 1) c = 1 := by rw [upd_same, hr]
  refine InvB.mk hi.nodup (fun c' => ?_) (fun c' hd hr0 => ?_) (fun c' hd => hi.dying_upd hp hd nofun)
    (at_upd (fun c' => ?_) (fun u hu c' => ?_))
  · by_cases e : c' = c
    · subst e
      have hc := hi.cb c'
      exact ⟨fun hm => absurd hm hnl, fun h => absurd h hnn, hc.pushedWhere, hc.deqPushed, hc.deqWinner,
        fun _ => hr', Nat.le_of_eq hr', fun _ => hr', hc.keptP, hc.atRegReq, hc.atRegLive⟩
    · simpa only [cb_iff, upd_other _ _ _ _ e] using hi.cb c'
  · by_cases e : c' = c
    · subst e; cases hr'.symm.trans hr0
    · simp only [upd_other _ _ _ _ e] at hr0
      refine hi.deqRuns_upd hp hd hr0 fun hw _ => ?_
      -- `a` is before the call of `c`, not of `c'`
      cases inl <;> cases hw
      exact absurd rfl e
  · cases inl with
    | true =>
      refine ⟨fun h => ?_, nofun, nofun, nofun, nofun, nofun⟩
      cases h
      obtain ⟨y1, y2, y3, y4, y5, _⟩ := ha.reg rfl
      exact ⟨y1, y2, y3, y4, y5, hr'⟩
    | false =>
      refine ⟨nofun, nofun, fun h => ?_, nofun, nofun, nofun⟩
      cases h
      exact ⟨ho, (ha.win rfl).2.1, hr'⟩
  · by_cases e : c' = c
    · subst e
      have hu' := hi.at u c'
      exact ⟨fun h => absurd ((hu'.reg h).1.symm.trans ho) hu,
        fun h => absurd ((hu'.reg (regLock_reg h)).1.symm.trans ho) hu,
        fun h => absurd ((hu'.win h).1.symm.trans ho) hu, hu'.retReg, hu'.unreg, hu'.out⟩
    · simpa only [at_iff, upd_other _ _ _ _ e] using hi.at u c'

theorem stepB_finStore {s s' : St} {a c : Nat} {removed : Bool} (hi : InvB s)
    (h : step s (.finStore a c removed) = some s') : InvB s' := by
  obtain ⟨_, hp, _, ⟨_, rfl⟩ | ⟨_, rfl⟩⟩ := step_finStore h
  · exact hi.move hp (fun c _ => ⟨nofun, nofun, nofun, nofun, nofun, nofun⟩) nofun
  · obtain ⟨_, hd, hr⟩ := (hp ▸ hi.at a c).win rfl
    refine InvB.mk hi.nodup (fun c' => ?_) (fun c' hd hr => hi.deqRuns_upd hp hd hr nofun)
      (fun c' hd => hi.dying_upd hp hd nofun)
      (at_upd (fun c' => ⟨nofun, nofun, nofun, nofun, nofun, nofun⟩)
        (fun u _ c' => at_iff.2 ((at_iff (s := s)).1 (hi.at u c'))))
    by_cases e : c' = c
    · subst e
      have hc := hi.cb c'
      exact ⟨hc.inList, fun hl => (by rw [(hc.fresh hl).2.1] at hd; cases hd), hc.pushedWhere, hc.deqPushed,
        hc.deqWinner, hc.inlRuns, hc.runsLe, fun _ => hr, hc.keptP, hc.atRegReq, hc.atRegLive⟩
    · simpa only [cb_iff, upd_other _ _ _ _ e] using hi.cb c'

theorem stepB_inFin {s s' : St} {a c : Nat} (hi : InvB s) (h : step s (.inFin a c) = some s') :
    InvB s' := by
  obtain ⟨_, hp, rfl⟩ := step_inFin h
  obtain ⟨ho, hct, hl, hpu, _, hr⟩ := (hp ▸ hi.at a c).reg rfl
  refine InvB.mk hi.nodup (fun c' => ?_) (fun c' hd hr => hi.deqRuns_upd hp hd hr nofun)
    (fun c' hd => hi.dying_upd hp hd nofun)
    (at_upd (fun c' => ?_) (fun u hu c' => ?_))
  · by_cases e : c' = c
    · subst e
      have hc := hi.cb c'
      exact ⟨hc.inList, fun h => (by rw [hl] at h; cases h), hc.pushedWhere, hc.deqPushed, hc.deqWinner,
        fun _ => hr, hc.runsLe, fun _ => hr, hc.keptP, hc.atRegReq, fun h => (by rw [hl] at h; cases h)⟩
    · simpa only [cb_iff, upd_other _ _ _ _ e] using hi.cb c'
  · refine ⟨nofun, nofun, nofun, fun b h => ?_, nofun, nofun⟩
    cases h
    exact ⟨hl, hpu.symm, hct, fun _ => upd_same ..⟩
  · by_cases e : c' = c
    · subst e
      have hu' := hi.at u c'
      exact ⟨fun h => absurd ((hu'.reg h).1.symm.trans ho) hu,
        fun h => absurd ((hu'.reg (regLock_reg h)).1.symm.trans ho) hu, hu'.win,
        fun b h => absurd ((hu'.retReg b h).2.2.1.symm.trans hct) hu, hu'.unreg, hu'.out⟩
    · simpa only [at_iff, upd_other _ _ _ _ e] using hi.at u c'

theorem stepB_push {s s' : St} {a c : Nat} {hadNext : Bool} (hi : InvB s)
    (h : step s (.push a c hadNext) = some s') : InvB s' := by
  obtain ⟨_, _, hp, _, rfl⟩ := step_push h
  have ha := hp ▸ hi.at a c
  obtain ⟨ho, hct, hl, hpu, _, hr⟩ := ha.reg rfl
  have hq := ha.regLock rfl
  have hnl : c ∉ s.list := fun hm => by rw [((hi.cb c).inList hm).1] at hpu; cases hpu
  have hnd : s.deqd c = false := by
    cases hd : s.deqd c with
    | false => rfl
    | true => rw [(hi.cb c).deqPushed hd] at hpu; cases hpu
  refine InvB.mk (List.nodup_cons.2 ⟨hnl, hi.nodup⟩) (fun c' => ?_)
    (fun c' hd hr => hi.deqRuns_upd hp hd hr nofun) (fun c' hd => hi.dying_upd hp hd nofun)
    (at_upd (fun c' => ?_) (fun u hu c' => ?_))
  · by_cases e : c' = c
    · subst e
      have hc := hi.cb c'
      exact ⟨fun _ => ⟨upd_same .., hnd, hr, (by rw [hl]; nofun), (by rw [hl]; nofun)⟩, fun h => (by rw [hl] at h; cases h),
        fun _ => .inl List.mem_cons_self, fun _ => upd_same .., hc.deqWinner, hc.inlRuns, hc.runsLe, hc.finRuns,
        fun h => (by rw [hl] at h; cases h), hc.atRegReq, hc.atRegLive⟩
    · simpa [cb_iff, upd_other _ _ _ _ e, e] using hi.cb c'
  · refine ⟨nofun, nofun, nofun, fun b h => ?_, nofun, nofun⟩
    cases h
    exact ⟨hl, (upd_same ..).symm, hct, fun h => (by rw [hq] at h; cases h)⟩
  · by_cases e : c' = c
    · subst e
      have hu' := hi.at u c'
      exact ⟨fun h => absurd ((hu'.reg h).1.symm.trans ho) hu,
        fun h => absurd ((hu'.reg (regLock_reg h)).1.symm.trans ho) hu,
        fun h => absurd (hu'.win h).2.1 (by rw [hnd]; nofun),
        fun b h => absurd ((hu'.retReg b h).2.2.1.symm.trans hct) hu,
        fun h => absurd (hu'.unreg h).1 (by rw [hl]; nofun),
        fun h => absurd (hu'.unreg (unregDone_unregOf h)).1 (by rw [hl]; nofun)⟩
    · simpa [at_iff, upd_other _ _ _ _ e, e] using hi.at u c'

theorem stepB_unlink {s s' : St} {a c : Nat} {r : Bool} (hi : InvB s)
    (h : step s (.unlink a c r) = some s') : InvB s' := by
  obtain ⟨_, _, hp, ⟨_, hm, rfl⟩ | ⟨_, hnl, rfl⟩⟩ := step_unlink h
  · have ha := hp ▸ hi.at a c
    refine InvB.mk (hi.nodup.erase c) (fun c' => ?_) (fun c' hd hr => hi.deqRuns_upd hp hd hr nofun)
      (fun c' hd => hi.dying_upd hp hd fun h => h)
      (at_upd (fun c' => ?_) (fun u _ c' => ?_))
    · have hc := hi.cb c'
      refine ⟨fun hm' => hc.inList (List.mem_of_mem_erase hm'), hc.fresh, fun h => ?_, hc.deqPushed,
        hc.deqWinner, hc.inlRuns, hc.runsLe, hc.finRuns, hc.keptP, hc.atRegReq, hc.atRegLive⟩
      by_cases e : c' = c
      · subst e; exact .inr (.inr (.inl (ha.unreg rfl).1))
      · rcases hc.pushedWhere h with x | x
        · exact .inl ((List.mem_erase_of_ne e).2 x)
        · exact .inr x
    · refine ⟨nofun, nofun, nofun, nofun, (hp ▸ hi.at a c').unreg, fun h hm' => ?_⟩
      cases h
      exact ((List.Nodup.mem_erase_iff hi.nodup).1 hm').1 rfl
    · have hu := hi.at u c'
      exact ⟨hu.reg, hu.regLock, hu.win, hu.retReg, hu.unreg, fun h hm' => hu.out h (List.mem_of_mem_erase hm')⟩
  · refine hi.move hp (fun c' h => ⟨nofun, nofun, nofun, nofun, h.unreg, fun e => ?_⟩) nofun
    cases e
    exact hnl

/-- Invariant B, event by event: the events that write the record of a callback are the `stepB_…` above;
    the others move their actor within its phase or out of every phase (`InvB.move`). -/
theorem stepB (s s' : St) (e : Ev) (hA : InvA s) (hi : InvB s) (h : step s e = some s') : InvB s' := by
  cases e with
  | inv a k =>
    obtain ⟨-, hp, -, ⟨rfl, rfl⟩ | ⟨c, rfl, -, rfl⟩ | ⟨c, rfl, -, rfl⟩⟩ := step_inv h
    · exact hi.move hp (fun c _ => ⟨nofun, nofun, nofun, nofun, nofun, nofun⟩) nofun
    · exact stepB_invReg hi h
    · exact stepB_invUnreg hi h
  | ret a r => exact stepB_ret hi h
  | load a lk rq src =>
    obtain ⟨k, -, -, hrq, -, hp, rfl⟩ := step_load h
    exact hi.move hp (fun c h => at_checked h (.inl rfl) fun e => hi.reqAtReg_false (hrq ▸ e)) nofun
      (phases_unreg (phases_checked ..))
  | casFail a lk rq src =>
    obtain ⟨k, b, -, -, hrq, -, hp, rfl⟩ := step_casFail h
    rw [if_pos hA.fix]
    exact hi.move hp (fun c h => at_checked h (.inr (.inl ⟨b, rfl⟩)) fun e => hi.reqAtReg_false (hrq ▸ e)) nofun
      (phases_unreg ((phases_checked ..).trans (phases_cas ..).symm))
  | reload a lk rq src =>
    obtain ⟨k, -, -, hrq, -, hp, rfl⟩ := step_reload h
    exact hi.move hp (fun c h => at_checked h (.inr (.inr rfl)) fun e => hi.reqAtReg_false (hrq ▸ e)) nofun
      (phases_unreg ((phases_checked ..).trans (phases_spin ..).symm))
  | acq a => exact stepB_acq hA hi h
  | deq a c m => exact stepB_deq hA hi h
  | rsDone a =>
    obtain ⟨-, -, hp, -, rfl⟩ := step_rsDone h
    rcases hp with hp | hp <;> exact hi.move hp (fun c _ => ⟨nofun, nofun, nofun, nofun, nofun, nofun⟩) nofun
  | preExec a c =>
    obtain ⟨-, hp, rfl⟩ := step_preExec h
    exact hi.move hp (fun c h => ⟨nofun, nofun, h.win, nofun, nofun, nofun⟩)
      (fun c h _ => .inr (Option.some.inj h ▸ rfl))
  | cbBegin a c => exact stepB_cbBegin hi h
  | cbEnd a c =>
    obtain ⟨inl, -, -, hp, rfl⟩ := step_cbEnd h
    exact hi.move hp (fun c h => ⟨h.reg, nofun, h.win, nofun, nofun, nofun⟩) (fun c _ h => by cases h)
  | finStore a c r => exact stepB_finStore hi h
  | inFin a c => exact stepB_inFin hi h
  | push a c b => exact stepB_push hi h
  | unlink a c r => exact stepB_unlink hi h
  | selfChk a c e p =>
    obtain ⟨-, hp, -, ⟨_, -, -, -, rfl⟩ | ⟨-, -, -, rfl⟩ | ⟨-, -, rfl⟩⟩ := step_selfChk h <;>
      exact hi.move hp (fun c h => ⟨nofun, nofun, nofun, nofun, h.unreg, h.out⟩) nofun
  | waited a c =>
    obtain ⟨-, hp, -, rfl⟩ := step_waited h
    exact hi.move hp (fun c h => ⟨nofun, nofun, nofun, nofun, h.unreg, h.out⟩) nofun
  | srcInc a => obtain ⟨-, -, rfl⟩ := step_srcInc h; exact hi.srcs _
  | srcDec a => obtain ⟨-, -, rfl⟩ := step_srcDec h; exact hi.srcs _
  | query a x y => obtain ⟨-, -, -, rfl⟩ := step_query h; exact hi
  | done a =>
    obtain ⟨-, -, hp, rfl⟩ := step_done h
    exact hi.move hp (fun c _ => ⟨nofun, nofun, nofun, nofun, nofun, nofun⟩) nofun

end PikaVerif.Stop
