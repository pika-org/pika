import PikaVerif.Lemmas.Sem
/-! Second group of invariants of the semaphore model (results, operation bookkeeping). -/
namespace PikaVerif.Sem

/-- What `tookOp` must be at each program counter. -/
def expectTook : Pc → Option Bool
  | .idle | .fin => none
  | .taken => some true
  | .retn r => some r
  | _ => some false

def isRel : Op → Bool
  | .rel _ => true
  | _ => false

/-- Which operation a program counter belongs to (where the pc determines it). -/
def pcOpOk : Pc → Op → Bool
  | .want o, c | .locked o _, c => decide (o = c)
  | .relL _ _, c | .relRes _ _ _, c | .relNL _ _, c | .relFin, c => isRel c
  | .enq tm, c | .unl tm _, c | .wokeNL tm _, c | .relk tm _, c => if tm then decide (c = .timed) else decide (c = .acq)
  | .susp _, c => decide (c = .acq)
  | .slp _, c => decide (c = .timed)
  | .failing, c => decide (c = .timed)
  | _, _ => true

structure Inv2 (s : St) : Prop where
  nonneg : 0 ≤ s.init → 0 ≤ s.value
  lockConv : ∀ r, s.lock = some r → holds (s.pc r) = true ∧ r < s.n
  /-- only a blocking acquire comes back to its check carrying a notification -/
  carryOps : ∀ t o, s.pc t = .locked o true → o = .acq ∨ o = .timed
  result : ∀ t b, expectTook (s.pc t) = some b → s.tookOp t = b
  opOk : ∀ t, pcOpOk (s.pc t) (s.curOp t) = true
  /-- a timed acquire is on its way to returning `false` only after a genuine timeout -/
  timedFalse : ∀ t, s.curOp t = .timed → (s.pc t = .failing ∨ s.pc t = .retn false) →
      s.sawTimeout t = true

theorem inv2_init (n : Nat) (v : Int) : Inv2 (init n v) := by
  refine ⟨?_, ?_, ?_, ?_, ?_, ?_⟩ <;> simp [init, expectTook, pcOpOk]

/-- What `Inv2` says of one thread: its program counter against its history fields. -/
def Ok2 (p : Pc) (took saw : Bool) (op : Op) : Prop :=
  (∀ o, p = .locked o true → o = .acq ∨ o = .timed) ∧ (∀ b, expectTook p = some b → took = b) ∧
  pcOpOk p op = true ∧ (op = .timed → p = .failing ∨ p = .retn false → saw = true)

theorem setPopped_ok {p p' : Pc} (h : setPopped p = some p') {k w : Bool} {c : Op} (hp : Ok2 p k w c) :
    Ok2 p' k w c := by
  unfold setPopped at h
  split at h <;> cases h <;> simpa [Ok2, expectTook, pcOpOk] using hp

def Ok (s : St) : Prop := ∀ u, Ok2 (s.pc u) (s.tookOp u) (s.sawTimeout u) (s.curOp u)

theorem Inv2.ok {s : St} (hi : Inv2 s) : Ok s := fun t => ⟨hi.carryOps t, hi.result t, hi.opOk t, hi.timedFalse t⟩

theorem Inv2.of_ok {s : St} (hV : 0 ≤ s.init → 0 ≤ s.value) (hL : LockConv s) (h : Ok s) : Inv2 s :=
  ⟨hV, hL, fun u => (h u).1, fun u => (h u).2.1, fun u => (h u).2.2.1, fun u => (h u).2.2.2⟩

theorem Ok.move {s s' : St} (h : Ok s) {t : Nat} {p' : Pc} (hpc : s'.pc = upd s.pc t p')
    (hfr : ∀ u, u ≠ t → (s'.tookOp u, s'.sawTimeout u, s'.curOp u) = (s.tookOp u, s.sawTimeout u, s.curOp u))
    (hok : Ok2 p' (s'.tookOp t) (s'.sawTimeout t) (s'.curOp t)) : Ok s' := fun u => by
  rw [hpc]
  by_cases hu : u = t
  · subst hu; rw [upd_same]; exact hok
  · have := hfr u hu
    simp only [Prod.mk.injEq] at this
    obtain ⟨h1, h2, h3⟩ := this
    rw [upd_other _ _ _ _ hu, h1, h2, h3]; exact h u

/-- The converse of the lock clause comes with `Core.step`; in each case the per-thread fact `Ok2` at the new
    program counter follows from the one at the old by unfolding the tables. -/
theorem Inv2.step {s s' : St} {e : Ev} (hi : Inv2 s) (hc : Core s) (h : step s e = some s') : Inv2 s' := by
  have hL := (hc.step (step_iff.1 h)).2 hi.lockConv
  cases step_iff.1 h with
  | inv htn hp =>
    exact .of_ok hi.nonneg hL (hi.ok.move rfl (fun u hu => by simp only [upd_other _ _ _ _ hu])
      (by simp [Ok2, expectTook, pcOpOk]))
  | ret htn hp | done htn hp =>
    exact .of_ok hi.nonneg hL (hi.ok.move rfl (fun _ _ => rfl) (by simp [Ok2, expectTook, pcOpOk]))
  | take htn _ hp _ hv =>
    exact .of_ok (fun _ => by show 0 ≤ s.value - 1; omega) hL
      (hi.ok.move rfl (fun u hu => by simp only [upd_other _ _ _ _ hu]) (by simp [Ok2, expectTook, pcOpOk]))
  | @add t c htn _ hp =>
    have hk := hi.ok t; rw [hp] at hk
    exact .of_ok (fun h => by have := hi.nonneg h; show 0 ≤ s.value + (c : Int); omega) hL
      (hi.ok.move rfl (fun _ _ => rfl) (by simp [Ok2, expectTook, pcOpOk] at hk ⊢ <;> grind [isRel]))
  | @suspend t _ htn hp | @woke t _ htn hp _ | @sleep t _ htn hp | @timeout t _ htn hp
  | @cvNone t _ _ htn _ hp _ | @cvEnq t _ _ htn _ hp _ | @wokePopped t _ htn _ hp
  | @wokeSpurious t htn _ hp | @acqWant t _ htn _ hp | @acqWoke t _ _ htn _ hp | @acqLoop t _ _ htn _ hp
  | @relEnq t _ htn _ hp | @relTaken t htn _ hp | @relFailing t htn _ hp | @relFin t htn _ hp
  | @relRes t _ _ _ htn _ hp | @relTry t _ htn _ hp _ =>
    have hk := hi.ok t; rw [hp] at hk
    exact .of_ok hi.nonneg hL
      (hi.ok.move rfl (fun _ _ => rfl) (by simp [Ok2, expectTook, pcOpOk] at hk ⊢ <;> grind [isRel]))
  | @wokeTimeout t htn _ hp =>
    have hk := hi.ok t; rw [hp] at hk
    exact .of_ok hi.nonneg hL (hi.ok.move rfl (fun u hu => by simp only [upd_other _ _ _ _ hu])
      (by simp [Ok2, expectTook, pcOpOk] at hk ⊢ <;> grind [isRel]))
  | @pop t i n g rest p' htn hl hp hq hp' =>
    -- the target `g` is marked, then the notifier moves on: two moves
    have hgt : t ≠ g := fun h => by rw [← h, hp] at hp'; cases hp'
    have h1 : Ok { s with pc := upd s.pc g p' } := hi.ok.move rfl (fun _ _ => rfl) (setPopped_ok hp' (hi.ok g))
    have hk := h1 t
    simp only [upd_other _ _ _ _ hgt, hp] at hk
    exact .of_ok hi.nonneg hL
      (h1.move rfl (fun _ _ => rfl) (by simp [Ok2, expectTook, pcOpOk] at hk ⊢ <;> grind [isRel]))

theorem inv2_of_accepted {n : Nat} {v : Int} {log : List Ev} {s : St}
    (h : runLog step (init n v) log = some s) : Inv s ∧ Inv2 s :=
  inv_of_runLog (fun s => Inv s ∧ Inv2 s) (fun _ _ _ hi hs => ⟨hi.1.step hs, hi.2.step hi.1.core hs⟩)
    ⟨inv_init n v, inv2_init n v⟩ h

end PikaVerif.Sem
