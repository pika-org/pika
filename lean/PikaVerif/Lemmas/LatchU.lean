import PikaVerif.Lemmas.Latch
import PikaVerif.Core.Prog
/-!
# Termination measure of the latch model and finite programs over it (C09u)

The model `PikaVerif.Latch` has **no stutter**: a failed attempt to take the internal spinlock is
not an event of the model (`slAcq` is only accepted when the lock is free), `try_wait` is a single
`ret`, and `wait` calls `cond_.wait` exactly once (no loop), so every accepted event moves the
program counter of its thread forward.  `mu` = sum of a rank of every program counter + `3` per
queued cv entry strictly decreases with every accepted event other than the start of a new
operation (`inv`); the only loop of the code, the `notify_one` loop of the thread that brought the
counter to zero (`ntfL → ntfRes true → ntfNL → ntfL`), is paid for by the queue entry it pops.

The program layer (`PSt`, `pstep`) gives every thread a finite list of operations, as in
`Lemmas/SemProg.lean`; `phi` = `mu` + potential of the operations not yet started decreases with
**every** accepted event.
-/
namespace PikaVerif.Latch

/-- potential of one operation not yet started (= rank of `want o`) -/
def opRank : Op → Nat
  | .wait => 14
  | .aw _ => 14
  | .cd _ => 7
  | .tryWait => 2

def rank : Pc → Nat
  | .fin => 0
  | .idle => 1
  | .retn _ => 2
  | .passing => 3
  | .relk _ => 4
  | .wokeNL _ => 5
  | .susp _ => 6
  | .unl _ => 7
  | .enq => 8
  | .mustEnq => 12
  | .wLocked => 13
  | .awLocked _ => 13
  | .want o => opRank o
  | .awZero => 5
  | .cdLocked => 5
  | .cdWant => 6
  | .ntfRes false => 3
  | .ntfL => 4
  | .ntfNL => 5
  | .ntfRes true => 6

def mu (s : St) : Nat := sumTo s.n (fun t => rank (s.pc t)) + 3 * s.queue.length

set_option hygiene false in
macro "lmu_step" t:term : tactic => `(tactic| (
  simp only [step] at h
  split at h
  case isFalse => simp at h
  rename_i hg
  have htn : $t < s.n := by grind
  have hle := le_sumTo (f := fun u => rank (s.pc u)) htn
  repeat' split at h
  all_goals first | (simp at h; done) | skip
  all_goals (
    simp only [Option.some.injEq] at h
    subst h
    simp only [mu]
    try rw [sumTo_upd_eq _ rank _ _ _ htn]
    grind)))

variable {s s' : St} {t : Nat} {e : Ev}

theorem step_n (h : step s e = some s') : s'.n = s.n ∧ s'.init = s.init := by
  cases e <;> simp only [step] at h <;> (repeat' split at h) <;> cases h <;> exact ⟨rfl, rfl⟩

def decOf : Op → Nat
  | .cd k => k
  | .aw k => k
  | _ => 0

/-- decrement an invoked operation has not applied yet -/
def pend : Pc → Nat
  | .want o => decOf o
  | .awLocked k => k
  | _ => 0

/-- inside `wait` / `arrive_and_wait`, before the way out (`notify` loop / return) -/
def inWait : Pc → Bool
  | .want .wait | .want (.aw _) | .wLocked | .awLocked _ | .awZero | .mustEnq | .enq | .unl _ | .susp _
  | .wokeNL _ | .relk _ | .passing => true
  | _ => false

/-- What one accepted event `e` other than `inv` does, seen from the quantities counted per thread.
    One thread `t` moves: down in `rank` by more than three times the queue entries it adds (the one
    way up, `ntfL → ntfRes true` in `popResume`, costs 2 and is paid for by the 3 of the entry
    popped), keeping `decSum + pend`, not into a wait, and to `fin` only by `done`.  The others
    keep `rank`, `pend`, `inWait` and do not come to `fin`. -/
def AccStep (e : Ev) (s s' : St) : Prop :=
  ∃ t, t < s.n ∧
    (∀ u, u ≠ t → rank (s'.pc u) = rank (s.pc u) ∧ pend (s'.pc u) = pend (s.pc u) ∧
      inWait (s'.pc u) = inWait (s.pc u) ∧ (s'.pc u = .fin → s.pc u = .fin)) ∧
    rank (s'.pc t) + 3 * s'.queue.length < rank (s.pc t) + 3 * s.queue.length ∧
    s'.decSum + pend (s'.pc t) = s.decSum + pend (s.pc t) ∧
    (inWait (s'.pc t) = true → inWait (s.pc t) = true) ∧
    (s'.pc t = .fin → e = .done t)

theorem acc_move {s₁ : St} {p' : Pc} (ht : t < s.n) (hpc : s₁.pc = upd s.pc t p')
    (hr : rank p' + 3 * s₁.queue.length < rank (s.pc t) + 3 * s.queue.length)
    (hd : s₁.decSum + pend p' = s.decSum + pend (s.pc t) ∧
      (inWait p' = true → inWait (s.pc t) = true) ∧ (p' = .fin → e = .done t)) :
    AccStep e s s₁ := by
  refine ⟨t, ht, fun u hu => ?_, ?_⟩ <;> rw [hpc]
  · rw [upd_other _ _ _ _ hu]; exact ⟨rfl, rfl, rfl, id⟩
  · rw [upd_same]; exact ⟨hr, hd⟩

theorem acc_step (hne : ∀ t o, e ≠ .inv t o) (h : step s e = some s') : AccStep e s s' := by
  cases e with
  | inv t o => exact absurd rfl (hne t o)
  | popResume t z g =>
    obtain ⟨ht, _, hp, rest, p', hq, hp', rfl⟩ := step_popResume h
    have hg : rank p' = rank (s.pc g) ∧ pend p' = pend (s.pc g) ∧ inWait p' = inWait (s.pc g) ∧
        p' ≠ .fin := by
      unfold setPopped at hp'
      split at hp' <;> cases hp' <;> rename_i hpg <;>
        exact ⟨by rw [hpg]; rfl, by rw [hpg]; rfl, by rw [hpg]; rfl, nofun⟩
    refine ⟨t, ht, fun u hu => ?_, ?_⟩
    · simp only [upd_other _ _ _ _ hu]
      by_cases hug : u = g
      · subst hug; simp only [upd_same]; exact ⟨hg.1, hg.2.1, hg.2.2.1, fun h => absurd h hg.2.2.2⟩
      · simp [upd_other _ _ _ _ hug]
    · simp only [upd_same, hp, hq, List.length_cons]
      cases decide (rest ≠ []) <;> simp [rank, pend, inWait] <;> omega
  | _ =>
    -- every other branch of `step` moves one thread: evaluate the classifiers at the two ends
    simp only [step] at h
    repeat' split at h
    all_goals cases h
    all_goals refine acc_move ?_ rfl ?_ ?_
    all_goals simp_all [rank, opRank, pend, inWait, decOf]
    all_goals omega

theorem mu_inv {o : Op} (h : step s (.inv t o) = some s') : mu s' + 1 = mu s + opRank o := by
  obtain ⟨ht, hp, rfl⟩ := step_inv h
  have := sumTo_upd s.n rank s.pc t (.want o) ht
  rw [hp] at this
  change _ + 1 = _ + opRank o at this
  simp only [mu]; omega

theorem mu_step (hne : ∀ t o, e ≠ .inv t o) (h : step s e = some s') : mu s' < mu s := by
  obtain ⟨t, ht, ho, hr, -⟩ := acc_step hne h
  have := sumTo_change (f := fun u => rank (s.pc u)) (f' := fun u => rank (s'.pc u)) ht
    fun u _ hu => (ho u hu).1
  simp only [mu, (step_n h).1]
  omega

theorem step_fin {u : Nat} (hs : step s e = some s') (hu : s'.pc u = .fin) : s.pc u = .fin ∨ e = .done u := by
  by_cases hinv : ∃ t o, e = .inv t o
  · obtain ⟨t, o, rfl⟩ := hinv
    obtain ⟨-, -, rfl⟩ := step_inv hs
    by_cases hut : u = t <;> simp_all
  · obtain ⟨t, -, ho, -, -, -, hf⟩ := acc_step (fun t o he => hinv ⟨t, o, he⟩) hs
    by_cases hut : u = t
    · exact .inr (hut ▸ hf (hut ▸ hu))
    · exact .inl ((ho u hut).2.2.2 hu)

structure PSt where
  s : St
  prog : Nat → List Op

def pstep (p : PSt) : Ev → Option PSt
  | .inv t o =>
    match p.prog t with
    | o' :: rest =>
      if o' = o then (step p.s (.inv t o)).map (fun s' => ⟨s', upd p.prog t rest⟩) else none
    | [] => none
  | .done t => if p.prog t = [] then (step p.s (.done t)).map (fun s' => ⟨s', p.prog⟩) else none
  | .ret t r => (step p.s (.ret t r)).map (fun s' => ⟨s', p.prog⟩)
  | .slAcq t => (step p.s (.slAcq t)).map (fun s' => ⟨s', p.prog⟩)
  | .slRel t => (step p.s (.slRel t)).map (fun s' => ⟨s', p.prog⟩)
  | .dec t v u => (step p.s (.dec t v u)).map (fun s' => ⟨s', p.prog⟩)
  | .notified t a => (step p.s (.notified t a)).map (fun s' => ⟨s', p.prog⟩)
  | .mustwait t c b => (step p.s (.mustwait t c b)).map (fun s' => ⟨s', p.prog⟩)
  | .nowait t c b => (step p.s (.nowait t c b)).map (fun s' => ⟨s', p.prog⟩)
  | .cvEnq t z => (step p.s (.cvEnq t z)).map (fun s' => ⟨s', p.prog⟩)
  | .popResume t z g => (step p.s (.popResume t z g)).map (fun s' => ⟨s', p.prog⟩)
  | .cvNone t => (step p.s (.cvNone t)).map (fun s' => ⟨s', p.prog⟩)
  | .cvWoke t a => (step p.s (.cvWoke t a)).map (fun s' => ⟨s', p.prog⟩)
  | .suspend t => (step p.s (.suspend t)).map (fun s' => ⟨s', p.prog⟩)
  | .woke t => (step p.s (.woke t)).map (fun s' => ⟨s', p.prog⟩)

def pinit (n : Nat) (c : Int) (prog : Nat → List Op) : PSt := ⟨init n c, prog⟩

theorem layer : ProgLayer step pstep PSt.s PSt.prog .inv .done := by
  refine ⟨fun {p e p'} h => ?_, nofun⟩
  cases e
  case inv t o =>
    simp only [pstep] at h
    split at h
    · rename_i o' rest hp
      split at h
      · rename_i ho; subst ho
        obtain ⟨s₁, hs, rfl⟩ := Option.map_eq_some_iff.1 h
        exact ⟨hs, Or.inl ⟨t, o', rest, rfl, hp, rfl⟩⟩
      · cases h
    · cases h
  case done t =>
    simp only [pstep] at h
    split at h
    · rename_i hp
      obtain ⟨s₁, hs, rfl⟩ := Option.map_eq_some_iff.1 h
      exact ⟨hs, Or.inr ⟨fun _ _ => nofun, rfl, fun _ he => by cases he; exact hp⟩⟩
    · cases h
  all_goals
    obtain ⟨s₁, hs, rfl⟩ := Option.map_eq_some_iff.1 h
    exact ⟨hs, Or.inr ⟨fun _ _ => nofun, rfl, fun _ => nofun⟩⟩

def progCost : List Op → Nat
  | [] => 0
  | o :: l => opRank o + progCost l

def phi (p : PSt) : Nat := mu p.s + sumTo p.s.n (fun t => progCost (p.prog t))

theorem potential : Potential pstep .inv (fun _ => True) (·.s.n) (mu ·.s) fun _ => progCost :=
  ⟨fun _ h => ⟨trivial, (step_n (layer.sound h).1).1⟩,
   fun {_ _ o _} _ h => have hs := (layer.sound h).1; ⟨(step_inv hs).1, fun l => by
    have := mu_inv hs
    have : 0 < opRank o := by cases o <;> simp [opRank]
    simp only [progCost]; omega⟩,
   fun _ hne h => mu_step hne (layer.sound h).1⟩

/-- explicit bound on the number of events of a program with `n` threads: 1 per thread (`done`),
    14 per `wait` / `arrive_and_wait`, 7 per `count_down`, 2 per `try_wait` -/
def bound (n : Nat) (prog : Nat → List Op) : Nat := n + sumTo n (fun t => progCost (prog t))

theorem phi_pinit (n : Nat) (c : Int) (prog : Nat → List Op) : phi (pinit n c prog) = bound n prog := by
  simp only [phi, pinit, mu, init, bound]
  have h1 : sumTo n (fun _ => rank Pc.idle) = n := (sumTo_const n 1).trans (Nat.mul_one n)
  rw [h1]; simp

def PStuck (p : PSt) : Prop := ∀ e, pstep p e = none

end PikaVerif.Latch
