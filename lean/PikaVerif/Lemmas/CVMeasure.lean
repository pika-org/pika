import PikaVerif.Lemmas.CVInvResults
import PikaVerif.Lemmas.CVProgram
/-!
# Termination measure of the condition-variable model (C07t)

The model `PikaVerif.CV` has **no stutter**: every accepted event changes the program counter of
its actor or shortens the wait queue (a failed attempt on the internal spinlock, on the user lock
or on the lock bit of the stop state is not an event of the model: `slAcq` / `ulAcq` / `stAcq` are
accepted only when the lock is free; the spinning lines are dropped by the driver before the
acceptor).  This file defines a natural-number measure `mu` on model states that strictly
decreases with every accepted event other than the invocation of a new operation (`mu_step`; `inv t o`
adds exactly `opCost n o`, `mu_inv`), and from it the potential of programs (`potential`), which
bounds every accepted log of a program (`bound`).

Potential argument.  A waiter's loop iteration (`predChk → want → locked → released → enq → unl →
susp/slp → wokeNL → relk → post → relockU → predChk`, 13 events at most) is paid for by the
wake-up token (`tok`, worth 14) or by the `popped` flag of its program counter (worth 14); both
are created only by a pop of a notifier, which pays 29 for it.  `notify_one` pops at most once.
`notify_all` (and the stop callback, which is a `notify_all`) pops every entry queued when it
swapped the queue out: its potential is `29 * |queue|` inside the pop loop and `29 * n` before
(the queue never holds more than `n` entries, `qlen_le`).  A registered stop callback carries
the potential of its own execution by `request_stop` (`cbW`).
-/
namespace PikaVerif.CV

theorem sumTo_change2 (n : Nat) (f f' : Nat → Nat) (t g : Nat) (ht : t < n) (hg : g < n) (hne : g ≠ t)
    (h : ∀ u, u < n → u ≠ t → u ≠ g → f' u = f u) :
    sumTo n f' + f t + f g = sumTo n f + f' t + f' g := by
  have h1 := sumTo_change (f := fun u => if u = t then f u else f' u) (f' := f') ht
    (by intro u _ hu; simp [hu])
  have h2 := sumTo_change (f := f) (f' := fun u => if u = t then f u else f' u) hg
    (by intro u hu hug
        by_cases hut : u = t
        · simp [hut]
        · simp [hut]; exact h u hu hut hug)
  simp [hne] at h1 h2
  omega

theorem sumTo_le_of_le_one {n : Nat} {f : Nat → Nat} (h : ∀ t, f t ≤ 1) : sumTo n f ≤ n :=
  sumTo_le_n fun t _ => h t

theorem Inv.mem_queue_lt {s : St} (hi : Inv s) {g : Nat} (hg : g ∈ s.queue) : g < s.n :=
  hi.core.lt_of_mem rfl hg

theorem qlen_le (s : St) (hi : Inv s) : s.queue.length ≤ s.n :=
  length_le_of_nodup_lt hi.qNodup fun _ => hi.mem_queue_lt

/-- the value `final` that the predicate re-test after the wait will carry -/
def finalAfter (c : Op) (ss still : Bool) : Bool :=
  if isStop c && isTimed c then ss else isTimed c && still

/-- rank of a program counter; `c` = current operation, `ss` = the local `should_stop`,
    `N` = number of threads, `q` = length of the wait queue -/
def rank (c : Op) (ss : Bool) (N q : Nat) : Pc → Nat
  | .fin => 0
  | .idle => 1
  | .wantU => 2
  | .unlocking => 2
  | .setting _ => 2
  | .retn _ => 2
  | .predChk f => if f then 7 else 20
  | .want => 19
  | .sChk1 => 18
  | .locked => 17
  | .released => 16
  | .enq _ => 15
  | .unl _ p => 14 + 14 * b2n p
  | .susp p => 13 + 14 * b2n p
  | .slp p => 13 + 14 * b2n p
  | .wokeNL tm p => 12 + 14 * b2n (!tm) + 14 * b2n p
  | .relk tm p => 11 + 14 * b2n (!tm) + 14 * b2n p
  | .post still => if isTimed c && still then 10 else 24
  | .postS still => if finalAfter c ss still then 9 else 23
  | .relockU still => if finalAfter c ss still then 8 else 22
  | .nWant => if c = .notify true then 29 * N + 6 else 33
  | .nLocked => if c = .notify true then 29 * N + 5 else 32
  | .nAll => 29 * q + 4
  | .nDone => 3
  | .nRet => 2
  | .sChk0 => 29 * N + 32
  | .sReg => 29 * N + 31
  | .sRegLk => 29 * N + 30
  | .cWant k => 29 * N + (if k then 24 else 8)
  | .cLocked k => 29 * N + (if k then 23 else 7)
  | .cAll k => 29 * q + (if k then 22 else 6)
  | .cRet k => if k then 21 else 5
  | .sStopped => 7
  | .sDtor _ => 6
  | .sRm _ => 5
  | .sRmChk _ => 4
  | .sRmWait _ => 3
  | .rsWant => 4
  | .rsRelock => 4
  | .rsLocked => 3
  | .rsRet _ => 2

/-- potential of the registered stop callbacks: each pays for its execution by `request_stop` -/
def cbW (N : Nat) : List Nat → Nat
  | [] => 0
  | _ :: l => 29 * N + 9 + cbW N l

theorem cbW_erase (N : Nat) (t : Nat) : ∀ l : List Nat, cbW N (l.erase t) ≤ cbW N l := by
  intro l
  induction l with
  | nil => simp
  | cons a l ih =>
    by_cases h : a = t
    · subst h; simp [cbW]
    · rw [List.erase_cons_tail (by simpa using h)]; simp only [cbW]; omega

/-- weight of a thread: rank of its program counter + 14 per wake-up token -/
def wt (s : St) (u : Nat) : Nat :=
  rank (s.curOp u) (s.sstop u) s.n s.queue.length (s.pc u) + 14 * s.tok u

def mu (s : St) : Nat := sumTo s.n (wt s) + cbW s.n s.cbs

/-- potential an operation adds when it is invoked (rank of its first program counter − 1) -/
def opCost (N : Nat) : Op → Nat
  | .lock => 1
  | .unlock => 1
  | .set _ => 1
  | .notify all => if all then 29 * N + 5 else 32
  | .wait _ pr => if pr then 19 else 18
  | .swait _ => 29 * N + 31
  | .stop => 3

theorem mu_lt_of_change (s s' : St) (t : Nat) (htn : t < s.n) (hn : s'.n = s.n)
    (ho : ∀ u, u < s.n → u ≠ t → wt s' u = wt s u)
    (hlt : wt s' t + cbW s.n s'.cbs < wt s t + cbW s.n s.cbs) : mu s' < mu s := by
  have := sumTo_change (f := wt s) (f' := wt s') htn ho
  simp only [mu, hn]
  omega

theorem mu_lt_of_change2 (s s' : St) (t g : Nat) (htn : t < s.n) (hgn : g < s.n) (hne : g ≠ t)
    (hn : s'.n = s.n) (hc : s'.cbs = s.cbs)
    (ho : ∀ u, u < s.n → u ≠ t → u ≠ g → wt s' u = wt s u)
    (hlt : wt s' t + wt s' g < wt s t + wt s g) : mu s' < mu s := by
  have := sumTo_change2 s.n (wt s) (wt s') t g htn hgn hne ho
  simp only [mu, hn, hc]
  omega

end PikaVerif.CV

/-! ## Every accepted event other than `inv` lowers the measure -/
namespace PikaVerif.CV

attribute [local grind] rank b2n isTimed isPred isStop isWait exitPc finalAfter pcOpOk cbW opCost

-- `mt_step t`: to be called with `h : step s (e) = some s'` for an event `e` of thread `t` and
-- `hB : Inv2 s` in scope (the macro names them: hygiene is off); it unfolds `step`, and for each way
-- the event is accepted compares the two weights of `t` by the rank table.
set_option hygiene false in
macro "mt_step" t:term : tactic => `(tactic| (
  simp only [step] at h
  split at h
  case isFalse => simp at h
  rename_i hg
  have htn : $t < s.n := by grind
  have hop := hB.opOk $t
  repeat' split at h
  all_goals first | (simp at h; done) | skip
  all_goals (
    simp only [Option.some.injEq] at h
    subst h
    refine mu_lt_of_change s _ $t htn rfl ?_ ?_
    · intro u _ hne; simp [wt, upd, hne]
    · simp only [wt, upd_same]
      grind)))

/-! ## events that change the queue -/

theorem rank_q (c : Op) (ss : Bool) (N q q' : Nat) (p : Pc) (h : holds p = false) :
    rank c ss N q p = rank c ss N q' p := by
  cases p <;> simp [rank, holds] at h ⊢

theorem others_not_hold (s : St) (hA : Inv s) (t u : Nat) (hl : s.lock = some t) (hne : u ≠ t) :
    holds (s.pc u) = false := by
  cases hh : holds (s.pc u) with
  | false => rfl
  | true => have := hA.lockHolder u hh; rw [hl] at this; simp at this; exact absurd this.symm hne

theorem setPopped_rank {p p' : Pc} (h : setPopped p = some p') (c : Op) (ss : Bool) (N q q' : Nat) :
    rank c ss N q p' = rank c ss N q' p + 14 ∧ holds p = false ∧ inQ p = true := by
  rcases setPopped_some h with ⟨_, rfl, rfl⟩ | ⟨rfl, rfl⟩ | ⟨rfl, rfl⟩ | ⟨_, rfl, rfl⟩ <;>
    simp [rank, b2n, holds, inQ] <;> omega

/-- a pop: the notifier `t` (whose next program counter `pcT` is at least 29 cheaper once the
    queue is one shorter) pops and resumes the front waiter; `w`, `po`, `ps` are not read by `mu` -/
theorem mu_pop {s : St} {t g : Nat} {d : Bool} {pcT : Pc} (hA : Inv s) (htn : t < s.n) (hl : s.lock = some t)
    (hh : s.queue.head? = some g) (hs : (setPopped (s.pc g)).isSome = true)
    (hpay : ∀ q, rank (s.curOp t) (s.sstop t) s.n q pcT + 29 ≤ rank (s.curOp t) (s.sstop t) s.n (q + 1) (s.pc t))
    (w po : Nat → Bool) (ps : Nat → Nat) :
    mu { s with queue := s.queue.tail, tok := tokTo s g d, pc := upd (popped s.pc g) t pcT, waiting := w,
                poppedOp := po, pops := ps } < mu s := by
  obtain ⟨p', hp'⟩ := Option.isSome_iff_exists.1 hs
  cases hq : s.queue with
  | nil => rw [hq] at hh; cases hh
  | cons y rest =>
    rw [hq] at hh; cases hh
    have hgn : g < s.n := hA.mem_queue_lt (by rw [hq]; exact List.mem_cons_self ..)
    have hgt : g ≠ t := fun he => by
      have := (setPopped_rank hp' .lock false 0 0 0).2.1
      rw [he, (hA.lockConv t hl).1] at this; nomatch this
    have hlen : s.queue.length = rest.length + 1 := by rw [hq]; rfl
    rw [popped, hp', tokTo]
    refine mu_lt_of_change2 s _ t g htn hgn hgt rfl rfl (fun u _ hut hug => ?_) ?_
    · have e1 := rank_q (s.curOp u) (s.sstop u) s.n rest.length s.queue.length (s.pc u)
        (others_not_hold s hA t u hl hut)
      simp only [wt, List.tail_cons, Option.getD_some, upd_other _ _ _ _ hut, upd_other _ _ _ _ hug]
      split <;> simp [e1, upd_other _ _ _ _ hug]
    · -- the target gains 14 (popped) and, unless the resume is dropped, a token (14); the notifier pays 29
      have e1 := (setPopped_rank hp' (s.curOp g) (s.sstop g) s.n rest.length s.queue.length).1
      have e2 := hpay rest.length
      rw [← hlen] at e2
      simp only [wt, List.tail_cons, Option.getD_some, upd_same, upd_other _ _ _ _ hgt]
      split <;> simp [upd_same, upd_other _ _ _ _ (Ne.symm hgt)] <;> omega

theorem mu_add_of_change (s s' : St) (t c : Nat) (htn : t < s.n) (hn : s'.n = s.n) (hc : s'.cbs = s.cbs)
    (ho : ∀ u, u < s.n → u ≠ t → wt s' u = wt s u) (hw : wt s' t = wt s t + c) : mu s' = mu s + c := by
  have := sumTo_change (f := wt s) (f' := wt s') htn ho
  simp only [mu, hn, hc]
  omega

theorem mu_inv (s s' : St) (t : Nat) (o : Op) (h : step s (.inv t o) = some s') :
    mu s' = mu s + opCost s.n o := by
  obtain ⟨p, p', htn, hp, hl, -, rfl⟩ := Step.of_step h
  cases hl
  simp only [actor] at htn hp
  refine mu_add_of_change s _ t _ htn rfl rfl
    (fun u _ hu => by simp only [wt, write, actor, upd_other _ _ _ _ hu]) ?_
  simp only [wt, write, actor, upd_same, hp]
  rcases o with _ | _ | _ | ⟨_ | _⟩ | ⟨_, _ | _⟩ | _ | _ <;> simp [rank, opCost, entryPc] <;> omega

theorem mu_step (s s' : St) (e : Ev) (hA : Inv s) (hB : Inv2 s) (hne : ∀ t o, e ≠ .inv t o)
    (h : step s e = some s') : mu s' < mu s := by
  obtain ⟨p, p', ht, hp, hl, hg, rfl⟩ := Step.of_step h
  have hop := hB.opOk (actor e)
  rw [hp] at hop
  -- what the rank table does not know: the queue holds at most `n` entries, and a callback that leaves the
  -- list takes its potential with it
  have hql := qlen_le s hA
  have hce := fun t => cbW_erase s.n t s.cbs
  have htl : ∀ c, s.cbs.head? = some c → cbW s.n s.cbs.tail + (29 * s.n + 9) = cbW s.n s.cbs := fun c hc => by
    cases hl : s.cbs with
    | nil => rw [hl] at hc; cases hc
    | cons => simp only [List.tail_cons, cbW]; omega
  cases hl <;> simp only [actor, Guard] at ht hp hop hg
  case inv => exact absurd rfl (hne _ _)
  -- the queue grows or shrinks: nobody but the lock holder has a rank that depends on its length
  case enq t z b =>
    refine mu_lt_of_change s _ t ht rfl (fun u _ hu => ?_) ?_
    · simp only [wt, write, actor, upd_other _ _ _ _ hu]
      congr 1
      exact rank_q _ _ _ _ _ _ (others_not_hold s hA t u hg.1 hu)
    · simp only [wt, write, actor, upd_same, hp, rank]; omega
  case wokeK t still tm =>
    cases still
    · refine mu_lt_of_change s _ t ht rfl (fun u _ hu => by simp only [wt, write, actor, upd_other _ _ _ _ hu]) ?_
      simp only [wt, write, actor, upd_same]; rw [hp]; grind
    · refine mu_lt_of_change s _ t ht rfl (fun u _ hu => ?_) ?_
      · have e := rank_q (s.curOp u) (s.sstop u) s.n (s.queue.erase t).length s.queue.length (s.pc u)
          (others_not_hold s hA t u hg hu)
        simp only [wt, write, actor, upd_other _ _ _ _ hu]; omega
      · -- a time-out of a timed wait (11 → 10), or a spurious wake-up of an untimed one (25 → 24)
        simp only [wt, write, actor, upd_same, hp]; grind
  case pop1 => exact mu_pop hA ht hg.1 hg.2.2.1 hg.2.2.2.2.1 (fun q => by rw [hp, hg.2.1]; simp [rank]) ..
  case popA | popC =>
    exact mu_pop hA ht hg.1 hg.2.1 hg.2.2.2.1 (fun q => by rw [hp]; simp only [rank]; omega) ..
  -- every other line moves its thread down the rank table
  all_goals
    refine mu_lt_of_change s _ _ ht rfl (fun u _ hu => by simp [wt, write, actor, upd_other _ _ _ _ hu]) ?_
    simp only [wt, write, actor, upd_same, hp]
    grind

end PikaVerif.CV

/-! ## The potential of programs

`mu` + the price of the operations not yet started falls with **every** accepted event of a program
(`potential`), so an accepted log of a program is at most `bound` long. -/
namespace PikaVerif.CV

/-- potential of the operations a thread has not started yet (in a system of `N` threads) -/
def progCost (N : Nat) : List Op → Nat
  | [] => 0
  | o :: l => opCost N o + 1 + progCost N l

/-- the invariants the measure argument needs -/
def Good (s : St) : Prop := Inv s ∧ Inv2 s

theorem good_init (n : Nat) (f : Bool) : Good (init n f) := ⟨inv_init n f, inv2_init n f⟩

theorem good_step {s s' : St} {e : Ev} (hg : Good s) (h : step s e = some s') : Good s' :=
  ⟨step_inv s s' e hg.1 h, step_inv2 s s' e hg.1 hg.2 h⟩

theorem potential : Potential pstep .inv (Good ·.s) (·.s.n) (mu ·.s) progCost :=
  ⟨fun hg h => have hs := (layer.sound h).1; ⟨good_step hg hs, step_n hs⟩,
   fun _ h => have hs := (layer.sound h).1; ⟨(step_runnable hs).1, fun l => by
    have := mu_inv _ _ _ _ hs
    simp only [progCost]; omega⟩,
   fun hg hne h => mu_step _ _ _ hg.1 hg.2 hne (layer.sound h).1⟩

/-- explicit bound on the number of events of a program with `n` threads: 1 per thread (`done`)
    + per operation: 2 for lock / unlock / set, 33 for notify_one, `29 n + 6` for notify_all,
    19 / 20 for a plain / predicate wait (timed or not), `29 n + 32` for a stop-token wait,
    4 for request_stop -/
def bound (n : Nat) (prog : Nat → List Op) : Nat := n + sumTo n (fun t => progCost n (prog t))

theorem phi_pinit (n : Nat) (f : Bool) (prog : Nat → List Op) :
    progPhi PSt.prog (·.s.n) (mu ·.s) progCost (pinit n f prog) = bound n prog := by
  simp only [progPhi, pinit, mu, init, bound, cbW]
  have h1 : sumTo n (wt (init n f)) = n := by
    have : ∀ k, sumTo k (wt (init n f)) = k := by
      intro k
      induction k with
      | zero => rfl
      | succ k ih => simp only [sumTo_succ, ih]; simp [wt, init, rank]
    exact this n
  simp only [init] at h1
  rw [h1]; omega

end PikaVerif.CV
