import PikaVerif.Lemmas.DequeInv
/-!
# The weakest sufficient condition proved for the pinned tree: no stale link CAS on a *live* link

A stale link CAS of `stabilize_left/right` (it succeeds although the anchor it was computed for has
changed) writes `prev->outward := (end, tag+1)` into some node `P`.  That write is harmless when the
link it hits is *dead* — nobody trusts its value before it is rewritten:

* `P` is in the chain and is the current end node on side `d` (the outward link of an end node is
  only read by a later stabilisation, which corrects it), or
* `P` is not in the chain, is allocated, and is not the private node of a push on the opposite side
  that has already stored its inward link (`pushCas (!d) P _` — the same physical word), or
* `P` is in the freelist and the word is the `right` link (`alloc_node` re-initialises it; the
  `left` word of a free node is the freelist's own `next` pointer — a CAS that succeeds there
  corrupts the freelist, which is outside the model's freelist assumption, so it counts as harm).

`harmFreeB fx s log` runs this test beside the acceptor.  It is implied by `stale = false`
(`harmFree_of_stale_false`) and strictly weaker (example in `Props/C17.lean`: a stale CAS on a
recycled end node).  Under it the invariant `Inv` of `Lemmas/DequeInv.lean` holds (`inv_of_harmFree`).
-/
namespace PikaVerif.Deque

/-- the thread is a push on side `d` that has stored the inward link of its private node `P` -/
def isPushCasOf (d : Bool) (P : Nat) : Pc → Bool
  | .pushCas d' n _ => d' == d && n == P
  | _ => false

/-- the test: the outward link on side `d` of node `P` is dead (decided over the threads
    `0 … n-1`), and it is not the `left` word of a free node, which belongs to the freelist -/
def deadLinkB (s : St) (d : Bool) (P : Nat) : Bool :=
  if P ∈ s.chain then P == s.anchor.endp d
  else (List.range s.n).all (fun u => !isPushCasOf (!d) P (s.pc u)) && (s.used P || d)

/-- the test at one event: a successful link CAS is current, or hits a dead link -/
def harmStep (s : St) : Ev → Bool
  | .lcas t true =>
    match s.pc t with
    | .stLink _ d a prev _ => decide (s.anchor = a) || deadLinkB s d prev.ptr
    | _ => true
  | _ => true

/-- **the log condition**: no link CAS succeeds stale on a live link -/
def harmFreeB (fx : Bool) : St → List Ev → Bool
  | _, [] => true
  | s, e :: es => harmStep s e && (match stepG fx s e with
    | none => true
    | some s' => harmFreeB fx s' es)

/-- threads outside `[0, n)` are idle (they never move: every event has `t < n`) -/
def IdleOut (s : St) : Prop := ∀ u, s.n ≤ u → s.pc u = .idle

variable {fx : Bool} {s s' : St} {e : Ev}

theorem idleOut_step (hi : IdleOut s) (h : stepG fx s e = some s') : IdleOut s' := by
  obtain ⟨t, ht, tr⟩ := Tr.of_step h
  obtain ⟨hn, hpc, _⟩ := tr.frame
  intro u hu
  rw [hn] at hu
  rw [hpc u (by omega)]; exact hi u hu

/-- the test gives `LinkOk`: no thread, inside `[0, n)` or not, is a push on the other
    side holding `P`, and a chain node is owned by nobody -/
theorem deadLinkB_spec {d : Bool} {P : Nat} (hi : Inv s) (ho : IdleOut s) (h : deadLinkB s d P = true)
    (e : Nat) : LinkOk s d P e := by
  unfold deadLinkB at h
  by_cases hm : P ∈ s.chain
  · rw [if_pos hm] at h
    obtain rfl : P = s.anchor.endp d := by simpa using h
    exact ⟨fun _ hx => (hi.glob.no_nbr_end hx).elim, fun u a hpu => hi.owned_ne_of_mem hm u (by rw [hpu]; rfl)⟩
  · rw [if_neg hm] at h
    simp only [Bool.and_eq_true, List.all_eq_true, List.mem_range, Bool.not_eq_true'] at h
    refine ⟨fun _ hx => absurd (nbr_mem hx).2 hm, fun u a hpu => ?_⟩
    by_cases hu : u < s.n
    · have := h.1 u hu; rw [hpu] at this; simp [isPushCasOf] at this
    · rw [ho u (by omega)] at hpu; cases hpu

theorem step_inv_dead (hi : Inv s) (ho : IdleOut s) (h : stepG fx s e = some s')
    (hh : harmStep s e = true) : Inv s' := by
  obtain ⟨t, _, tr⟩ := Tr.of_step h
  refine tr.preserves hi (fun k d a prev pn he hpc => ?_)
  subst he
  simp only [harmStep, hpc, Bool.or_eq_true, decide_eq_true_eq] at hh
  exact hh.elim (hi.linkOk hpc) fun hd => deadLinkB_spec hi ho hd _

theorem inv_of_harmFree {log : List Ev} {s0 : St} (h0 : Inv s0) (ho : IdleOut s0)
    (h : runLog (stepG fx) s0 log = some s) (hf : harmFreeB fx s0 log = true) : Inv s := by
  induction log generalizing s0 with
  | nil => cases h; exact h0
  | cons e es ih =>
    obtain ⟨s1, he, h⟩ := runLog_cons_some h
    simp only [harmFreeB, he, Bool.and_eq_true] at hf
    exact ih (step_inv_dead h0 ho he hf.1) (idleOut_step ho he) h hf.2

theorem stale_mono_run {log : List Ev} {s0 : St}
    (h : runLog (stepG fx) s0 log = some s) (hs : s.stale = false) : s0.stale = false :=
  inv_of_runLog (fun s => s.stale = false → s0.stale = false)
    (fun _ _ _ ih hst hs' => ih (stale_mono hst hs')) id h hs

theorem harmStep_of_not_stale (h : stepG fx s e = some s') (hs : s'.stale = false) :
    harmStep s e = true := by
  obtain ⟨t, _, tr⟩ := Tr.of_step h
  cases tr with
  | lcasOk hpc hg =>
    have hA := (Tr.lcasOk (fx := fx) hpc hg).current hs rfl hpc
    simp [harmStep, hpc, hA]
  | _ => rfl

/-- **`stale = false` implies the condition** (so the condition is the weaker one) -/
theorem harmFree_of_stale_false {log : List Ev} {s0 : St}
    (h : runLog (stepG fx) s0 log = some s) (hs : s.stale = false) : harmFreeB fx s0 log = true := by
  induction log generalizing s0 with
  | nil => rfl
  | cons e es ih =>
    obtain ⟨s1, he, h⟩ := runLog_cons_some h
    simp only [harmFreeB, he, Bool.and_eq_true]
    exact ⟨harmStep_of_not_stale he (stale_mono_run h hs), ih h⟩

end PikaVerif.Deque
