import PikaVerif.Lemmas.MtxT
import PikaVerif.Core.Prog
/-!
# Finite programs over the mutex model (C06t)

A *program* gives every task a finite list of operations (`lock`, `try_lock`, `try_lock_for`,
`unlock`).  `pstep` is the model's `step` restricted to the logs of that program: `inv t o` must
be the next operation of task `t` (which is consumed), `done t` needs the task's list to be empty,
and the harness mark `cs.enter` is allowed once per invoked operation (`cs`: the harness enters
the critical section at most once after a lock-type call; the model itself would let the pair
`cs.enter cs.exit` repeat for ever while the task holds the mutex).  Every other event is passed
to `step` unchanged (`pstep_iff`).  It is a program layer in the sense of `Core/Prog.lean` (`layer`),
with `pmu` = `mu` + 2 per unused `cs` allowance as potential (`potential`): with the prices of the
operations not yet started it decreases with **every** accepted event, so an accepted log of a program
is at most `bound` long.
-/
namespace PikaVerif.Mtx

structure PSt where
  s : St
  prog : Nat → List Op
  /-- task may still mark one critical section (granted by every invocation) -/
  cs : Nat → Bool

def pstep (p : PSt) : Ev → Option PSt
  | .inv t o =>
    match p.prog t with
    | o' :: rest =>
      if o' = o then (step p.s (.inv t o)).map (fun s' => ⟨s', upd p.prog t rest, upd p.cs t true⟩) else none
    | [] => none
  | .done t => if p.prog t = [] then (step p.s (.done t)).map (fun s' => ⟨s', p.prog, p.cs⟩) else none
  | .csEnter t =>
    if p.cs t = true then (step p.s (.csEnter t)).map (fun s' => ⟨s', p.prog, upd p.cs t false⟩) else none
  | .csExit t => (step p.s (.csExit t)).map (fun s' => ⟨s', p.prog, p.cs⟩)
  | .ret t r => (step p.s (.ret t r)).map (fun s' => ⟨s', p.prog, p.cs⟩)
  | .slAcq t => (step p.s (.slAcq t)).map (fun s' => ⟨s', p.prog, p.cs⟩)
  | .slRel t => (step p.s (.slRel t)).map (fun s' => ⟨s', p.prog, p.cs⟩)
  | .cvEnq t z b => (step p.s (.cvEnq t z b)).map (fun s' => ⟨s', p.prog, p.cs⟩)
  | .popResume t z g d => (step p.s (.popResume t z g d)).map (fun s' => ⟨s', p.prog, p.cs⟩)
  | .cvNone t => (step p.s (.cvNone t)).map (fun s' => ⟨s', p.prog, p.cs⟩)
  | .cvWoke t a b => (step p.s (.cvWoke t a b)).map (fun s' => ⟨s', p.prog, p.cs⟩)
  | .own t k w => (step p.s (.own t k w)).map (fun s' => ⟨s', p.prog, p.cs⟩)
  | .disown t => (step p.s (.disown t)).map (fun s' => ⟨s', p.prog, p.cs⟩)
  | .suspend t => (step p.s (.suspend t)).map (fun s' => ⟨s', p.prog, p.cs⟩)
  | .woke t => (step p.s (.woke t)).map (fun s' => ⟨s', p.prog, p.cs⟩)
  | .sleep t => (step p.s (.sleep t)).map (fun s' => ⟨s', p.prog, p.cs⟩)
  | .timeout t => (step p.s (.timeout t)).map (fun s' => ⟨s', p.prog, p.cs⟩)

def pinit (n : Nat) (prog : Nat → List Op) : PSt := ⟨init n, prog, fun _ => false⟩

theorem map_mk_iff {x : Option St} {g g' : Nat → List Op} {c c' : Nat → Bool} {s' : St} :
    x.map (fun s => PSt.mk s g c) = some ⟨s', g', c'⟩ ↔ x = some s' ∧ g' = g ∧ c' = c := by
  cases x with
  | none => simp
  | some s =>
    simp only [Option.map_some, Option.some.injEq, PSt.mk.injEq]
    exact ⟨fun ⟨a, b, c⟩ => ⟨a, b.symm, c.symm⟩, fun ⟨a, b, c⟩ => ⟨a, b.symm, c.symm⟩⟩

/-- What the program layer adds to an event of the model. -/
def PMove (p p' : PSt) : Ev → Prop
  | .inv t o => ∃ rest, p.prog t = o :: rest ∧ p'.prog = upd p.prog t rest ∧ p'.cs = upd p.cs t true
  | .done t => p.prog t = [] ∧ p'.prog = p.prog ∧ p'.cs = p.cs
  | .csEnter t => p.cs t = true ∧ p'.prog = p.prog ∧ p'.cs = upd p.cs t false
  | _ => p'.prog = p.prog ∧ p'.cs = p.cs

theorem pstep_iff {p p' : PSt} {e : Ev} :
    pstep p e = some p' ↔ step p.s e = some p'.s ∧ PMove p p' e := by
  obtain ⟨s', g', c'⟩ := p'
  cases e <;> simp only [pstep, PMove]
  case inv t o =>
    cases hp : p.prog t with
    | nil => simp
    | cons o' rest =>
      by_cases ho : o' = o
      · subst ho
        simp only [if_true, map_mk_iff, List.cons.injEq, true_and, exists_eq_left']
      · simp [ho]
  case done t =>
    by_cases hp : p.prog t = [] <;>
      simp only [hp, if_true, if_false, map_mk_iff, true_and, false_and, and_false, reduceCtorEq]
  case csEnter t =>
    by_cases hp : p.cs t = true <;>
      simp only [hp, if_true, if_false, map_mk_iff, true_and, false_and, and_false, reduceCtorEq]
  all_goals exact map_mk_iff

theorem layer : ProgLayer step pstep PSt.s PSt.prog .inv .done := by
  refine ⟨fun {p e p'} h => ?_, nofun⟩
  obtain ⟨hs, hm⟩ := pstep_iff.1 h
  refine ⟨hs, ?_⟩
  cases e with
  | inv t o => obtain ⟨rest, hp, hp', -⟩ := hm; exact .inl ⟨t, o, rest, rfl, hp, hp'⟩
  | done t => exact .inr ⟨nofun, hm.2.1, fun _ he => by cases he; exact hm.1⟩
  | csEnter t => exact .inr ⟨nofun, hm.2.1, nofun⟩
  | _ => exact .inr ⟨nofun, hm.1, nofun⟩

/-- potential of the operations a task has not started yet: the operation itself plus one
    critical-section bracket -/
def progCost : List Op → Nat
  | [] => 0
  | o :: l => opRank o + 3 + progCost l

def csW (b : Bool) : Nat := if b then 2 else 0

/-- the potential of the layer: the model's measure and 2 per unused critical-section allowance -/
def pmu (p : PSt) : Nat := mu p.s + sumTo p.s.n fun t => csW (p.cs t)

theorem potential : Potential pstep .inv (fun _ => True) (·.s.n) pmu fun _ => progCost := by
  refine ⟨fun _ h => ⟨trivial, (step_frame (layer.sound h).1).1⟩, fun {p t o p'} _ h => ?_,
    fun {p e p'} _ hne h => ?_⟩ <;> obtain ⟨hs, hm⟩ := pstep_iff.1 h <;> have hn := (step_frame hs).1
  · obtain ⟨-, -, -, hc'⟩ := hm
    have htn : t < p.s.n := by obtain ⟨_, -, hst⟩ := Step.of' hs; cases hst; assumption
    refine ⟨htn, fun l => ?_⟩
    have hm := mu_inv _ _ _ _ hs
    have h2 := sumTo_upd p.s.n csW p.cs t true htn
    have e2 : csW (p.cs t) ≤ 2 := by cases p.cs t <;> simp [csW]
    simp only [pmu, hn, hc', progCost, rank, show csW true = 2 from rfl] at hm h2 ⊢
    omega
  · -- an event that is neither an invocation nor `cs.enter` lowers `mu` and leaves the allowances
    have rest : (∀ t, e ≠ .csEnter t) → p'.cs = p.cs → pmu p' < pmu p := fun hnc hc => by
      have := mu_step _ _ _ hne hnc hs
      simp only [pmu, hn, hc]; omega
    cases e with
    | inv t o => exact absurd rfl (hne t o)
    | csEnter t =>
      obtain ⟨hc, -, hc'⟩ := hm
      have htn : t < p.s.n := by obtain ⟨_, -, hst⟩ := Step.of' hs; cases hst; assumption
      have hm := mu_csEnter _ _ _ hs
      have h2 := sumTo_upd p.s.n csW p.cs t false htn
      rw [hc] at h2
      simp only [pmu, hn, hc', show csW false = 0 from rfl, show csW true = 2 from rfl] at h2 ⊢
      omega
    | done t => exact rest nofun hm.2.2
    | _ => exact rest nofun hm.2

/-- explicit bound on the number of events of a program with `n` tasks: 1 per task (`done`),
    13 per `lock` / `try_lock` / `try_lock_for`, 14 per `unlock` (each including the two
    critical-section marks the harness may add) -/
def bound (n : Nat) (prog : Nat → List Op) : Nat := n + sumTo n (fun t => progCost (prog t))

theorem phi_pinit (n : Nat) (prog : Nat → List Op) :
    progPhi PSt.prog (·.s.n) pmu (fun _ => progCost) (pinit n prog) = bound n prog := by
  simp only [progPhi, pmu, pinit, mu, init, bound]
  have h1 : sumTo n (fun _ => rank Pc.idle) = n := (sumTo_const n 1).trans (Nat.mul_one n)
  have h2 : sumTo n (fun _ => tokW 0) = 0 := sumTo_eq_zero (fun _ _ => rfl)
  have h3 : sumTo n (fun _ => b2n false) = 0 := sumTo_eq_zero (fun _ _ => rfl)
  have h4 : sumTo n (fun _ => csW false) = 0 := sumTo_eq_zero (fun _ _ => rfl)
  rw [h1, h2, h3, h4]; omega

/-- no event at all is accepted: the run is maximal -/
def PStuck (p : PSt) : Prop := ∀ e, pstep p e = none

/-- Where the layer is stuck the model accepts no event inside an operation, nor `cs.exit`: the layer passes these
    on unchanged.  (The counterpart of `ProgComplete.stuck`; `cs.enter` is the exception, because the layer rations
    it.) -/
theorem PStuck.other {p : PSt} (hs : PStuck p) {e : Ev} (h1 : ∀ t o, e ≠ .inv t o) (h2 : ∀ t, e ≠ .done t)
    (h3 : ∀ t, e ≠ .csEnter t) : step p.s e = none := by
  have := hs e
  cases e <;> first | exact absurd rfl (h1 _ _) | exact absurd rfl (h2 _) | exact absurd rfl (h3 _) |
    simpa [pstep] using this

end PikaVerif.Mtx
