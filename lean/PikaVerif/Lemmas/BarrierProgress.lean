import PikaVerif.Lemmas.BarrierPreserve
/-! What the C09 barrier property theorems rest on besides the invariants: event counters of a log, the events
    a thread inside an operation can always make, and progress in quiescent states (with `Reachable` and
    `Quiescent`, in which the properties are stated). -/
namespace PikaVerif.Barrier

/-- Number of `true` returns of `base.arrive` (`bar.last`), completion calls and phase stores in
    a log. -/
def lasts : List Ev → Nat
  | [] => 0
  | .last _ _ _ :: l => lasts l + 1
  | _ :: l => lasts l
def complCalls : List Ev → Nat
  | [] => 0
  | .compl _ :: l => complCalls l + 1
  | _ :: l => complCalls l
def publishes : List Ev → Nat
  | [] => 0
  | .publish _ _ _ :: l => publishes l + 1
  | _ :: l => publishes l

/-- One accepted event adds its own contribution to the three counters and keeps `n` (stated with the rest of the
    log, as `runLog_tally` asks). -/
theorem counters_step {s s' : St} {e : Ev} (es : List Ev) (h : step s e = some s') :
    s'.wins + lasts es = s.wins + lasts (e :: es) ∧ s'.compls + complCalls es = s.compls + complCalls (e :: es) ∧
    s'.ph + publishes es = s.ph + publishes (e :: es) ∧ s'.n = s.n := by
  cases step_iff.mp h <;> first
    | exact ⟨rfl, rfl, rfl, rfl⟩ | exact ⟨Nat.add_right_comm _ _ _, rfl, rfl, rfl⟩
    | exact ⟨rfl, Nat.add_right_comm _ _ _, rfl, rfl⟩ | exact ⟨rfl, rfl, Nat.add_right_comm _ _ _, rfl⟩

theorem counters_log (log : List Ev) (s s' : St) (h : runLog step s log = some s') :
    s'.wins = s.wins + lasts log ∧ s'.compls = s.compls + complCalls log ∧
    s'.ph = s.ph + publishes log ∧ s'.n = s.n :=
  ⟨runLog_tally (·.wins) lasts rfl (fun _ _ _ es hs => (counters_step es hs).1) h,
   runLog_tally (·.compls) complCalls rfl (fun _ _ _ es hs => (counters_step es hs).2.1) h,
   runLog_tally (·.ph) publishes rfl (fun _ _ _ es hs => (counters_step es hs).2.2.1) h,
   runLog_tally (·.n) (fun _ => 0) rfl (fun _ _ _ _ hs => congrArg (· + 0) (step_n hs)) h⟩

theorem zero_of_sumTo_zero {n : Nat} {f : Nat → Nat} (h : sumTo n f = 0) : ∀ c, c < n → f c = 0 := by
  intro c hc; have := le_sumTo (f := f) hc; omega

/-- The events inside an arriving operation or on the way back from `wait`: all but `inv`, `done`,
    `poll` and the two steps of the last arriver after `base.arrive` (`compl`, `publish`). -/
def inner : Ev → Bool
  | .adj _ | .load _ _ _ | .start _ _ | .cas _ _ _ _ | .cas2 _ _ _ _ | .last _ _ _ | .ret _ => true
  | _ => false

/-- **A thread inside an operation always has an accepted event of its own**: the phase load, the
    `fetch_sub`, the start of a call (as long as `expected` is not `0`), the outcome of its ticket CAS
    that matches the ticket's value, `last`, or the return. -/
theorem inner_enabled {s : St} {t : Nat} (ht : t < s.n)
    (hstart : ∀ u, s.pc t = .arr u → 1 ≤ u ∧ 1 ≤ s.expected) :
    (∃ e s', inner e = true ∧ step s e = some s') ∨ s.pc t = .idle ∨ s.pc t = .fin ∨
      s.pc t = .polling ∨ isWin (s.pc t) = true := by
  cases hp : s.pc t with
  | idle => exact .inr (.inl rfl)
  | fin => exact .inr (.inr (.inl rfl))
  | polling => exact .inr (.inr (.inr (.inl rfl)))
  | won u r => exact .inr (.inr (.inr (.inr rfl)))
  | pub u r => exact .inr (.inr (.inr (.inr rfl)))
  | want u => exact .inl ⟨.load t s.phase s.expected, _, rfl, step_iff.mpr (.load t u ht hp)⟩
  | wantDrop => exact .inl ⟨.adj t, _, rfl, step_iff.mpr (.adj t ht hp)⟩
  | arr u =>
    obtain ⟨hu, he⟩ := hstart u hp
    exact .inl ⟨.start t 0, _, rfl, step_iff.mpr (.start t 0 u ht (by omega) hp hu)⟩
  | retn => exact .inl ⟨.ret t, _, rfl, step_iff.mpr (.ret t ht hp)⟩
  | try2 u c r m =>
    by_cases hv : s.tk r c = halfB (s.tok t)
    · exact .inl ⟨.cas2 t c r .up, _, rfl, step_iff.mpr (.cas2Up t c r u m ht hp hv)⟩
    · exact .inl ⟨.cas2 t c r (.miss (s.tk r c)), _, rfl, step_iff.mpr (.cas2Miss t c r u m ht hp hv)⟩
  | «try» u cur r m =>
    by_cases hm : m ≤ 1
    · exact .inl ⟨.last t (s.tok t) s.expected, _, rfl, step_iff.mpr (.last t u cur r m ht hp hm)⟩
    · have hm' : 1 < m := Nat.lt_of_not_le hm
      generalize hc : (if cur = (m + 1) / 2 then 0 else cur) = c
      by_cases hv : s.tk r c = s.tok t
      · by_cases hl : c = (m + 1) / 2 - 1 ∧ m % 2 = 1
        · exact .inl ⟨.cas t c r .up, _, rfl,
            step_iff.mpr (.casUp t c r u cur m ht hp hm' hc.symm hl hv)⟩
        · exact .inl ⟨.cas t c r .half, _, rfl,
            step_iff.mpr (.casHalf t c r u cur m ht hp hm' hc.symm hl hv)⟩
      · by_cases hs : (c = (m + 1) / 2 - 1 ∧ m % 2 = 1) ∨ s.tk r c ≠ halfB (s.tok t)
        · exact .inl ⟨.cas t c r (.miss (s.tk r c)), _, rfl,
            step_iff.mpr (.casMiss t c r u cur m ht hp hm' hc.symm hv hs)⟩
        · exact .inl ⟨.cas t c r .seen, _, rfl, step_iff.mpr (.casSeen t c r u cur m ht hp hm' hc.symm
            (fun hl => hs (.inl hl)) (Classical.not_not.mp fun hv2 => hs (.inr hv2)))⟩

theorem poll_leaves {s : St} {t : Nat} (ht : t < s.n) (hpc : s.pc t = .polling) (hne : s.phase ≠ s.tok t) :
    step s (.poll t (s.tok t) s.phase) = some { s with pc := upd s.pc t .retn } :=
  (step_iff.mpr (.poll t ht hpc)).trans (by rw [if_neg hne])

end PikaVerif.Barrier

namespace PikaVerif.C09Barrier
open PikaVerif.Barrier

def Reachable (s : St) : Prop := ∃ n N log, runLog step (init n N) log = some s

theorem inv_of_reachable {s : St} (h : Reachable s) : InvA s ∧ InvB s := by
  obtain ⟨n, N, log, hl⟩ := h
  exact inv_of_accepted hl

/-- A state is *quiescent* when the only events the model accepts are a thread starting a new
    operation, ending its program, or a poll of `wait` that finds the phase unchanged. -/
def Quiescent (s : St) : Prop :=
  ∀ e s', step s e = some s' →
    (∃ t o, e = .inv t o) ∨ (∃ t, e = .done t) ∨ (∃ t tok seen, e = .poll t tok seen ∧ s'.pc t = .polling)

end PikaVerif.C09Barrier

namespace PikaVerif.Barrier
open PikaVerif.C09Barrier

/-- **No thread is stuck inside an arriving operation**: in a quiescent state every thread is between
    operations, finished, or polling for a phase whose byte still equals its token. -/
theorem quiescent_progress {s : St} (hb : InvB s) (hq : Quiescent s) :
    ∀ t, t < s.n → s.pc t = .idle ∨ s.pc t = .fin ∨ (s.pc t = .polling ∧ s.phase = s.tok t) := by
  intro t ht
  -- a quiescent state accepts no event of the other kinds
  have en : ∀ {e s'}, step s e = some s' →
      (match e with | .inv .. | .done _ | .poll .. => False | _ => True) → False := by
    intro e s' hs hk
    rcases hq e s' hs with ⟨_, _, rfl⟩ | ⟨_, rfl⟩ | ⟨_, _, _, rfl, _⟩ <;> exact hk
  have hstart := fun u hp => have h := hb.known (p := .arr u) ht hp; And.intro h.1 h.2.1
  rcases inner_enabled ht hstart with ⟨e, s', hin, hs⟩ | h | h | h | h
  · exact (en hs (by cases e <;> first | trivial | cases hin)).elim
  · exact .inl h
  · exact .inr (.inl h)
  · refine .inr (.inr ⟨h, ?_⟩)
    rcases hq _ _ (step_iff.mpr (.poll t ht h)) with ⟨_, _, he⟩ | ⟨_, he⟩ | ⟨t', a, b, he, hpc⟩
    · cases he
    · cases he
    · cases he
      rw [show ({ s with pc := upd s.pc t _ } : St).pc t = _ from upd_same ..] at hpc
      by_cases hph : s.phase = s.tok t
      · exact hph
      · rw [if_neg hph] at hpc; cases hpc
  · exfalso
    cases hp : s.pc t <;> rw [hp] at h <;> first | cases h | skip
    · exact en (step_iff.mpr (.compl t _ _ ht hp)) trivial
    · exact en (step_iff.mpr (.publish t _ _ ht hp)) trivial

end PikaVerif.Barrier
