import PikaVerif.Lemmas.Mpi
/-!
# Termination measure of the MPI request model (C20t)

`mu s` = sum over the operations created so far of a per-operation potential `opW`.  Every event
that moves one operation (`moves e = true`) strictly decreases it — by the step guard alone, for
every state (no invariant, both `bug` values) —, `post` adds the potential of the new operation
(at most 15) and the remaining events (`neutral`) leave it unchanged.
-/
namespace PikaVerif.Mpi

/-- potential of the submitting / continuing side (includes the whole registry budget while the
    operation has not been enqueued yet) -/
def pcRank : Pc → Nat
  | .idle => 0
  | .done => 0
  | .eagerOk | .yDone | .cbRun | .woken => 1
  | .completed => 2
  | .errDone => 2
  | .failed => 3
  | .waiting => 3
  | .reg2 => 11
  | .reg1 => 12
  | .reg0 => 13
  | .posted => 14

/-- potential of the registry entry -/
def rsRank : Rs → Nat
  | .none => 0
  | .queued => 7
  | .vec => 6
  | .ready _ => 5
  | .taken _ _ => 4
  | .decd _ _ => 3
  | .calling _ _ => 2
  | .returned _ => 1
  | .gone => 0

def opW (o : Op) : Nat := pcRank o.pc + rsRank o.rs + (1 - o.rel)

/-- the termination measure -/
def mu (s : St) : Nat := sumTo s.n (fun x => opW (s.op x))

/-- events that move one existing operation forward (pika's own steps, MPI's reports, the release
    of the arguments) -/
def moves : Ev → Bool
  | .eager .. | .ydone .. | .sig .. | .reg .. | .gacInc .. | .ifInc .. | .enq .. | .addv ..
  | .q2v .. | .ready .. | .deq .. | .testany .. | .ifDec .. | .call .. | .cb .. | .ret ..
  | .gacDec .. | .woke .. | .rel .. => true
  | _ => false

/-- events that change no operation: the poller's lock rounds, the user's `register_polling` /
    `unregister_polling` rounds and the two pure observations `stop_polling returned` /
    `wait() returned` -/
def neutral : Ev → Bool
  | .lock _ | .unlock _ | .pollOn .. | .pollOff _ | .stopRet .. | .waitRet .. => true
  | _ => false

def isPost : Ev → Bool
  | .post .. => true
  | _ => false

theorem ev_trichotomy (e : Ev) : (moves e = true ∧ neutral e = false ∧ isPost e = false) ∨
    (moves e = false ∧ neutral e = true ∧ isPost e = false) ∨
    (moves e = false ∧ neutral e = false ∧ isPost e = true) := by
  cases e <;> simp [moves, neutral, isPost]

theorem mu_lt_of (s s' : St) (x : Nat) (o : Op) (hn : s'.n = s.n) (hop : s'.op = upd s.op x o)
    (hx : x < s.n) (h : opW o < opW (s.op x)) : mu s' < mu s := by
  have := sumTo_upd s.n opW s.op x o hx
  simp only [mu, hn, hop]
  omega

/-- every step in the life of an operation lowers its potential, by the premises of the rule alone -/
theorem OpStep.opW_lt {s : St} {e : Ev} {x : Nat} {o o' : Op} (ho : OpStep s e x o o') : opW o' < opW o := by
  cases ho <;> simp_all [opW, pcRank, rsRank] <;> grind [pcRank]

theorem mu_moves (s s' : St) (e : Ev) (hm : moves e = true) (h : step s e = some s') : mu s' < mu s := by
  cases Step.of_step h with
  | op hx ho => exact mu_lt_of s _ _ _ rfl rfl hx ho.opW_lt
  | _ => cases hm

theorem neutral_op (s s' : St) (e : Ev) (hm : neutral e = true) (h : step s e = some s') :
    s'.op = s.op ∧ s'.n = s.n ∧ s'.inFlight = s.inFlight ∧ s'.gac = s.gac := by
  cases Step.of_step h with
  | post => cases hm
  | op _ ho => cases ho <;> cases hm
  | _ => exact ⟨rfl, rfl, rfl, rfl⟩

theorem mu_neutral (s s' : St) (e : Ev) (hm : neutral e = true) (h : step s e = some s') : mu s' = mu s := by
  obtain ⟨h1, h2, _, _⟩ := neutral_op s s' e hm h
  simp only [mu, h1, h2]

/-- `post` adds the potential of the new operation: 15 for a successful MPI call, 4 for a failed one -/
theorem mu_post (s s' : St) (a x m : Nat) (ok : Bool) (h : step s (.post a x m ok) = some s') :
    s'.n = s.n + 1 ∧ mu s' = mu s + (if ok then 15 else 4) := by
  cases Step.of_step h with
  | post =>
    refine ⟨rfl, ?_⟩
    simp only [mu, sumTo_succ, upd_same]
    rw [sumTo_upd_ge s.n opW s.op s.n _ (Nat.le_refl _)]
    cases ok <;> rfl
  | op _ ho => cases ho

def nMoves (log : List Ev) : Nat := (log.filter moves).length

def nPosts (log : List Ev) : Nat := (log.filter isPost).length

theorem step_n (s s' : St) (e : Ev) (h : step s e = some s') : s'.n = s.n + (if isPost e then 1 else 0) := by
  cases Step.of_step h with
  | op _ ho => cases ho <;> rfl
  | _ => rfl

theorem n_runLog (log : List Ev) (s s' : St) (h : runLog step s log = some s') : s'.n = s.n + nPosts log :=
  runLog_tally (·.n) nPosts rfl (fun s e s1 es hs => by
    have hn := step_n s s1 e hs
    simp only [nPosts, List.filter]
    cases hp : isPost e <;> simp [hp] at hn ⊢ <;> omega) h

/-- **Counting form.**  Along any accepted run: (number of moving events) + final measure is at most
    the initial measure + 15 per operation posted on the way. -/
theorem mu_runLog (log : List Ev) (s s' : St) (h : runLog step s log = some s') :
    nMoves log + mu s' + 15 * s.n ≤ mu s + 15 * s'.n := by
  have := runLog_balance (fun _ => True) mu nMoves (fun l => 15 * nPosts l) rfl rfl
    (fun _ _ _ _ _ => trivial) (fun s e s1 es _ hs => by
      rcases ev_trichotomy e with ⟨m1, _, m3⟩ | ⟨m1, m2, m3⟩ | ⟨m1, _, m3⟩ <;>
        simp only [nMoves, nPosts, List.filter, m1, m3, List.length_cons]
      · have := mu_moves s s1 e m1 hs
        omega
      · have := mu_neutral s s1 e m2 hs
        omega
      · cases e with
        | post a x m ok =>
          have := (mu_post s s1 a x m ok hs).2
          cases ok <;> simp at this <;> omega
        | _ => simp [isPost] at m3) trivial h
  have := n_runLog log s s' h
  omega

theorem mu_init (b : Bool) : mu (init b) = 0 := rfl

end PikaVerif.Mpi
