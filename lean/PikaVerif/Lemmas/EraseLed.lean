import PikaVerif.Lemmas.Erase
import PikaVerif.Lemmas.EraseEv
/-! The event trace of the model is accepted by the ledger acceptor `ledStep` (no use after destruction,
    no double destruction, ids in construction order) — at every point of every history.  Each event
    is matched with the ledger operation of the model it reports (`led_C` … `led_use`), so that an
    operation's events, read in order, rebuild the ledger of the state it produces (`exec_sound`,
    `Lemmas/EraseExec.lean`).  An accepted trace fixes the counts of its events (`led_counts`). -/
namespace PikaVerif.Erase

/-- state of the ledger acceptor: the next object id, and the destructor runs per id -/
structure Led where
  next : Nat
  dt : Nat → Nat

/-- ledger acceptor over the raw event trace: ids are constructed in order, copy/move sources,
    connected objects and destroyed objects are alive, nothing is destroyed twice -/
def ledStep (l : Led) : LEv → Option Led
  | .C i _ => if i = l.next then some { l with next := l.next + 1 } else none
  | .K i s => if i = l.next ∧ s < l.next ∧ l.dt s = 0 then some { l with next := l.next + 1 } else none
  | .M i s => if i = l.next ∧ s < l.next ∧ l.dt s = 0 then some { l with next := l.next + 1 } else none
  | .D i => if i < l.next ∧ l.dt i = 0 then some { l with dt := upd l.dt i (l.dt i + 1) } else none
  | .X i => if i < l.next ∧ l.dt i = 0 then some l else none
  | .L i => if i < l.next ∧ l.dt i = 0 then some l else none
  | .F i => if i < l.next ∧ l.dt i = 0 then some l else none

def ledOf (s : St) : Led := { next := s.next, dt := s.dtor }

theorem led_eq (a b : Led) (h1 : a.next = b.next) (h2 : ∀ i, a.dt i = b.dt i) : a = b := by
  cases a; cases b; simp only at h1 h2; subst h1; have := funext h2; subst this; rfl

theorem ledStep_inEv (l : Led) (cp : Bool) (b a : Nat) :
    ledStep l (inEv cp b a) =
      if b = l.next ∧ a < l.next ∧ l.dt a = 0 then some { l with next := l.next + 1 } else none := by
  cases cp <;> rfl

/-- In a trace the acceptor accepts, the destruction events of `id` are what its `dt` counter
    gained, and `id` has one construction event if it was handed out on the way and none otherwise. -/
theorem led_counts {l l' : Led} {evs : List LEv} (h : runLog ledStep l evs = some l') (id : Nat) :
    l'.dt id = l.dt id + dtorsOf id evs ∧ l.next ≤ l'.next ∧
      ctorsOf id evs = if l.next ≤ id ∧ id < l'.next then 1 else 0 := by
  induction evs generalizing l with
  | nil => cases h; simp [ctorsOf, dtorsOf]
  | cons e es ih =>
    obtain ⟨m, h1, h2⟩ := runLog_cons_some h
    have := ih h2
    cases e <;> simp only [ledStep] at h1 <;> split at h1 <;> cases h1 <;>
      simp only [ctorsOf, dtorsOf, upd] at this ⊢ <;> grind

def Alive (s : St) (x : Nat) : Prop := x < s.next ∧ s.dtor x = 0

theorem Alive.born {s : St} {x : Nat} (h : Alive s x) (k : Nat) : Alive (s.born k) x := ⟨Nat.lt_add_right k h.1, h.2⟩

theorem Alive.die {s : St} {x y : Nat} (h : Alive s x) (hne : x ≠ y) : Alive (s.die y) x :=
  ⟨h.1, by simp [St.die, upd, hne, h.2]⟩

/-! One event of the trace against one ledger operation of the model. -/

theorem led_C (s : St) (v : Int) (es : List LEv) :
    runLog ledStep (ledOf s) (.C s.next v :: es) = runLog ledStep (ledOf (s.born 1)) es := by
  simp [runLog_cons, ledStep, ledOf, St.born]

theorem led_in {s : St} {b src : Nat} (hb : b = s.next) (h : Alive s src) (cp : Bool) (es : List LEv) :
    runLog ledStep (ledOf s) (inEv cp b src :: es) = runLog ledStep (ledOf (s.born 1)) es := by
  simp [runLog_cons, ledStep_inEv, ledOf, St.born, hb, h.1, h.2]

theorem led_D {s : St} {x : Nat} (h : Alive s x) (es : List LEv) :
    runLog ledStep (ledOf s) (.D x :: es) = runLog ledStep (ledOf (s.die x)) es := by
  simp [runLog_cons, ledStep, ledOf, St.die, h.1, h.2]

theorem led_dEv {s : St} {o : Option Obj} (h : ∀ x, o = some x → Alive s x.id) (es : List LEv) :
    runLog ledStep (ledOf s) (dEv o ++ es) = runLog ledStep (ledOf (s.dieO o)) es := by
  cases o with
  | none => rfl
  | some x => exact led_D (h x rfl) es


/-- `led_in` for a copy construction, as a rewrite rule (`.K b src` is `inEv true b src` unfolded) -/
theorem led_K {s : St} {b src : Nat} (hb : b = s.next) (h : Alive s src) (es : List LEv) :
    runLog ledStep (ledOf s) (.K b src :: es) = runLog ledStep (ledOf (s.born 1)) es :=
  led_in hb h true es

/-- `led_dEv` at the end of the trace -/
theorem led_drop {s : St} {o : Option Obj} (h : ∀ x, o = some x → Alive s x.id) :
    runLog ledStep (ledOf s) (dEv o) = some (ledOf (s.dieO o)) := by
  have := led_dEv h []
  rwa [List.append_nil] at this

theorem led_use {s : St} {x : Nat} {e : LEv} (h : Alive s x) (he : e = .X x ∨ e = .L x ∨ e = .F x)
    (es : List LEv) : runLog ledStep (ledOf s) (e :: es) = runLog ledStep (ledOf s) es := by
  rcases he with rfl | rfl | rfl <;> simp [runLog_cons, ledStep, ledOf, h.1, h.2]

theorem Alive.dieO {s : St} {x : Nat} {o : Option Obj} (h : Alive s x) (hne : ∀ y, o = some y → x ≠ y.id) :
    Alive (s.dieO o) x := by
  cases o with
  | none => exact h
  | some y => exact h.die (hne y rfl)

namespace Inv
variable {c : Cfg} {s : St} (hi : Inv c s)
include hi

theorem alive {i : Nat} {o : Option Obj} (ho : (s.slot i).obj = o) : ∀ x, o = some x → Alive s x.id :=
  fun _ hx => (hi.held (ho.trans hx)).2

theorem bornAlive {x : Nat} (k : Nat) (h : s.next ≤ x) (hk : x < s.next + k) : Alive (s.born k) x :=
  ⟨hk, (hi.unborn h).2⟩

end Inv

end PikaVerif.Erase
