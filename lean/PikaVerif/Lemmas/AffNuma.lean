import PikaVerif.Lemmas.AffTerm
/-! C15: the numa-balanced decoder.

* exact characterisation of the inputs on which it does not return (`numaHangs`);
* the per-socket loops with their offsets: on a socket whose cores have the sizes the decoder
  assumes (`SockOK`: `get_number_of_core_pus(num_core)` without `core_offset` happens to be
  right) the binding part is correct (`numaSockets_cons`, `numaSockets_ok`);
* machines on which that holds for every socket (`NumaShape`): the decoder returns and binds the
  first `Σ num_threads_socket` workers correctly (`numa_shape_no_hang`, `numa_bind_spec`);
* `countInit_*`: `count_initialized` of `affinity_data::init`;
* the reported PU number lacks the offset: a socket with a positive core offset that receives a
  thread makes some worker report a PU it is not bound to (`Misreported`, `numa_misreport_spec`). -/
namespace PikaVerif.Aff

/-! ## non-termination -/

/-- some socket is asked for more threads than its scan can find -/
def numaHangsAt (cfg : Cfg) : List Nat → Nat → Bool
  | [], _ => false
  | share :: rest, n =>
    decide (balTotal cfg (sockOff cfg.t n) (socketCores cfg.t n) < share) ||
      numaHangsAt cfg rest (n + 1)

/-- `num_threads_socket` as computed by the decoder -/
def numaSharesOf (cfg : Cfg) : List Nat := numaShares cfg (numaPusT cfg) (numSockets cfg.t) 0 0

/-- **decidable predicate: the numa-balanced decoder does not return** -/
def numaHangs (cfg : Cfg) : Bool := !tooMany cfg && numaHangsAt cfg (numaSharesOf cfg) 0

theorem numaSockets_spec (cfg : Cfg) : ∀ (shares : List Nat) (n : Nat) (s : ASt), Fresh s →
    match numaSockets cfg shares n s with
    | .hang => numaHangsAt cfg shares n = true
    | .run s' => numaHangsAt cfg shares n = false ∧ Fresh s'
    | .err => False := by
  intro shares
  induction shares with
  | nil => intro n s hs; simp [numaSockets, numaHangsAt, hs]
  | cons share rest ih =>
    intro n s hs
    simp only [numaSockets, numaHangsAt]
    have h1 := balPhase1_none_iff cfg (sockOff cfg.t n) share (socketCores cfg.t n)
    cases hb : balPhase1 cfg (sockOff cfg.t n) share (socketCores cfg.t n) with
    | none => simp [h1.1 hb]
    | some b =>
      have hnl : ¬ balTotal cfg (sockOff cfg.t n) (socketCores cfg.t n) < share :=
        fun hlt => by rw [h1.2 hlt] at hb; cases hb
      simp only [hnl, decide_false, Bool.false_or]
      obtain ⟨s', hr, h2⟩ := balPhase2_noerr cfg b (effUsed cfg) (effUsed cfg + sockOff cfg.t n)
        (socketCores cfg.t n) s hs
      rw [hr]
      exact ih (n + 1) s' h2

/-- **numa-balanced does not return iff `numaHangs`** (both directions) -/
theorem decodeNuma_diverges_iff (cfg : Cfg) : decodeNuma cfg = .diverge ↔ numaHangs cfg = true := by
  unfold decodeNuma numaHangs
  cases ht : tooMany cfg with
  | true => simp
  | false =>
    simp only [Bool.false_eq_true, ↓reduceIte, Bool.not_false, Bool.true_and]
    have := numaSockets_spec cfg (numaSharesOf cfg) 0 ASt.init (fun _ _ => rfl)
    unfold numaSharesOf at this ⊢
    cases hr : numaSockets cfg (numaShares cfg (numaPusT cfg) (numSockets cfg.t) 0 0) 0 ASt.init with
    | run s => rw [hr] at this; simp [this.1]
    | err => rw [hr] at this; exact this.elim
    | hang => rw [hr] at this; simp [this]

theorem decodeNuma_run {cfg : Cfg} (ht : tooMany cfg = false) {s : ASt}
    (e : numaSockets cfg (numaSharesOf cfg) 0 ASt.init = .run s) : decodeNuma cfg = .ok s.aff s.pn := by
  unfold numaSharesOf at e
  simp only [decodeNuma, ht, Bool.false_eq_true, ↓reduceIte, e]

/-! ## the sockets one after the other -/

/-- state between two sockets: every worker placed so far sits on its own usable PU below `lo` -/
structure NInv (cfg : Cfg) (lo : Nat) (s : ASt) : Prop where
  bound : ∀ i, i < s.k → ∃ q, q < lo ∧ s.aff i = [q] ∧ ind cfg q = true
  fresh : ∀ i, s.k ≤ i → s.aff i = []
  distinct : ∀ i i', i < s.k → i' < s.k → i ≠ i' → s.aff i ≠ s.aff i'

theorem sockOff_succ (t : Topo) (n : Nat) : sockOff t (n + 1) = sockOff t n + socketCores t n := rfl

/-- one socket of the assignment part: a well-shaped socket that is not asked for more than its scan
    finds places its share on PUs of its own, and the loop goes on to the next socket; the reported PU
    number (last conjunct) is the bound one *without* the core offset of the socket -/
theorem numaSockets_cons (cfg : Cfg) (hu : effUsed cfg = 0) (share : Nat) (rest : List Nat) (n : Nat)
    (hH : SockOK cfg (sockOff cfg.t n) (socketCores cfg.t n))
    (hle : ¬ balTotal cfg (sockOff cfg.t n) (socketCores cfg.t n) < share)
    (s : ASt) (hs : NInv cfg (base cfg.t (sockOff cfg.t n)) s) :
    ∃ s', numaSockets cfg (share :: rest) n s = numaSockets cfg rest (n + 1) s' ∧
      NInv cfg (base cfg.t (sockOff cfg.t (n + 1))) s' ∧ s'.k = s.k + share ∧
      (∀ i, s.k ≤ i → i < s'.k → ∃ c x, c < socketCores cfg.t n ∧
        s'.aff i = [base cfg.t (c + sockOff cfg.t n) + x] ∧ s'.pn i = base cfg.t c + x) := by
  generalize hoff : sockOff cfg.t n = off at *
  generalize hnc : socketCores cfg.t n = ncores at *
  cases hb : balPhase1 cfg off share ncores with
  | none => exact absurd ((balPhase1_none_iff ..).1 hb) hle
  | some b =>
  obtain ⟨hbi, hbk⟩ := balPhase1_invO cfg off ncores share hH b hb
  have h0 : PInvO cfg b off ncores s.k 0 0 s :=
    ⟨rfl, hs.bound, fun i h1 h2 => by omega, hs.fresh, hs.distinct⟩
  obtain ⟨s', hr, hp⟩ := balPhase2_invO cfg hu b off ncores s.k hH hbi s h0
  refine ⟨s', by simp only [numaSockets, hoff, hnc, hb, hr], ⟨?_, hp.fresh, hp.distinct⟩,
    by rw [hp.count, hbi.sum, hbk]; rfl, ?_⟩
  · intro i hi
    rw [sockOff_succ, hoff, hnc]
    by_cases hik : i < s.k
    · obtain ⟨q, hq, r⟩ := hp.old i hik
      have := base_mono cfg.t (c := off) (d := off + ncores) (by omega)
      exact ⟨q, by omega, r⟩
    · obtain ⟨c', j', h1, h2, _, h4, _⟩ := hp.new i (by omega) hi
      obtain ⟨hmem, _⟩ := idx_mem cfg off ncores b hbi h2
      obtain ⟨_, _, hx, hix⟩ := hbi.mem c' _ hmem
      exact ⟨_, base_add_lt cfg.t hx (show c' + off < off + ncores by omega), h4, hix⟩
  · intro i hi1 hi2
    obtain ⟨c', j', h1, _, _, h4, h5⟩ := hp.new i hi1 hi2
    exact ⟨c', _, h1, h4, h5⟩

/-- all sockets from `n` on have the shape the decoder assumes -/
def SocksOK (cfg : Cfg) (n len : Nat) : Prop :=
  ∀ m, n ≤ m → m < n + len → SockOK cfg (sockOff cfg.t m) (socketCores cfg.t m)

theorem numaSockets_ok (cfg : Cfg) (hu : effUsed cfg = 0) : ∀ (shares : List Nat) (n : Nat) (s : ASt),
    SocksOK cfg n shares.length → numaHangsAt cfg shares n = false →
    NInv cfg (base cfg.t (sockOff cfg.t n)) s →
    ∃ s', numaSockets cfg shares n s = .run s' ∧
      NInv cfg (base cfg.t (sockOff cfg.t (n + shares.length))) s' ∧ s'.k = s.k + shares.sum := by
  intro shares
  induction shares with
  | nil => intro n s _ _ hs; exact ⟨s, rfl, by simpa using hs, by simp⟩
  | cons share rest ih =>
    intro n s hok hh hs
    simp only [numaHangsAt, Bool.or_eq_false_iff, decide_eq_false_iff_not] at hh
    obtain ⟨s1, e1, i1, k1, _⟩ := numaSockets_cons cfg hu share rest n (hok n (Nat.le_refl _) (by simp))
      hh.1 s hs
    rw [e1]
    obtain ⟨s2, e2, i2, k2⟩ := ih (n + 1) s1
      (fun m hm1 hm2 => hok m (by omega) (by simp only [List.length_cons]; omega)) hh.2 i1
    refine ⟨s2, e2, ?_, by rw [k2, k1, List.sum_cons]; omega⟩
    have : n + (share :: rest).length = n + 1 + rest.length := by simp only [List.length_cons]; omega
    rw [this]; exact i2

theorem forRange_id {σ : Type} (body : Nat → σ → Ctl σ) (hb : ∀ i s, body i s = .run s) :
    ∀ (cnt i : Nat) (s : σ), forFrom body i cnt s = .run s := by
  intro cnt
  induction cnt with
  | zero => intro i s; rfl
  | succ m ih => intro i s; simp only [forFrom, hb i s]; exact ih (i + 1) s

/-- sockets that get no thread leave everything as it is -/
theorem numaSockets_zeros (cfg : Cfg) : ∀ (rest : List Nat) (n : Nat) (s : ASt),
    (∀ x, x ∈ rest → x = 0) → numaSockets cfg rest n s = .run s := by
  intro rest
  induction rest with
  | nil => intro n s _; rfl
  | cons x rest ih =>
    intro n s hz
    have hx : x = 0 := hz x (by simp)
    subst hx
    have h2 : balPhase2 cfg BSt.init (effUsed cfg) (effUsed cfg + sockOff cfg.t n)
        (socketCores cfg.t n) s = .run s := by
      unfold balPhase2 forRange
      apply forRange_id
      intro c s'
      rfl
    simp only [numaSockets, balPhase1, ↓reduceIte, h2]
    exact ih (n + 1) s (fun y hy => hz y (by simp [hy]))

/-! ## machines on which the missing `core_offset` of `get_number_of_core_pus` is harmless -/

/-- **decidable**: the sockets partition the cores, and the `c`-th core of every socket has as
    many PUs as core `c` of the machine (e.g. all cores of equal size) -/
def NumaShape (t : Topo) : Prop :=
  sockOff t (numSockets t) = t.nc ∧
  ∀ n, n < numSockets t → ∀ c, c < socketCores t n → t.pus (c + sockOff t n) = t.pus c

instance (t : Topo) : Decidable (NumaShape t) := by unfold NumaShape; infer_instance

theorem sock_end_le (t : Topo) (h : NumaShape t) {m : Nat} (hm : m < numSockets t) :
    sockOff t m + socketCores t m ≤ t.nc := by
  rw [← sockOff_succ, ← h.1]
  exact sumTo_mono_len _ (by omega)

theorem socksOK_of_shape (cfg : Cfg) (h : NumaShape cfg.t) : SocksOK cfg 0 (numSockets cfg.t) := by
  intro m _ hm c hc
  have := sock_end_le cfg.t h (show m < numSockets cfg.t by omega)
  exact ⟨by omega, h.2 m (by omega) c hc⟩

theorem numaShares_length (cfg : Cfg) (P : Nat) : ∀ m n t2, (numaShares cfg P m n t2).length = m := by
  intro m
  induction m with
  | zero => intro n t2; rfl
  | succ k ih => intro n t2; simp [numaShares, ih]

/-- on a well-shaped socket the scan reaches exactly the PUs the decoder counted for it -/
theorem balTotal_eq_socketPus (cfg : Cfg) (off ncores : Nat) (hH : SockOK cfg off ncores) :
    balTotal cfg off ncores = socketPusInMask cfg off ncores := by
  unfold balTotal total socketPusInMask
  apply sumTo_congr
  intro c hc
  obtain ⟨h1, h2⟩ := hH c hc
  have h0 : c < cfg.t.nc := by omega
  show cntB (fun p => inMask cfg (c + off) p) (corePus cfg.t c) = _
  rw [corePus_eq cfg.t h0, corePus_eq cfg.t h1, h2]
  rfl

theorem roundDiv_le (n p P : Nat) (h : n ≤ P) : roundDiv (n * p) P ≤ p := by
  unfold roundDiv
  by_cases hP : P = 0
  · subst hP; simp
  · have h1 : n * p ≤ P * p := Nat.mul_le_mul_right p h
    have h2 : 2 * (n * p) + P < (p + 1) * (2 * P) := by
      have : (p + 1) * (2 * P) = 2 * (P * p) + 2 * P := by
        rw [Nat.add_mul, Nat.mul_comm p (2 * P), Nat.mul_assoc]; omega
      omega
    have := (Nat.div_lt_iff_lt_mul (by omega : 0 < 2 * P)).2 h2
    omega

theorem numaShares_no_hang (cfg : Cfg) (P : Nat) (hP : cfg.n ≤ P) : ∀ (m n t2 : Nat),
    SocksOK cfg n m → numaHangsAt cfg (numaShares cfg P m n t2) n = false := by
  intro m
  induction m with
  | zero => intro n t2 _; rfl
  | succ k ih =>
    intro n t2 hok
    simp only [numaShares, numaHangsAt, Bool.or_eq_false_iff, decide_eq_false_iff_not]
    refine ⟨?_, ih (n + 1) _ (fun m h1 h2 => hok m (by omega) (by omega))⟩
    rw [balTotal_eq_socketPus cfg _ _ (hok n (Nat.le_refl _) (by omega))]
    have := roundDiv_le cfg.n (socketPusInMask cfg (sockOff cfg.t n) (socketCores cfg.t n)) P hP
    split <;> omega

theorem numaPusT_eq_avail (cfg : Cfg) (h : NumaShape cfg.t) : numaPusT cfg = avail cfg := by
  have key : ∀ n, n ≤ numSockets cfg.t →
      sumTo n (fun n => socketPusInMask cfg (sockOff cfg.t n) (socketCores cfg.t n)) =
        cntTo cfg (base cfg.t (sockOff cfg.t n)) := by
    intro n
    induction n with
    | zero => intro _; rfl
    | succ k ih =>
      intro hk
      rw [sumTo_succ, ih (by omega), sockOff_succ, Nat.add_comm]
      exact socketPus_eq_cntTo cfg _ _ (sock_end_le cfg.t h (show k < numSockets cfg.t by omega))
  rw [numaPusT, key _ (Nat.le_refl _), h.1, ← numPus, cntTo_numPus]

/-- **on a well-shaped machine numa-balanced always returns** (for every request that passes
    `check_num_threads`) -/
theorem numa_shape_no_hang (cfg : Cfg) (h : NumaShape cfg.t) (ht : tooMany cfg = false) :
    numaHangs cfg = false := by
  unfold numaHangs numaSharesOf
  have hn : cfg.n ≤ numaPusT cfg := numaPusT_eq_avail cfg h ▸ le_avail_of_not_tooMany ht
  rw [numaShares_no_hang cfg _ hn _ 0 0 (socksOK_of_shape cfg h)]
  simp

/-- what C15 demands of the masks alone -/
structure GoodBind (cfg : Cfg) (aff : Nat → List Nat) : Prop where
  bound : ∀ i, i < cfg.n → ∃ q, aff i = [q] ∧ q < numPus cfg.t ∧ ind cfg q = true
  distinct : ∀ i j, i < cfg.n → j < cfg.n → i ≠ j → aff i ≠ aff j

theorem init_NInv (cfg : Cfg) (lo : Nat) : NInv cfg lo ASt.init :=
  ⟨nofun, fun _ _ => rfl, nofun⟩

/-- **numa-balanced on a well-shaped machine**: the decoder returns; the first
    `Σ num_threads_socket` workers sit on pairwise distinct PUs of the mask, the others (lost by
    the rounding) keep an empty mask -/
theorem numa_bind_spec (cfg : Cfg) (hu : effUsed cfg = 0) (h : NumaShape cfg.t)
    (ht : tooMany cfg = false) :
    ∃ aff pn, decodeNuma cfg = .ok aff pn ∧
      (∀ i, i < (numaSharesOf cfg).sum → ∃ q, aff i = [q] ∧ q < numPus cfg.t ∧ ind cfg q = true) ∧
      (∀ i j, i < (numaSharesOf cfg).sum → j < (numaSharesOf cfg).sum → i ≠ j → aff i ≠ aff j) ∧
      (∀ i, (numaSharesOf cfg).sum ≤ i → aff i = []) := by
  have hh := numa_shape_no_hang cfg h ht
  simp only [numaHangs, ht, Bool.not_false, Bool.true_and] at hh
  have hlen : (numaSharesOf cfg).length = numSockets cfg.t := numaShares_length cfg _ _ _ _
  obtain ⟨s', e, hi, hk⟩ := numaSockets_ok cfg hu (numaSharesOf cfg) 0 ASt.init
    (by rw [hlen]; exact socksOK_of_shape cfg h) hh (init_NInv cfg _)
  rw [hlen, Nat.zero_add, h.1] at hi
  have hk' : s'.k = (numaSharesOf cfg).sum := by rw [hk]; simp [ASt.init]
  refine ⟨_, _, decodeNuma_run ht e, ?_, ?_, ?_⟩
  · intro i hi'
    obtain ⟨q, hq, ha, hx⟩ := hi.bound i (by omega)
    exact ⟨q, ha, hq, hx⟩
  · intro i j h1 h2; exact hi.distinct i j (by omega) (by omega)
  · intro i h1; exact hi.fresh i (by omega)

/-- **numa-balanced when only the first socket receives threads** (one socket; or a mask inside
    socket 0; or a thread count that rounds to 0 elsewhere): everything is right -/
theorem numa_first_socket_spec (cfg : Cfg) (hu : effUsed cfg = 0) (ht : tooMany cfg = false)
    (hc : socketCores cfg.t 0 ≤ cfg.t.nc) (hn : cfg.n ≤ balTotal cfg 0 (socketCores cfg.t 0))
    (rest : List Nat) (hs : numaSharesOf cfg = cfg.n :: rest) (hz : ∀ x, x ∈ rest → x = 0) :
    ∃ aff pn, decodeNuma cfg = .ok aff pn ∧ Good cfg aff pn := by
  obtain ⟨s1, e1, i1, k1, n1⟩ := numaSockets_cons cfg hu cfg.n rest 0
    (fun c hc' => ⟨Nat.lt_of_lt_of_le hc' hc, rfl⟩) (Nat.not_lt.2 hn) ASt.init (init_NInv cfg _)
  rw [numaSockets_zeros cfg rest 1 s1 hz, ← hs] at e1
  have hk : s1.k = cfg.n := by rw [k1]; exact Nat.zero_add _
  refine ⟨_, _, decodeNuma_run ht e1, ?_, fun i j h1 h2 => i1.distinct i j (by omega) (by omega)⟩
  intro i hi
  obtain ⟨q, hq, ha, hx⟩ := i1.bound i (by omega)
  obtain ⟨c, x, _, ha', hp'⟩ := n1 i (Nat.zero_le i) (by omega)
  have hlo : base cfg.t (sockOff cfg.t 1) ≤ numPus cfg.t :=
    base_mono cfg.t (by rw [sockOff_succ]; exact (Nat.zero_add _).symm ▸ hc)
  rw [ha] at ha'
  injection ha' with ha'
  exact ⟨q, ha, by rw [hp', ha']; rfl, Nat.lt_of_lt_of_le hq hlo, hx⟩

theorem countInit_all (n : Nat) (aff : Nat → List Nat) (h : ∀ i, i < n → aff i ≠ []) :
    countInit n aff = n := by
  unfold countInit
  induction n with
  | zero => rfl
  | succ k ih =>
    rw [sumTo_succ, ih (fun i hi => h i (by omega))]
    simp [h k (by omega)]

theorem countInit_le (n : Nat) (aff : Nat → List Nat) : countInit n aff ≤ n := by
  unfold countInit
  induction n with
  | zero => exact Nat.le_refl _
  | succ k ih => rw [sumTo_succ]; split <;> omega

theorem countInit_lt (n : Nat) (aff : Nat → List Nat) (j : Nat) (hj : j < n) (h : aff j = []) :
    countInit n aff < n := by
  induction n with
  | zero => omega
  | succ k ih =>
    have := countInit_le k aff
    unfold countInit at *
    rw [sumTo_succ]
    by_cases hk : j = k
    · subst hk; rw [if_neg (by simp [h])]; omega
    · have := ih (by omega); split <;> omega

/-! ## what `affInit` answers -/

theorem affInit_bound_iff {m : Mode} {cfg : Cfg} {aff : Nat → List Nat} {pn : Nat → Nat} :
    affInit (some m) cfg = .bound aff pn ↔ decode m cfg = .ok aff pn ∧ countInit cfg.n aff = cfg.n := by
  simp only [affInit]
  cases decode m cfg <;> simp
  split <;> simp <;> (rintro rfl -; assumption)

theorem affInit_bound {m : Mode} {cfg : Cfg} {aff : Nat → List Nat} {pn : Nat → Nat}
    (h : decode m cfg = .ok aff pn) (hne : ∀ i, i < cfg.n → aff i ≠ []) : affInit (some m) cfg = .bound aff pn :=
  affInit_bound_iff.2 ⟨h, countInit_all _ _ hne⟩

theorem affInit_notAllBound {m : Mode} {cfg : Cfg} {aff : Nat → List Nat} {pn : Nat → Nat}
    (h : decode m cfg = .ok aff pn) (hc : countInit cfg.n aff ≠ cfg.n) :
    affInit (some m) cfg = .error .notAllBound := by
  simp [affInit, h, hc]

theorem affInit_error {m : Mode} {cfg : Cfg} {e : Err} (h : decode m cfg = .error e) :
    affInit (some m) cfg = .error e := by
  simp [affInit, h]

/-! ## the reported PU number -/

/-- `s'` extends `s`: more workers placed, the entries of the earlier ones untouched -/
def Keeps (s s' : ASt) : Prop := s.k ≤ s'.k ∧ ∀ i, i < s.k → s'.aff i = s.aff i ∧ s'.pn i = s.pn i

/-- the second phase only writes entries from `s.k` on -/
theorem balPhase2_keeps (cfg : Cfg) (b : BSt) (cn cm ncores : Nat) (s : ASt) :
    CtlP (Keeps s) (Keeps s) True (balPhase2 cfg b cn cm ncores s) := by
  unfold balPhase2
  refine forRange_inv _ (fun _ => Keeps s) (Keeps s) True ncores s ?_ ⟨Nat.le_refl _, fun _ _ => ⟨rfl, rfl⟩⟩
  intro c s1 _ h1
  have := forRange_inv (balAssign cfg b cn cm c) (fun _ => Keeps s) (Keeps s) True (b.cnt c) s1 ?_ h1
  · cases hr : forRange (b.cnt c) (balAssign cfg b cn cm c) s1 with
    | run s' => rw [hr] at this; exact this
    | fin s' => rw [hr] at this; exact this
    | err => trivial
  · intro j s2 _ h2
    unfold balAssign
    split
    · trivial
    · refine ⟨Nat.le_succ_of_le h2.1, fun i hi => ?_⟩
      have : i ≠ s2.k := by have := h2.1; omega
      simp only [upd_other _ _ _ _ this]
      exact h2.2 i hi

/-- some worker placed so far reports a PU it is not bound to -/
def Misreported (s : ASt) : Prop := ∃ i, i < s.k ∧ s.aff i ≠ [s.pn i]

theorem Misreported.keeps {s s' : ASt} (hm : Misreported s) (hk : Keeps s s') : Misreported s' := by
  obtain ⟨i, hi, hne⟩ := hm
  obtain ⟨e1, e2⟩ := hk.2 i hi
  exact ⟨i, Nat.lt_of_lt_of_le hi hk.1, by rw [e1, e2]; exact hne⟩

theorem numaSockets_keeps_misreported (cfg : Cfg) : ∀ (shares : List Nat) (n : Nat) (s s' : ASt),
    numaSockets cfg shares n s = .run s' → Misreported s → Misreported s' := by
  intro shares
  induction shares with
  | nil => intro n s s' h hm; simp only [numaSockets, NCtl.run.injEq] at h; subst h; exact hm
  | cons share rest ih =>
    intro n s s' h hm
    simp only [numaSockets] at h
    cases hb : balPhase1 cfg (sockOff cfg.t n) share (socketCores cfg.t n) with
    | none => rw [hb] at h; cases h
    | some b =>
      rw [hb] at h
      simp only at h
      have hk := balPhase2_keeps cfg b (effUsed cfg) (effUsed cfg + sockOff cfg.t n)
        (socketCores cfg.t n) s
      cases hr : balPhase2 cfg b (effUsed cfg) (effUsed cfg + sockOff cfg.t n)
          (socketCores cfg.t n) s with
      | err => rw [hr] at h; cases h
      | fin s1 => rw [hr] at hk h; exact ih (n + 1) s1 s' h (hm.keeps hk)
      | run s1 => rw [hr] at hk h; exact ih (n + 1) s1 s' h (hm.keeps hk)

theorem base_lt_base (t : Topo) (hwf : WF t) {c d : Nat} (h : c < d) (hd : d < t.nc) :
    base t c < base t d := by
  have := base_add_lt t (hwf.pus c (by omega)) h
  omega

/-- if a socket with a positive core offset receives a thread on a well-shaped machine, some
    worker reports a PU it is not bound to -/
theorem numaSockets_misreports (cfg : Cfg) (hu : effUsed cfg = 0) (hwf : WF cfg.t) :
    ∀ (shares : List Nat) (n : Nat) (s s' : ASt),
    SocksOK cfg n shares.length → NInv cfg (base cfg.t (sockOff cfg.t n)) s →
    numaSockets cfg shares n s = .run s' →
    (∃ j, j < shares.length ∧ 0 < shares.getD j 0 ∧ 0 < sockOff cfg.t (n + j)) →
    Misreported s' := by
  intro shares
  induction shares with
  | nil => intro n s s' _ _ _ h; obtain ⟨j, hj, _⟩ := h; simp at hj
  | cons share rest ih =>
    intro n s s' hok hs h hex
    have hH := hok n (Nat.le_refl _) (by simp)
    obtain ⟨s1, e1, i1, k1, n1⟩ := numaSockets_cons cfg hu share rest n hH
      (fun hlt => by simp [numaSockets, (balPhase1_none_iff ..).2 hlt] at h) s hs
    rw [e1] at h
    have hok' : SocksOK cfg (n + 1) rest.length :=
      fun m hm1 hm2 => hok m (by omega) (by simp only [List.length_cons]; omega)
    obtain ⟨j, hj, hpos, hoff⟩ := hex
    cases j with
    | zero =>
      simp only [List.getD_cons_zero, Nat.add_zero] at hpos hoff
      -- the first worker of this socket is misreported
      obtain ⟨c, x, hc, ha, hp⟩ := n1 s.k (Nat.le_refl _) (by omega)
      obtain ⟨hcn, _⟩ := hH c hc
      have hlt : base cfg.t c < base cfg.t (c + sockOff cfg.t n) :=
        base_lt_base cfg.t hwf (by omega) hcn
      have hm1 : Misreported s1 := ⟨s.k, by omega, by rw [ha, hp]; intro he; simp at he; omega⟩
      exact numaSockets_keeps_misreported cfg rest (n + 1) s1 s' h hm1
    | succ j' =>
      refine ih (n + 1) s1 s' hok' i1 h ⟨j', by simpa using hj, by simpa using hpos, ?_⟩
      have : n + 1 + j' = n + (j' + 1) := by omega
      rw [this]; exact hoff


theorem numaShares_sum_le (cfg : Cfg) (P : Nat) : ∀ (m n t2 : Nat), t2 ≤ cfg.n →
    t2 + (numaShares cfg P m n t2).sum ≤ cfg.n := by
  intro m
  induction m with
  | zero => intro n t2 h; simpa [numaShares] using h
  | succ k ih =>
    intro n t2 h
    simp only [numaShares, List.sum_cons]
    split
    · have := ih (n + 1) (t2 + (cfg.n - t2)) (by omega)
      omega
    · have := ih (n + 1) (t2 + roundDiv (cfg.n * socketPusInMask cfg (sockOff cfg.t n) (socketCores cfg.t n)) P) (by omega)
      omega

/-- **numa-balanced on a well-shaped machine misreports as soon as a socket with a positive core
    offset receives a thread** -/
theorem numa_misreport_spec (cfg : Cfg) (hu : effUsed cfg = 0) (hwf : WF cfg.t) (h : NumaShape cfg.t)
    (ht : tooMany cfg = false) (j : Nat) (hj : j < numSockets cfg.t)
    (hpos : 0 < (numaSharesOf cfg).getD j 0) (hoff : 0 < sockOff cfg.t j) :
    ∃ aff pn, decodeNuma cfg = .ok aff pn ∧ ∃ i, i < cfg.n ∧ aff i ≠ [pn i] := by
  have hh := numa_shape_no_hang cfg h ht
  simp only [numaHangs, ht, Bool.not_false, Bool.true_and] at hh
  have hlen : (numaSharesOf cfg).length = numSockets cfg.t := numaShares_length cfg _ _ _ _
  have hok : SocksOK cfg 0 (numaSharesOf cfg).length := by rw [hlen]; exact socksOK_of_shape cfg h
  obtain ⟨s', e, _, hk⟩ := numaSockets_ok cfg hu (numaSharesOf cfg) 0 ASt.init hok hh (init_NInv cfg _)
  have hm := numaSockets_misreports cfg hu hwf (numaSharesOf cfg) 0 ASt.init s' hok (init_NInv cfg _) e
    ⟨j, by rw [hlen]; exact hj, hpos, by simpa using hoff⟩
  have hsum := numaShares_sum_le cfg (numaPusT cfg) (numSockets cfg.t) 0 0 (Nat.zero_le _)
  obtain ⟨i, hi, hne⟩ := hm
  refine ⟨_, _, decodeNuma_run ht e, i, ?_, hne⟩
  simp only [ASt.init, Nat.zero_add] at hk hsum
  unfold numaSharesOf at hk
  omega

end PikaVerif.Aff
