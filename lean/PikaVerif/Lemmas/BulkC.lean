import PikaVerif.Lemmas.BulkCStep
import PikaVerif.Lemmas.BulkQ
import PikaVerif.Lemmas.ChunkSize
/-!
Invariants of the composed bulk model `PikaVerif.BulkC` (C11).

* `WInv`: what is known of one worker: its loop state is within `[0, n)` and is `out` unless the
  protocol has the worker at `work`; a loaded word is held only in the `while ((index = queue.pop_*()))`
  test and is not one on which the generated iteration returns `nullopt`; a popped chunk `j` means
  protocol pc `work _ j`;
* `CInv`: the invariant of the running phase (`ph = 1`): the protocol invariants of `Bulk`
  (`Inv`, `InvQ`) for the component `p`, the no-wrap guard `SafeC` for the chunk size the
  generated `get_chunk_size` returned, the generated cut points are the ideal ones, `WInv` of every
  worker, the per-index accounting `#calls(i) + Σ_k pending_k(i) = popped(i / c)`, the exception
  slot and the completions; `Run.cinv`: every event of the running phase keeps it;
* `step_frame`: what no step touches; `Full`: the invariant of all three phases.
-/
namespace PikaVerif.BulkC
open PikaVerif.Gen.BulkArith PikaVerif.BulkPlan
open PikaVerif.BulkArith PikaVerif.Partition PikaVerif.C11

/-- Is index `i` still going to be called by a worker in loop state `l`? -/
def pend (c i : Nat) : Lp → Nat
  | .out => 0
  | .got j => if i / c = j then 1 else 0
  | .at cur ie => if cur ≤ (i : Int) ∧ (i : Int) < ie then 1 else 0
  | .incall cur ie => if cur < (i : Int) ∧ (i : Int) < ie then 1 else 0
  | .threw _ => 0

def isThrew : Lp → Nat
  | .threw _ => 1
  | _ => 0

/-- the loop state is within `[0, n)` / names a chunk / an exception of `T` -/
def LpOK (c n : Nat) (T : List Int) : Lp → Prop
  | .out => True
  | .got j => j < nchunks c n
  | .at b e => 0 ≤ b ∧ e ≤ n
  | .incall b e => 0 ≤ b ∧ b < e ∧ e ≤ n
  | .threw i => i ∈ T

/-- consistency of protocol pc, loaded word and loop state of one worker -/
def PW (pc : Bulk.Pc) (e : Option (Int × Int)) (lp : Lp) : Prop :=
  (∀ v, e = some v → popReady lp = true ∧ ∃ off, popOff pc = some off ∧ popTry off v.1 v.2 ≠ none) ∧
  (∀ j, lp = .got j → ∃ off, pc = .work off j)

def WInv (c n : Nat) (T : List Int) (pc : Bulk.Pc) (ex : Option (Int × Int)) (lp : Lp) : Prop :=
  (isWork pc = false → lp = .out) ∧ LpOK c n T lp ∧ PW pc ex lp

theorem LpOK.mono {c n : Nat} {T T' : List Int} (hT : ∀ i, i ∈ T → i ∈ T') {lp : Lp}
    (h : LpOK c n T lp) : LpOK c n T' lp := by
  cases lp <;> first | exact h | exact hT _ h

theorem winv_out (c n : Nat) (T : List Int) (x : Bulk.Pc) : WInv c n T x none .out :=
  ⟨fun _ => rfl, trivial, nofun, nofun⟩

/-- a worker outside `do_work` holds nothing -/
theorem WInv.idle {c n : Nat} {T : List Int} {pc : Bulk.Pc} {ex : Option (Int × Int)} {lp : Lp}
    (h : WInv c n T pc ex lp) (hp : popOff pc = none) : ex = none ∧ lp = .out := by
  refine ⟨?_, h.1 (by cases pc <;> simp_all [popOff, isWork])⟩
  cases ex with
  | none => rfl
  | some v => obtain ⟨_, off, ho, _⟩ := h.2.2.1 v rfl; rw [hp] at ho; cases ho

/-- a worker inside `do_work_chunk` (not in the pop test) holds no word; it moves on inside the
    chunk or leaves it -/
theorem WInv.busy {c n : Nat} {T T' : List Int} {pc : Bulk.Pc} {ex : Option (Int × Int)} {lp : Lp}
    (h : WInv c n T pc ex lp) (hr : popReady lp = false) {x : Bulk.Pc} {y : Lp}
    (hx : isWork x = true ∨ y = .out) (hy : LpOK c n T' y) (hg : ∀ j, y ≠ .got j) : WInv c n T' x ex y :=
  ⟨fun h0 => hx.elim (fun h1 => by rw [h1] at h0; cases h0) id, hy,
    fun v hv => by (rw [(h.2.2.1 v hv).1] at hr; cases hr), fun j hj => absurd hj (hg j)⟩

theorem WInv.isWork {c n : Nat} {T : List Int} {pc : Bulk.Pc} {ex : Option (Int × Int)} {lp : Lp}
    (h : WInv c n T pc ex lp) (hl : lp ≠ .out) : isWork pc = true := by
  cases hw : BulkC.isWork pc
  · exact absurd (h.1 hw) hl
  · rfl

/-- worker `k` alone moved: the others keep what was known of them -/
theorem wk_move {c n : Nat} {T T' : List Int} {pc pc' : Nat → Bulk.Pc}
    {ex ex' : Nat → Option (Int × Int)} {lp lp' : Nat → Lp} (k : Nat)
    (h : ∀ u, WInv c n T (pc u) (ex u) (lp u)) (hT : ∀ i, i ∈ T → i ∈ T')
    (hpc : ∀ u, u ≠ k → pc' u = pc u) (hex : ∀ u, u ≠ k → ex' u = ex u)
    (hlp : ∀ u, u ≠ k → lp' u = lp u) (hk : WInv c n T' (pc' k) (ex' k) (lp' k)) :
    ∀ u, WInv c n T' (pc' u) (ex' u) (lp' u) := fun u => by
  by_cases e : u = k
  · subst e; exact hk
  · rw [hpc u e, hex u e, hlp u e]; exact ⟨(h u).1, (h u).2.1.mono hT, (h u).2.2⟩

/-- closes the three "the others are untouched" goals of `wk_move` and of the measure lemmas -/
macro "worker_side" : tactic =>
  `(tactic| first | rfl | (intro u hu; first | rfl | exact upd_other _ _ _ _ hu) | skip)

structure CInv (s : St) : Prop where
  safe : SafeC s.S s.w s.n s.c
  pinv : Bulk.Inv s.p
  pq : Bulk.InvQ s.p
  pw : s.p.w = s.w
  pa : ∀ k, k ≤ s.w → s.p.a k = part s.w (nchunks s.c s.n) k
  tsv : s.ts = some s.v
  wk : ∀ u, WInv s.c s.n s.thrown (s.p.pc u) (s.ex u) (s.lp u)
  callsB : ∀ e, e ∈ s.calls → 0 ≤ e.1 ∧ e.1 < s.n ∧ e.2 = s.v
  acct : ∀ i, i < s.n →
    ncalls s (i : Int) + sumTo s.w (fun u => pend s.c i (s.lp u)) ≤ s.p.popped (i / s.c) ∧
    (s.thrown = [] →
      ncalls s (i : Int) + sumTo s.w (fun u => pend s.c i (s.lp u)) = s.p.popped (i / s.c))
  thrCnt : s.thrown.length = s.p.threw + sumTo s.w (fun u => isThrew (s.lp u))
  excIn : ∀ x, s.exception = some x → x ∈ s.thrown
  excSome : s.p.excThrown = true → s.exception ≠ none
  doneLen : s.done.length = s.p.signals
  doneV : ∀ t, (false, t) ∈ s.done → t = s.v ∧ s.p.outcome = some false
  doneE : ∀ t, (true, t) ∈ s.done → t ∈ s.thrown ∧ s.p.outcome = some true

theorem CInv.lpOK {s : St} (hi : CInv s) (k : Nat) : LpOK s.c s.n s.thrown (s.lp k) := (hi.wk k).2.1

theorem ncalls_cons (s : St) (cs : List (Int × Int)) (a v i : Int) (h : s.calls = (a, v) :: cs) :
    ncalls s i = (cs.map Prod.fst).count i + if a = i then 1 else 0 := by
  unfold ncalls; rw [h]; simp [List.count_cons]

/-- The accounting after worker `k` went to `x`, the calls became `cs`, the exceptions `th` and the
    pops `pp`: enough that, index by index, what `k` has pending, what was called and what was popped
    balance (one inequality suffices once something has thrown). -/
theorem acct_upd {s : St} (hi : CInv s) {k : Nat} (hk : k < s.w) {x : Lp} {cs : List (Int × Int)}
    {th : List Int} {pp : Nat → Nat} (hth : th = [] → s.thrown = [])
    (hb : ∀ i, i < s.n →
      (cs.map Prod.fst).count (i : Int) + pend s.c i x + s.p.popped (i / s.c) ≤
        ncalls s i + pend s.c i (s.lp k) + pp (i / s.c) ∧
      (th = [] → ncalls s i + pend s.c i (s.lp k) + pp (i / s.c) ≤
        (cs.map Prod.fst).count (i : Int) + pend s.c i x + s.p.popped (i / s.c)))
    (i : Nat) (hin : i < s.n) :
    (cs.map Prod.fst).count (i : Int) + sumTo s.w (fun u => pend s.c i (upd s.lp k x u)) ≤ pp (i / s.c) ∧
    (th = [] → (cs.map Prod.fst).count (i : Int) + sumTo s.w (fun u => pend s.c i (upd s.lp k x u)) =
      pp (i / s.c)) := by
  have A := hi.acct i hin
  have U := sumTo_upd s.w (pend s.c i) s.lp k x hk
  obtain ⟨b1, b2⟩ := hb i hin
  refine ⟨by omega, fun ht => ?_⟩
  have := A.2 (hth ht); have := b2 ht
  omega

theorem thrCnt_upd {s : St} (hi : CInv s) {k : Nat} (hk : k < s.w) {x : Lp} {th : List Int} {t' : Nat}
    (hb : th.length + s.p.threw + isThrew (s.lp k) = s.thrown.length + t' + isThrew x) :
    th.length = t' + sumTo s.w (fun u => isThrew (upd s.lp k x u)) := by
  have U := sumTo_upd s.w isThrew s.lp k x hk
  have := hi.thrCnt
  omega

theorem div_eq_chunk (i c j n : Nat) (hc : 1 ≤ c) (hi : i < n) :
    (i / c = j) ↔ (((j * c : Nat) : Int) ≤ (i : Int) ∧ (i : Int) < ((min ((j + 1) * c) n : Nat) : Int)) := by
  rw [Nat.div_eq_iff (by omega)]
  have := Nat.add_mul j 1 c
  constructor
  · intro h; constructor <;> omega
  · intro h; constructor <;> omega

theorem pend_popReady (c i : Nat) (l : Lp) (h : popReady l = true) : pend c i l = 0 := by
  cases l <;> simp [popReady] at h
  · rfl
  · simp only [pend]; split
    · omega
    · rfl

theorem isThrew_popReady (l : Lp) (h : popReady l = true) : isThrew l = 0 := by
  cases l <;> simp [popReady] at h <;> rfl

/-- a queue holds a range of chunk indices -/
theorem CInv.qs_le {s : St} (hi : CInv s) {q : Nat} (hq : q < s.w) :
    (s.p.qs q).1 ≤ (s.p.qs q).2 ∧ (s.p.qs q).2 ≤ nchunks s.c s.n := by
  have hw : s.p.w = s.w := hi.pw
  have hr := hi.pq.rng q (by omega)
  have ha := hi.pa (q + 1) (by omega)
  have hm : part s.w (nchunks s.c s.n) (q + 1) ≤ part s.w (nchunks s.c s.n) s.w :=
    mono_le (part s.w (nchunks s.c s.n)) s.w (fun k _ => part_mono _ _ k) (q + 1) s.w (by omega) (by omega)
  rw [part_last _ _ (by omega)] at hm
  omega

theorem done_nil_of_remaining (s : St) (hi : CInv s) (h : 1 ≤ s.p.remaining) : s.done = [] := by
  have hl := hi.doneLen
  cases ho : s.p.outcome with
  | none => rw [(hi.pinv.outn ho).2] at hl; exact List.eq_nil_of_length_eq_zero hl
  | some e => have := (hi.pinv.outc e ho).1; omega

/-- what no event of the running phase touches, and the protocol step it contains, if any -/
theorem Run.frame {s s' : St} {e : Ev} (h : Run s e s') :
    (s'.S = s.S ∧ s'.w = s.w ∧ s'.n = s.n ∧ s'.v = s.v ∧ s'.ph = s.ph ∧ s'.c = s.c) ∧
    (s'.p = s.p ∨ ∃ b, Bulk.Step s.p b s'.p) := by
  cases h <;> exact ⟨⟨rfl, rfl, rfl, rfl, rfl, rfl⟩, by first | exact .inl rfl | exact .inr ⟨_, ‹_›⟩⟩

theorem Run.cinv {s s' : St} {e : Ev} (hi : CInv s) (h : Run s e s') : CInv s' := by
  -- the protocol invariants travel with the protocol step the event contains, if any
  have hq' : Bulk.Inv s'.p ∧ Bulk.InvQ s'.p := by
    obtain h1 | ⟨b, hb⟩ := h.frame.2
    · rw [h1]; exact ⟨hi.pinv, hi.pq⟩
    · exact Bulk.stepQ ⟨hi.pinv, hi.pq⟩ (Bulk.step_iff.2 hb)
  have same : ∀ {a : Nat} {P : Prop}, a ≤ a ∧ (P → a ≤ a) := ⟨Nat.le_refl _, fun _ => Nat.le_refl _⟩
  cases h with
  | decide => exact hi
  | @sig err tok _ htok hb =>
    cases hb with
    | sig ho h0 =>
    have hd : s.done = [] := List.eq_nil_of_length_eq_zero (by rw [hi.doneLen, h0])
    exact { hi with
      pinv := hq'.1, pq := hq'.2
      doneLen := by show ((err, tok) :: s.done).length = 1; rw [hd]; rfl
      doneV := fun t ht => by have := hi.tsv; cases err <;> simp_all
      doneE := fun t ht => by have := hi.excIn tok; cases err <;> simp_all }
  | @spawn k _ hb | @skip k _ hb | @task k _ hb =>
    obtain ⟨hk, x, nx, rfl, hx⟩ := hb.start (k := k) (by simp)
    obtain ⟨e1, e2⟩ := (hi.wk k).idle (by rcases hx with ⟨h0, _⟩ | ⟨h0, _⟩ <;> rw [h0] <;> rfl)
    exact { hi with
      pinv := hq'.1, pq := hq'.2
      wk := wk_move k hi.wk (fun _ h => h) (by worker_side) (by worker_side) (by worker_side)
        (by simp only [upd_same]; rw [e1, e2]; exact winv_out ..) }
  | @loadNone k _ _ _ _ _ hk _ hr _ _ _ _ hb | @casNone k _ _ _ _ _ _ _ hk hr _ _ _ _ _ _ _ hb =>
    cases hb
    exact { hi with
      pinv := hq'.1, pq := hq'.2
      wk := wk_move k hi.wk (fun _ h => h) (by worker_side) (by worker_side) (by worker_side)
        (by simp only [upd_same]; exact winv_out ..)
      acct := acct_upd hi hk id fun i _ => by rw [pend_popReady s.c i _ hr]; exact same
      thrCnt := thrCnt_upd hi hk (by rw [isThrew_popReady _ hr]; rfl) }
  | @loadSome k _ off _ _ _ _ hr _ hoff _ hpt | @casSome k _ off _ _ _ _ _ hr _ hoff _ _ _ _ hpt =>
    exact { hi with
      wk := wk_move k hi.wk (fun _ h => h) (by worker_side) (by worker_side) (by worker_side)
        (by simp only [upd_same]
            exact ⟨(hi.wk k).1, (hi.wk k).2.1,
              fun v hv => by cases hv; exact ⟨hr, off, hoff, hpt⟩, (hi.wk k).2.2.2⟩) }
  | @casOk k q _ _ _ idx _ _ _ hk hr _ _ _ _ _ _ hb =>
    cases hb with
    | @popSome _ _ off _ _ hoff hq hne hj =>
    have hjn : idx.toNat < nchunks s.c s.n := by
      have := (hi.qs_le (q := q) (by rw [hq, hi.pw]; exact Nat.mod_lt _ (by omega))).2
      have := (Bulk.popEnd_spec off ((Bulk.qEmpty_false_iff _).1 hne)).1
      omega
    exact { hi with
      pinv := hq'.1, pq := hq'.2
      wk := wk_move k hi.wk (fun _ h => h) (by worker_side) (by worker_side) (by worker_side)
        (by simp only [upd_same]
            exact ⟨nofun, hjn, nofun, fun j' hj' => by cases hj'; exact ⟨off, rfl⟩⟩)
      acct := acct_upd hi hk id fun i _ => by
        rw [pend_popReady s.c i _ hr]; simp only [pend, ncalls]
        by_cases hd : i / s.c = idx.toNat
        · rw [if_pos hd, hd, upd_same]; exact ⟨by omega, fun _ => by omega⟩
        · rw [if_neg hd, upd_other _ _ _ _ hd]; exact same
      thrCnt := thrCnt_upd hi hk (by rw [isThrew_popReady _ hr]; rfl) }
  | @chunk k j _ hk hlp hub hb =>
    cases hb with
    | chunk _ hpc =>
    have hj : j < nchunks s.c s.n := by have := hi.lpOK k; rwa [hlp] at this
    have hr := (chunkRange_ideal s.S s.w s.n s.c k j hi.safe hk hj).1
    have hc1 : 1 ≤ s.c := hi.safe.2.1
    rw [hr]
    have hxb : ((min ((j + 1) * s.c) s.n : Nat) : Int) ≤ s.n := by
      have : min ((j + 1) * s.c) s.n ≤ s.n := Nat.min_le_right _ _
      exact_mod_cast this
    exact { hi with
      wk := wk_move k hi.wk (fun _ h => h) (by worker_side) (by worker_side) (by worker_side)
        (by simp only [upd_same]
            exact (hi.wk k).busy (by rw [hlp]; rfl) (.inl (by rw [hpc]; rfl)) ⟨by omega, hxb⟩ (by simp))
      acct := acct_upd hi hk id fun i hin => by
        have E := div_eq_chunk i s.c j s.n hc1 hin
        rw [hlp]; simp only [pend, ncalls]
        by_cases hd : i / s.c = j
        · rw [if_pos (E.1 hd), if_pos hd]; exact same
        · rw [if_neg fun h => hd (E.2 h), if_neg hd]; exact same
      thrCnt := thrCnt_upd hi hk (by rw [hlp]; rfl) }
  | @call k cur ie v hk hlp hlt hts =>
    have hb : 0 ≤ cur ∧ ie ≤ s.n := by have := hi.lpOK k; rwa [hlp] at this
    exact { hi with
      wk := wk_move k hi.wk (fun _ h => h) (by worker_side) (by worker_side) (by worker_side)
        (by simp only [upd_same]
            exact (hi.wk k).busy (by rw [hlp]; simp [popReady]; omega)
              (.inl ((hi.wk k).isWork (by rw [hlp]; nofun))) ⟨hb.1, hlt, hb.2⟩ (by simp))
      callsB := by
        intro e he
        simp only [List.mem_cons] at he
        rcases he with rfl | he
        · exact ⟨hb.1, by dsimp only; omega, by have := hi.tsv; rw [hts] at this; simpa using this⟩
        · exact hi.callsB e he
      acct := acct_upd hi hk id fun j _ => by
        rw [hlp]
        simp only [pend, ncalls, List.map_cons, List.count_cons, beq_iff_eq]
        constructor <;> intros <;> split <;> split <;> split <;> omega
      thrCnt := thrCnt_upd hi hk (by rw [hlp]; rfl) }
  | @ret k cur ie hk hlp =>
    have hb : 0 ≤ cur ∧ cur < ie ∧ ie ≤ s.n := by have := hi.lpOK k; rwa [hlp] at this
    exact { hi with
      wk := wk_move k hi.wk (fun _ h => h) (by worker_side) (by worker_side) (by worker_side)
        (by simp only [upd_same]
            exact (hi.wk k).busy (by rw [hlp]; rfl) (.inl ((hi.wk k).isWork (by rw [hlp]; nofun)))
              ⟨by omega, hb.2.2⟩ (by simp))
      acct := acct_upd hi hk id fun j _ => by
        rw [hlp]; simp only [pend, ncalls]
        constructor <;> intros <;> split <;> split <;> omega
      thrCnt := thrCnt_upd hi hk (by rw [hlp]; rfl) }
  | @throw k cur ie hk hlp =>
    exact { hi with
      wk := wk_move k hi.wk (fun _ h => List.mem_cons_of_mem _ h) (by worker_side) (by worker_side)
        (by worker_side)
        (by simp only [upd_same]
            exact (hi.wk k).busy (by rw [hlp]; rfl) (.inl ((hi.wk k).isWork (by rw [hlp]; nofun)))
              List.mem_cons_self (by simp))
      excIn := fun x hx => List.mem_cons_of_mem _ (hi.excIn x hx)
      doneE := fun t ht => ⟨List.mem_cons_of_mem _ (hi.doneE t ht).1, (hi.doneE t ht).2⟩
      acct := acct_upd hi hk nofun fun j _ => by
        rw [hlp]; simp only [pend, ncalls]
        exact ⟨by split <;> omega, nofun⟩
      thrCnt := thrCnt_upd hi hk (by rw [hlp]; simp only [isThrew, List.length_cons]; omega) }
  | @exc k i _ hk hlp hb =>
    cases hb
    exact { hi with
      pinv := hq'.1, pq := hq'.2
      wk := wk_move k hi.wk (fun _ h => h) (by worker_side) (by worker_side) (by worker_side)
        (by simp only [upd_same]
            exact (hi.wk k).busy (by rw [hlp]; rfl) (.inr rfl) trivial (by simp))
      excIn := fun x hx => by cases hx; have := hi.lpOK k; rwa [hlp] at this
      excSome := by simp
      acct := acct_upd hi hk id fun j _ => by rw [hlp]; exact same
      thrCnt := thrCnt_upd hi hk (by rw [hlp]; simp only [isThrew]; omega) }
  | @decOut k _ _ hk hlp hfin hb =>
    cases hb with
    | decWork _ _ hpc => rw [hpc] at hfin; cases hfin
    | decFin _ hrem hpc =>
    have hd := done_nil_of_remaining s hi hrem
    obtain ⟨e1, e2⟩ := (hi.wk k).idle (by rw [hpc]; rfl)
    exact { hi with
      pinv := hq'.1, pq := hq'.2
      wk := wk_move k hi.wk (fun _ h => h) (by worker_side) (by worker_side) (by worker_side)
        (by simp only [upd_same]; rw [e1, e2]; exact winv_out ..)
      doneV := by simp [hd]
      doneE := by simp [hd] }
  | @decThrew k i _ _ hk hlp hwk hb =>
    cases hb with
    | decFin _ _ hpc => rw [hpc] at hwk; cases hwk
    | decWork _ hrem hpc =>
    have hd := done_nil_of_remaining s hi hrem
    exact { hi with
      pinv := hq'.1, pq := hq'.2
      wk := wk_move k hi.wk (fun _ h => h) (by worker_side) (by worker_side) (by worker_side)
        (by simp only [upd_same]
            exact (hi.wk k).busy (by rw [hlp]; rfl) (.inr rfl) trivial (by simp))
      doneV := by simp [hd]
      doneE := by simp [hd]
      acct := acct_upd hi hk id fun j _ => by rw [hlp]; exact same
      thrCnt := thrCnt_upd hi hk (by rw [hlp]; simp only [isThrew]; omega) }

/-- What a step leaves alone: the parameters always; in the running phase the phase and the chunk
    size, the protocol component moving by at most one protocol step; outside it the local worker,
    and the running phase is entered with freshly initialised queues. -/
theorem step_frame {s s' : St} {e : Ev} (h : step s e = some s') :
    (s'.S = s.S ∧ s'.w = s.w ∧ s'.n = s.n ∧ s'.v = s.v) ∧
    (s.ph = 1 → s'.ph = 1 ∧ s'.c = s.c ∧ (s'.p = s.p ∨ ∃ e', Bulk.step s.p e' = some s'.p)) ∧
    (s.ph ≠ 1 → s'.p.L = s.p.L ∧
      (s'.ph = 1 → s'.p = Bulk.init s'.w s'.p.L (cutsOf s'.S s'.w s'.n s'.c))) := by
  cases step_iff.1 h with
  | zero hph | sigZero hph =>
    exact ⟨⟨rfl, rfl, rfl, rfl⟩, fun h1 => by omega, fun _ => ⟨rfl, fun h1 => by dsimp only at h1; omega⟩⟩
  | plan hph => exact ⟨⟨rfl, rfl, rfl, rfl⟩, fun h1 => by omega, fun _ => ⟨rfl, fun _ => rfl⟩⟩
  | run hph hr =>
    obtain ⟨⟨eS, ew, en, ev, ep, ec⟩, hp⟩ := hr.frame
    exact ⟨⟨eS, ew, en, ev⟩, fun _ => ⟨ep.trans hph, ec, hp.imp id fun ⟨b, hb⟩ => ⟨b, Bulk.step_iff.2 hb⟩⟩,
      fun h1 => absurd hph h1⟩

theorem cutsOf_ideal (S : CTy) (w n c : Nat) (h : SafeC S w n c) (k : Nat) (hk : k ≤ w) :
    cutsOf S w n c k = part w (nchunks c n) k := by
  have hw : 1 ≤ w := h.2.2.2.1
  unfold cutsOf
  by_cases hkw : k < w
  · rw [if_pos hkw, queueRange_ideal S w n c k h hkw]; simp
  · have : k = w := by omega
    subst this
    rw [if_neg hkw, queueRange_ideal S k n c (k - 1) h (by omega)]
    simp only [Int.toNat_natCast]
    congr 1; omega

theorem cutsOf_mono (S : CTy) (w n c : Nat) (h : SafeC S w n c) (k : Nat) (hk : k < w) :
    cutsOf S w n c k ≤ cutsOf S w n c (k + 1) := by
  rw [cutsOf_ideal S w n c h k (by omega), cutsOf_ideal S w n c h (k + 1) (by omega)]; exact part_mono _ _ k

theorem planOK_of_safeC (S : CTy) (w n c : Nat) (h : SafeC S w n c) : planOK S w n c = true := by
  unfold planOK
  rw [List.all_eq_true]
  intro k hk
  have hkw : k < w := List.mem_range.1 hk
  rw [cutsOf_ideal S w n c h k (by omega), cutsOf_ideal S w n c h (k + 1) (by omega),
    queueRange_ideal S w n c k h hkw]
  simp [part_mono]

def Full (s : St) : Prop :=
  (s.ph = 0 ∧ Safe s.S s.w s.n ∧ s.p.L < s.w ∧ s.calls = [] ∧ s.thrown = [] ∧ s.done = [] ∧
     s.exception = none ∧ (∀ k, s.lp k = .out) ∧ ∀ k, s.ex k = none) ∨
  (s.ph = 2 ∧ s.n = 0 ∧ s.calls = [] ∧ s.thrown = [] ∧ (∀ k, s.lp k = .out) ∧
     (s.done = [] ∨ s.done = [(false, s.v)])) ∨
  (s.ph = 1 ∧ s.n ≠ 0 ∧ CInv s)

theorem full_init (S : CTy) (w n L : Nat) (v : Int) (hs : Safe S w n) (hL : L < w) :
    Full (init S w n L v) :=
  Or.inl ⟨rfl, hs, hL, rfl, rfl, rfl, rfl, fun _ => rfl, fun _ => rfl⟩

theorem cinv_plan (s : St) (c : Nat) (hs : Safe s.S s.w s.n) (hL : s.p.L < s.w)
    (hc : chunkSizeOf s.S fuel s.w s.n = some (c : Int))
    (h0 : s.calls = [] ∧ s.thrown = [] ∧ s.done = [] ∧ s.exception = none ∧ (∀ k, s.lp k = .out) ∧
      ∀ k, s.ex k = none) :
    CInv { s with ph := 1, c := c, ts := some s.v,
                  p := Bulk.init s.w s.p.L (cutsOf s.S s.w s.n c) } := by
  obtain ⟨c', hc', hsafe⟩ := chunkSize_safe s.S s.w s.n hs
  have : c' = c := by
    have h1 : (c' : Int) = (c : Int) := by rw [hc] at hc'; simpa using hc'.symm
    exact_mod_cast h1
  subst this
  obtain ⟨e1, e2, e3, e4, e5, e6⟩ := h0
  have hpa : ∀ k, k ≤ s.w → cutsOf s.S s.w s.n c' k = part s.w (nchunks c' s.n) k :=
    fun k hk => cutsOf_ideal s.S s.w s.n c' hsafe k hk
  refine {
    safe := hsafe
    pinv := Bulk.inv_init _ _ _ hL
    pq := Bulk.invQ_init _ _ _ (cutsOf_mono _ _ _ _ hsafe)
    pw := rfl
    pa := hpa
    tsv := rfl
    wk := fun k => by rw [e5 k, e6 k]; exact winv_out ..
    callsB := by simp [e1]
    acct := ?_
    thrCnt := ?_
    excIn := by simp [e4]
    excSome := by simp [Bulk.init]
    doneLen := by simp [e3, Bulk.init]
    doneV := by simp [e3]
    doneE := by simp [e3] }
  · intro i _
    have z : sumTo s.w (fun u => pend c' i (s.lp u)) = 0 :=
      sumTo_eq_zero (fun t _ => by rw [e5 t]; rfl)
    unfold ncalls
    dsimp only
    rw [e1, z]
    simp [Bulk.init]
  · have z : sumTo s.w (fun u => isThrew (s.lp u)) = 0 :=
      sumTo_eq_zero (fun t _ => by rw [e5 t]; rfl)
    dsimp only
    rw [z, e2]; simp [Bulk.init]

theorem full_step (s s' : St) (e : Ev) (hf : Full s) (h : step s e = some s') : Full s' := by
  rcases hf with ⟨hph, hs, hL, e1, e2, e3, e4, e5, e6⟩ | ⟨hph, hn, e1, e2, e5, e3⟩ | ⟨hph, hn, hi⟩ <;>
    cases step_iff.1 h with
    | zero _ hn => first | exact Or.inr (Or.inl ⟨rfl, hn, e1, e2, e5, Or.inl e3⟩) | omega
    | plan _ hn hc =>
      first | exact Or.inr (Or.inr ⟨rfl, hn, cinv_plan s _ hs hL hc ⟨e1, e2, e3, e4, e5, e6⟩⟩) | omega
    | sigZero => first | exact Or.inr (Or.inl ⟨hph, hn, e1, e2, e5, Or.inr rfl⟩) | omega
    | run h1 hr =>
      first
        | exact Or.inr (Or.inr ⟨hr.frame.1.2.2.2.2.1.trans hph, by rw [hr.frame.1.2.2.1]; exact hn, hr.cinv hi⟩)
        | omega

theorem full_of_accepted {S : CTy} {w n L : Nat} {v : Int} (hs : Safe S w n) (hL : L < w)
    {log : List Ev} {s : St} (h : runLog step (init S w n L v) log = some s) : Full s :=
  inv_of_runLog Full (fun s e s' => full_step s s' e) (full_init S w n L v hs hL) h

theorem params_of_accepted {S : CTy} {w n L : Nat} {v : Int} {log : List Ev} {s : St}
    (h : runLog step (init S w n L v) log = some s) : s.S = S ∧ s.w = w ∧ s.n = n ∧ s.v = v := by
  refine inv_of_runLog (fun s => s.S = S ∧ s.w = w ∧ s.n = n ∧ s.v = v) ?_ ⟨rfl, rfl, rfl, rfl⟩ h
  intro s e s' hf hs
  obtain ⟨a, b, c, d⟩ := (step_frame hs).1
  exact ⟨a.trans hf.1, b.trans hf.2.1, c.trans hf.2.2.1, d.trans hf.2.2.2⟩

/-- A reachable state has the parameters of its run; outside the running phase nothing has been
    called or thrown, and at most the value of the `shape == 0` path has been delivered. -/
theorem reach_cases {S : CTy} {w n L : Nat} {v : Int} {s : St}
    (h : Safe S w n ∧ L < w ∧ ∃ log, runLog step (init S w n L v) log = some s) :
    s.n = n ∧ s.v = v ∧
    ((s.calls = [] ∧ s.thrown = [] ∧ (∀ k, s.lp k = .out) ∧
        (s.done = [] ∨ s.done = [(false, v)] ∧ n = 0)) ∨ n ≠ 0 ∧ CInv s) := by
  obtain ⟨hs, hL, log, hl⟩ := h
  obtain ⟨_, _, en, ev⟩ := params_of_accepted hl
  refine ⟨en, ev, ?_⟩
  rcases full_of_accepted hs hL hl with ⟨_, _, _, e1, e2, e3, _, e5, _⟩ | ⟨_, hn, e1, e2, e5, e3⟩ |
    ⟨_, hn, hi⟩
  · exact Or.inl ⟨e1, e2, e5, Or.inl e3⟩
  · exact Or.inl ⟨e1, e2, e5, e3.imp id fun h => ⟨ev ▸ h, en ▸ hn⟩⟩
  · exact Or.inr ⟨en ▸ hn, hi⟩

/-- a reachable state of the running phase satisfies `CInv` -/
theorem running {S : CTy} {w n L : Nat} {v : Int} {s : St}
    (h : Safe S w n ∧ L < w ∧ ∃ log, runLog step (init S w n L v) log = some s) (hp : s.ph = 1) : CInv s := by
  obtain ⟨hs, hL, log, hl⟩ := h
  rcases full_of_accepted hs hL hl with ⟨h0, _⟩ | ⟨h2, _⟩ | ⟨_, _, hi⟩
  · omega
  · omega
  · exact hi

theorem lp_out_of_outcome (s : St) (hi : CInv s) (e : Bool) (ho : s.p.outcome = some e) :
    ∀ k, s.lp k = .out := by
  intro k
  apply (hi.wk k).1
  by_cases hk : k < s.p.w
  · have h0 := (hi.pinv.outc e ho).1
    rw [Bulk.no_active_when_done s.p hi.pinv h0 k hk]; rfl
  · rw [hi.pinv.outside k (by omega)]; rfl

theorem outcome_iff_thrown (s : St) (hi : CInv s) (e : Bool) (ho : s.p.outcome = some e) :
    (e = true ↔ s.thrown ≠ []) := by
  have c := hi.thrCnt
  have z : sumTo s.w (fun u => isThrew (s.lp u)) = 0 :=
    sumTo_eq_zero (fun u _ => by rw [lp_out_of_outcome s hi e ho u]; rfl)
  rw [z, Nat.add_zero] at c
  rw [(hi.pinv.outc e ho).2, hi.pinv.thr, ← c]
  cases s.thrown <;> simp

theorem ncalls_eq_zero_of_outside (s : St) (i : Int)
    (hb : ∀ e, e ∈ s.calls → 0 ≤ e.1 ∧ e.1 < s.n) (h : i < 0 ∨ (s.n : Int) ≤ i) : ncalls s i = 0 := by
  unfold ncalls
  rw [List.count_eq_zero]
  intro hm
  rw [List.mem_map] at hm
  obtain ⟨e, he, rfl⟩ := hm
  have := hb e he
  omega

theorem div_lt_nchunks (c n i : Nat) (hc : 1 ≤ c) (hi : i < n) : i / c < nchunks c n := by
  rw [Nat.div_lt_iff_lt_mul (by omega)]
  have := nchunks_mul_ge c n (by omega)
  omega

/-- the protocol component of a running composed state is reachable in the protocol model from
    the queues the generated arithmetic initialised -/
def ProtoReach (s : St) : Prop :=
  s.ph = 1 → ∃ plog, runLog Bulk.step (Bulk.init s.w s.p.L (cutsOf s.S s.w s.n s.c)) plog = some s.p

theorem protoReach_step (s s' : St) (e : Ev) (hr : ProtoReach s) (h : step s e = some s') :
    ProtoReach s' := by
  intro h1
  obtain ⟨⟨eS, ew, en, _⟩, f1, f0⟩ := step_frame h
  by_cases hp : s.ph = 1
  · obtain ⟨plog, hl⟩ := hr hp
    obtain ⟨_, ec, hs | ⟨e', he'⟩⟩ := f1 hp
    · exact ⟨plog, by rw [eS, ew, en, ec, hs]; exact hl⟩
    · refine ⟨plog ++ [e'], ?_⟩
      rw [eS, ew, en, ec, (Bulk.step_params he').2.1, runLog_append, hl]
      simp [runLog, he']
  · exact ⟨[], by rw [← (f0 hp).2 h1]; rfl⟩

theorem protoReach_of_accepted {S : CTy} {w n L : Nat} {v : Int} {log : List Ev} {s : St}
    (h : runLog step (init S w n L v) log = some s) : ProtoReach s :=
  inv_of_runLog ProtoReach (fun s e s' => protoReach_step s s' e)
    (by intro h1; simp [init] at h1) h

theorem L_of_accepted {S : CTy} {w n L : Nat} {v : Int} {log : List Ev} {s : St}
    (h : runLog step (init S w n L v) log = some s) : s.p.L = L := by
  refine inv_of_runLog (fun s => s.p.L = L) ?_ rfl h
  intro s e s' hf hs
  by_cases hp : s.ph = 1
  · obtain ⟨_, _, h1 | ⟨e', he'⟩⟩ := (step_frame hs).2.1 hp
    · rw [h1]; exact hf
    · rw [(Bulk.step_params he').2.1]; exact hf
  · rw [((step_frame hs).2.2 hp).1]; exact hf

end PikaVerif.BulkC
