import PikaVerif.Lemmas.BarrierRank
import PikaVerif.Core.Prog
/-!# Finite programs over the coarse barrier model (C09u)

`pstep` is the model's `step` restricted to the logs of a program: `inv t o` must be the next
operation of thread `t` (which is consumed), `done t` needs the thread's list to be empty, every
other event is passed to `step` unchanged.  The measure `phi` of a program state and the length of
accepted logs modulo stutters and misses; a finished thread has an empty program (`FinOk`); maximal
states (`Maximal`) and what they say of each thread; the program classes `awProg P` (every thread
`P` × `arrive_and_wait`) and `awdProg P d` (the threads with `d t = true` then do one
`arrive_and_drop`) with their explicit `phi` bounds.
-/
namespace PikaVerif.Barrier
open PikaVerif.C09Barrier

/-- Model state with a program: the operations each thread has still to invoke, in order. -/
structure PSt where
  s : St
  prog : Nat → List Op

def pstep (p : PSt) (e : Ev) : Option PSt :=
  match e with
  | .inv t o =>
    match p.prog t with
    | o' :: rest =>
      if o' = o then (step p.s (.inv t o)).map (fun s' => ⟨s', upd p.prog t rest⟩) else none
    | [] => none
  | .done t => if p.prog t = [] then (step p.s (.done t)).map (fun s' => ⟨s', p.prog⟩) else none
  | e => (step p.s e).map (fun s' => ⟨s', p.prog⟩)

/-- `n` threads on a barrier constructed with expected count `N` -/
def pinit (n N : Nat) (prog : Nat → List Op) : PSt := ⟨init n N, prog⟩

theorem layer : ProgLayer step pstep PSt.s PSt.prog .inv .done := by
  refine ⟨fun {p e p'} h => ?_, nofun⟩
  cases e
  case inv t o =>
    simp only [pstep] at h
    split at h
    · rename_i o' rest hp
      split at h
      · rename_i ho; subst ho
        obtain ⟨s₁, hs, rfl⟩ := Option.map_eq_some_iff.1 h
        exact ⟨hs, Or.inl ⟨t, o', rest, rfl, hp, rfl⟩⟩
      · cases h
    · cases h
  case done t =>
    simp only [pstep] at h
    split at h
    · rename_i hp
      obtain ⟨s₁, hs, rfl⟩ := Option.map_eq_some_iff.1 h
      exact ⟨hs, Or.inr ⟨fun _ _ => nofun, rfl, fun _ he => by cases he; exact hp⟩⟩
    · cases h
  all_goals
    obtain ⟨s₁, hs, rfl⟩ := Option.map_eq_some_iff.1 h
    exact ⟨hs, Or.inr ⟨fun _ _ => nofun, rfl, fun _ => nofun⟩⟩

theorem pstep_step (p p' : PSt) (e : Ev) (h : pstep p e = some p') : step p.s e = some p'.s :=
  (layer.sound h).1

theorem complete : ProgComplete step pstep PSt.s PSt.prog .inv .done where
  other {p e} hi hd h := by
    cases e <;> first | exact absurd rfl (hi _ _) | exact absurd rfl (hd _) | skip
    all_goals exact Option.map_eq_none_iff.mp h
  start {p t o rest} hp h := by
    simp only [pstep, hp, if_pos] at h; exact Option.map_eq_none_iff.mp h
  finish {p t} hp h := by
    simp only [pstep, hp, if_pos] at h; exact Option.map_eq_none_iff.mp h

theorem pstep_stutter {p p' : PSt} {e : Ev} (hst : isStutter e = true) (h : pstep p e = some p') : p' = p := by
  obtain ⟨hs, ⟨t, o, rest, rfl, -⟩ | ⟨-, hp, -⟩⟩ := layer.sound h
  · cases hst
  · have := stutter_id _ _ _ hst hs
    cases p; cases p'; simp_all

def progCost (B : Nat) : List Op → Nat
  | [] => 0
  | o :: l => opRank B o + progCost B l

/-- a price of lists that adds up prices `r` of their members, on `o … o ++ l` -/
theorem cost_replicate {α : Type} {r : α → Nat} {c : List α → Nat} (hc : ∀ o l, c (o :: l) = r o + c l)
    (P : Nat) (o : α) (l : List α) : c (List.replicate P o ++ l) = P * r o + c l := by
  induction P with
  | zero => simp
  | succ k ih => rw [List.replicate_succ, List.cons_append, hc, ih, Nat.succ_mul]; omega

def phi (B : Nat) (p : PSt) : Nat := mu B p.s + sumTo p.s.n (fun t => progCost B (p.prog t))

def stutters : List Ev → Nat
  | [] => 0
  | e :: l => (if isStutter e then 1 else 0) + stutters l
def misses : List Ev → Nat
  | [] => 0
  | e :: l => (if isMiss e then 1 else 0) + misses l
def misses2 : List Ev → Nat
  | [] => 0
  | e :: l => (if isMiss2 e then 1 else 0) + misses2 l

theorem isMiss_of_isMiss2 {e : Ev} (h : isMiss2 e = true) : isMiss e = true := by
  cases e <;> first | cases h | (rename_i o; cases o <;> first | rfl | cases h)

theorem misses2_le (l : List Ev) : misses2 l ≤ misses l := by
  induction l with
  | nil => exact Nat.le_refl _
  | cons e es ih =>
    simp only [misses, misses2]
    cases h2 : isMiss2 e
    · simp; omega
    · simp [isMiss_of_isMiss2 h2]; omega

/-- **Every accepted event of a program that is neither the stutter nor a miss strictly decreases
    `phi`; the stutter leaves the whole state unchanged; a miss raises `phi` by at most `1`
    (only a `cas2` miss does).** -/
theorem phi_step (B : Nat) (p p' : PSt) (e : Ev) (hB : p.s.expected ≤ B) (h : pstep p e = some p') :
    (isStutter e = false → isMiss e = false → phi B p' < phi B p) ∧
    (isStutter e = true → p' = p) ∧
    (isMiss e = true → phi B p' ≤ phi B p + (if isMiss2 e then 1 else 0)) := by
  refine ⟨?_, fun hst => pstep_stutter hst h, ?_⟩ <;>
    obtain ⟨hs, ⟨t, o, rest, rfl, hp, hp'⟩ | ⟨hne, hp', -⟩⟩ := layer.sound h <;>
    simp only [phi, step_n hs, hp']
  · intro _ _
    have hm := mu_inv B _ _ _ _ hs
    have := sumTo_upd p.s.n (progCost B) p.prog t rest (step_frame hs).1
    rw [hp] at this
    simp only [progCost] at this
    omega
  · have := (mu_step B _ _ _ hB (by cases e <;> first | rfl | exact absurd rfl (hne _ _)) hs).1
    intro a b; have := this a b; omega
  · nofun
  · have := (mu_step B _ _ _ hB (by cases e <;> first | rfl | exact absurd rfl (hne _ _)) hs).2
    intro a; have := this a; omega

/-- **Length of an accepted log of a program**: at most `phi` of the start state, plus the stutters,
    plus the misses (a `cas2` miss counts twice). -/
theorem runLog_phi (B : Nat) (log : List Ev) (p p' : PSt) (hB : p.s.expected ≤ B)
    (h : runLog pstep p log = some p') :
    log.length + phi B p' ≤ phi B p + stutters log + misses log + misses2 log := by
  have := runLog_balance (fun q : PSt => q.s.expected ≤ B) (phi B) List.length
    (fun l => stutters l + misses l + misses2 l) rfl rfl
    (fun q e q' hB hs => Nat.le_trans (step_expected_le (pstep_step _ _ _ hs)) hB)
    (fun q e q' es hB hs => ?_) hB h
  · omega
  obtain ⟨h1, h2, h3⟩ := phi_step B q q' e hB hs
  simp only [List.length_cons, stutters, misses, misses2]
  cases hst : isStutter e
  · cases hm : isMiss e
    · have := h1 hst hm
      have hx : isMiss2 e = false := by
        cases hx : isMiss2 e
        · rfl
        · rw [isMiss_of_isMiss2 hx] at hm; cases hm
      simp [hx]; omega
    · have := h3 hm
      cases hx : isMiss2 e <;> simp [hx] at this ⊢ <;> omega
  · cases h2 hst
    simp only [if_true]; split <;> split <;> omega

theorem afterCall_ne_fin (aw : Bool) (u : Nat) : afterCall aw u ≠ .fin := by
  unfold afterCall; split
  · cases aw <;> exact Pc.noConfusion
  · exact Pc.noConfusion

theorem step_fin {s s' : St} {e : Ev} {u : Nat} (hs : step s e = some s') (hu : s'.pc u = .fin) :
    s.pc u = .fin ∨ e = .done u := by
  by_cases hut : u = thr e
  · subst hut
    cases step_iff.mp hs <;> simp only [thr, upd_same] at hu
    case done => exact .inr rfl
    case inv o _ _ _ => cases o <;> cases hu
    case load | casHalf | publish => exact absurd hu (afterCall_ne_fin _ _)
    case poll => split at hu <;> cases hu
    all_goals cases hu
  · exact .inl (by rwa [← step_pc_other hs hut])

def FinOk (p : PSt) : Prop := ∀ t, p.s.pc t = .fin → p.prog t = []

theorem finOk_step (p p' : PSt) (e : Ev) (hf : FinOk p) (h : pstep p e = some p') : FinOk p' :=
  layer.finished_step (fin := fun s t => s.pc t = .fin) step_fin hf h

def awProg (P : Nat) : Nat → List Op := fun _ => List.replicate P .aw

/-- a program state is *maximal* when the only events the program layer accepts are stutters
    (`poll` that sees the byte of its own token); in particular no miss is accepted either -/
def Maximal (p : PSt) : Prop := ∀ e p', pstep p e = some p' → isStutter e = true

/-- a maximal state rejects every event that is not the stutter -/
theorem Maximal.rejects {p : PSt} (hm : Maximal p) {e : Ev} (hns : isStutter e = false) : pstep p e = none := by
  cases h : pstep p e with
  | none => rfl
  | some p' => rw [hm e p' h] at hns; cases hns

theorem maximal_quiescent (p : PSt) (hm : Maximal p) : Quiescent p.s := by
  intro e s' hs
  cases hst : isStutter e
  · have := fun hi hd => complete.other hi hd (Maximal.rejects hm hst)
    cases e <;> first
      | exact .inl ⟨_, _, rfl⟩ | exact .inr (.inl ⟨_, rfl⟩)
      | (rw [this (fun _ _ => nofun) (fun _ => nofun)] at hs; cases hs)
  · cases step_iff.mp hs <;> first | cases hst | skip
    rename_i t ht hpc
    refine .inr (.inr ⟨t, _, _, rfl, ?_⟩)
    rw [if_pos (of_decide_eq_true hst)]; exact upd_same ..

/-- **A thread between operations in a maximal state** still has an operation to invoke, and the phase's
    count does not cover it. -/
theorem Maximal.idle {p : PSt} (hm : Maximal p) {t : Nat} (ht : t < p.s.n) (hpc : p.s.pc t = .idle) :
    ∃ o rest, p.prog t = o :: rest ∧ o ≠ .wait ∧ (1 ≤ opCount o → p.s.count < opCount o) := by
  cases hl : p.prog t with
  | nil =>
    have := complete.finish hl (Maximal.rejects hm rfl)
    rw [step_iff.mpr (.done t ht hpc)] at this; cases this
  | cons o rest =>
    have hno := complete.start hl (Maximal.rejects hm rfl)
    refine ⟨o, rest, rfl, fun ho => ?_, fun h1 => Nat.lt_of_not_le fun h2 => ?_⟩
    · rw [step_iff.mpr (.inv t o ht hpc (.inl ho))] at hno; cases hno
    · rw [step_iff.mpr (.inv t o ht hpc (.inr ⟨h1, h2⟩))] at hno; cases hno

theorem phi_pinit (B n N : Nat) (prog : Nat → List Op) :
    phi B (pinit n N prog) = n + sumTo n (fun t => progCost B (prog t)) := by
  simp only [phi, pinit, mu, init]
  have h1 : sumTo n (fun _ => rank B Pc.idle) = n := by
    rw [sumTo_const]; simp [rank]
  rw [h1]

theorem progCost_aw (B P : Nat) : progCost B (List.replicate P .aw) = P * (3 * B + 12) := by
  simpa [progCost, opRank, cc] using cost_replicate (c := progCost B) (fun _ _ => rfl) P .aw []

def awdProg (P : Nat) (d : Nat → Bool) : Nat → List Op :=
  fun t => List.replicate P .aw ++ (if d t then [.drop] else [])

theorem progCost_awd (B P : Nat) (d : Nat → Bool) (t : Nat) :
    progCost B (awdProg P d t) ≤ P * (3 * B + 12) + (3 * B + 13) := by
  simp only [awdProg, cost_replicate (c := progCost B) (fun _ _ => rfl)]
  split <;> simp [progCost, opRank, cc]

def boundAw (N P : Nat) : Nat := N * (P * (3 * N + 12)) + N
def boundAwd (N P : Nat) : Nat := N * (P * (3 * N + 12) + (3 * N + 13)) + N

theorem phi_aw (N P : Nat) : phi N (pinit N N (awProg P)) = boundAw N P := by
  rw [phi_pinit]
  simp only [awProg, progCost_aw, sumTo_const, boundAw]; omega

theorem phi_awd (N P : Nat) (d : Nat → Bool) : phi N (pinit N N (awdProg P d)) ≤ boundAwd N P := by
  rw [phi_pinit]
  have := sumTo_mono (n := N) (f := fun t => progCost N (awdProg P d t))
    (g := fun _ => P * (3 * N + 12) + (3 * N + 13)) (fun t _ => progCost_awd N P d t)
  rw [sumTo_const] at this
  simp only [boundAwd]; omega

/-- number of events of a log that are neither stutters nor misses -/
def progress : List Ev → Nat
  | [] => 0
  | e :: l => (if isStutter e || isMiss e then 0 else 1) + progress l

theorem length_split (l : List Ev) : l.length = progress l + stutters l + misses l := by
  induction l with
  | nil => simp [progress, stutters, misses]
  | cons e es ih =>
    simp only [List.length_cons, progress, stutters, misses, ih]
    have : ¬ (isStutter e = true ∧ isMiss e = true) := by
      cases e <;> simp [isStutter, isMiss]
    cases h1 : isStutter e <;> cases h2 : isMiss e <;> simp_all <;> omega

theorem step_thread (s s' : St) (e : Ev) (h : step s e = some s') : ∃ t, t < s.n ∧ s.pc t ≠ .fin :=
  ⟨thr e, (step_frame h).1, fun hf => by
    revert hf
    cases step_iff.mp h <;> simp only [thr, ‹s.pc _ = _›] <;> exact Pc.noConfusion⟩

theorem maximal_of_all_fin (p : PSt) (h : ∀ t, t < p.s.n → p.s.pc t = .fin) : Maximal p := by
  intro e p' hp
  obtain ⟨t, ht, hne⟩ := step_thread _ _ e (pstep_step p p' e hp)
  exact absurd (h t ht) hne

/-- observation used by the examples: number of threads, completed phases, both threads ended -/
def obs2 (p : PSt) : Nat × Nat × Bool × Bool :=
  (p.s.n, p.s.ph, decide (p.s.pc 0 = .fin), decide (p.s.pc 1 = .fin))

theorem maximal_of_obs2 (prog : Nat → List Op) (log : List Ev) (k : Nat)
    (h : (runLog pstep (pinit 2 2 prog) log).map obs2 = some (2, k, true, true)) :
    ∃ p, runLog pstep (pinit 2 2 prog) log = some p ∧ Maximal p ∧ p.s.ph = k := by
  cases hrun : runLog pstep (pinit 2 2 prog) log with
  | none => rw [hrun] at h; simp at h
  | some p =>
    rw [hrun] at h
    simp only [Option.map_some, Option.some.injEq, obs2, Prod.mk.injEq, decide_eq_true_eq] at h
    obtain ⟨hn, hph, h0, h1⟩ := h
    refine ⟨p, rfl, maximal_of_all_fin p fun t ht => ?_, hph⟩
    have : t = 0 ∨ t = 1 := by omega
    rcases this with rfl | rfl <;> assumption

end PikaVerif.Barrier
