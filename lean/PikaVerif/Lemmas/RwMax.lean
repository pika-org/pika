import PikaVerif.Lemmas.RwProg
/-!
The CAS retry is the only stutter of the async_rw_mutex model; every program run extends to a
maximal one (`exists_progress`, `maximal_exists`); the destruction of the value is the last event of a
run (`vfree_terminal`, `pmax_of_vfree_last`).
-/
namespace PikaVerif.Rw
open PikaVerif PikaVerif.C04

/-- From a non-maximal program state some run of one or two events lowers the potential: any enabled
    event does, except a CAS retry, after which the CAS of the same thread succeeds.  (The `True` is
    the slot for a shape of the extension in `exists_maximal_run`, not needed here.) -/
theorem exists_progress (p : PSt) (hi : Inv p.s) (hm : ¬ PMax p) :
    ∃ es p', runLog pstep p es = some p' ∧ Inv p'.s ∧ True ∧ phi p' < phi p ∧
      es.length + 2 * phi p' ≤ 2 * phi p := by
  obtain ⟨e, he⟩ := Classical.not_forall.1 hm
  obtain ⟨p1, hp⟩ := Option.ne_none_iff_exists'.1 he
  have hs := pstep_step hp
  have hi1 := step_inv _ _ _ hi hs
  have h1 := phi_step p p1 e hi hp
  by_cases hr : isRetry e = true
  · obtain ⟨t, a, det, h0, q, rfl, hx, hq, hs'⟩ := (Step.of_step hs).retry hr
    have hs2 := (Step.casPush (s := p1.s) (t := t) (a := a) (det := det) (q := q) 0
      (by rw [hs']; exact upd_same _ _ _) (by rw [hs']; exact hq)).step
    obtain ⟨p2, hp2⟩ : ∃ p2, pstep p1 (.cas t a true 0 false false) = some p2 :=
      ⟨_, by simp only [pstep, hs2, Option.map_some]; rfl⟩
    have h2 := phi_step p1 p2 _ hi1 hp2
    refine ⟨[.cas t a false (clsOf q) false false, .cas t a true 0 false false], p2,
      by simp only [runLog, hp, hp2], step_inv _ _ _ hi1 (pstep_step hp2), trivial, ?_, ?_⟩ <;>
      simp only [cost, isRetry, Bool.false_eq_true, if_false, List.length_cons, List.length_nil] at h2 ⊢ <;>
      omega
  · have : cost e = 1 := by simp [cost, hr]
    exact ⟨[e], p1, by simp only [runLog, hp], hi1, trivial, by omega, by simp only [List.length_singleton]; omega⟩

theorem maximal_exists (p : PSt) (hi : Inv p.s) : ∃ ext p', runLog pstep p ext = some p' ∧ PMax p' := by
  obtain ⟨ext, p', h, _, hmax, _⟩ := exists_maximal_run (step := pstep) (fun p => Inv p.s) PMax phi
    (fun _ => True) 2 trivial (fun _ _ _ _ => trivial) exists_progress p hi
  exact ⟨ext, p', h, hmax⟩

theorem vfree_terminal (s s' : St) (t : Nat) (hi : Inv s) (h : step s (.vfree t) = some s') :
    (∀ a, a < s.na → s.acc a = .released) ∧ s.alive = false ∧ (∀ g, g < s.ng → s.dead g = true) ∧
    mu s' = 0 ∧ ∀ e, step s' e = none := by
  cases Step.of_step h with
  | vfree _ hal hlast hvf =>
    have hrel : ∀ a, a < s.na → s.acc a = .released := fun a ha =>
      have hg := hi.grpLt a ha
      hlast.elim (fun h0 => by omega) fun h0 => ((dead_iff hi (by omega)).1 h0).2 a ha (by omega)
    have hdead : ∀ g, g < s.ng → s.dead g = true := fun g hg =>
      (dead_iff hi hg).2 ⟨.inl hal, fun b hb _ => hrel b hb⟩
    -- every `done()` has run: the first access of each shared state has been granted
    have hdn : ∀ g, g < s.ng → ∃ t r, s.dn g = .drain t r := by
      intro g hg
      obtain ⟨hf1, hf2⟩ := hi.firstOk g hg
      have hh := hi.headDn g hg
      rw [← hf2, post_sent hi hf1 (by rw [hrel _ hf1]; rfl)] at hh
      cases hd : s.dn (s.grp (s.first g)) with
      | drain t r => exact ⟨t, r, hf2 ▸ hd⟩
      | _ => rw [hd] at hh; cases hh
    refine ⟨hrel, hal, hdead, ?_, fun e => ?_⟩
    · have h1 : sumTo s.na (fun a => accRank (s.acc a)) = 0 :=
        sumTo_eq_zero fun a ha => by rw [hrel a ha]; rfl
      have h2 : sumTo s.ng (fun g => dnRank (s.dn g)) = 0 :=
        sumTo_eq_zero fun g hg => by obtain ⟨t, r, h⟩ := hdn g hg; rw [h]; rfl
      simp only [mu, h1, h2, hal, b2n]; rfl
    · -- every event needs the mutex, an access that is not released, or an unexchanged `done()`
      have hacc : ∀ {a x}, s.acc a = x → x = .released ∨ x = .none := fun {a x} hx =>
        hx ▸ (Nat.lt_or_ge a s.na).imp (hrel a) (hi.accNone a)
      cases hs : step { s with vfreed := true } e with
      | none => rfl
      | some s2 =>
        cases Step.of_step hs
        case reqFirst hal' _ _ | reqNew hal' _ _ | reqSame hal' _ | destroy hal' _ | destroyEmpty hal' _ =>
          exact nomatch hal.symm.trans hal'
        case xchg hd _ hg => obtain ⟨t, r, h⟩ := hdn _ hg; exact nomatch h.symm.trans hd
        case vfree hv => cases hv
        case start hx | loadOpen hx _ | loadDone hx _ | casPush hx _ | casRetry hx _ | casDone hx _ |
            cont _ hx _ | copy hx _ | rel hx | write hx _ | readv hx =>
          exact (hacc hx).elim nofun nofun

theorem pmax_of_vfree_last (p0 p : PSt) (log : List Ev) (t : Nat) (hr : Reachable p0.s)
    (h : runLog pstep p0 (log ++ [.vfree t]) = some p) : PMax p := by
  obtain ⟨p1, h1, h2⟩ := runLog_prefix h
  obtain ⟨p2, hp, h2⟩ := runLog_cons_some h2
  cases h2
  obtain ⟨l0, hl0⟩ := hr
  have hi : Inv p1.s := inv_of_runLog Inv (fun _ _ _ => step_inv _ _ _) (inv_of_accepted hl0)
    (runLog_pstep_step _ _ _ h1)
  exact fun e => pstep_none _ e ((vfree_terminal _ _ t hi (pstep_step hp)).2.2.2.2 e)

end PikaVerif.Rw
