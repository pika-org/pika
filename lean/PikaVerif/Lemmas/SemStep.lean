import PikaVerif.Model.Sem
import PikaVerif.Core.Run
/-! The semaphore model as a relation: `Step s e s'` lists the branches of `step`, so that a proof
    about accepted events is a case analysis with the guards and the successor state at hand. -/
namespace PikaVerif.Sem

/-- The accepted events, one constructor per branch of `step`: the guards that hold, the program
    counter the acting thread is at, and the successor state. -/
inductive Step (s : St) : Ev → St → Prop
  | inv {t o} : t < s.n → s.pc t = .idle →
      Step s (.inv t o) { s with pc := upd s.pc t (.want o), tookOp := upd s.tookOp t false,
                                 sawTimeout := upd s.sawTimeout t false, curOp := upd s.curOp t o }
  | ret {t r} : t < s.n → s.pc t = .retn r →
      Step s (.ret t r) { s with pc := upd s.pc t .idle, okRets := s.okRets + (if r then 1 else 0) }
  | done {t} : t < s.n → s.pc t = .idle → Step s (.done t) { s with pc := upd s.pc t .fin }
  | acqWant {t o} : t < s.n → s.lock = none → s.pc t = .want o →
      Step s (.slAcq t) { s with lock := some t, pc := upd s.pc t (.locked o false) }
  | acqWoke {t tm p} : t < s.n → s.lock = none → s.pc t = .wokeNL tm p →
      Step s (.slAcq t) { s with lock := some t, pc := upd s.pc t (.relk tm p) }
  | acqLoop {t i n} : t < s.n → s.lock = none → s.pc t = .relNL i n →
      Step s (.slAcq t) { s with lock := some t,
                                 pc := upd s.pc t (if i < n ∧ 0 ≤ s.value then .relL i n else .relFin) }
  | relEnq {t tm} : t < s.n → s.lock = some t → s.pc t = .enq tm →
      Step s (.slRel t) { s with lock := none, pc := upd s.pc t (.unl tm false) }
  | relTaken {t} : t < s.n → s.lock = some t → s.pc t = .taken →
      Step s (.slRel t) { s with lock := none, pc := upd s.pc t (.retn true) }
  | relFailing {t} : t < s.n → s.lock = some t → s.pc t = .failing →
      Step s (.slRel t) { s with lock := none, pc := upd s.pc t (.retn false) }
  | relRes {t i n more} : t < s.n → s.lock = some t → s.pc t = .relRes i n more →
      Step s (.slRel t) { s with lock := none,
                                 pc := upd s.pc t (if more then .relNL (i + 1) n else .retn false) }
  | relFin {t} : t < s.n → s.lock = some t → s.pc t = .relFin →
      Step s (.slRel t) { s with lock := none, pc := upd s.pc t (.retn false) }
  | relTry {t c} : t < s.n → s.lock = some t → s.pc t = .locked .tryq c → s.value < 1 →
      Step s (.slRel t) { s with lock := none, pc := upd s.pc t (.retn false) }
  | cvEnq {t tm c} : t < s.n → s.lock = some t → s.pc t = .locked (if tm then .timed else .acq) c →
      s.value < 1 →
      Step s (.cvEnq t (s.queue.length + 1) tm) { s with queue := s.queue ++ [t], pc := upd s.pc t (.enq tm) }
  | take {t o c} : t < s.n → s.lock = some t → s.pc t = .locked o c → (∀ k, o ≠ .rel k) → 1 ≤ s.value →
      Step s (.take t (s.value - 1)) { s with value := s.value - 1, acquired := s.acquired + 1,
                                              tookOp := upd s.tookOp t true, pc := upd s.pc t .taken }
  | add {t c} : t < s.n → s.lock = some t → s.pc t = .locked (.rel c) false →
      Step s (.add t (s.value + c) c)
        { s with value := s.value + c, released := s.released + c,
                 pc := upd s.pc t (if 0 < c ∧ 0 ≤ s.value + c then .relL 0 c else .relFin) }
  | pop {t i n g rest p'} : t < s.n → s.lock = some t → s.pc t = .relL i n → s.queue = g :: rest →
      setPopped (s.pc g) = some p' →
      Step s (.popResume t rest.length g (decide (s.pc g = .slp false)))
        { s with queue := rest,
                 tok := if decide (s.pc g = .slp false) then s.tok else upd s.tok g (s.tok g + 1),
                 pc := upd (upd s.pc g p') t (.relRes i n (decide (rest ≠ []))) }
  | cvNone {t i n} : t < s.n → s.lock = some t → s.pc t = .relL i n → s.queue = [] →
      Step s (.cvNone t) { s with pc := upd s.pc t (.relRes i n false) }
  | suspend {t p} : t < s.n → s.pc t = .unl false p →
      Step s (.suspend t) { s with pc := upd s.pc t (.susp p) }
  | woke {t p} : t < s.n → s.pc t = .susp p → 0 < s.tok t →
      Step s (.woke t) { s with tok := upd s.tok t (s.tok t - 1), pc := upd s.pc t (.wokeNL false p) }
  | sleep {t p} : t < s.n → s.pc t = .unl true p →
      Step s (.sleep t) { s with tok := upd s.tok t 0, pc := upd s.pc t (.slp p) }
  | timeout {t p} : t < s.n → s.pc t = .slp p →
      Step s (.timeout t) { s with pc := upd s.pc t (.wokeNL true p) }
  | wokePopped {t tm} : t < s.n → s.lock = some t → s.pc t = .relk tm true →
      Step s (.cvWoke t false tm)
        { s with pc := upd s.pc t (.locked (if tm then .timed else .acq) true) }
  | wokeTimeout {t} : t < s.n → s.lock = some t → s.pc t = .relk true false →
      Step s (.cvWoke t true true)
        { s with queue := s.queue.erase t, sawTimeout := upd s.sawTimeout t true, pc := upd s.pc t .failing }
  | wokeSpurious {t} : t < s.n → s.lock = some t → s.pc t = .relk false false →
      Step s (.cvWoke t true false)
        { s with queue := s.queue.erase t, pc := upd s.pc t (.locked .acq false) }

variable {s s' : St} {e : Ev}

theorem Step.accepted (h : Step s e s') : step s e = some s' := by
  cases h with
  | @cvEnq t tm c _ _ _ _ => cases tm <;> simp [step, *]
  | @take t o c _ _ _ ho _ =>
    cases o with
    | rel k => exact absurd rfl (ho k)
    | _ => simp [step, *]
  | _ => simp [step, *]

theorem step_iff : step s e = some s' ↔ Step s e s' := by
  refine ⟨fun h => ?_, Step.accepted⟩
  cases e with
  | inv t o | done t =>
    simp only [step, Option.ite_none_right_eq_some] at h
    obtain ⟨⟨h1, h2⟩, h⟩ := h
    cases h; constructor <;> assumption
  | ret t r =>
    simp only [step, Option.ite_none_right_eq_some] at h
    obtain ⟨h1, h⟩ := h
    split at h
    · obtain ⟨rfl, h'⟩ := Option.ite_none_right_eq_some.1 h; cases h'; exact .ret h1 ‹_›
    · cases h
  | slAcq t =>
    simp only [step, Option.ite_none_right_eq_some] at h
    obtain ⟨⟨h1, h2⟩, h⟩ := h
    split at h <;> cases h
    · exact .acqWant h1 h2 ‹_›
    · exact .acqWoke h1 h2 ‹_›
    · exact .acqLoop h1 h2 ‹_›
  | slRel t =>
    simp only [step, Option.ite_none_right_eq_some] at h
    obtain ⟨⟨h1, h2⟩, h⟩ := h
    split at h
    · cases h; exact .relEnq h1 h2 ‹_›
    · cases h; exact .relTaken h1 h2 ‹_›
    · cases h; exact .relFailing h1 h2 ‹_›
    · cases h; exact .relRes h1 h2 ‹_›
    · cases h; exact .relFin h1 h2 ‹_›
    · obtain ⟨hv, h'⟩ := Option.ite_none_right_eq_some.1 h; cases h'; exact .relTry h1 h2 ‹_› hv
    · cases h
  | cvEnq t z tm =>
    simp only [step, Option.ite_none_right_eq_some] at h
    obtain ⟨⟨h1, h2, h3, rfl⟩, h⟩ := h
    split at h
    · obtain ⟨rfl, h'⟩ := Option.ite_none_right_eq_some.1 h; cases h'; exact .cvEnq h1 h2 ‹_› h3
    · obtain ⟨rfl, h'⟩ := Option.ite_none_right_eq_some.1 h; cases h'; exact .cvEnq h1 h2 ‹_› h3
    · cases h
  | take t v =>
    simp only [step, Option.ite_none_right_eq_some] at h
    obtain ⟨⟨h1, h2, h3, rfl⟩, h⟩ := h
    split at h <;> cases h <;> exact .take h1 h2 ‹_› (by nofun) h3
  | add t v c =>
    simp only [step, Option.ite_none_right_eq_some] at h
    obtain ⟨⟨h1, h2, rfl⟩, h⟩ := h
    split at h
    · obtain ⟨rfl, h'⟩ := Option.ite_none_right_eq_some.1 h; cases h'; exact .add h1 h2 ‹_›
    · cases h
  | popResume t z g d =>
    simp only [step, Option.ite_none_right_eq_some] at h
    obtain ⟨⟨h1, h2⟩, h⟩ := h
    split at h
    · obtain ⟨⟨rfl, rfl⟩, h'⟩ := Option.ite_none_right_eq_some.1 h
      split at h'
      · obtain ⟨rfl, h''⟩ := Option.ite_none_right_eq_some.1 h'; cases h''; exact .pop h1 h2 ‹_› ‹_› ‹_›
      · cases h'
    · cases h
  | cvNone t | suspend t | woke t | sleep t | timeout t =>
    simp only [step, Option.ite_none_right_eq_some] at h
    obtain ⟨_, h⟩ := h
    split at h <;> cases h
    constructor <;> simp_all
  | cvWoke t still tm =>
    simp only [step, Option.ite_none_right_eq_some] at h
    obtain ⟨⟨h1, h2⟩, h⟩ := h
    split at h
    · next tmm popped hp =>
      obtain ⟨⟨rfl, rfl⟩, h'⟩ := Option.ite_none_right_eq_some.1 h
      cases popped
      · cases tm <;> cases h'
        · exact .wokeSpurious h1 h2 hp
        · exact .wokeTimeout h1 h2 hp
      · cases h'; exact .wokePopped h1 h2 hp
    · cases h

theorem step_n (s s' : St) (e : Ev) (h : step s e = some s') : s'.n = s.n := by
  cases step_iff.1 h <;> rfl

end PikaVerif.Sem
