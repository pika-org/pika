import PikaVerif.Model.SSem
import PikaVerif.Core.Run
/-! The sliding semaphore model as a relation: `Step s e s'` lists the branches of `step` (as
    `Lemmas/SemStep.lean` does for the counting semaphore). -/
namespace PikaVerif.SSem

/-- The accepted events, one constructor per branch of `step`: the guards that hold, the program
    counter the acting thread is at, and the successor state. -/
inductive Step (s : St) : Ev → St → Prop
  | inv {t o} : t < s.n → s.pc t = .idle → Step s (.inv t o) { s with pc := upd s.pc t (.want o) }
  | ret {t r} : t < s.n → s.pc t = .retn r → Step s (.ret t r) { s with pc := upd s.pc t .idle }
  | done {t} : t < s.n → s.pc t = .idle → Step s (.done t) { s with pc := upd s.pc t .fin }
  | acqWait {t u} : t < s.n → s.lock = none → s.pc t = .want (.wait u) →
      Step s (.slAcq t) { s with lock := some t, pc := upd s.pc t (.locked u false false) }
  | acqTry {t u} : t < s.n → s.lock = none → s.pc t = .want (.tryw u) →
      Step s (.slAcq t) { s with lock := some t, pc := upd s.pc t (.locked u true false) }
  | acqSig {t l} : t < s.n → s.lock = none → s.pc t = .want (.signal l) →
      Step s (.slAcq t) { s with lock := some t, pc := upd s.pc t (.lockedSig l) }
  | acqWoke {t u p} : t < s.n → s.lock = none → s.pc t = .wokeNL u p →
      Step s (.slAcq t) { s with lock := some t, pc := upd s.pc t (.relk u p) }
  | acqLoop {t i n} : t < s.n → s.lock = none → s.pc t = .sigNL i n →
      Step s (.slAcq t) { s with lock := some t, pc := upd s.pc t (if i < n then .sigL i n else .sigFin) }
  | relEnq {t u} : t < s.n → s.lock = some t → s.pc t = .enq u →
      Step s (.slRel t) { s with lock := none, pc := upd s.pc t (.unl u false) }
  | relPassed {t} : t < s.n → s.lock = some t → s.pc t = .passed →
      Step s (.slRel t) { s with lock := none, pc := upd s.pc t (.retn true) }
  | relRefused {t} : t < s.n → s.lock = some t → s.pc t = .refused →
      Step s (.slRel t) { s with lock := none, pc := upd s.pc t (.retn false) }
  | relTry {t u c} : t < s.n → s.lock = some t → s.pc t = .locked u true c → sat s u = false →
      Step s (.slRel t) { s with lock := none, pc := upd s.pc t (.retn false) }
  | relRes {t i n more} : t < s.n → s.lock = some t → s.pc t = .sigRes i n more →
      Step s (.slRel t) { s with lock := none,
                                 pc := upd s.pc t (if more then .sigNL (i + 1) n else .retn false) }
  | relFin {t} : t < s.n → s.lock = some t → s.pc t = .sigFin →
      Step s (.slRel t) { s with lock := none, pc := upd s.pc t (.retn false) }
  | cvEnq {t u c} : t < s.n → s.lock = some t → s.pc t = .locked u false c → sat s u = false →
      Step s (.cvEnq t (s.queue.length + 1)) { s with queue := s.queue ++ [t], pc := upd s.pc t (.enq u) }
  | pass {t u tr c} : t < s.n → s.lock = some t → s.pc t = .locked u tr c → sat s u = true →
      Step s (.pass t u s.lower) { s with pc := upd s.pc t .passed }
  | sig {t l} : t < s.n → s.lock = some t → s.pc t = .lockedSig l →
      Step s (.sig t (max l s.lower) s.queue.length)
        { s with lower := max l s.lower,
                 pc := upd s.pc t (if 0 < s.queue.length then .sigL 0 s.queue.length else .sigFin) }
  | pop {t i n g rest p'} : t < s.n → s.lock = some t → s.pc t = .sigL i n → s.queue = g :: rest →
      setPopped (s.pc g) = some p' →
      Step s (.popResume t rest.length g)
        { s with queue := rest, tok := upd s.tok g (s.tok g + 1),
                 pc := upd (upd s.pc g p') t (.sigRes i n (decide (rest ≠ []))) }
  | cvNone {t i n} : t < s.n → s.lock = some t → s.pc t = .sigL i n → s.queue = [] →
      Step s (.cvNone t) { s with pc := upd s.pc t (.sigRes i n false) }
  | suspend {t u p} : t < s.n → s.pc t = .unl u p →
      Step s (.suspend t) { s with pc := upd s.pc t (.susp u p) }
  | woke {t u p} : t < s.n → s.pc t = .susp u p → 0 < s.tok t →
      Step s (.woke t) { s with tok := upd s.tok t (s.tok t - 1), pc := upd s.pc t (.wokeNL u p) }
  | wokePopped {t u} : t < s.n → s.lock = some t → s.pc t = .relk u true →
      Step s (.cvWoke t false) { s with pc := upd s.pc t (.locked u false true) }
  | wokeSpurious {t u} : t < s.n → s.lock = some t → s.pc t = .relk u false →
      Step s (.cvWoke t true) { s with queue := s.queue.erase t, pc := upd s.pc t (.locked u false false) }

variable {s s' : St} {e : Ev}

theorem Step.accepted (h : Step s e s') : step s e = some s' := by
  cases h <;> simp [step, *]

theorem step_iff : step s e = some s' ↔ Step s e s' := by
  refine ⟨fun h => ?_, Step.accepted⟩
  cases e with
  | inv t o | done t =>
    simp only [step, Option.ite_none_right_eq_some] at h
    obtain ⟨⟨h1, h2⟩, h⟩ := h
    cases h; constructor <;> assumption
  | ret t r =>
    simp only [step, Option.ite_none_right_eq_some] at h
    obtain ⟨h1, h⟩ := h
    split at h
    · obtain ⟨rfl, h'⟩ := Option.ite_none_right_eq_some.1 h; cases h'; exact .ret h1 ‹_›
    · cases h
  | slAcq t =>
    simp only [step, Option.ite_none_right_eq_some] at h
    obtain ⟨⟨h1, h2⟩, h⟩ := h
    split at h <;> cases h
    · exact .acqWait h1 h2 ‹_›
    · exact .acqTry h1 h2 ‹_›
    · exact .acqSig h1 h2 ‹_›
    · exact .acqWoke h1 h2 ‹_›
    · exact .acqLoop h1 h2 ‹_›
  | slRel t =>
    simp only [step, Option.ite_none_right_eq_some] at h
    obtain ⟨⟨h1, h2⟩, h⟩ := h
    split at h
    · cases h; exact .relEnq h1 h2 ‹_›
    · cases h; exact .relPassed h1 h2 ‹_›
    · cases h; exact .relRefused h1 h2 ‹_›
    · obtain ⟨hs, h'⟩ := Option.ite_none_right_eq_some.1 h; cases h'; exact .relTry h1 h2 ‹_› hs
    · cases h; exact .relRes h1 h2 ‹_›
    · cases h; exact .relFin h1 h2 ‹_›
    · cases h
  | cvEnq t z =>
    simp only [step, Option.ite_none_right_eq_some] at h
    obtain ⟨⟨h1, h2, rfl⟩, h⟩ := h
    split at h
    · obtain ⟨hs, h'⟩ := Option.ite_none_right_eq_some.1 h; cases h'; exact .cvEnq h1 h2 ‹_› hs
    · cases h
  | pass t u l =>
    simp only [step, Option.ite_none_right_eq_some] at h
    obtain ⟨⟨h1, h2, rfl⟩, h⟩ := h
    split at h
    · obtain ⟨⟨rfl, hs⟩, h'⟩ := Option.ite_none_right_eq_some.1 h; cases h'; exact .pass h1 h2 ‹_› hs
    · cases h
  | sig t l z =>
    simp only [step, Option.ite_none_right_eq_some] at h
    obtain ⟨⟨h1, h2, rfl⟩, h⟩ := h
    split at h
    · obtain ⟨rfl, h'⟩ := Option.ite_none_right_eq_some.1 h; cases h'; exact .sig h1 h2 ‹_›
    · cases h
  | popResume t z g =>
    simp only [step, Option.ite_none_right_eq_some] at h
    obtain ⟨⟨h1, h2⟩, h⟩ := h
    split at h
    · obtain ⟨⟨rfl, rfl⟩, h'⟩ := Option.ite_none_right_eq_some.1 h
      split at h' <;> cases h'
      exact .pop h1 h2 ‹_› ‹_› ‹_›
    · cases h
  | cvNone t | suspend t | woke t =>
    simp only [step, Option.ite_none_right_eq_some] at h
    obtain ⟨_, h⟩ := h
    split at h <;> cases h
    constructor <;> simp_all
  | cvWoke t still =>
    simp only [step, Option.ite_none_right_eq_some] at h
    obtain ⟨⟨h1, h2⟩, h⟩ := h
    split at h
    · next u popped hp =>
      obtain ⟨rfl, h'⟩ := Option.ite_none_right_eq_some.1 h
      cases popped <;> cases h'
      · exact .wokeSpurious h1 h2 hp
      · exact .wokePopped h1 h2 hp
    · cases h

theorem step_n (s s' : St) (e : Ev) (h : step s e = some s') : s'.n = s.n := by
  cases step_iff.1 h <;> rfl

end PikaVerif.SSem
