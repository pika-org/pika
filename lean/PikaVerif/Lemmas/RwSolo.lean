import PikaVerif.Lemmas.RwT
/-!
Solo bound for the `done()` frames of one thread: after a release, the releasing
thread running alone finishes every `done()` it has entered - including the ones entered by the
destructor cascade of detached accesses it grants - within
`soloRank` = (queued operation states) + (shared states whose head has not been exchanged) steps.
-/
namespace PikaVerif.Rw
open PikaVerif

def qRank : Acc → Nat
  | .queued _ => 1
  | _ => 0

/-- queued operation states + shared states not yet exchanged -/
def soloRank (s : St) : Nat :=
  sumTo s.na (fun a => qRank (s.acc a)) + sumTo s.ng (fun g => dnRank (s.dn g))

theorem solo_decRc (s : St) (t g : Nat) (h : s.rc g = 1 → g + 1 < s.ng → s.dn (g + 1) = .idle) :
    soloRank (decRc s t g) = soloRank s := by
  simp only [soloRank, decRc_fields, decRc_dnRank s t g h]

theorem solo_grant (s : St) (t a : Nat) (det : Bool) (ha : a < s.na)
    (h : s.rc (s.grp a) = 1 → s.grp a + 1 < s.ng → s.dn (s.grp a + 1) = .idle) :
    soloRank (grant s t a det) + qRank (s.acc a) = soloRank s := by
  have := sumTo_upd s.na qRank s.acc a (if det then .released else .granted 0) ha
  cases det
  · simp only [soloRank, grant, qRank, Bool.false_eq_true, if_false] at this ⊢; omega
  · simp only [grant, if_true]
    rw [solo_decRc]
    · simp only [soloRank, qRank, if_true] at this ⊢; omega
    · exact h

/-- thread `t` is inside `done()` of some shared state with a step to take -/
def TFrame (s : St) (t : Nat) : Prop :=
  ∃ g, g < s.ng ∧ (s.dn g = .pend t ∨ ∃ a r, s.dn g = .drain t (a :: r))

/-- a step of `done()` executed by thread `t` -/
def IsDone (t : Nat) (e : Ev) : Prop :=
  (∃ g c, e = .xchg t g c) ∨ (∃ g ack d, e = .cont t g ack d)

/-- a pending `done()` frame always has an enabled step, and the step consumes one unit of `soloRank` -/
theorem solo_step {s : St} (hi : Inv s) {t : Nat} (hf : TFrame s t) :
    ∃ e s1, IsDone t e ∧ step s e = some s1 ∧ soloRank s1 + 1 = soloRank s := by
  obtain ⟨g, hg, hd | ⟨a, rest, hd⟩⟩ := hf
  · obtain ⟨q, hq⟩ := pend_open hi hg hd
    refine ⟨_, _, .inl ⟨g, _, rfl⟩, (Step.xchg hd hq hg).step, ?_⟩
    have := sumTo_upd s.ng dnRank s.dn g (.drain t q) hg
    simp only [soloRank, hd, dnRank] at this ⊢; omega
  · obtain ⟨_, ha, hga, det, hx⟩ := drain_front hi hg hd
    refine ⟨_, _, .inr ⟨g, _, _, rfl⟩, (Step.cont hd hx hga).step, ?_⟩
    have h0 := sumTo_upd s.ng dnRank s.dn g (.drain t rest) hg
    have := solo_grant { s with dn := upd s.dn g (.drain t rest) } t a det ha
      (fun h1 h2 => (upd_other _ _ _ _ (hga ▸ Nat.succ_ne_self _)).trans (dn_next_idle hi h1 h2))
    simp only [soloRank, hx, hd, qRank, dnRank] at this h0 ⊢; omega

/-- **Solo completion of all `done()` frames of a thread**, with exact accounting. -/
theorem solo_run (t : Nat) (s : St) (hi : Inv s) :
    ∃ es s', (∀ e, e ∈ es → IsDone t e) ∧ runLog step s es = some s' ∧
      es.length + soloRank s' = soloRank s ∧ ¬ TFrame s' t := by
  induction hn : soloRank s using Nat.strongRecOn generalizing s with
  | _ n ih =>
    subst hn
    by_cases hf : TFrame s t
    · obtain ⟨e, s1, h1, h2, h3⟩ := solo_step hi hf
      obtain ⟨es, s', e1, e2, e3, e4⟩ := ih _ (by omega) s1 (step_inv s s1 e hi h2) rfl
      refine ⟨e :: es, s', ?_, ?_, ?_, e4⟩
      · intro x hx
        rcases List.mem_cons.1 hx with rfl | hx
        · exact h1
        · exact e1 x hx
      · simp only [runLog, h2]; exact e2
      · simp only [List.length_cons]; omega
    · exact ⟨[], s, nofun, rfl, by simp, hf⟩

/-- a release does not change `soloRank` (it may enter `done()` of the next shared state, whose
    exchange was already counted) -/
theorem solo_rel (s s1 : St) (hi : Inv s) (t a : Nat) (d : Bool) (h : step s (.rel t a d) = some s1) :
    soloRank s1 = soloRank s := by
  cases Step.of_step h with
  | @rel _ _ c hx =>
    obtain ⟨_, e⟩ := sum_acc_upd hi qRank hx nofun
    have hq : qRank (relAcc c) = 0 := by cases c <;> rfl
    rw [solo_decRc]
    · simp only [soloRank, e, hq]; simp only [qRank]; omega
    · exact dn_next_idle hi

end PikaVerif.Rw
