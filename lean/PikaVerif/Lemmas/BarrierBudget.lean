import PikaVerif.Lemmas.BarrierSweep
/-! C09u, coarse barrier: the measure with a miss budget.  `pot` = rank of the program counter plus
    twice the distance the cursor can still travel in its round (`bud`, bounded by the sweep
    invariant); `phi2` decreases with every accepted event that is not the poll stutter, which gives
    the unconditional length bound and the existence of maximal extensions. -/
namespace PikaVerif.Barrier
open PikaVerif.C09Barrier

/-- misses the thread can still make in its current round: distance the cursor can still travel -/
def bud (e cur st : Nat) (w : Bool) : Nat := if w then st - cur else (e - cur) + st

/-- cost of one call of `base.arrive` when `expected ≤ B` (with the miss budget) -/
def cc2 (B : Nat) : Nat := 6 * B + 10

/-- potential of a thread: rank of the pc + twice the miss budget of the current round -/
def pot (B : Nat) (st : Nat) (w : Bool) : Pc → Nat
  | .fin => 0
  | .idle => 1
  | .retn => 2
  | .polling => 3
  | .arr u => u * cc2 B + 3
  | .want u => u * cc2 B + 4
  | .wantDrop => cc2 B + 5
  | .try u cur _ m => u * cc2 B + 5 * m + 8 + 2 * bud ((m + 1) / 2) cur st w
  | .try2 u c _ m => u * cc2 B + 5 * m + 7 + 2 * bud ((m + 1) / 2) c st w
  | .won u _ => u * cc2 B + 6
  | .pub u _ => u * cc2 B + 5

def opRank2 (B : Nat) : Op → Nat
  | .arrive u => u * cc2 B + 4
  | .aw => cc2 B + 4
  | .drop => cc2 B + 5
  | .wait => 3

theorem pot_afterCall (B st : Nat) (w aw : Bool) (u : Nat) : pot B st w (afterCall aw u) ≤ u * cc2 B + 3 := by
  unfold afterCall
  split
  · split <;> simp [pot]
  · simp [pot]

theorem pot_opPc (B st : Nat) (w : Bool) (o : Op) : pot B st w (opPc o) = opRank2 B o := by
  cases o <;> first | rfl | exact congrArg (· + 4) (Nat.one_mul _)

theorem pot_inv (B : Nat) (s s' : St) (t : Nat) (o : Op) (st : Nat) (w : Bool) (h : step s (.inv t o) = some s') :
    pot B st w (s'.pc t) + 1 = pot B st w (s.pc t) + opRank2 B o := by
  cases step_iff.mp h
  simp only [upd_same, ‹s.pc _ = _›, pot_opPc]; exact Nat.add_comm _ _

theorem bud_miss {s s' : St} {r e cur st c : Nat} {w : Bool} (hpre : Sweep s r e cur st w)
    (hpost : Sweep s' r e (c + 1) st (w || decide (cur = e))) (hle : cur ≤ e)
    (hc : c = if cur = e then 0 else cur) :
    bud e (c + 1) st (w || decide (cur = e)) + 1 ≤ bud e cur st w := by
  obtain ⟨hst, h1⟩ := hpre
  obtain ⟨_, h2⟩ := hpost
  by_cases hce : cur = e
  · rw [if_pos hce] at hc; subst hc
    cases w <;> simp only [bud, Bool.false_eq_true, if_false, if_true, Bool.false_or, Bool.true_or, hce,
      decide_true] at h1 h2 ⊢
    · omega
    · omega
  · rw [if_neg hce] at hc; subst hc
    cases w <;> simp only [bud, Bool.false_eq_true, if_false, if_true, Bool.false_or, Bool.true_or, hce,
      decide_false] at h1 h2 ⊢
    · omega
    · omega

theorem bud_seen {s : St} {r e cur st c : Nat} {w : Bool} (hpre : Sweep s r e cur st w) (hle : cur ≤ e)
    (hc : c = if cur = e then 0 else cur) :
    bud e c st (w || decide (cur = e)) ≤ bud e cur st w := by
  obtain ⟨hst, h1⟩ := hpre
  by_cases hce : cur = e
  · rw [if_pos hce] at hc; subst hc
    cases w <;> simp only [bud, Bool.false_eq_true, if_false, if_true, Bool.false_or, Bool.true_or, hce,
      decide_true] at h1 ⊢
    · omega
    · omega
  · rw [if_neg hce] at hc; subst hc
    cases w <;> simp only [bud, Bool.false_eq_true, if_false, if_true, Bool.false_or, Bool.true_or, hce,
      decide_false] at h1 ⊢ <;> omega

theorem bud_nonneg_false (e cur st : Nat) : bud e cur st false = (e - cur) + st := by simp [bud]

def progCost2 (B : Nat) : List Op → Nat
  | [] => 0
  | o :: l => opRank2 B o + progCost2 B l

def mu2 (B : Nat) (g : GSt) : Nat := sumTo g.p.s.n (fun t => pot B (g.st t) (g.w t) (g.p.s.pc t))
def phi2 (B : Nat) (g : GSt) : Nat := mu2 B g + sumTo g.p.s.n (fun t => progCost2 B (g.p.prog t))

theorem reachable_step {s s' : St} {e : Ev} (hr : Reachable s) (h : step s e = some s') : Reachable s' := by
  obtain ⟨n, N, log, hl⟩ := hr
  refine ⟨n, N, log ++ [e], ?_⟩
  rw [runLog_append, hl]; simp [runLog, h]

/-- The acting thread's potential is strictly smaller after every accepted event that is neither
    `inv` nor the stutter.  A miss pays with the distance the cursor can still travel (`bud_miss`, by
    the sweep invariant before and after); entering a round (`start`, a CAS that goes up) pays for the
    new round's budget out of the `5·m` of the round left. -/
theorem pot_thread (B : Nat) (g : GSt) (e : Ev) (p' : PSt) (hb : InvB g.p.s) (hsw : SW g)
    (hsw' : SW (ghost g e p')) (hB : g.p.s.expected ≤ B) (hs : step g.p.s e = some p'.s)
    (hi : isInv e = false) (hst : isStutter e = false) :
    pot B ((ghost g e p').st (thr e)) ((ghost g e p').w (thr e)) (p'.s.pc (thr e)) <
      pot B (g.st (thr e)) (g.w (thr e)) (g.p.s.pc (thr e)) := by
  obtain ⟨⟨s, prog⟩, st, w⟩ := g
  obtain ⟨s', prog'⟩ := p'
  dsimp only at hb hB hs
  have hpost := hsw' (thr e)
  have hac := pot_afterCall B
  cases step_iff.mp hs <;> simp only [ghost, thr, upd_same, ‹s.pc _ = _›] at hpost ⊢
  case inv => cases hi
  case start =>
    have := calls_succ (cc2 B) _ ‹1 ≤ _›
    have hc : cc2 B = 6 * B + 10 := rfl
    simp only [pot, bud, Bool.false_eq_true, if_false]; omega
  case casUp t a b u cur m ht hpc hm hc _ _ =>
    have hcur : cur ≤ (m + 1) / 2 := ((hb.known ht hpc).2.1 hm).1
    have halt : a < (m + 1) / 2 := by rw [hc]; split <;> omega
    simp only [pot, bud_nonneg_false]
    generalize bud ((m + 1) / 2) cur (st t) (w t) = X
    omega
  case casHalf t a b u cur m _ hpc hm hc _ _ =>
    exact Nat.lt_of_le_of_lt (hac _ _ _ _) (by simp only [pot]; omega)
  case casSeen t a b u cur m ht hpc hm hc _ _ =>
    have hsweep : Sweep s b ((m + 1) / 2) cur (st t) (w t) := (hpc ▸ hsw t : SWt s _ _ (.try u cur b m)) hm
    have hcur : cur ≤ (m + 1) / 2 := ((hb.known ht hpc).2.1 hm).1
    have := bud_seen hsweep hcur hc
    simp only [pot, wrapNow]; omega
  case casMiss t a b u cur m ht hpc hm hc _ _ =>
    have hsweep : Sweep s b ((m + 1) / 2) cur (st t) (w t) := (hpc ▸ hsw t : SWt s _ _ (.try u cur b m)) hm
    have hcur : cur ≤ (m + 1) / 2 := ((hb.known ht hpc).2.1 hm).1
    have := bud_miss hsweep (hpost hm) hcur hc
    simp only [pot, wrapNow]; omega
  case cas2Up t a b u m ht hpc _ =>
    obtain ⟨-, hm, hcur, -⟩ := hb.known ht hpc
    simp only [pot, bud_nonneg_false]
    generalize bud ((m + 1) / 2) a (st t) (w t) = X
    omega
  case cas2Miss t a b u m ht hpc _ =>
    obtain ⟨-, hm, hcur, -⟩ := hb.known ht hpc
    have hsweep : Sweep s b ((m + 1) / 2) a (st t) (w t) := ((hpc ▸ hsw t : SWt s _ _ (.try2 u a b m)) hm).1
    have hd : decide (a = (m + 1) / 2) = false := decide_eq_false (by omega)
    have hpost' := hpost hm
    rw [← Bool.or_false (w t), ← hd] at hpost'
    have := bud_miss hsweep hpost' (Nat.le_of_lt hcur) (by rw [if_neg (by omega)])
    rw [hd, Bool.or_false] at this
    simp only [pot]; omega
  case load => exact Nat.lt_succ_of_le (hac _ _ _ _)
  case publish => exact Nat.lt_of_le_of_lt (hac _ _ _ _) (by simp only [pot]; omega)
  case poll => rw [if_neg (by simpa [isStutter] using hst)]; exact Nat.le_refl _
  all_goals simp only [pot]; omega

structure GInv (B : Nat) (g : GSt) : Prop where
  r : Reachable g.p.s
  sw : SW g
  /-- `B` bounds the expected count (`cc2 B` then pays for one call of base.arrive) -/
  b : g.p.s.expected ≤ B

theorem GInv.inv {B : Nat} {g : GSt} (hi : GInv B g) : InvA g.p.s ∧ InvB g.p.s :=
  inv_of_reachable hi.r

/-- **Every accepted event that is not the poll stutter strictly decreases `phi2`.** -/
theorem phi2_step (B : Nat) (g g' : GSt) (e : Ev) (hi : GInv B g) (h : gstep g e = some g')
    (hst : isStutter e = false) : phi2 B g' < phi2 B g := by
  obtain ⟨ha, hb⟩ := hi.inv
  have hsw := hi.sw
  have hB := hi.b
  have hsw' := sw_step g g' e ha hb hsw h
  simp only [gstep, Option.map_eq_some_iff] at h
  obtain ⟨p', hp, hg⟩ := h
  subst hg
  have hs := pstep_step g.p p' e hp
  have hn := step_n hs
  obtain ⟨htn, -, -, -, -, -, hpc⟩ := step_frame hs
  have hgl := ghost_local g e p'
  have hsum := sumTo_change (n := g.p.s.n) (t := thr e)
    (f := fun t => pot B (g.st t) (g.w t) (g.p.s.pc t))
    (f' := fun t => pot B ((ghost g e p').st t) ((ghost g e p').w t) (p'.s.pc t)) htn
    (fun u _ hu => by simp only [(hgl u hu).1, (hgl u hu).2, hpc u hu])
  simp only [phi2, mu2, ghost_p, hn]
  obtain ⟨-, ⟨t, o, rest, rfl, hpr, hpr'⟩ | ⟨hne, hpr', -⟩⟩ := layer.sound hp
  · have hpi := pot_inv B _ _ t o (g.st t) (g.w t) hs
    have hpsum := sumTo_upd g.p.s.n (progCost2 B) g.p.prog t rest htn
    rw [hpr] at hpsum
    simp only [progCost2] at hpsum
    have hgh : ghost g (.inv t o) p' = ⟨p', g.st, g.w⟩ := rfl
    rw [hgh] at hsum ⊢
    simp only [thr] at hsum htn
    dsimp only at hsum ⊢
    rw [hpr']
    omega
  · have hlt := pot_thread B g e p' hb hsw hsw' hB hs
      (by cases e <;> first | rfl | exact absurd rfl (hne _ _)) hst
    rw [hpr']
    omega

theorem ginv_step (B : Nat) (g : GSt) (e : Ev) (g' : GSt) (hi : GInv B g) (h : gstep g e = some g') :
    GInv B g' := by
  have hs := pstep_step _ _ e (gstep_pstep g g' e h)
  exact ⟨reachable_step hi.r hs, sw_step g g' e hi.inv.1 hi.inv.2 hi.sw h,
    Nat.le_trans (step_expected_le hs) hi.b⟩

theorem gstep_stutter (g g' : GSt) (e : Ev) (hst : isStutter e = true) (h : gstep g e = some g') : g' = g := by
  obtain ⟨p', hp, rfl⟩ := Option.map_eq_some_iff.mp h
  cases pstep_stutter hst hp
  cases e <;> first | cases hst | rfl

theorem runLog_phi2 (B : Nat) (log : List Ev) (g g' : GSt) (hi : GInv B g) (h : runLog gstep g log = some g') :
    log.length + phi2 B g' ≤ phi2 B g + stutters log := by
  have := runLog_balance (GInv B) (phi2 B) List.length stutters rfl rfl (ginv_step B)
    (fun g e g' es hi hs => ?_) hi h
  · omega
  simp only [List.length_cons, stutters]
  cases hst : isStutter e
  · have := phi2_step B g g' e hi hs hst
    simp; omega
  · cases gstep_stutter g g' e hst hs
    simp; omega

def ginit (p : PSt) : GSt := ⟨p, fun _ => 0, fun _ => false⟩

theorem ginv_init (n N : Nat) (prog : Nat → List Op) : GInv N (ginit (pinit n N prog)) := by
  refine ⟨⟨n, N, [], rfl⟩, ?_, Nat.le_refl _⟩
  intro t; simp [ginit, pinit, init, SWt]

theorem progCost2_awd (B P : Nat) (d : Nat → Bool) (t : Nat) :
    progCost2 B (awdProg P d t) ≤ P * (6 * B + 14) + (6 * B + 15) := by
  simp only [awdProg, cost_replicate (c := progCost2 B) (fun _ _ => rfl)]
  split <;> simp [progCost2, opRank2, cc2]

def boundG (N P : Nat) : Nat := N * (P * (6 * N + 14) + (6 * N + 15)) + N

theorem phi2_init (N P : Nat) (d : Nat → Bool) : phi2 N (ginit (pinit N N (awdProg P d))) ≤ boundG N P := by
  simp only [phi2, mu2, ginit, pinit, init]
  have h1 : sumTo N (fun _ => pot N 0 false Pc.idle) = N := by rw [sumTo_const]; simp [pot]
  have h2 := sumTo_mono (n := N) (f := fun t => progCost2 N (awdProg P d t))
    (g := fun _ => P * (6 * N + 14) + (6 * N + 15)) (fun t _ => progCost2_awd N P d t)
  rw [sumTo_const] at h2
  rw [h1]; simp only [boundG]; omega

/-- **Length bound modulo the poll stutter, for every program**: `phi2` of the initial state. -/
theorem length_le_phi2 (n N : Nat) (prog : Nat → List Op) (log : List Ev) (p : PSt)
    (h : runLog pstep (pinit n N prog) log = some p) :
    log.length ≤ phi2 N (ginit (pinit n N prog)) + stutters log := by
  obtain ⟨g', hg, _⟩ := runLog_pstep_gstep log (ginit (pinit n N prog)) p h
  have := runLog_phi2 N log _ g' (ginv_init n N _) hg
  omega

theorem length_bound (N P : Nat) (d : Nat → Bool) (log : List Ev) (p : PSt)
    (h : runLog pstep (pinit N N (awdProg P d)) log = some p) :
    log.length ≤ boundG N P + stutters log :=
  Nat.le_trans (length_le_phi2 N N _ log p h) (Nat.add_le_add_right (phi2_init N P d) _)

/-- **Every state of an instrumented run can be run on, by non-stutter events, to a maximal state**:
    every event that is not the stutter lowers `phi2`. -/
theorem exists_maximal_from (B : Nat) (g : GSt) (hi : GInv B g) :
    ∃ ext g', runLog gstep g ext = some g' ∧ Maximal g'.p ∧ stutters ext = 0 := by
  obtain ⟨ext, g', hrun, -, hmax, hq, -⟩ := exists_quiet_run (GInv B) (phi2 B) (fun e => isStutter e = false)
    (ginv_step B) (fun g e g' hi hq hs => phi2_step B g g' e hi hs hq) g hi
  refine ⟨ext, g', hrun, fun e p' hp => ?_, ?_⟩
  · cases hst : isStutter e
    · exact absurd hst (hmax e (ghost g' e p') (by simp [gstep, hp]))
    · rfl
  · clear hrun
    induction ext with
    | nil => rfl
    | cons e es ih =>
      rw [stutters, hq e (List.mem_cons_self ..), ih fun e he => hq e (List.mem_cons_of_mem _ he)]; rfl

/-- **Maximal runs exist, for every program**: every accepted log extends by non-stutter events to a
    maximal state. -/
theorem maximal_exists (n N : Nat) (prog : Nat → List Op) (log : List Ev) (p : PSt)
    (h : runLog pstep (pinit n N prog) log = some p) :
    ∃ ext p', runLog pstep (pinit n N prog) (log ++ ext) = some p' ∧ Maximal p' ∧ stutters ext = 0 := by
  obtain ⟨g, hg, hgp⟩ := runLog_pstep_gstep log (ginit (pinit n N prog)) p h
  have hi : GInv N g := inv_of_runLog (GInv N) (ginv_step N) (ginv_init n N _) hg
  obtain ⟨ext, g', hrun, hmax, hs0⟩ := exists_maximal_from N g hi
  refine ⟨ext, g'.p, ?_, hmax, hs0⟩
  rw [runLog_append, h]
  have := runLog_gstep_pstep ext g g' hrun
  rw [hgp] at this
  simpa using this

end PikaVerif.Barrier
