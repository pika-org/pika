import PikaVerif.Model.Join
import PikaVerif.Core.Run
/-! The acceptor of the join model as a relation: one rule per outcome of an event, with the new state
    written out and, as premises, those guards of the model that some proof uses (so the relation is
    sound for `step`, `Step.of_step`, but not complete: a proof that needs a dropped guard adds it to the
    rule).  Every proof about `step` goes through `Step.of_step`, by cases on the rule. -/
namespace PikaVerif.Join

inductive Step (s : St) : Ev → St → Prop
  | term {o} : ((s.isThread o = false ∧ s.phase o = .fresh) ∨ s.phase o = .exited) →
      Step s (.term o) { s with term := upd s.term o true }
  | start {h o p} : s.hid h = none → (s.isThread o = true ∨ (s.phase o = .fresh ∧ s.term o = false)) →
      s.owner o = none →
      Step s (.start h o p)
        { s with isThread := upd s.isThread o true, hid := upd s.hid h (some o), owner := upd s.owner o (some h) }
  | body {o} : s.phase o = .fresh → s.term o = false → s.jpc o = .out →
      Step s (.body o) { s with phase := upd s.phase o .body, isThread := upd s.isThread o true }
  | bodyDone {o} : s.jpc o = .out → s.phase o = .body →
      Step s (.bodyDone o) { s with phase := upd s.phase o .finished }
  | bodyDoneAgain {o} : Step s (.bodyDone o) s
  | interrupted {o} : s.phase o = .unwinding → s.jpc o = .out →
      Step s (.interrupted o)
        { s with phase := upd s.phase o .finished, interrupted := upd s.interrupted o true }
  | exited {o} : s.phase o = .exitedL → Step s (.exited o) { s with phase := upd s.phase o .exited }
  | jnLock {h j} : s.jpc j = .out → s.phase j = .body → s.mtx h = none → dtAllows (s.dt j) h = true →
      Step s (.jnLock h j)
        { s with jpc := upd s.jpc j (.locked h), lastJoin := upd s.lastJoin j none, mtx := upd s.mtx h (some j) }
  | jnErr {h j code} : s.jpc j = .locked h → s.mtx h = some j →
      Step s (.jnErr h j code) { s with jpc := upd s.jpc j .out, mtx := upd s.mtx h none }
  | jnChecked {h j o} : s.jpc j = .locked h → s.hid h = some o → o ≠ j →
      Step s (.jnChecked h j o) { s with jpc := upd s.jpc j (.checked h o) }
  | jnUnlock {h j o} : s.jpc j = .added h o → s.mtx h = some j →
      Step s (.jnUnlock h j) { s with jpc := upd s.jpc j (.window h o), mtx := upd s.mtx h none }
  | jnSusp {h j o} : s.jpc j = .window h o →
      Step s (.jnSusp h j) { s with jpc := upd s.jpc j (.susp h o) }
  | jnWoke {h j o} : s.jpc j = .susp h o → 0 < s.tok j →
      Step s (.jnWoke h j) { s with jpc := upd s.jpc j (.woke h o), tok := upd s.tok j (s.tok j - 1) }
  | jnDoneRefused {h j o} : s.jpc j = .refused h o → s.mtx h = some j →
      Step s (.jnDone h j)
        { s with jpc := upd s.jpc j .out, lastJoin := upd s.lastJoin j (some (h, o)),
                 hid := upd s.hid h none, mtx := upd s.mtx h none, owner := setOwn s.owner (s.hid h) none }
  | jnDoneWoke {h j o} : s.jpc j = .woke h o →
      Step s (.jnDone h j)
        { s with jpc := upd s.jpc j .out, lastJoin := upd s.lastJoin j (some (h, o)),
                 hid := upd s.hid h none, owner := setOwn s.owner (s.hid h) none }
  | joinable {h j r} : r = (s.hid h).isSome → Step s (.joinable h j r) s
  | detach {h j r} :
      Step s (.detach h j r) { s with hid := upd s.hid h none, owner := setOwn s.owner (s.hid h) none }
  | uadd {o j k} : s.jpc j = .out → s.phase j = .body → o ≠ j →
      Step s (.uadd o j k) { s with jpc := upd s.jpc j (.uadd o k) }
  | ecAddJoin {o j h} : s.ran o = false → o ≠ j → s.jpc j = .pointed h o →
      Step s (.ecAdd o j 1)
        { s with funcs := upd s.funcs o (.join j :: s.funcs o), jpc := upd s.jpc j (.added h o) }
  | ecAddJoinRefused {o j code h} : (s.ran o = true ∨ s.term o = true) → s.jpc j = .pointed h o →
      Step s (.ecAdd o j code) { s with jpc := upd s.jpc j (.refused h o) }
  | ecAddUser {o j k} : s.ran o = false → s.jpc j = .uadd o k →
      Step s (.ecAdd o j 1)
        { s with funcs := upd s.funcs o (.user k :: s.funcs o), jpc := upd s.jpc j .out }
  | ecAddUserRefused {o j code k} : s.jpc j = .uadd o k →
      Step s (.ecAdd o j code) { s with jpc := upd s.jpc j .out }
  | ecBegin {o n} : s.phase o = .finished →
      Step s (.ecBegin o n) { s with phase := upd s.phase o .loopHead }
  | ecTake {o n c rest} : s.phase o = .loopHead → s.funcs o = c :: rest →
      Step s (.ecTake o n) { s with phase := upd s.phase o (.run c), funcs := upd s.funcs o rest }
  | ecNext {o n} : s.phase o = .ranCb →
      Step s (.ecNext o n) { s with phase := upd s.phase o .loopHead }
  | ecRan {o} : s.phase o = .loopHead → s.funcs o = [] →
      Step s (.ecRan o) { s with phase := upd s.phase o .exitedL, ran := upd s.ran o true }
  | resume {j r} : s.phase r = .run (.join j) → j ≠ r →
      Step s (.resume j r) { s with phase := upd s.phase r .ranCb, tok := upd s.tok j (s.tok j + 1) }
  | ucb {r k} : s.phase r = .run (.user k) → Step s (.ucb r r k) { s with phase := upd s.phase r .ranCb }
  | ipEnable {o new} : Step s (.ipEnable o new (s.en o)) { s with en := upd s.en o new }
  | ipRefuse {o} : Step s (.ipRefuse o) s
  | ipReq {o f} : (s.en o = true ∨ f = false) → Step s (.ipReq o f) { s with req := upd s.req o f }
  | ipHit {o} : s.en o = true → s.req o = true → s.phase o = .body → s.jpc o = .out →
      Step s (.ipHit o true) { s with phase := upd s.phase o .hit }
  | ipHitJoin {o h t} : s.en o = true → s.req o = true → s.phase o = .body → s.jpc o = .checked h t →
      s.mtx h = some o →
      Step s (.ipHit o true)
        { s with phase := upd s.phase o .hit, jpc := upd s.jpc o .out, mtx := upd s.mtx h none }
  | ipMissJoin {o h t} : s.jpc o = .checked h t →
      Step s (.ipMiss o) { s with jpc := upd s.jpc o (.pointed h t) }
  | ipMiss {o} : Step s (.ipMiss o) s
  | ipClear {o} : s.phase o = .hit →
      Step s (.ipClear o) { s with phase := upd s.phase o .unwinding, req := upd s.req o false }
  | jtDtor {h j} : (s.hid h).isSome = true →
      Step s (.jtDtor h j) { s with dt := upd s.dt j (some (h, false)) }
  | jtStop {h j} :
      Step s (.jtStop h j true) { s with dt := upd s.dt j (some (h, true)) }
  | jtJoined {h j} : s.dt j = some (h, true) → joinedH (s.lastJoin j) h = true →
      Step s (.jtJoined h j) { s with dt := upd s.dt j none }
  | mvCtor {h h1} : h ≠ h1 → s.hid h = none →
      Step s (.mvCtor h h1 (s.hid h1))
        { s with hid := upd (upd s.hid h1 none) h (s.hid h1), owner := setOwn s.owner (s.hid h1) (some h) }
  | mvAssign {h h1} : h ≠ h1 → s.hid h = none →
      Step s (.mvAssign h h1 (s.hid h1))
        { s with hid := upd (upd s.hid h1 none) h (s.hid h1), owner := setOwn s.owner (s.hid h1) (some h) }
  | mvTerm {h h1} :
      Step s (.mvTerm h h1) { s with errs := s.errs + 1 }
  | swap {h h1} : h ≠ h1 →
      Step s (.swap h h1 (s.hid h1))
        { s with hid := upd (upd s.hid h1 (s.hid h)) h (s.hid h1),
                 owner := setOwn (setOwn s.owner (s.hid h) (some h1)) (s.hid h1) (some h) }
  | dtorOk {h j} : Step s (.dtorOk h j) s
  | dtorTerm {h j} :
      Step s (.dtorTerm h j)
        { s with hid := upd s.hid h none, owner := setOwn s.owner (s.hid h) none, errs := s.errs + 1 }
  | jtSkip {h j} : s.hid h = none → Step s (.jtSkip h j) s

theorem Step.of_step {s s' : St} {e : Ev} (h : step s e = some s') : Step s e s' := by
  cases e with
  | ecAdd o j code =>
    obtain ⟨⟨hc, hne⟩, h⟩ := of_ite h
    -- the code says whether the callback was accepted
    have acc : code = 1 → s.ran o = false := by
      intro h1; subst h1; cases hr : s.ran o <;> simp [hr] at hc ⊢
    have ref : ¬ code = 1 → s.ran o = true ∨ s.term o = true := by
      intro h1; cases hr : s.ran o <;> cases ht : s.term o <;> simp [hr, ht] at hc ⊢; exact h1 hc
    split at h
    · obtain ⟨rfl, h⟩ := of_ite h
      split at h <;> cases h
      · subst ‹code = 1›; exact .ecAddJoin (acc rfl) hne ‹_›
      · exact .ecAddJoinRefused (ref ‹_›) ‹_›
    · obtain ⟨rfl, h⟩ := of_ite h
      split at h <;> cases h
      · subst ‹code = 1›; exact .ecAddUser (acc rfl) ‹_›
      · exact .ecAddUserRefused ‹_›
    · cases h
  | ucb o r k => obtain ⟨⟨rfl, b⟩, ⟨⟩⟩ := of_ite h; exact .ucb b
  | ipEnable o new old => obtain ⟨rfl, ⟨⟩⟩ := of_ite h; exact .ipEnable
  | ipHit o thr =>
    obtain ⟨⟨rfl, a, b, c⟩, h2⟩ := of_ite h
    split at h2
    · cases h2; exact .ipHit a b c ‹_›
    · obtain ⟨d, ⟨⟩⟩ := of_ite h2; exact .ipHitJoin a b c ‹_› d
    · cases h2
  | jtStop hh j f => obtain ⟨⟨_, rfl, _⟩, ⟨⟩⟩ := of_ite h; exact .jtStop
  | mvCtor hh h1 o => obtain ⟨⟨a, b, _, _, rfl⟩, ⟨⟩⟩ := of_ite h; exact .mvCtor a b
  | mvAssign hh h1 o => obtain ⟨⟨a, b, _, _, rfl⟩, ⟨⟩⟩ := of_ite h; exact .mvAssign a b
  | swap hh h1 o => obtain ⟨⟨a, _, _, rfl⟩, ⟨⟩⟩ := of_ite h; exact .swap a
  | _ =>
    -- the other events: each accepting branch of `step` is a rule, its guard the premises
    simp only [step] at h
    repeat' split at h
    all_goals first | cases h; done | (cases h; constructor <;> simp_all)

end PikaVerif.Join
