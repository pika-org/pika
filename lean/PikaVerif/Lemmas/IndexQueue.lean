import PikaVerif.Model.IndexQueue
import PikaVerif.Core.Run
import PikaVerif.Lemmas.BulkArith
/-!
Index-queue model `PikaVerif.IQ` (C17): the generated per-iteration functions on in-range values
(`popTry_exact`; `popTry_eq` for either side); what `step` accepts and does, as a relation (`Step`,
`Step.of_step`); the lists `descFrom` / `ascFrom` of the indices popped so far and how often an index occurs
in them (`count_from`); the inductive invariant `Inv`; `Retd` (a returned index was popped) and `Frame` (the
parameters of the run); `of_reach`: all three in every reachable state; `solo_pop`: a pop run alone from any
state satisfying `Inv`.
-/
namespace PikaVerif.IQ
open PikaVerif.Gen.IndexRange PikaVerif.BulkArith

theorem popTry_exact (f l : Int) (h0 : 0 ≤ f) (hl : l < 4294967296) (h1 : 0 ≤ l) (hf : f < 4294967296) :
    popLeftTry f l = (if f < l then some (f, (f + 1, l)) else none) ∧
    popRightTry f l = (if f < l then some (l - 1, (f, l - 1)) else none) := by
  unfold popLeftTry popRightTry rangeEmpty incrementFirst decrementLast
  rw [u32_wrap f h0 hf, u32_wrap l h1 hl]
  by_cases h : f < l
  · have : ¬ (f ≥ l) := by omega
    simp only [this, decide_false, h, if_true]
    rw [u32_wrap 1 (by omega) (by omega), u32_wrap (f + 1) (by omega) (by omega),
      u32_wrap (f + 1) (by omega) (by omega), u32_wrap (l - 1) (by omega) (by omega),
      u32_wrap (l - 1) (by omega) (by omega)]
    simp
  · have : f ≥ l := by omega
    simp [this, h]

/-- index returned and range left by a pop at side `sd` of a non-empty `[f, l)` -/
def Side.pop : Side → Int → Int → Int × (Int × Int)
  | .L, f, l => (f, (f + 1, l))
  | .R, f, l => (l - 1, (f, l - 1))

theorem popTry_eq (sd : Side) {f l : Int} (h0 : 0 ≤ f) (hfl : f ≤ l) (hl : l < 4294967296) :
    popTry sd f l = if f < l then some (sd.pop f l) else none := by
  cases sd
  · exact (popTry_exact f l h0 hl (by omega) (by omega)).1
  · exact (popTry_exact f l h0 hl (by omega) (by omega)).2

inductive Step (s : St) : Ev → St → Prop
  | inv {t : Nat} {sd : Side} (ht : t < s.n) (hp : s.pc t = .idle) :
      Step s (.inv t sd) { s with pc := upd s.pc t (.start sd) }
  | load {t : Nat} {sd : Side} (ht : t < s.n) (hp : s.pc t = .start sd) :
      Step s (.load t s.first s.last) { s with pc := upd s.pc t (.loaded sd s.first s.last) }
  | casOk {t : Nat} {sd : Side} {idx df dl : Int} (ht : t < s.n) (hp : s.pc t = .loaded sd s.first s.last)
      (hpt : popTry sd s.first s.last = some (idx, (df, dl))) :
      Step s (.cas t true df dl)
        (pushPop { s with first := df, last := dl, pc := upd s.pc t (.retn idx) } sd idx)
  /-- the word changed since it was loaded -/
  | casFail {t : Nat} {sd : Side} {ef el : Int} (ht : t < s.n) (hp : s.pc t = .loaded sd ef el)
      (hpt : popTry sd ef el ≠ none) (hne : ¬ (ef = s.first ∧ el = s.last)) :
      Step s (.cas t false s.first s.last) { s with pc := upd s.pc t (.loaded sd s.first s.last) }
  | retNone {t : Nat} {sd : Side} {ef el : Int} (ht : t < s.n) (hp : s.pc t = .loaded sd ef el)
      (hpt : popTry sd ef el = none) : Step s (.ret t none) { s with pc := upd s.pc t .idle }
  | retSome {t : Nat} {i : Int} (ht : t < s.n) (hp : s.pc t = .retn i) :
      Step s (.ret t (some i)) { s with pc := upd s.pc t .idle }
  | done {t : Nat} (ht : t < s.n) (hp : s.pc t = .idle) : Step s (.done t) { s with pc := upd s.pc t .fin }

/-- Unfold the acceptor and split every test: each accepting branch is a constructor of `Step`. -/
theorem Step.of_step {s s' : St} {e : Ev} (h : step s e = some s') : Step s e s' := by
  cases e <;> simp only [step] at h <;> (repeat' split at h) <;> cases h
  all_goals repeat (cases ‹_ ∧ _›)
  all_goals subst_vars
  all_goals first
    | (constructor <;> assumption)
    | exact .casFail ‹_› ‹_› (by rw [‹popTry _ _ _ = _›]; nofun) ‹_›

/-- `x, x-1, …` (`k` items): the left pops, newest first. -/
def descFrom (x : Int) : Nat → List Int
  | 0 => []
  | k + 1 => x :: descFrom (x - 1) k

/-- `x, x+1, …` (`k` items): the right pops, newest first. -/
def ascFrom (x : Int) : Nat → List Int
  | 0 => []
  | k + 1 => x :: ascFrom (x + 1) k

theorem count_from (i x : Int) (k : Nat) :
    (descFrom x k).count i = (if x - k < i ∧ i ≤ x then 1 else 0) ∧
    (ascFrom x k).count i = (if x ≤ i ∧ i < x + k then 1 else 0) := by
  induction k generalizing x with
  | zero =>
    simp only [descFrom, ascFrom, List.count_nil]
    constructor <;> split <;> omega
  | succ k ih =>
    simp only [descFrom, ascFrom, List.count_cons, (ih _).1, (ih _).2, beq_iff_eq]
    have e : ((k + 1 : Nat) : Int) = (k : Int) + 1 := by omega
    rw [e]
    constructor <;> repeat' split
    all_goals omega

structure Inv (s : St) : Prop where
  lo : 0 ≤ s.first0
  hi : s.last0 < 4294967296
  f0 : s.first0 ≤ s.first
  fl : s.first ≤ s.last
  l0 : s.last ≤ s.last0
  cntL : s.first = s.first0 + s.poppedL.length
  cntR : s.last = s.last0 - s.poppedR.length
  histL : s.poppedL = descFrom (s.first - 1) s.poppedL.length
  histR : s.poppedR = ascFrom s.last s.poppedR.length
  /-- an observed range is an earlier value of the word: the word only shrinks -/
  seen : ∀ t sd f l, s.pc t = .loaded sd f l → s.first0 ≤ f ∧ f ≤ s.first ∧ s.last ≤ l ∧ l ≤ s.last0
  outside : ∀ t, s.n ≤ t → s.pc t = .idle

theorem inv_init (n : Nat) (f l : Int) (h0 : 0 ≤ f) (h1 : f ≤ l) (h2 : l < 4294967296) :
    Inv (init n f l) := by
  refine ⟨h0, h2, ?_, h1, ?_, ?_, ?_, ?_, ?_, ?_, ?_⟩ <;> simp [init, descFrom, ascFrom]

theorem inv_pc {s : St} (hi : Inv s) {t : Nat} (ht : t < s.n) {p : Pc}
    (hp : ∀ sd f l, p = .loaded sd f l →
      s.first0 ≤ f ∧ f ≤ s.first ∧ s.last ≤ l ∧ l ≤ s.last0) :
    Inv { s with pc := upd s.pc t p } :=
  { hi with
    seen := fun u sd f l hu => by
      dsimp only at hu
      by_cases hut : u = t
      · subst hut; rw [upd_same] at hu; exact hp sd f l hu
      · rw [upd_other _ _ _ _ hut] at hu; exact hi.seen u sd f l hu
    outside := fun u hu => by
      dsimp only at hu ⊢
      rw [upd_other _ _ _ _ (show u ≠ t by omega)]; exact hi.outside u hu }

variable {s s' : St} {e : Ev}

/-- the word a thread holds after a load or a failed compare-exchange is the current one -/
theorem Inv.cur (hi : Inv s) (sd0 : Side) : ∀ sd f l, Pc.loaded sd0 s.first s.last = .loaded sd f l →
    s.first0 ≤ f ∧ f ≤ s.first ∧ s.last ≤ l ∧ l ≤ s.last0 := fun _ _ _ he => by
  cases he; exact ⟨hi.f0, Int.le_refl _, Int.le_refl _, hi.l0⟩

/-- on a word a thread holds the generated iteration is the ideal one -/
theorem Inv.popTry_seen (hi : Inv s) {t : Nat} {sd : Side} {ef el : Int} (hp : s.pc t = .loaded sd ef el) :
    popTry sd ef el = if ef < el then some (sd.pop ef el) else none := by
  have := hi.seen t sd ef el hp; have := hi.lo; have := hi.hi; have := hi.fl
  exact popTry_eq sd (by omega) (by omega) (by omega)

theorem Step.inv' (hi : Inv s) (h : Step s e s') : Inv s' := by
  cases h with
  | inv ht | retNone ht | retSome ht | done ht => exact inv_pc hi ht nofun
  | load ht | casFail ht => exact inv_pc hi ht (hi.cur _)
  | @casOk t sd idx df dl ht hp hpt =>
    -- the range loses its first / last index, which goes to the head of the side's list
    rw [hi.popTry_seen hp] at hpt
    have hlt : s.first < s.last := by
      by_cases h : s.first < s.last
      · exact h
      · rw [if_neg h] at hpt; cases hpt
    rw [if_pos hlt] at hpt
    have hseen : ∀ u sd' f' l', upd s.pc t (.retn idx) u = .loaded sd' f' l' →
        s.first0 ≤ f' ∧ f' ≤ s.first ∧ s.last ≤ l' ∧ l' ≤ s.last0 := fun u sd' f' l' hu => by
      by_cases hut : u = t
      · subst hut; rw [upd_same] at hu; cases hu
      · rw [upd_other _ _ _ _ hut] at hu; exact hi.seen u sd' f' l' hu
    have hout : ∀ u, s.n ≤ u → upd s.pc t (.retn idx) u = .idle := fun u hu => by
      rw [upd_other _ _ _ _ (show u ≠ t by omega)]; exact hi.outside u hu
    have a := hi.lo; have b := hi.hi; have c := hi.f0; have d := hi.l0; have eL := hi.cntL; have eR := hi.cntR
    cases sd <;> cases hpt
    · refine ⟨a, b, by simp only [pushPop]; omega, by simp only [pushPop]; omega, d,
        by simp only [pushPop, List.length_cons]; omega, eR, ?_, hi.histR,
        fun u sd' f' l' hu => by have := hseen u sd' f' l' hu; simp only [pushPop]; omega, hout⟩
      simp only [pushPop, List.length_cons, descFrom]
      rw [show s.first + 1 - 1 = s.first by omega, ← hi.histL]
    · refine ⟨a, b, c, by simp only [pushPop]; omega, by simp only [pushPop]; omega, eL,
        by simp only [pushPop, List.length_cons]; omega, hi.histL, ?_,
        fun u sd' f' l' hu => by have := hseen u sd' f' l' hu; simp only [pushPop]; omega, hout⟩
      simp only [pushPop, List.length_cons, ascFrom]
      rw [show s.last - 1 + 1 = s.last by omega, ← hi.histR]

def Retd (s : St) : Prop := ∀ t i, s.pc t = .retn i → i ∈ s.poppedL ∨ i ∈ s.poppedR

def Frame (n : Nat) (f l : Int) (s : St) : Prop := s.n = n ∧ s.first0 = f ∧ s.last0 = l

theorem retd_upd {pc : Nat → Pc} {L R L' R' : List Int} (t : Nat) (p : Pc)
    (hr : ∀ u i, pc u = .retn i → i ∈ L ∨ i ∈ R)
    (hL : ∀ i, i ∈ L → i ∈ L') (hR : ∀ i, i ∈ R → i ∈ R')
    (hp : ∀ i, p = .retn i → i ∈ L' ∨ i ∈ R') :
    ∀ u i, upd pc t p u = .retn i → i ∈ L' ∨ i ∈ R' := by
  intro u i hu
  by_cases hut : u = t
  · subst hut; simp only [upd_same] at hu; exact hp i hu
  · simp only [upd, hut, if_false] at hu
    rcases hr u i hu with h | h
    · exact Or.inl (hL i h)
    · exact Or.inr (hR i h)

theorem Step.retd_frame {n : Nat} {f l : Int} (hi : Retd s ∧ Frame n f l s) (h : Step s e s') :
    Retd s' ∧ Frame n f l s' := by
  obtain ⟨hr, hf⟩ := hi
  unfold Retd at hr ⊢
  cases h with
  | @casOk _ sd =>
    -- the successful compare-exchange records the index it returns
    cases sd
    · exact ⟨retd_upd _ _ hr (fun _ h => List.mem_cons_of_mem _ h) (fun _ h => h)
        (by intro i hi; cases hi; exact Or.inl (List.mem_cons_self ..)), hf⟩
    · exact ⟨retd_upd _ _ hr (fun _ h => h) (fun _ h => List.mem_cons_of_mem _ h)
        (by intro i hi; cases hi; exact Or.inr (List.mem_cons_self ..)), hf⟩
  | _ => exact ⟨retd_upd _ _ hr (fun _ h => h) (fun _ h => h) (by simp), hf⟩

theorem retd_frame_of_accepted {n : Nat} {f l : Int} {log : List Ev} {s : St}
    (h : runLog step (init n f l) log = some s) : Retd s ∧ Frame n f l s :=
  inv_of_runLog (fun s => Retd s ∧ Frame n f l s) (fun _ _ _ hi h => (Step.of_step h).retd_frame hi)
    ⟨by intro t i h; simp [init] at h, rfl, rfl, rfl⟩ h

theorem inv_of_accepted {n : Nat} {f l : Int} (h0 : 0 ≤ f) (h1 : f ≤ l) (h2 : l < 4294967296)
    {log : List Ev} {s : St} (h : runLog step (init n f l) log = some s) : Inv s :=
  inv_of_runLog Inv (fun _ _ _ hi h => (Step.of_step h).inv' hi) (inv_init n f l h0 h1 h2) h

theorem of_reach {n : Nat} {f l : Int} {s : St}
    (h : 0 ≤ f ∧ f ≤ l ∧ l < 4294967296 ∧ ∃ log, runLog step (init n f l) log = some s) :
    Inv s ∧ Retd s ∧ Frame n f l s :=
  let ⟨h0, h1, h2, _, hl⟩ := h
  ⟨inv_of_accepted h0 h1 h2 hl, retd_frame_of_accepted hl⟩

/-- A pop run alone by a thread between operations, from any state satisfying `Inv` (other threads
    may hold stale words): on a non-empty range load, one successful compare-exchange, return; on an
    empty one `nullopt` after the load. -/
theorem solo_pop {s : St} (hi : Inv s) {t : Nat} (ht : t < s.n) (hq : s.pc t = .idle) :
    (s.first < s.last →
      runLog step s [.inv t .L, .load t s.first s.last, .cas t true (s.first + 1) s.last,
          .ret t (some s.first)] =
        some { s with first := s.first + 1, pc := upd s.pc t .idle, poppedL := s.first :: s.poppedL } ∧
      runLog step s [.inv t .R, .load t s.first s.last, .cas t true s.first (s.last - 1),
          .ret t (some (s.last - 1))] =
        some { s with last := s.last - 1, pc := upd s.pc t .idle, poppedR := (s.last - 1) :: s.poppedR }) ∧
    (¬ s.first < s.last → ∀ sd,
      runLog step s [.inv t sd, .load t s.first s.last, .ret t none] = some { s with pc := upd s.pc t .idle }) := by
  have a := hi.lo; have b := hi.hi; have c := hi.f0; have d := hi.fl; have e := hi.l0
  obtain ⟨eL, eR⟩ := popTry_exact s.first s.last (by omega) (by omega) (by omega) (by omega)
  refine ⟨fun hne => ?_, fun he sd => ?_⟩
  · simp only [hne, if_true] at eL eR
    constructor <;> simp [runLog, step, ht, hq, popTry, eL, eR, pushPop]
  · simp only [he, if_false] at eL eR
    cases sd <;> simp [runLog, step, ht, hq, popTry, eL, eR]

end PikaVerif.IQ
