import PikaVerif.Lemmas.AffCompact
/-! C15: the PU scan loop and the scatter decoder. -/
namespace PikaVerif.Aff

/-- what the `while` scan started at `idx` has done when it yields the new `next_pu_index` `j` and `use_pu`
    `u`: it only moves forward, stays inside the core, passes exactly one usable PU if it reports one and
    none otherwise, reports none only at the end of the core, and a PU it reports lies just below `j` and
    passes the mask test -/
structure ScanOK (inm : Nat → Bool) (ncp idx j : Nat) (u : Bool) : Prop where
  fwd : idx ≤ j
  inside : idx ≤ ncp → j ≤ ncp
  count : cntB inm j = cntB inm idx + (if u then 1 else 0)
  none : u = false → ncp ≤ j
  found : u = true → idx < j ∧ j ≤ ncp ∧ inm (j - 1) = true

theorem scan_ok (inm : Nat → Bool) (ncp : Nat) : ∀ (fuel idx : Nat), ncp - idx < fuel →
    ScanOK inm ncp idx (scan inm ncp fuel idx).1 (scan inm ncp fuel idx).2 := by
  intro fuel
  induction fuel with
  | zero => intro idx h; omega
  | succ f ih =>
    intro idx h
    simp only [scan]
    by_cases h1 : idx < ncp
    · simp only [h1, ↓reduceIte]
      cases h2 : inm idx with
      | true =>
        simp only [↓reduceIte]
        exact ⟨by omega, fun _ => by omega, by rw [cntB_succ, h2], nofun, fun _ => ⟨by omega, by omega, h2⟩⟩
      | false =>
        simp only [Bool.false_eq_true, ↓reduceIte]
        have r := ih (idx + 1) (by omega)
        exact ⟨by have := r.fwd; omega, fun _ => r.inside (by omega), by rw [r.count, cntB_succ, h2]; simp,
          r.none, fun hh => ⟨by have := (r.found hh).1; omega, (r.found hh).2⟩⟩
    · simp only [h1, ↓reduceIte]
      exact ⟨Nat.le_refl _, id, rfl, fun _ => by omega, nofun⟩

theorem scanPu_ok (inm : Nat → Bool) (ncp idx : Nat) :
    ScanOK inm ncp idx (scanPu inm ncp idx).1 (scanPu inm ncp idx).2 :=
  scan_ok inm ncp (ncp - idx + 1) idx (by omega)

/-- invariant of the scatter decoder (independent of the position in the loop nest) -/
structure SInv (cfg : Cfg) (s : SSt) : Prop where
  lt : s.a.k < cfg.n
  /-- `x < s.nxt c`: a PU handed out lies below `next_pu_index` of its core, which is what keeps the
      PUs distinct -/
  bound : ∀ i, i < s.a.k → ∃ c x, c < effCores cfg ∧ x < s.nxt c ∧ x < cfg.t.pus c ∧
    ind cfg (base cfg.t c + x) = true ∧ s.a.aff i = [base cfg.t c + x] ∧
    s.a.pn i = base cfg.t c + x
  fresh : ∀ i, s.a.k ≤ i → s.a.aff i = []
  distinct : ∀ i j, i < s.a.k → j < s.a.k → i ≠ j → s.a.aff i ≠ s.a.aff j

theorem scatterCore_inv (cfg : Cfg) (hu : effUsed cfg = 0) {c : Nat} (hc : c < effCores cfg)
    (s : SSt) (h : SInv cfg s) :
    CtlP (SInv cfg) (fun s => Fin cfg s.a) False (scatterCore cfg c s) := by
  have hcn : c < cfg.t.nc := Nat.lt_of_lt_of_le hc (effCores_le cfg)
  have hf := h.fresh s.a.k (Nat.le_refl _)
  unfold scatterCore
  simp only [hf, ne_eq, not_true_eq_false, ↓reduceIte, corePus_eq cfg.t hcn, hu, Nat.add_zero]
  have sc := scanPu_ok (fun p => inMask cfg c p) (cfg.t.pus c) (s.nxt c)
  generalize scanPu (fun p => inMask cfg c p) (cfg.t.pus c) (s.nxt c) = r at sc
  obtain ⟨j, u⟩ := r
  simp only at sc
  cases u with
  | false =>
    simp only [Bool.not_false, ↓reduceIte, CtlP]
    refine ⟨h.lt, fun i hi => ?_, h.fresh, h.distinct⟩
    obtain ⟨c', x, h1, h2, h3⟩ := h.bound i hi
    have := sc.fwd
    exact ⟨c', x, h1, by simp only [upd]; grind, h3⟩
  | true =>
    obtain ⟨t1, t2, t3⟩ := sc.found rfl
    have hx : j - 1 < cfg.t.pus c := by omega
    have hind : ind cfg (base cfg.t c + (j - 1)) = true := by
      rw [← inMask_eq cfg hcn hx]; exact t3
    simp only [Bool.not_true, Bool.false_eq_true, ↓reduceIte, upd_same, assign, hf, ne_eq,
      not_true_eq_false, threadMask, puNumber_eq cfg.t hcn hx]
    have hb : ∀ i, i < s.a.k + 1 → ∃ c' x, c' < effCores cfg ∧ x < upd s.nxt c j c' ∧
        x < cfg.t.pus c' ∧ ind cfg (base cfg.t c' + x) = true ∧
        upd s.a.aff s.a.k [base cfg.t c + (j - 1)] i = [base cfg.t c' + x] ∧
        upd s.a.pn s.a.k (base cfg.t c + (j - 1)) i = base cfg.t c' + x := by
      intro i hi
      by_cases hik : i = s.a.k
      · subst hik
        exact ⟨c, j - 1, hc, by simp; omega, hx, hind, by simp, by simp⟩
      · obtain ⟨c', x, h1, h2, h3, h4, h5, h6⟩ := h.bound i (by omega)
        exact ⟨c', x, h1, by simp only [upd]; grind, h3, h4, by simp [upd, hik, h5], by simp [upd, hik, h6]⟩
    have hd := distinct_upd h.distinct (v := [base cfg.t c + (j - 1)]) fun i hi he => by
      obtain ⟨c', x, h1, h2, h3, _, h5, _⟩ := h.bound i hi
      rw [h5] at he
      injection he with he
      obtain ⟨e1, e2⟩ := base_inj cfg.t h3 hx he
      subst e1; omega
    by_cases hn : s.a.k + 1 = cfg.n
    · simp only [hn, ↓reduceIte, CtlP]
      refine ⟨?_, ?_⟩ <;> dsimp only
      · intro i hi
        obtain ⟨c', x, h1, _, h3, h4, h5, h6⟩ := hb i (by omega)
        exact ⟨_, h5, h6,
          base_add_lt_numPus cfg.t (Nat.lt_of_lt_of_le h1 (effCores_le cfg)) h3, h4⟩
      · intro i i' hi hi'; exact hd i i' (by omega) (by omega)
    · simp only [hn, ↓reduceIte, CtlP]
      exact ⟨by have := h.lt; dsimp only; omega, hb, fresh_upd h.fresh, hd⟩

theorem scatterPass_inv (cfg : Cfg) (hu : effUsed cfg = 0) (s : SSt) (h : SInv cfg s) :
    CtlP (SInv cfg) (fun s => Fin cfg s.a) False (scatterPass cfg s) := by
  unfold scatterPass
  exact forRange_inv (scatterCore cfg) (fun _ => SInv cfg) (fun s => Fin cfg s.a) False
    (effCores cfg) s (fun c s hc hs => scatterCore_inv cfg hu hc s hs) h

theorem scatterLoop_ok (cfg : Cfg) (hu : effUsed cfg = 0) : ∀ (f : Nat) (s : SSt), SInv cfg s →
    ∀ aff pn, scatterLoop cfg f s = .ok aff pn → Good cfg aff pn := by
  intro f
  induction f with
  | zero => intro s _ aff pn h; simp [scatterLoop] at h
  | succ f ih =>
    intro s hs aff pn h
    simp only [scatterLoop] at h
    have hp := scatterPass_inv cfg hu s hs
    cases hr : scatterPass cfg s with
    | fin s' =>
      rw [hr] at hp h
      cases h
      exact hp
    | err => rw [hr] at hp; exact hp.elim
    | run s' =>
      rw [hr] at hp h
      simp only at h
      split at h
      · simp at h
      · exact ih s' hp aff pn h

/-- **scatter** (partial correctness): whatever the decoder returns satisfies C15. -/
theorem scatter_ok (cfg : Cfg) (hu : effUsed cfg = 0) (aff : Nat → List Nat) (pn : Nat → Nat)
    (h : decodeScatter cfg = .ok aff pn) : Good cfg aff pn := by
  unfold decodeScatter at h
  split at h
  · simp at h
  · split at h
    · cases h
      exact ⟨fun i hi => by omega, fun i j hi => by omega⟩
    · refine scatterLoop_ok cfg hu _ _ ?_ aff pn h
      exact ⟨by simp [ASt.init]; omega, fun i hi => absurd hi (Nat.not_lt_zero _), fun _ _ => rfl,
        nofun⟩

end PikaVerif.Aff
