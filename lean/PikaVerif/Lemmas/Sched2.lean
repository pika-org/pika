import PikaVerif.Lemmas.Sched
/-! Scheduler protocol model: what one event can do to the state word of an object, to an actor
    inside `set_thread_state` and to the helper records (`step_moves`); on top of that
    observations, helper records and wake-up request bookkeeping (ghost epochs).
    Used by `Lemmas/Sched3.lean`, `Props/C02.lean` and `Props/C02x.lean`.

    Names: `word_step`, `sts_step`, `help_step`, `obj_step` say what one step can do; `obs_step`,
    `step_hinv`, `step_aobs`, `step_asas`, `step_aissue`, `step_inv2` are preservation lemmas;
    `loaded_step`, `helpers_step`, `sas_step` say where a record found after a step comes from
    (their forward counterparts `helper_fwd_step`, `sas_fwd_step` are in `Lemmas/Sched3.lean`). -/
namespace PikaVerif.Sched

variable {s s' : St} {e : Ev}

def target : StsPc → Option Nat
  | .out => none
  | .entered o => some o
  | .loaded o _ _ => some o
  | .won o => some o

/-! ### The moves of one step

Every accepted event leaves the state word and the epoch of a given object alone or makes one of
five moves (`WordMove`); it leaves the position and the request bookkeeping of a given actor alone,
or the actor enters, (re)loads the target's word, wins the exchange, or leaves (`StsMove`); and
only `sts.helper` adds a helper entry (from the word its actor holds), only `sas.load` removes one,
making it the record of a helper task, which the task's decision ends (`HelpMove`).  What the
later proofs need about single steps is read off these three lists. -/

/- A constructor names its event (`hev`) where a later proof has to recognise it (`isTagged`,
   `isSetex`), and carries `live` / `owner` where a later proof reads the word off the owner. -/
inductive WordMove (e : Ev) (o : Nat) (x x' : Obj) : Prop
  | same (hw : x'.w = x.w) (he : x'.epoch = x.epoch)
  | activate (a : Nat) (b af : W) (hev : e = .tagged a o b af) (hst : x.w.st = sPending)
      (hw : x'.w = ⟨sActive, x.w.ex, x.w.tag + 1⟩) (he : x'.epoch = x.epoch)
  /-- the running phase fetches and resets the restart state -/
  | fetch (a : Nat) (hev : e = .setex a o x.w x'.w) (hl : x.live = true) (ho : x.owner = some a)
      (hw : x'.w = ⟨x.w.st, exSignaled, x.w.tag⟩) (he : x'.epoch = x.epoch)
  | store (a : Nat) (hl : x.live = true) (ho : x.owner = some a) (hr : x.ranPhase = true)
      (hw : x'.w = ⟨x.result, x.w.ex, x.w.tag + 1⟩)
      (he : x'.epoch = if pendingish x'.w = true then x.epoch + 1 else x.epoch)
  /-- `pending_boost → pending` -/
  | unboost (hst : x.w.st = sBoost) (hst' : x'.w.st = sPending) (he : x'.epoch = x.epoch)
  /-- into `pending`: from `suspended`, or by (re)initialisation -/
  | wake (hst' : x'.w.st = sPending) (he : x'.epoch = x.epoch + 1)

inductive StsMove (e : Ev) (a : Nat) (obj obj' : Nat → Obj) (ac ac' : Actor) : Prop
  | same (hs : ac'.sts = ac.sts) (hi : ac'.issue = ac.issue)
  | enter (o : Nat) (hobj : obj' = obj) (hs : ac.sts = .out) (hs' : ac'.sts = .entered o)
      (hi : ac'.issue = if (pendingish (obj o).w || (obj o).w.st == sTerminated) = true then none
        else some (obj o).epoch)
  /-- the actor holds the current word of its target: it has loaded it, its exchange
      `pending_boost → pending` has produced it, or it has queued the target after winning -/
  | reload (o : Nat) (ht : target ac.sts = some o) (hs' : ac'.sts = .loaded o (obj' o).w (obj' o).epoch)
      (hi : ac'.issue = ac.issue)
  /-- its exchange `suspended → pending` succeeded -/
  | win (o : Nat) (lw : W) (le : Nat) (hs : ac.sts = .loaded o lw le) (hs' : ac'.sts = .won o)
      (he : (obj' o).epoch = (obj o).epoch + 1) (hp : pendingish (obj' o).w = true)
      (hi : ac'.issue = ac.issue)
  | leave (o : Nat) (lw : W) (le : Nat) (hs : ac.sts = .loaded o lw le) (hs' : ac'.sts = .out)
      (hi : ac'.issue = none)
      (hwhy : (e = .stsNoop a o ∧ (lw.st = sPending ∨ lw.st = sTerminated)) ∨
        (e = .stsHelper a o ∧ lw.st = sActive ∧ (lw, le) ∈ (obj' o).helpers) ∨
        (e = .stsDone a o ∧ pendingish lw = true))

inductive HelpMove (e : Ev) (s s' : St) : Prop
  | same (hh : ∀ o, (s'.obj o).helpers = (s.obj o).helpers) (hs : ∀ a, (s'.act a).sas = (s.act a).sas)
  /-- `sts.helper`: actor `a` hands the word it holds to a new helper entry of `o` -/
  | hand (a o : Nat) (lw : W) (le : Nat) (hst : (s.act a).sts = .loaded o lw le)
      (hobj : s'.obj = upd s.obj o { s.obj o with helpers := (lw, le) :: (s.obj o).helpers })
      (hs : ∀ a, (s'.act a).sas = (s.act a).sas)
  /-- `sas.load`: a helper task run by `a` takes entry `hp` and records the current word and epoch -/
  | take (a o : Nat) (hp : W × Nat) (hm : hp ∈ (s.obj o).helpers) (hnone : (s.act a).sas = none)
      (hobj : s'.obj = upd s.obj o { s.obj o with helpers := (s.obj o).helpers.erase hp })
      (hact : s'.act = upd s.act a
        { s.act a with sas := some (o, (s.obj o).w, hp.1, hp.2, (s.obj o).epoch) })
  /-- `sas.abort` / `sas.retry`: the helper task ends; it aborts only under the code's condition -/
  | decide (a o : Nat) (cur prev : W) (he ce : Nat) (hsas : (s.act a).sas = some (o, cur, prev, he, ce))
      (hwhy : e = .sasRetry a o ∨ (cur.st = prev.st ∧ cur ≠ prev))
      (hh : ∀ o, (s'.obj o).helpers = (s.obj o).helpers)
      (hact : s'.act = upd s.act a { s.act a with sas := none })

/-- a step that replaces object `o'` by `x'`, seen from object `o` -/
theorem wordMove_upd {e : Ev} {f : Nat → Obj} {o' : Nat} {x' : Obj} (o : Nat)
    (hl : (f o').live = true → x'.live = true) (hm : WordMove e o' (f o') x') :
    ((f o).live = true → (upd f o' x' o).live = true) ∧ WordMove e o (f o) (upd f o' x' o) := by
  by_cases ho : o = o'
  · subst ho; rw [upd_same]; exact ⟨hl, hm⟩
  · rw [upd_other _ _ _ _ ho]; exact ⟨id, .same rfl rfl⟩

/-- a step that replaces actor `a` by `ac'`, seen from actor `a'` -/
theorem stsMove_upd {e : Ev} {a : Nat} {obj obj' : Nat → Obj} {f : Nat → Actor} {ac' : Actor} (a' : Nat)
    (hm : StsMove e a obj obj' (f a) ac') : StsMove e a' obj obj' (f a') (upd f a ac' a') := by
  by_cases ha : a' = a
  · subst ha; rw [upd_same]; exact hm
  · rw [upd_other _ _ _ _ ha]; exact .same rfl rfl

theorem step_moves (h : step s e = some s') :
    (∀ o, ((s.obj o).live = true → (s'.obj o).live = true) ∧ WordMove e o (s.obj o) (s'.obj o)) ∧
    (∀ a, StsMove e a s.obj s'.obj (s.act a) (s'.act a)) ∧ HelpMove e s s' := by
  have W0 : ∀ o, ((s.obj o).live = true → (s.obj o).live = true) ∧ WordMove e o (s.obj o) (s.obj o) :=
    fun _ => ⟨id, .same rfl rfl⟩
  have A0 : ∀ {obj'} a, StsMove e a s.obj obj' (s.act a) (s.act a) := fun _ => .same rfl rfl
  have H0 : HelpMove e s s := .same (fun _ => rfl) (fun _ => rfl)
  have objMove : ∀ {o x'}, ((s.obj o).live = true → x'.live = true) → WordMove e o (s.obj o) x' →
      x'.helpers = (s.obj o).helpers →
      (∀ u, ((s.obj u).live = true → (upd s.obj o x' u).live = true) ∧
        WordMove e u (s.obj u) (upd s.obj o x' u)) ∧
      (∀ a, StsMove e a s.obj (upd s.obj o x') (s.act a) (s.act a)) ∧
      HelpMove e s { s with obj := upd s.obj o x' } :=
    fun hl hm hh => ⟨fun _ => wordMove_upd _ hl hm, A0, .same (apply_upd_of_eq _ hh) (fun _ => rfl)⟩
  have Ha : ∀ {a ac'}, ac'.sas = (s.act a).sas → HelpMove e s { s with act := upd s.act a ac' } :=
    fun hh => .same (fun _ => rfl) (apply_upd_of_eq _ hh)
  cases e with
  | new a o w =>
    obtain ⟨hg, rfl⟩ := of_ite_some h
    exact objMove (fun _ => rfl) (.wake hg.2.2 rfl) rfl
  | rebind a o w =>
    obtain ⟨hg, rfl⟩ := of_ite_some h
    exact objMove (fun _ => rfl) (.wake hg.2.2.2 rfl) rfl
  | push a o =>
    obtain ⟨_, rfl⟩ := of_ite_some h
    refine ⟨fun _ => wordMove_upd _ id (.same rfl rfl), fun a' => stsMove_upd a' ?_,
      .same (apply_upd_of_eq _ rfl) (apply_upd_of_eq _ rfl)⟩
    by_cases hw : (s.act a).sts = .won o
    · rw [if_pos hw]
      exact .reload o (by rw [hw]; rfl) (by simp only [upd_same]) rfl
    · rw [if_neg hw]; exact .same rfl rfl
  | got a o w f =>
    obtain ⟨_, _, _, ⟨_, _, _, rfl⟩ | ⟨_, _, rfl⟩⟩ := step_got h <;> exact objMove id (.same rfl rfl) rfl
  | tagged a o b af =>
    obtain ⟨⟨_, _, _, hst, hw, rfl⟩, rfl⟩ := of_ite_some h
    exact objMove id (.activate a b _ rfl (hw ▸ hst) rfl rfl) rfl
  | phaseBegin a o => obtain ⟨_, rfl⟩ := of_ite_some h; exact objMove id (.same rfl rfl) rfl
  | setex a o b af =>
    obtain ⟨⟨hl, ho, hph, rfl, rfl⟩, rfl⟩ := of_ite_some h
    exact objMove id (.fetch a rfl hl ho rfl rfl) rfl
  | phaseEnd a o r => obtain ⟨_, rfl⟩ := of_ite_some h; exact objMove id (.same rfl rfl) rfl
  | restore1 a o b af =>
    obtain ⟨⟨hl, ho, hr, _, _, rfl⟩, rfl⟩ := of_ite_some h
    exact objMove id (.store a hl ho hr rfl rfl) rfl
  | set a o b af =>
    obtain ⟨_, ⟨hst, rfl, rfl⟩ | ⟨_, rfl⟩ | ⟨hst, haf, rfl⟩⟩ := step_set h
    · exact objMove id (.unboost hst rfl rfl) rfl
    · exact ⟨W0, A0, H0⟩
    · exact objMove id (.wake haf rfl) rfl
  | stsEnter a o ns =>
    obtain ⟨hg, rfl⟩ := of_ite_some h
    exact ⟨W0, fun a' => stsMove_upd a' (.enter o rfl hg.2.1 rfl rfl),
      Ha rfl⟩
  | stsLoad a o w =>
    obtain ⟨_, rfl, hs, rfl⟩ := step_stsLoad h
    refine ⟨W0, fun a' => stsMove_upd a' (.reload o ?_ rfl rfl),
      Ha rfl⟩
    rcases hs with hs | ⟨lw, le, hs⟩ <;> rw [hs] <;> rfl
  | restore2 a o b af =>
    obtain ⟨lw, le, hs, _, ⟨_, rfl⟩ | ⟨hw, haf, ⟨hst, rfl⟩ | ⟨hst, rfl⟩⟩⟩ := step_restore2 h
    · exact ⟨W0, A0, H0⟩
    · refine ⟨fun _ => wordMove_upd _ id (.unboost (hw ▸ hst) haf rfl), fun a' => stsMove_upd a' ?_,
        .same (apply_upd_of_eq _ rfl) (apply_upd_of_eq _ rfl)⟩
      exact .reload o (by rw [hs]; rfl) (by simp only [upd_same]) rfl
    · refine ⟨fun _ => wordMove_upd _ id (.wake haf rfl), fun a' => stsMove_upd a' ?_,
        .same (apply_upd_of_eq _ rfl) (apply_upd_of_eq _ rfl)⟩
      exact .win o lw le hs rfl (by simp only [upd_same])
        (by simp only [upd_same]; exact pendingish_of_pending haf) rfl
  | stsNoop a o =>
    obtain ⟨o, lw, le, hs, ⟨rfl, hg⟩, rfl⟩ := of_loaded h
    exact ⟨W0, fun a' => stsMove_upd a' (.leave o lw le hs rfl rfl (.inl ⟨rfl, hg⟩)),
      Ha rfl⟩
  | stsHelper a o =>
    obtain ⟨o, lw, le, hs, ⟨rfl, hg⟩, rfl⟩ := of_loaded h
    exact ⟨fun _ => wordMove_upd _ id (.same rfl rfl),
      fun a' => stsMove_upd a' (.leave o lw le hs rfl rfl
        (.inr (.inl ⟨rfl, hg, by simp only [upd_same]; exact List.mem_cons_self⟩))),
      .hand a o lw le hs rfl (apply_upd_of_eq _ rfl)⟩
  | stsDone a o =>
    obtain ⟨o, lw, le, hs, ⟨rfl, hg⟩, rfl⟩ := of_loaded h
    exact ⟨W0, fun a' => stsMove_upd a' (.leave o lw le hs rfl rfl (.inr (.inr ⟨rfl, hg⟩))),
      Ha rfl⟩
  | sasLoad a o c p =>
    obtain ⟨_, rfl, hn, hp, hf, rfl⟩ := step_sasLoad h
    have := List.find?_some hf
    simp only [beq_iff_eq] at this
    subst this
    exact ⟨fun _ => wordMove_upd _ id (.same rfl rfl), fun a' => stsMove_upd a' (.same rfl rfl),
      .take a o hp (List.mem_of_find?_eq_some hf) hn rfl rfl⟩
  | sasAbort a o =>
    obtain ⟨o, cur, prev, he, ce, hs, ⟨rfl, h1, h2⟩, rfl⟩ := of_sas h
    exact ⟨W0, fun a' => stsMove_upd a' (.same rfl rfl),
      .decide a o cur prev he ce hs (.inr ⟨h1, h2⟩) (fun _ => rfl) rfl⟩
  | sasRetry a o =>
    obtain ⟨o, cur, prev, he, ce, hs, ⟨rfl, _⟩, rfl⟩ := of_sas h
    exact ⟨W0, fun a' => stsMove_upd a' (.same rfl rfl),
      .decide a o cur prev he ce hs (.inl rfl) (fun _ => rfl) rfl⟩
  | destroy a o w => obtain ⟨_, rfl⟩ := of_ite_some h; exact ⟨W0, A0, H0⟩
  | bodyEnter a o => obtain ⟨_, rfl⟩ := of_ite_some h; exact ⟨W0, A0, H0⟩
  | bodyExit a o => obtain ⟨_, rfl⟩ := of_ite_some h; exact ⟨W0, A0, H0⟩

theorem word_step (h : step s e = some s') (o : Nat) :
    WordMove e o (s.obj o) (s'.obj o) :=
  ((step_moves h).1 o).2

theorem live_step (h : step s e = some s') (o : Nat)
    (hl : (s.obj o).live = true) : (s'.obj o).live = true :=
  ((step_moves h).1 o).1 hl

theorem sts_step (h : step s e = some s') (a : Nat) :
    StsMove e a s.obj s'.obj (s.act a) (s'.act a) :=
  (step_moves h).2.1 a

theorem help_step (h : step s e = some s') : HelpMove e s s' :=
  (step_moves h).2.2

/-- Every step only increases epochs, and an object that is pending-ish after a step in which its
    epoch did not change was pending-ish before (every transition *into* a pending state bumps
    the epoch). -/
theorem obj_step (h : step s e = some s') (o : Nat) :
    (s.obj o).epoch ≤ (s'.obj o).epoch ∧
    ((s'.obj o).epoch = (s.obj o).epoch → pendingish (s'.obj o).w = true → pendingish (s.obj o).w = true) := by
  cases word_step h o <;> grind [pendingish]

theorem obj_log {log : List Ev} {s s' : St} (h : runLog step s log = some s') (o : Nat) :
    (s.obj o).epoch ≤ (s'.obj o).epoch ∧
    ((s'.obj o).epoch = (s.obj o).epoch → pendingish (s'.obj o).w = true → pendingish (s.obj o).w = true) := by
  induction log generalizing s with
  | nil => cases h; exact ⟨Nat.le_refl _, fun _ => id⟩
  | cons e es ih =>
    obtain ⟨s1, hs, h1⟩ := runLog_cons_some h
    have := obj_step hs o
    have := ih h1
    grind

/-- `Obs x lw le`: the word `lw` was observed on object `x` when its epoch was `le`.  If no
    transition into pending happened since (`le = x.epoch`) and the observed word was active, the
    object is still in that very activation or in the suspension/termination that followed it:
    it is not pending, and if it is active its tag is the observed one. -/
def Obs (x : Obj) (lw : W) (le : Nat) : Prop :=
  le ≤ x.epoch ∧ (le = x.epoch → lw.st = sActive →
    (pendingish x.w = false ∧ (x.w.st = sActive → x.w.tag = lw.tag)))

theorem obs_now (x : Obj) : Obs x x.w x.epoch :=
  ⟨Nat.le_refl _, fun _ hst => ⟨not_pendingish_of_active hst, fun _ => rfl⟩⟩

theorem obs_step (hi : Inv s) (h : step s e = some s') {o : Nat} {lw : W} {le : Nat}
    (ho : Obs (s.obj o) lw le) : Obs (s'.obj o) lw le := by
  -- the store never stores `active`; every other move starts from a pending state or bumps the epoch
  have := (hi o).resNotActive
  unfold Obs at *
  cases word_step h o <;> grind [pendingish]

/-- every helper entry is an observation of its object -/
def HInv (s : St) : Prop := ∀ o h, h ∈ (s.obj o).helpers → Obs (s.obj o) h.1 h.2

/-- every word an actor holds inside `set_thread_state` is an observation of its target -/
def AObs (s : St) : Prop := ∀ a o lw le, (s.act a).sts = .loaded o lw le → Obs (s.obj o) lw le

/-- a helper task's record: the remembered word was active and observed no later than the loaded
    one; with no transition into pending in between, an active loaded word has the remembered tag -/
def ASas (s : St) : Prop := ∀ a o cur prev he ce, (s.act a).sas = some (o, cur, prev, he, ce) →
  he ≤ ce ∧ prev.st = sActive ∧ (he = ce → cur.st = sActive → cur.tag = prev.tag)

theorem hinv_init : HInv init := fun _ _ hm => by cases hm
theorem aobs_init : AObs init := fun _ _ _ _ hm => by cases hm
theorem asas_init : ASas init := fun _ _ _ _ _ _ hm => by cases hm

theorem loaded_step (hs : step s e = some s') {a o : Nat} {lw : W} {le : Nat}
    (hm : (s'.act a).sts = .loaded o lw le) :
    (s.act a).sts = .loaded o lw le ∨ (lw = (s'.obj o).w ∧ le = (s'.obj o).epoch) := by
  cases sts_step hs a <;> grind

theorem step_aobs (hi : Inv s) (ha : AObs s) (h : step s e = some s') : AObs s' := by
  intro a o lw le hm
  rcases loaded_step h hm with hk | ⟨rfl, rfl⟩
  · exact obs_step hi h (ha a o lw le hk)
  · exact obs_now _

theorem helpers_step (hs : step s e = some s') {o : Nat} {hp : W × Nat}
    (hm : hp ∈ (s'.obj o).helpers) :
    hp ∈ (s.obj o).helpers ∨ ∃ a, (s.act a).sts = .loaded o hp.1 hp.2 := by
  cases help_step hs with
  | same hh _ | decide _ _ _ _ _ _ _ _ hh _ => exact .inl (hh o ▸ hm)
  | hand a o' lw le hst hobj _ => rw [hobj, upd_apply] at hm; grind
  | take a o' hp' _ _ hobj _ => rw [hobj, upd_apply] at hm; grind [List.mem_of_mem_erase]

theorem step_hinv (hi : Inv s) (hh : HInv s) (ha : AObs s) (h : step s e = some s') :
    HInv s' := by
  intro o hp hm
  rcases helpers_step h hm with hk | ⟨a, hk⟩
  · exact obs_step hi h (hh o hp hk)
  · exact obs_step hi h (ha a o hp.1 hp.2 hk)

theorem sas_step (hs : step s e = some s') {a o : Nat} {cur prev : W} {he ce : Nat}
    (hm : (s'.act a).sas = some (o, cur, prev, he, ce)) :
    (s.act a).sas = some (o, cur, prev, he, ce) ∨
    ((prev, he) ∈ (s.obj o).helpers ∧ cur = (s.obj o).w ∧ ce = (s.obj o).epoch) := by
  cases help_step hs with
  | same _ h1 | hand _ _ _ _ _ _ h1 => exact .inl (h1 a ▸ hm)
  | take a' o' hp hmem _ _ hact => rw [hact, upd_apply] at hm; grind
  | decide a' _ _ _ _ _ _ _ _ hact => rw [hact, upd_apply] at hm; grind

theorem step_asas (hi : Inv s) (hh : HInv s) (ha : ASas s) (h : step s e = some s') :
    ASas s' := by
  intro a o cur prev he ce hm
  rcases sas_step h hm with hk | ⟨h1, rfl, rfl⟩
  · exact ha a o cur prev he ce hk
  · have hobs : Obs _ prev he := hh o (prev, he) h1
    have hact := (hi o).helpersActive (prev, he) h1
    exact ⟨hobs.1, hact, fun heq hc => ((hobs.2 heq hact).2 hc)⟩

/-- ghost bookkeeping of a wake-up request: `issue = some ie` means the request was issued when the
    target's epoch was `ie` and the target was not pending then -/
structure IssueInv (s : St) (a : Nat) (ie : Nat) : Prop where
  tgt : ∀ o, target (s.act a).sts = some o →
      ie ≤ (s.obj o).epoch ∧ (ie = (s.obj o).epoch → pendingish (s.obj o).w = false)
  ld : ∀ o lw le, (s.act a).sts = .loaded o lw le → ie ≤ le ∧ (pendingish lw = true → ie < le)
  won : ∀ o, (s.act a).sts = .won o → ie < (s.obj o).epoch

def AIssue (s : St) : Prop := ∀ a ie, (s.act a).issue = some ie → IssueInv s a ie

theorem aissue_init : AIssue init := fun _ _ hm => by cases hm

theorem step_aissue (ha : AIssue s) (h : step s e = some s') : AIssue s' := by
  intro a ie hm
  -- every step keeps epochs growing and `not pending at the request's epoch` (`obj_step`); the
  -- actor's own move is one of `StsMove`
  have hob := obj_step h
  cases sts_step h a with
  | same hs hiss =>
    have hold := ha a ie (hiss ▸ hm)
    constructor <;> grind [IssueInv]
  | enter o hobj _ hs' hiss => constructor <;> grind [target]
  | reload o htg hs' hiss =>
    have hold := ha a ie (hiss ▸ hm)
    constructor <;> grind [target, IssueInv]
  | win o lw le hs hs' hep _ hiss =>
    have hold := ha a ie (hiss ▸ hm)
    constructor <;> grind [target, IssueInv]
  | leave _ _ _ _ _ hiss _ => rw [hiss] at hm; cases hm

structure Inv2 (s : St) : Prop where
  obj : Inv s
  helpers : HInv s
  loaded : AObs s
  sas : ASas s
  issue : AIssue s

theorem inv2_init : Inv2 init := ⟨inv_init, hinv_init, aobs_init, asas_init, aissue_init⟩

theorem step_inv2 (hi : Inv2 s) (h : step s e = some s') : Inv2 s' :=
  ⟨step_inv hi.obj h, step_hinv hi.obj hi.helpers hi.loaded h, step_aobs hi.obj hi.loaded h,
   step_asas hi.obj hi.helpers hi.sas h, step_aissue hi.issue h⟩

theorem inv2_of_accepted {log : List Ev} {s : St} (h : runLog step init log = some s) : Inv2 s :=
  inv_of_runLog Inv2 (fun _ _ _ => step_inv2) inv2_init h

end PikaVerif.Sched
