import PikaVerif.Lemmas.CVStep
/-!
# Solo continuations: one `notify_all` wakes every parked waiter (C07t)

`nallSolo r q` is the exact event sequence the notifier `r` produces when it runs alone from the
start of `notify_all` (internal lock free, wait queue `q` of parked untimed waiters);
`wakeSolo g pr` is the sequence a woken waiter of `wait` (`pr = false`) / `wait(pred)` (`pr = true`,
predicate true) produces when it then runs alone until it has returned and released the user lock.
`popAllLog r q` is the pop loop inside `nallSolo` (one `cv.popall` per entry of `q`, front first),
`wakeAllLog pr q` the woken waiters of `q` one after the other (`pr g` = `g` waits with a predicate).
-/
namespace PikaVerif.CV

def popAllLog (r : Nat) : List Nat → List Ev
  | [] => []
  | g :: rest => .popAll r rest.length g false :: popAllLog r rest

theorem popAllLog_length (r : Nat) (q : List Nat) : (popAllLog r q).length = q.length := by
  induction q with
  | nil => rfl
  | cons g rest ih => simp [popAllLog, ih]

def nallSolo (r : Nat) (q : List Nat) : List Ev :=
  [.slAcq r, .cvAll r q.length] ++ popAllLog r q ++ [.slRel r, .ret r 0]

theorem nallSolo_length (r : Nat) (q : List Nat) : (nallSolo r q).length = q.length + 4 := by
  simp [nallSolo, popAllLog_length]

def wakeSolo (g : Nat) (pr : Bool) : List Ev :=
  [.woke g, .slAcq g, .cvWoke g false false, .slRel g, .ulAcq g] ++
    (if pr then [.pred g true] else []) ++ [.ret g (b2n pr), .inv g .unlock, .ulRel g]

theorem wakeSolo_length (g : Nat) (pr : Bool) : (wakeSolo g pr).length = 8 + b2n pr := by
  cases pr <;> rfl

def wakeAllLog (pr : Nat → Bool) : List Nat → List Ev
  | [] => []
  | g :: rest => wakeSolo g (pr g) ++ wakeAllLog pr rest

theorem wakeAllLog_length (pr : Nat → Bool) (q : List Nat) : (wakeAllLog pr q).length ≤ 9 * q.length := by
  induction q with
  | nil => simp [wakeAllLog]
  | cons g rest ih =>
    simp only [wakeAllLog, List.length_append, wakeSolo_length, List.length_cons]
    have : b2n (pr g) ≤ 1 := by simp [b2n]; split <;> omega
    omega

theorem popAllLog_spec (r : Nat) : ∀ (q : List Nat) (s : St), s.lock = some r → r < s.n → s.pc r = .nAll →
    s.queue = q → (∀ g, g ∈ q → s.pc g = .susp false) → q.Nodup →
    ∃ s1, runLog step s (popAllLog r q) = some s1 ∧ s1.lock = some r ∧ s1.n = s.n ∧ s1.pc r = .nAll ∧
      s1.queue = [] ∧ s1.ulock = s.ulock ∧ s1.flag = s.flag ∧ s1.curOp = s.curOp ∧
      (∀ g, g ∈ q → s1.pc g = .susp true ∧ s1.tok g = s.tok g + 1) ∧
      (∀ u, u ∉ q → u ≠ r → s1.pc u = s.pc u ∧ s1.tok u = s.tok u) := by
  intro q
  induction q with
  | nil =>
    intro s hl hr hp hq _ _
    exact ⟨s, rfl, hl, rfl, hp, hq, rfl, rfl, rfl, by simp, fun u _ _ => ⟨rfl, rfl⟩⟩
  | cons g rest ih =>
    intro s hl hr hp hq hpark hnd
    have hg := hpark g (by simp)
    have hgr : g ≠ r := by intro he; rw [he, hp] at hg; simp at hg
    have hnd' := List.nodup_cons.1 hnd
    let s' : St :=
      { s with queue := rest, tok := upd s.tok g (s.tok g + 1), pc := upd (upd s.pc g (.susp true)) r .nAll,
               waiting := upd s.waiting g false, poppedOp := upd s.poppedOp g true,
               pops := upd s.pops g (s.pops g + 1) }
    have hst : step s (.popAll r rest.length g false) = some s' := by
      simp [s', step, popCore, hl, hr, hp, hq, hg, setPopped]
    obtain ⟨s1, a1, a2, a3, a4, a5, a6, a7, a8, a9, a10⟩ := ih s' hl hr (upd_same ..) rfl
      (by intro g' hg'
          have h1 : g' ≠ g := by intro he; subst he; exact hnd'.1 hg'
          have h2 := hpark g' (by simp [hg'])
          have h3 : g' ≠ r := by intro he; rw [he, hp] at h2; simp at h2
          simp [s', upd, h1, h3, h2])
      hnd'.2
    refine ⟨s1, ?_, a2, a3, a4, a5, a6, a7, a8, ?_, ?_⟩
    · simp only [popAllLog, runLog, hst]; exact a1
    · intro g' hg'
      rcases List.mem_cons.1 hg' with he | hm
      · subst he
        have := a10 g' hnd'.1 hgr
        simpa [s', upd, hgr] using this
      · have h1 : g' ≠ g := by intro he; subst he; exact hnd'.1 hm
        have := a9 g' hm
        simpa [s', upd, h1] using this
    · intro u hu hur
      have h1 : u ≠ g := by intro he; subst he; exact hu (by simp)
      have h2 : u ∉ rest := fun hm => hu (by simp [hm])
      have := a10 u h2 hur
      simpa [s', upd, h1, hur] using this

theorem nallSolo_spec (r : Nat) (s : St) (hl : s.lock = none) (hr : r < s.n) (hp : s.pc r = .nWant)
    (hc : s.curOp r = .notify true) (hpark : ∀ g, g ∈ s.queue → s.pc g = .susp false)
    (hnd : s.queue.Nodup) :
    ∃ s1, runLog step s (nallSolo r s.queue) = some s1 ∧ s1.lock = none ∧ s1.n = s.n ∧ s1.pc r = .idle ∧
      s1.queue = [] ∧ s1.ulock = s.ulock ∧ s1.flag = s.flag ∧
      (∀ g, g ∈ s.queue → s1.pc g = .susp true ∧ s1.tok g = s.tok g + 1 ∧ s1.curOp g = s.curOp g) ∧
      (∀ u, u ∉ s.queue → u ≠ r → s1.pc u = s.pc u ∧ s1.tok u = s.tok u) := by
  have hrq : r ∉ s.queue := by intro hm; have := hpark r hm; rw [hp] at this; simp at this
  -- the two steps before the pop loop, and the two after it, written out
  have h12 : runLog step s [.slAcq r, .cvAll r s.queue.length] =
      some { s with lock := some r, pc := upd s.pc r .nAll } := by
    simp [runLog, step, hl, hr, hp, hc]
  obtain ⟨s1, a1, a2, a3, a4, a5, a6, a7, a8, a9, a10⟩ :=
    popAllLog_spec r s.queue { s with lock := some r, pc := upd s.pc r .nAll } rfl hr (upd_same ..) rfl
      (fun g hg => by
        have h4 : g ≠ r := fun he => hrq (he ▸ hg)
        show upd s.pc r .nAll g = _
        rw [upd_other _ _ _ _ h4]; exact hpark g hg)
      hnd
  have h34 : runLog step s1 [.slRel r, .ret r 0] = some { s1 with lock := none, pc := upd s1.pc r .idle } := by
    have hr1 : r < s1.n := a3 ▸ hr
    simp [runLog, step, a2, hr1, a4, a5]
  refine ⟨{ s1 with lock := none, pc := upd s1.pc r .idle }, ?_, rfl, a3, upd_same .., a5, a6, a7,
    fun g hg => ?_, fun u hu hur => ?_⟩
  · show runLog step s ([.slAcq r, .cvAll r s.queue.length] ++ popAllLog r s.queue ++ [.slRel r, .ret r 0]) = _
    rw [runLog_append, runLog_append, h12]
    show (runLog step _ (popAllLog r s.queue)).bind _ = _
    rw [a1]; exact h34
  · have h5 : g ≠ r := fun he => hrq (he ▸ hg)
    obtain ⟨b1, b2⟩ := a9 g hg
    exact ⟨(upd_other _ _ _ _ h5).trans b1, b2, congrFun a8 g⟩
  · obtain ⟨b1, b2⟩ := a10 u hu hur
    exact ⟨(upd_other _ _ _ _ hur).trans (b1.trans (upd_other _ _ _ _ hur)), b2⟩

/-- a woken waiter of `wait` / `wait(pred)` (predicate true) run alone: it returns (`pr`: with
    the value `true`) and releases the user lock, in `8 + pr` events -/
theorem wakeSolo_spec (g : Nat) (pr : Bool) (s : St) (hl : s.lock = none) (hu : s.ulock = none)
    (hg : g < s.n) (hp : s.pc g = .susp true) (ht : 0 < s.tok g) (hc : s.curOp g = .wait false pr)
    (hf : pr = true → s.flag = true) :
    ∃ s2, runLog step s (wakeSolo g pr) = some s2 ∧ s2.lock = none ∧ s2.ulock = none ∧ s2.n = s.n ∧
      s2.pc g = .idle ∧ s2.queue = s.queue ∧ s2.flag = s.flag ∧
      (∀ u, u ≠ g → s2.pc u = s.pc u ∧ s2.tok u = s.tok u ∧ s2.curOp u = s.curOp u) := by
  cases pr with
  | false =>
    cases h : runLog step s (wakeSolo g false) with
    | none => simp [wakeSolo, runLog, step, hl, hu, hg, hp, ht, hc, isStop, isTimed, isPred, b2n, upd] at h
    | some s2 =>
      refine ⟨s2, rfl, ?_⟩
      simp [wakeSolo, runLog, step, hl, hu, hg, hp, ht, hc, isStop, isTimed, isPred, b2n, upd] at h
      subst h
      simp [upd]
      intro u hug; simp [hug]
  | true =>
    have hf' := hf rfl
    cases h : runLog step s (wakeSolo g true) with
    | none => simp [wakeSolo, runLog, step, hl, hu, hg, hp, ht, hc, hf', isStop, isTimed, isPred, b2n, upd, exitPc] at h
    | some s2 =>
      refine ⟨s2, rfl, ?_⟩
      simp [wakeSolo, runLog, step, hl, hu, hg, hp, ht, hc, hf', isStop, isTimed, isPred, b2n, upd, exitPc] at h
      subst h
      simp [upd]
      refine ⟨hf', ?_⟩
      intro u hug; simp [hug]

theorem wakeAll_spec (pr : Nat → Bool) : ∀ (l : List Nat) (s : St), s.lock = none → s.ulock = none → l.Nodup →
    (∀ g, g ∈ l → g < s.n ∧ s.pc g = .susp true ∧ 0 < s.tok g ∧ s.curOp g = .wait false (pr g) ∧
      (pr g = true → s.flag = true)) →
    ∃ s2, runLog step s (wakeAllLog pr l) = some s2 ∧ s2.lock = none ∧ s2.ulock = none ∧ s2.n = s.n ∧
      s2.queue = s.queue ∧ s2.flag = s.flag ∧ (∀ g, g ∈ l → s2.pc g = .idle) ∧
      (∀ u, u ∉ l → s2.pc u = s.pc u ∧ s2.tok u = s.tok u ∧ s2.curOp u = s.curOp u) := by
  intro l
  induction l with
  | nil =>
    intro s hl hu _ _
    exact ⟨s, rfl, hl, hu, rfl, rfl, rfl, by simp, fun u _ => ⟨rfl, rfl, rfl⟩⟩
  | cons g rest ih =>
    intro s hl hu hnd hall
    have hnd' := List.nodup_cons.1 hnd
    obtain ⟨hg1, hg2, hg3, hg4, hg5⟩ := hall g (by simp)
    obtain ⟨s', a1, a2, a3, a4, a5, a6, a7, a8⟩ := wakeSolo_spec g (pr g) s hl hu hg1 hg2 hg3 hg4 hg5
    obtain ⟨s2, b1, b2, b3, b4, b5, b6, b7, b8⟩ := ih s' a2 a3 hnd'.2
      (by intro g' hg'
          have hne : g' ≠ g := by intro he; subst he; exact hnd'.1 hg'
          obtain ⟨c1, c2, c3, c4, c5⟩ := hall g' (by simp [hg'])
          obtain ⟨d1, d2, d3⟩ := a8 g' hne
          exact ⟨by rw [a4]; exact c1, by rw [d1]; exact c2, by rw [d2]; exact c3, by rw [d3]; exact c4,
            by rw [a7]; exact c5⟩)
    refine ⟨s2, ?_, b2, b3, by rw [b4, a4], by rw [b5, a6], by rw [b6, a7], ?_, ?_⟩
    · simp only [wakeAllLog]; rw [runLog_append, a1]; simpa using b1
    · intro g' hg'
      rcases List.mem_cons.1 hg' with he | hm
      · subst he; rw [(b8 g' hnd'.1).1]; exact a5
      · exact b7 g' hm
    · intro u hu'
      have h1 : u ≠ g := by intro he; subst he; exact hu' (by simp)
      have h2 : u ∉ rest := fun hm => hu' (by simp [hm])
      obtain ⟨c1, c2, c3⟩ := b8 u h2
      obtain ⟨d1, d2, d3⟩ := a8 u h1
      exact ⟨by rw [c1, d1], by rw [c2, d2], by rw [c3, d3]⟩

end PikaVerif.CV
