import PikaVerif.Lemmas.Mtx2
/-!
# What a `try_lock_for` that returned false has observed (C06t)

An *observer* runs beside the model without influencing it (`tstep` accepts exactly the logs of
`step`, `trun_exists`).  It records, per task and for the operation in progress, four facts that
are readable from the events and from `owner_id_` alone:
* `held`    — `owner_id_` was valid when the call linked its entry into the wait queue (`cv.enq`),
* `dl`      — the call's deadline event (`ag.timeout`) has occurred,
* `still`   — the payload of the call's last `cv.woke`: entry still queued = the wait reports `timeout`,
* `heldRel` — `owner_id_` was valid when the call last released the internal spinlock.
-/
namespace PikaVerif.Mtx

structure Obs where
  held : Nat → Bool
  dl : Nat → Bool
  still : Nat → Bool
  heldRel : Nat → Bool

def obs0 : Obs := ⟨fun _ => false, fun _ => false, fun _ => false, fun _ => false⟩

def observe (o : Obs) (s : St) : Ev → Obs
  | .inv t _ => ⟨upd o.held t false, upd o.dl t false, upd o.still t false, upd o.heldRel t false⟩
  | .cvEnq t _ _ => { o with held := upd o.held t (decide (s.owner ≠ none)) }
  | .timeout t => { o with dl := upd o.dl t true }
  | .cvWoke t st _ => { o with still := upd o.still t st }
  | .slRel t => { o with heldRel := upd o.heldRel t (decide (s.owner ≠ none)) }
  | _ => o

structure TSt where
  s : St
  o : Obs

def tstep (p : TSt) (e : Ev) : Option TSt := (step p.s e).map (fun s' => ⟨s', observe p.o p.s e⟩)

def tinit (n : Nat) : TSt := ⟨init n, obs0⟩

/-- the observer does not restrict the model: every accepted log has its observer run -/
theorem trun_exists (log : List Ev) (p : TSt) (s' : St) (h : runLog step p.s log = some s') :
    ∃ p', runLog tstep p log = some p' ∧ p'.s = s' :=
  runLog_lift TSt.s (fun p e s' hs => ⟨⟨s', observe p.o p.s e⟩, by simp [tstep, hs], rfl⟩) h

theorem tstep_step {p p' : TSt} {e : Ev} (h : tstep p e = some p') :
    step p.s e = some p'.s ∧ p'.o = observe p.o p.s e := by
  simp only [tstep, Option.map_eq_some_iff] at h
  obtain ⟨s', hs, rfl⟩ := h
  exact ⟨hs, rfl⟩

theorem trun_step (log : List Ev) (p p' : TSt) (h : runLog tstep p log = some p') :
    runLog step p.s log = some p'.s := by
  simpa using runLog_map TSt.s id (fun p e p' h => (tstep_step h).1) h

/-- what the observer must have recorded at each program counter of a timed call -/
def TAt (held dl still heldRel : Bool) : Pc → Prop
  | .enq true | .unl true _ | .slp _ => held = true
  | .wokeNL true _ | .relk true _ | .sig => held = true ∧ dl = true
  | .timedOut => held = true ∧ dl = true ∧ still = true
  | .retn .timed .fail => held = true ∧ dl = true ∧ (still = true ∨ heldRel = true)
  | _ => True

def TInv (p : TSt) : Prop := ∀ t, TAt (p.o.held t) (p.o.dl t) (p.o.still t) (p.o.heldRel t) (p.s.pc t)

theorem tinv_init (n : Nat) : TInv (tinit n) := fun _ => trivial

theorem acqNext_tat {p p' : Pc} (h : acqNext p = some p') {a b c d : Bool} (ha : TAt a b c d p) :
    TAt a b c d p' := by
  unfold acqNext at h
  split at h <;> cases h
  · trivial
  · rename_i tm _; cases tm <;> exact ha

theorem setPopped_tat {p p' : Pc} (h : setPopped p = some p') {a b c d : Bool} (ha : TAt a b c d p) :
    TAt a b c d p' := by
  unfold setPopped at h
  split at h <;> cases h <;> first | exact ha | (rename_i tm; cases tm <;> exact ha)

/-- at `sl.rel` the observer reads `owner_id_`: a signalled `try_lock_until` that gives up has just
    found it valid -/
theorem relNext_tat {ow : Option Nat} {t : Nat} {p p' : Pc} (h : relNext ow t p = some p')
    {a b c d : Bool} (ha : TAt a b c d p) : TAt a b c (decide (ow ≠ none)) p' := by
  unfold relNext at h
  split at h <;> (try split at h) <;> cases h <;> (try trivial)
  · rename_i tm; cases tm <;> first | trivial | exact ha
  · rename_i o _; cases o <;> trivial
  · exact ⟨ha.1, ha.2.1, .inl ha.2.2⟩
  · rename_i hne; exact ⟨ha.1, ha.2, .inr (decide_eq_true hne)⟩

theorem tinv_step (p p' : TSt) (e : Ev) (hi : TInv p) (h : tstep p e = some p') : TInv p' := by
  obtain ⟨s, o⟩ := p
  obtain ⟨s', o'⟩ := p'
  obtain ⟨hs, rfl⟩ := tstep_step h
  replace hs : step s e = some s' := hs
  -- a step of task `t`: every other task keeps its program counter and what was recorded for it
  have move : ∀ {t : Nat} {q : Pc} {a b c d : Nat → Bool},
      (∀ u, u ≠ t → a u = o.held u ∧ b u = o.dl u ∧ c u = o.still u ∧ d u = o.heldRel u) →
      TAt (a t) (b t) (c t) (d t) q → ∀ u, TAt (a u) (b u) (c u) (d u) (upd s.pc t q u) := by
    intro t q a b c d hfr ht u
    by_cases hu : u = t
    · subst hu; rw [upd_same]; exact ht
    · obtain ⟨h1, h2, h3, h4⟩ := hfr u hu
      rw [h1, h2, h3, h4, upd_other _ _ _ _ hu]; exact hi u
  have same : ∀ {t : Nat} {f : Nat → Bool} {v : Bool} (u : Nat), u ≠ t → upd f t v u = f u :=
    fun u hu => upd_other _ _ _ _ hu
  cases Step.of hs with
  | inv t op _ _ _ =>
    exact move (fun u hu => ⟨same u hu, same u hu, same u hu, same u hu⟩) trivial
  | slAcq t _ _ q hq =>
    exact move (fun _ _ => ⟨rfl, rfl, rfl, rfl⟩) (acqNext_tat hq (hi t))
  | slRel t _ _ q hq =>
    exact move (fun u hu => ⟨rfl, rfl, rfl, same u hu⟩) (by simp only [observe, upd_same]; exact relNext_tat hq (hi t))
  | cvEnq t z tm _ _ ho _ _ =>
    refine move (fun u hu => ⟨same u hu, rfl, rfl, rfl⟩) ?_
    simp only [observe, upd_same]
    cases tm
    · trivial
    · exact decide_eq_true ho
  | own | ret | done | disown | cvNone | suspend | woke => exact move (fun _ _ => ⟨rfl, rfl, rfl, rfl⟩) trivial
  | csEnter | csExit => exact hi
  | sleep t _ q hq =>
    exact move (fun _ _ => ⟨rfl, rfl, rfl, rfl⟩) (by have := hi t; rw [hq] at this; exact this)
  | timeout t _ q hq =>
    refine move (fun u hu => ⟨rfl, same u hu, rfl, rfl⟩) ?_
    have := hi t
    rw [hq] at this
    exact ⟨this, upd_same _ _ _⟩
  | cvWoke t st tm _ _ popped hq hr4 =>
    subst hr4
    refine move (fun u hu => ⟨rfl, rfl, same u hu, rfl⟩) ?_
    have := hi t
    rw [hq] at this
    simp only [observe, upd_same]
    cases tm <;> cases popped <;> first | trivial | exact this | exact ⟨this.1, this.2, rfl⟩
  | popResume t z g d _ _ _ rest q _ _ hq _ =>
    intro u
    show TAt _ _ _ _ (upd (upd s.pc g q) t .notified u)
    by_cases hu : u = t
    · subst hu; rw [upd_same]; trivial
    · rw [upd_other _ _ _ _ hu]
      by_cases hg : u = g
      · subst hg; rw [upd_same]; exact setPopped_tat hq (hi u)
      · rw [upd_other _ _ _ _ hg]; exact hi u

theorem runLog_tinv (log : List Ev) (p p' : TSt) (hi : TInv p) (h : runLog tstep p log = some p') :
    TInv p' :=
  inv_of_runLog TInv (fun p e p' => tinv_step p p' e) hi h

end PikaVerif.Mtx
