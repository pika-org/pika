import PikaVerif.Model.SchedFromLife
import PikaVerif.Core.Run
/-!
What the life-cycle models of `schedule_from` (Model/SchedFromLife.lean) and `let_value` / `let_error`
(Model/LetLife.lean) have in common: one operation state that a *chain of control* runs through (the
predecessor's completion takes it, the thread that holds it works inside the adaptor, starting the second
operation - the scheduler's / the successor's - hands it over, the downstream completion ends it), two stored
objects with construction / destruction counters, and the destruction of the operation state.  Both models
project to a `View`; its invariant `Inv`, the kinds of step that preserve it and what follows from it for the
properties are proved here once.  What a model knows at each of its program points stays with the model.
-/
namespace PikaVerif.OpLife
open PikaVerif.SchedFromLife (Sig b2n)

structure View where
  selfdel : Bool
  /-- thread `t` is inside adaptor code that will access the operation state again -/
  busy : Nat → Bool
  started : Bool
  pred : Option Sig
  /-- the second operation (scheduler / successor) was started -/
  armed : Bool
  /-- its completion -/
  sig2 : Option Sig
  holder : Option Nat
  ts : Option Nat
  tsCtor : Nat
  tsDtor : Nat
  sop : Bool
  sopCtor : Nat
  sopDtor : Nat
  delivered : Nat
  result : Option Sig
  freed : Bool
  nfree : Nat
  uaf : Bool
  /-- `std::terminate` -/
  stuck : Bool

/-- At most one thread is inside the adaptor, the `holder`; nobody is once the downstream completion was
    issued; `progress`: what a started operation is waiting for.  The stored objects: counters, destruction
    of the operation state, `uaf`. -/
structure Inv (v : View) : Prop where
  busyHolder : ∀ t, v.busy t = true → v.holder = some t
  holderBusy : ∀ t, v.holder = some t → v.busy t = true
  delivLe : v.delivered ≤ 1
  holderDeliv : ∀ t, v.holder = some t → v.delivered = 0
  predStarted : v.pred ≠ none → v.started = true
  predNone : v.pred = none → v.holder = none ∧ v.delivered = 0 ∧ v.armed = false ∧ v.sig2 = none
  armedWait : v.armed = true → v.sig2 = none → v.holder = none ∧ v.delivered = 0
  sig2Armed : v.sig2 ≠ none → v.armed = true
  progress : v.pred ≠ none →
    v.delivered = 1 ∨ v.holder ≠ none ∨ (v.armed = true ∧ v.sig2 = none) ∨ v.stuck = true
  resNone : v.delivered = 0 → v.result = none
  predNoneO : v.pred = none → v.tsCtor = 0 ∧ v.sopCtor = 0 ∧ v.ts = none ∧ v.sop = false ∧ v.freed = false
  armedO : v.armed = true → v.sig2 = none → v.ts ≠ none ∧ v.sop = true
  freedDeliv : v.freed = true → v.delivered = 1
  selfFreed : v.selfdel = true → v.delivered = 1 → v.freed = true
  nfreeEq : v.nfree = b2n v.freed
  tsCount : v.freed = false → v.tsCtor = v.tsDtor + b2n v.ts.isSome
  tsCountF : v.freed = true → v.tsCtor = v.tsDtor ∧ v.ts = none
  sopCount : v.freed = false → v.sopCtor = v.sopDtor + b2n v.sop
  sopCountF : v.freed = true → v.sopCtor = v.sopDtor
  ctorLe : v.tsCtor ≤ 1 ∧ v.sopCtor ≤ 1
  uafF : v.uaf = false

variable {v : View}

/-- When an event that reads or writes the operation state can be accepted: `start` (not started), the
    predecessor's completion (none yet), a step of a thread inside the adaptor, the second operation's
    completion (started, none yet). -/
def Touching (v : View) : Prop :=
  v.started = false ∨ v.pred = none ∨ (∃ t, v.busy t = true) ∨ (v.armed = true ∧ v.sig2 = none)

/-- An event that reads or writes the operation state is accepted only before the downstream completion. -/
theorem Inv.undelivered (h : Inv v) (ht : Touching v) : v.delivered = 0 := by
  rcases ht with hs | hn | ⟨t, hb⟩ | ⟨ha, hs⟩
  · exact (h.predNone (Decidable.byContradiction fun hp => by rw [h.predStarted hp] at hs; cases hs)).2.1
  · exact (h.predNone hn).2.1
  · exact h.holderDeliv t (h.busyHolder t hb)
  · exact (h.armedWait ha hs).2

theorem Inv.not_freed (h : Inv v) (hd : v.delivered = 0) : v.freed = false := by
  cases hf : v.freed
  · rfl
  · rw [h.freedDeliv hf] at hd; cases hd

/-- Every thread but the one in control is outside the adaptor. -/
theorem Inv.others (h : Inv v) {t : Nat} (hh : v.holder = some t ∨ v.holder = none) :
    ∀ u, u ≠ t → v.busy u = false := fun u hu => by
  cases hb : v.busy u with
  | false => rfl
  | true =>
    have := h.busyHolder u hb
    rcases hh with hh | hh <;> rw [hh] at this
    · exact absurd (Option.some.inj this).symm hu
    · cases this

/-- Exactly one downstream completion: at most one; none yet, no result; in a state in which the predecessor
    has completed, the second operation has completed if it was started, every call has returned and the
    process was not terminated, exactly one. -/
theorem Inv.exactly_one (h : Inv v) :
    v.delivered ≤ 1 ∧ (v.delivered = 0 → v.result = none) ∧
    ((∀ t, v.busy t = false) → v.stuck = false → v.pred ≠ none → (v.armed = true → v.sig2 ≠ none) →
      v.delivered = 1) := by
  refine ⟨h.delivLe, h.resNone, fun hq ha hp hs => ?_⟩
  rcases h.progress hp with h1 | h1 | h1 | h1
  · exact h1
  · cases hh : v.holder with
    | none => exact absurd hh h1
    | some t => have := h.holderBusy t hh; rw [hq t] at this; cases this
  · exact absurd h1.2 (hs h1.1)
  · rw [ha] at h1; cases h1

/-- Nothing touches the operation state after it was destroyed; it is destroyed at most once, only after the
    completion, with a self-deleting receiver exactly at the completion. -/
theorem Inv.release (h : Inv v) :
    v.uaf = false ∧ v.nfree ≤ 1 ∧ (v.freed = true ↔ v.nfree = 1) ∧ (v.freed = true → v.delivered = 1) ∧
    (v.selfdel = true → (v.freed = true ↔ v.delivered = 1)) := by
  have := h.nfreeEq
  refine ⟨h.uafF, ?_, ?_, h.freedDeliv, fun hs => ⟨h.freedDeliv, h.selfFreed hs⟩⟩ <;>
    cases hf : v.freed <;> simp [hf, b2n] at this ⊢ <;> omega

/-- Every stored object is constructed at most once, never destroyed more often than constructed, and
    destroyed exactly once when the operation state is destroyed. -/
theorem Inv.destroyed_once (h : Inv v) :
    v.tsCtor ≤ 1 ∧ v.sopCtor ≤ 1 ∧ v.tsDtor ≤ v.tsCtor ∧ v.sopDtor ≤ v.sopCtor ∧
    (v.freed = true → v.tsDtor = v.tsCtor ∧ v.sopDtor = v.sopCtor ∧ v.nfree = 1) ∧
    (v.selfdel = true → v.delivered = 1 →
      v.freed = true ∧ v.tsDtor = v.tsCtor ∧ v.sopDtor = v.sopCtor ∧ v.nfree = 1) := by
  have hF : v.freed = true → v.tsDtor = v.tsCtor ∧ v.sopDtor = v.sopCtor ∧ v.nfree = 1 := fun hf =>
    ⟨(h.tsCountF hf).1.symm, (h.sopCountF hf).symm, by rw [h.nfreeEq, hf]; rfl⟩
  refine ⟨h.ctorLe.1, h.ctorLe.2, ?_, ?_, hF, fun hs hd => ⟨h.selfFreed hs hd, hF (h.selfFreed hs hd)⟩⟩ <;>
    cases hf : v.freed
  · have := h.tsCount hf; omega
  · have := (h.tsCountF hf).1; omega
  · have := h.sopCount hf; omega
  · have := h.sopCountF hf; omega

/-! The kinds of step there are. -/

variable {b' : Nat → Bool} {st u : Bool}

/-- A thread outside the adaptor moves to another point outside it (`start`, `ret`, `tdone`). -/
theorem Inv.outside (h : Inv v) (hb : ∀ t, b' t = v.busy t) (hst : v.started = true → st = true)
    (hu : u = false) : Inv { v with busy := b', started := st, uaf := u } :=
  { h with
    busyHolder := fun t ht => h.busyHolder t ((hb t).symm.trans ht)
    holderBusy := fun t ht => (hb t).trans (h.holderBusy t ht)
    predStarted := fun hp => hst (h.predStarted hp)
    uafF := hu }

variable {t : Nat} {p' s2' res : Option Sig} {ts' : Option Nat} {tc' sc' sd' : Nat} {sop' sd : Bool}

theorem holder_of_others {busy b' : Nat → Bool} {t : Nat} {h' : Option Nat}
    (ho : ∀ u, u ≠ t → busy u = false) (hbo : ∀ u, u ≠ t → b' u = busy u) (ht : b' t = true → h' = some t) :
    ∀ u, b' u = true → h' = some u := fun u hu => by
  by_cases hut : u = t
  · rw [hut] at hu ⊢; exact ht hu
  · rw [hbo u hut, ho u hut] at hu; cases hu

/-- `std::terminate`: no further event is accepted. -/
theorem Inv.abort (h : Inv v) : Inv { v with stuck := true } :=
  { h with progress := fun _ => .inr (.inr (.inr rfl)) }

/-- Thread `t` takes the chain of control: the predecessor completes on it, or the second operation does. -/
theorem Inv.take (h : Inv v) (hh : v.holder = none) (hd : v.delivered = 0) (hst : v.started = true)
    (hp' : p' ≠ none)
    (hw : v.armed = true → s2' ≠ none) (hsa : s2' ≠ none → v.armed = true)
    (hbt : b' t = true) (hbo : ∀ u, u ≠ t → b' u = v.busy u) :
    Inv { v with busy := b', pred := p', sig2 := s2', holder := some t, uaf := v.uaf || v.freed } := by
  have ho := h.others (t := t) (.inr hh)
  have hf := h.not_freed hd
  exact { h with
    busyHolder := holder_of_others ho hbo fun _ => rfl
    holderBusy := fun u hu => by cases hu; exact hbt
    holderDeliv := fun _ _ => hd
    predStarted := fun _ => hst
    predNone := fun hp => absurd hp hp'
    armedWait := fun ha hs => absurd hs (hw ha)
    sig2Armed := hsa
    progress := fun _ => .inr (.inl nofun)
    predNoneO := fun hp => absurd hp hp'
    armedO := fun ha hs => absurd hs (hw ha)
    uafF := by rw [h.uafF, hf]; rfl }

/-- The thread in control takes a step inside the adaptor: what it may do to the stored objects. -/
theorem Inv.advance (h : Inv v) (hh : v.holder = some t) {h' : Option Nat} (hh' : h' = some t)
    (hbt : b' t = true) (hbo : ∀ u, u ≠ t → b' u = v.busy u)
    (htc : tc' = v.tsDtor + b2n ts'.isSome) (hsc : sc' = sd' + b2n sop') (hle : tc' ≤ 1 ∧ sc' ≤ 1) :
    Inv { v with busy := b', holder := h', ts := ts', tsCtor := tc', sop := sop', sopCtor := sc',
                 sopDtor := sd', uaf := v.uaf || v.freed } := by
  subst hh'
  have ho := h.others (.inl hh)
  have hd := h.holderDeliv t hh
  have hf := h.not_freed hd
  have hp : v.pred ≠ none := fun hp => by rw [(h.predNone hp).1] at hh; cases hh
  have hw : v.armed = true → v.sig2 = none → False := fun ha hs => by
    rw [(h.armedWait ha hs).1] at hh; cases hh
  exact { h with
    busyHolder := holder_of_others ho hbo fun _ => rfl
    holderBusy := fun u hu => by cases hu; exact hbt
    holderDeliv := fun _ _ => hd
    predNone := fun hp' => absurd hp' hp
    armedWait := fun ha hs => (hw ha hs).elim
    progress := fun _ => .inr (.inl nofun)
    predNoneO := fun hp' => absurd hp' hp
    armedO := fun ha hs => (hw ha hs).elim
    tsCount := fun _ => htc
    tsCountF := fun hf' => by rw [hf] at hf'; cases hf'
    sopCount := fun _ => hsc
    sopCountF := fun hf' => by rw [hf] at hf'; cases hf'
    ctorLe := hle
    uafF := by rw [h.uafF, hf]; rfl }

/-- The thread in control starts the second operation and leaves the adaptor. -/
theorem Inv.handover (h : Inv v) (hh : v.holder = some t) (ha : v.armed = false) (hts : v.ts ≠ none)
    (hsop : v.sop = true) (hbt : b' t = false) (hbo : ∀ u, u ≠ t → b' u = v.busy u) :
    Inv { v with busy := b', holder := none, armed := true, uaf := v.uaf || v.freed } := by
  have ho := h.others (.inl hh)
  have hd := h.holderDeliv t hh
  have hp : v.pred ≠ none := fun hp => by rw [(h.predNone hp).1] at hh; cases hh
  have hs2 : v.sig2 = none := Decidable.byContradiction fun hs => by rw [h.sig2Armed hs] at ha; cases ha
  exact { h with
    busyHolder := holder_of_others ho hbo fun hb => absurd (hbt.symm.trans hb) Bool.false_ne_true
    holderBusy := nofun
    holderDeliv := nofun
    predNone := fun hp' => absurd hp' hp
    armedWait := fun _ _ => ⟨rfl, hd⟩
    sig2Armed := fun _ => rfl
    progress := fun _ => .inr (.inr (.inl ⟨rfl, hs2⟩))
    predNoneO := fun hp' => absurd hp' hp
    armedO := fun _ _ => ⟨hts, hsop⟩
    uafF := by rw [h.uafF, h.not_freed hd]; rfl }

/-- The downstream completion; afterwards every thread is outside the adaptor.  The state is as with an
    owner-destroyed operation state: a self-deleting receiver goes on with `destroy`. -/
theorem Inv.complete (h : Inv v) (hd : v.delivered = 0)
    (hp : v.pred ≠ none) (hw : v.armed = true → s2' ≠ none) (hsa : s2' ≠ none → v.armed = true)
    (hb : ∀ u, b' u = false) :
    Inv { v with selfdel := false, busy := b', sig2 := s2', holder := none, delivered := v.delivered + 1,
                 result := res, uaf := v.uaf || v.freed } := by
  have hf := h.not_freed hd
  have h1 : v.delivered + 1 ≠ 0 := by omega
  exact { h with
    busyHolder := fun u hu => absurd ((hb u).symm.trans hu) Bool.false_ne_true
    holderBusy := nofun
    delivLe := by dsimp only; omega
    holderDeliv := nofun
    predNone := fun hp' => absurd hp' hp
    armedWait := fun ha hs => absurd hs (hw ha)
    sig2Armed := hsa
    progress := fun _ => .inl (by dsimp only; omega)
    resNone := fun hd' => absurd hd' h1
    predNoneO := fun hp' => absurd hp' hp
    armedO := fun ha hs => absurd hs (hw ha)
    freedDeliv := fun hf' => by rw [hf] at hf'; cases hf'
    selfFreed := nofun
    uafF := by rw [h.uafF, hf]; rfl }

/-- The operation state is destroyed after the completion: by its owner, or by a self-deleting receiver
    inside the completion call. -/
theorem Inv.destroy (h : Inv { v with selfdel := sd }) (hd : v.delivered = 1) (hf : v.freed = false)
    (sop' : Bool) :
    Inv { v with freed := true, nfree := v.nfree + 1, tsDtor := v.tsDtor + b2n v.ts.isSome, ts := none,
                 sopDtor := v.sopDtor + b2n v.sop, sop := sop' } :=
  have h01 : v.delivered ≠ 0 := by omega
  { h with
    predNoneO := fun hp => absurd (h.predNone hp).2.1 h01
    armedO := fun ha hs => absurd (h.armedWait ha hs).2 h01
    freedDeliv := fun _ => hd
    selfFreed := fun _ _ => rfl
    nfreeEq := by have := h.nfreeEq; dsimp only at this ⊢; rw [this, hf]; rfl
    tsCount := nofun
    tsCountF := fun _ => ⟨h.tsCount hf, rfl⟩
    sopCount := nofun
    sopCountF := fun _ => h.sopCount hf }

/-- With an owner-destroyed operation state nothing more is claimed. -/
theorem Inv.owner (h : Inv { v with selfdel := false }) (hs : v.selfdel = false) : Inv v := by
  have : v = { v with selfdel := false } := by rw [← hs]
  rw [this]; exact h

/-- The downstream completion as the models make it: a self-deleting receiver destroys the operation state
    inside the call (`sop'`: what the freed memory reads as). -/
theorem Inv.deliver (h : Inv v) (hd : v.delivered = 0) (hp : v.pred ≠ none) (hw : v.armed = true → s2' ≠ none)
    (hsa : s2' ≠ none → v.armed = true) (hb : ∀ u, b' u = false) (sop' : Bool) {v1 : View}
    (h1 : v1 = { v with busy := b', sig2 := s2', holder := none, delivered := v.delivered + 1, result := res,
                        uaf := v.uaf || v.freed }) :
    (v.selfdel = true → Inv { v1 with freed := true, nfree := v1.nfree + 1, tsDtor := v1.tsDtor + b2n v1.ts.isSome,
                                      ts := none, sopDtor := v1.sopDtor + b2n v1.sop, sop := sop' }) ∧
    (v.selfdel = false → Inv v1) := by
  have c1 : Inv { v1 with selfdel := false } := by subst h1; exact h.complete (res := res) hd hp hw hsa hb
  have d1 : v1.delivered = 1 := by subst h1; show v.delivered + 1 = 1; omega
  have f1 : v1.freed = false := by subst h1; exact h.not_freed hd
  exact ⟨fun _ => Inv.destroy (v := v1) c1 d1 f1 sop', fun hs => Inv.owner (v := v1) c1 (by subst h1; exact hs)⟩

end PikaVerif.OpLife
