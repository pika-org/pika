import PikaVerif.Model.Erase
/-! What holds of `exec` in every configuration and state: an operation leaves the slots it does
    not write to alone (`exec_frame`); a wrapper construction that throws leaves the slot alone
    (`store_perr`).  Before them, the event counters `ctorsOf` / `dtorsOf` of the ledger theorems. -/
namespace PikaVerif.Erase

/-- number of construction events (`C`, `K`, `M`) of object `id` in an event list -/
def ctorsOf (id : Nat) : List LEv → Nat
  | [] => 0
  | .C i _ :: l => (if i = id then 1 else 0) + ctorsOf id l
  | .K i _ :: l => (if i = id then 1 else 0) + ctorsOf id l
  | .M i _ :: l => (if i = id then 1 else 0) + ctorsOf id l
  | _ :: l => ctorsOf id l

/-- number of destruction events of object `id` -/
def dtorsOf (id : Nat) : List LEv → Nat
  | [] => 0
  | .D i :: l => (if i = id then 1 else 0) + dtorsOf id l
  | _ :: l => dtorsOf id l

theorem ctorsOf_append (id : Nat) (l₁ l₂ : List LEv) :
    ctorsOf id (l₁ ++ l₂) = ctorsOf id l₁ + ctorsOf id l₂ := by
  induction l₁ with
  | nil => simp [ctorsOf]
  | cons e l ih => cases e <;> simp [ctorsOf, ih] <;> omega

theorem dtorsOf_append (id : Nat) (l₁ l₂ : List LEv) :
    dtorsOf id (l₁ ++ l₂) = dtorsOf id l₁ + dtorsOf id l₂ := by
  induction l₁ with
  | nil => simp [dtorsOf]
  | cons e l ih => cases e <;> simp [dtorsOf, ih] <;> omega

theorem ctorsOf_inEv (id : Nat) (cp : Bool) (b a : Nat) (l : List LEv) :
    ctorsOf id (inEv cp b a :: l) = (if b = id then 1 else 0) + ctorsOf id l := by
  cases cp <;> rfl

theorem dtorsOf_inEv (id : Nat) (cp : Bool) (b a : Nat) (l : List LEv) :
    dtorsOf id (inEv cp b a :: l) = dtorsOf id l := by
  cases cp <;> rfl

theorem ctorsOf_dEv (id : Nat) (o : Option Obj) : ctorsOf id (dEv o) = 0 := by
  cases o <;> rfl

theorem dieO_dtor (s : St) (o : Option Obj) (id : Nat) : (s.dieO o).dtor id = s.dtor id + dtorsOf id (dEv o) := by
  cases o with
  | none => rfl
  | some x => simp only [St.dieO, St.die, upd, dEv, dtorsOf]; split <;> split <;> simp_all <;> omega

@[simp] theorem dieO_ctor (s : St) (o : Option Obj) : (s.dieO o).ctor = s.ctor := by cases o <;> rfl
@[simp] theorem ownO_ctor (s : St) (o : Option Obj) (i : Nat) : (s.ownO o i).ctor = s.ctor := by cases o <;> rfl
@[simp] theorem ownO_dtor (s : St) (o : Option Obj) (i : Nat) : (s.ownO o i).dtor = s.dtor := by cases o <;> rfl
@[simp] theorem dieO_next (s : St) (o : Option Obj) : (s.dieO o).next = s.next := by cases o <;> rfl

@[local simp] theorem dieO_slot (s : St) (o : Option Obj) : (s.dieO o).slot = s.slot := by cases o <;> rfl
@[local simp] theorem ownO_slot (s : St) (o : Option Obj) (i : Nat) : (s.ownO o i).slot = s.slot := by cases o <;> rfl

def Op.writes : Op → List Nat
  | .new i | .newp i _ _ _ | .del i | .set i _ _ _ | .reset i | .copy i _ | .cctor i _ | .run i => [i]
  | .move i j | .mctor i j | .swap i j => [i, j]
  | .empty _ | .call _ _ | .runc _ | .arm _ => []

theorem store_frame (c : Cfg) (s : St) (i : Nat) (ty : PTy) (v : Int) (cp fresh : Bool) {k : Nat} (hk : k ≠ i) :
    (execStore c s i ty v cp fresh).st.slot k = s.slot k := by
  simp only [execStore, inval]
  repeat' split
  all_goals simp [St.put, St.own, St.tick, St.born, St.die, upd, hk]

/-- No invariant is needed, so this holds in every configuration and state. -/
theorem exec_frame (c : Cfg) (s : St) (op : Op) {k : Nat} (hk : k ∉ op.writes) :
    (exec c s op).st.slot k = s.slot k := by
  cases op
  case newp => exact store_frame (hk := by simpa [Op.writes] using hk) ..
  case set => exact store_frame (hk := by simpa [Op.writes] using hk) ..
  all_goals
    simp only [exec, inval]
    repeat' split
  all_goals
    simp only [Op.writes, List.mem_cons, List.not_mem_nil, or_false, not_or] at hk
    simp [St.put, St.own, St.tick, St.born, St.die, St.leak, upd, hk]

/-- a slot that no operation of the history writes is as it was -/
theorem finalSt_frame (c : Cfg) {k : Nat} : ∀ (ops : List Op) (s : St), (∀ op ∈ ops, k ∉ op.writes) →
    (finalSt c s ops).slot k = s.slot k
  | [], _, _ => rfl
  | op :: ops, s, h =>
    (finalSt_frame c ops (exec c s op).st fun o ho => h o (List.mem_cons_of_mem _ ho)).trans
      (exec_frame c s op (h op (List.mem_cons_self ..)))

theorem store_perr {c : Cfg} {s : St} {i : Nat} {ty : PTy} {v w : Int} {cp : Bool}
    (h : (execStore c s i ty v cp true).res = .perr w) :
    (execStore c s i ty v cp true).st.slot i = s.slot i ∧ (s.slot i).live = false := by
  simp only [execStore, Bool.true_eq_false, and_false, if_false, if_true] at h ⊢
  by_cases hG : i < c.n ∧ (s.slot i).live = !true ∧ admits (c.kind i) ty cp = true
  · rw [if_pos hG] at h ⊢
    by_cases hU : (c.kind i).isFn ∧ (s.slot i).vptr = some ty ∧ (s.slot i).obj = none
    · rw [if_pos hU] at h; cases h
    · rw [if_neg hU] at h ⊢
      by_cases ha : s.arm = 1
      · rw [if_pos ha]
        exact ⟨by simp [St.put, St.die, St.tick, upd], hG.2.1⟩
      · rw [if_neg ha] at h
        (repeat' split at h) <;> cases h
  · rw [if_neg hG] at h; cases h

end PikaVerif.Erase
