import PikaVerif.Lemmas.CVInvResults
/-!
# The holder of the internal lock is never blocked (C07t)

The termination bounds of `Props/C07t.lean` are bounds modulo spinning on the internal lock.  A
spinning episode lasts only while another thread holds the lock; this file shows that the holder
always has an event of its own (`holder_step`, which the progress theorem of `Lemmas/CVWaits.lean` reads
too) and, running alone, releases the lock within `|queue| + 4` of its own events (`|queue|` only for the
pop loop of `notify_all` / the stop callback).
-/
namespace PikaVerif.CV

/-- number of own events after which the holder has released the internal lock -/
def hm (c : Op) (q : Nat) : Pc → Nat
  | .locked => 3
  | .released => 2
  | .enq _ => 1
  | .sChk1 => 4
  | .sStopped => 1
  | .relk _ _ => 3
  | .post _ => 2
  | .postS _ => 1
  | .nDone => 1
  | .nLocked => if c = .notify true then q + 2 else 2
  | .nAll => q + 1
  | .cLocked _ => q + 2
  | .cAll _ => q + 1
  | _ => 0

/-- Running alone, `r` can release the internal lock within `k` of its own events. -/
def HoldRel (s : St) (r k : Nat) : Prop :=
  ∃ log s', log.length ≤ k ∧ (∀ e, e ∈ log → actor e = r) ∧ runLog step s log = some s' ∧ s'.lock = none

theorem holdRel_mono (s : St) (r k k' : Nat) (hk : k ≤ k') (h : HoldRel s r k) : HoldRel s r k' := by
  obtain ⟨log, s', h1, h2, h3, h4⟩ := h
  exact ⟨log, s', by omega, h2, h3, h4⟩

theorem setPopped_of_linked {p : Pc} (h1 : inQ p = true) (h2 : holds p = false) : ∃ p', setPopped p = some p' := by
  cases p <;> simp [inQ, holds] at h1 h2 <;> simp [setPopped, h1]

/-- The holder of the internal lock can always take a step of its own, which is neither the start
    of an operation nor the end of its program, and with which it releases the lock or gets closer
    (`hm`) to releasing it. -/
theorem holder_step {s : St} {r : Nat} (hA : Inv s) (hB : Inv2 s) (hl : s.lock = some r) :
    ∃ e s1, step s e = some s1 ∧ actor e = r ∧ (∀ t o, e ≠ .inv t o) ∧ (∀ t, e ≠ .done t) ∧
      0 < hm (s.curOp r) s.queue.length (s.pc r) ∧
      (s1.lock = none ∨ (s1.lock = some r ∧
        hm (s1.curOp r) s1.queue.length (s1.pc r) + 1 ≤ hm (s.curOp r) s.queue.length (s.pc r))) := by
  obtain ⟨hh, hrn⟩ := hA.lockConv r hl
  have hop := hB.opOk r
  -- the front entry of the queue can be popped: it is linked, and not the holder's
  have pop : ∀ {g rest}, inQ (s.pc r) = false → s.queue = g :: rest →
      s.queue.head? = some g ∧ rest.length = s.queue.tail.length ∧ (setPopped (s.pc g)).isSome = true ∧
        decide (s.pc g = .slp false) = decide (s.pc g = .slp false) := fun {g rest} hnq hq => by
    obtain ⟨hin, hh, _, _⟩ := hA.core.front rfl hl hnq hq
    obtain ⟨p', hp'⟩ := setPopped_of_linked hin hh
    exact ⟨by rw [hq]; rfl, by rw [hq]; rfl, by rw [hp']; rfl, rfl⟩
  -- each case names the line of the text the holder is at, as an accepted `Step`
  cases hp : s.pc r <;> rw [hp] at hh hop <;> try cases hh
  case locked =>
    exact ⟨_, _, (Loc.ulRelW).step hrn hp (hA.uHolder r (by rw [hp]; rfl)), rfl, nofun, nofun,
      Nat.succ_pos _, .inr ⟨hl, by simp [upd, hm, actor]⟩⟩
  case released =>
    exact ⟨_, _, (Loc.enq).step hrn hp ⟨hl, rfl, rfl⟩, rfl, nofun, nofun, Nat.succ_pos _,
      .inr ⟨hl, by simp [upd, hm, actor]⟩⟩
  case enq tm => exact ⟨_, _, (Loc.relE).step hrn hp hl, rfl, nofun, nofun, Nat.succ_pos _, .inl rfl⟩
  case relk tm q =>
    cases q
    · exact ⟨_, _, (Loc.wokeK (still := true)).step hrn hp hl, rfl, nofun, nofun,
        Nat.succ_pos _, .inr ⟨hl, by simp [upd, hm, actor]⟩⟩
    · exact ⟨_, _, (Loc.wokeK (still := false)).step hrn hp hl, rfl, nofun, nofun,
        Nat.succ_pos _, .inr ⟨hl, by simp [upd, hm, actor]⟩⟩
  case post b =>
    cases hst : (isStop (s.curOp r) && isTimed (s.curOp r)) with
    | false =>
      exact ⟨_, _, (Loc.relP hst).step hrn hp hl, rfl, nofun, nofun, Nat.succ_pos _, .inl rfl⟩
    | true =>
      have hc : s.curOp r = .swait true := by
        cases hc : s.curOp r <;> simp [hc, isStop, isTimed] at hst ⊢
        exact hst
      exact ⟨_, _, (Loc.stop2).step hrn hp ⟨hl, hc⟩, rfl, nofun, nofun, Nat.succ_pos _,
        .inr ⟨hl, by simp [upd, hm, actor]⟩⟩
  case postS b => exact ⟨_, _, (Loc.relS).step hrn hp hl, rfl, nofun, nofun, Nat.succ_pos _, .inl rfl⟩
  case nDone => exact ⟨_, _, (Loc.relD).step hrn hp hl, rfl, nofun, nofun, Nat.succ_pos _, .inl rfl⟩
  case sStopped => exact ⟨_, _, (Loc.relX).step hrn hp hl, rfl, nofun, nofun, Nat.succ_pos _, .inl rfl⟩
  case sChk1 =>
    exact ⟨_, _, (Loc.stop1).step hrn hp ⟨hl, rfl⟩, rfl, nofun, nofun, Nat.succ_pos _,
      .inr ⟨hl, by cases hsr : s.stopReq <;> simp [upd, hm, actor]⟩⟩
  case cLocked k =>
    exact ⟨_, _, (Loc.allC).step hrn hp ⟨hl, rfl⟩, rfl, nofun, nofun, by simp [hm],
      .inr ⟨hl, by simp [upd, hm, actor, write]⟩⟩
  case nLocked =>
    cases hc : s.curOp r <;> simp [hc, pcOpOk, isNotify] at hop
    rename_i all
    cases all with
    | true =>
      exact ⟨_, _, (Loc.all hc).step hrn hp ⟨hl, rfl⟩, rfl, nofun, nofun, by simp [hm],
        .inr ⟨hl, by simp [upd, hm, actor, write]⟩⟩
    | false =>
      cases hq : s.queue with
      | nil =>
        exact ⟨_, _, (Loc.none).step hrn hp ⟨hl, hq, hc⟩, rfl, nofun, nofun, by simp [hm],
          .inr ⟨hl, by simp [upd, hm, actor]⟩⟩
      | cons g rest =>
        exact ⟨_, _, (Loc.pop1).step hrn hp ⟨hl, hc, pop (by rw [hp]; rfl) hq⟩, rfl, nofun, nofun,
          by simp [hm], .inr ⟨hl, by simp [upd, hm, actor]⟩⟩
  case nAll =>
    cases hq : s.queue with
    | nil => exact ⟨_, _, (Loc.relN hq).step hrn hp hl, rfl, nofun, nofun, by simp [hm], .inl rfl⟩
    | cons g rest =>
      exact ⟨_, _, (Loc.popA).step hrn hp ⟨hl, pop (by rw [hp]; rfl) hq⟩, rfl, nofun, nofun,
        by simp [hm], .inr ⟨hl, by simp [write, upd, hm, actor, hq]⟩⟩
  case cAll k =>
    cases hq : s.queue with
    | nil => exact ⟨_, _, (Loc.relC hq).step hrn hp hl, rfl, nofun, nofun, by simp [hm], .inl rfl⟩
    | cons g rest =>
      exact ⟨_, _, (Loc.popC).step hrn hp ⟨hl, pop (by rw [hp]; rfl) hq⟩, rfl, nofun, nofun,
        by simp [hm], .inr ⟨hl, by simp [write, upd, hm, actor, hq]⟩⟩

/-- **The holder of the internal lock releases it within `hm` of its own events.** -/
theorem holder_releases {s : St} {r : Nat} (hA : Inv s) (hB : Inv2 s) (hl : s.lock = some r) :
    HoldRel s r (hm (s.curOp r) s.queue.length (s.pc r)) := by
  -- `holder_step` says nothing of `hm` after the release: nothing is owed then
  obtain ⟨log, hlen, hq, s', hrun, _, hl'⟩ := SoloRun.of_measure (step := step) (Q := (actor · = r))
    (fun s => Inv s ∧ Inv2 s ∧ (s.lock = none ∨ s.lock = some r)) (·.lock = none)
    (fun s => if s.lock = none then 0 else hm (s.curOp r) s.queue.length (s.pc r))
    (fun s ⟨hA, hB, hl⟩ hn => by
      have hl := hl.resolve_left hn
      obtain ⟨e, s1, hst, ha, _, _, hpos, h⟩ := holder_step hA hB hl
      refine ⟨e, s1, ha, hst, ⟨step_inv s s1 e hA hst, step_inv2 s s1 e hA hB hst, h.imp_right (·.1)⟩, ?_⟩
      rcases h with h | ⟨h, hlt⟩ <;> simp only [hl, h] <;> simp <;> omega) ⟨hA, hB, .inr hl⟩
  exact ⟨log, s', by simpa [hl] using hlen, hq, hrun, hl'⟩

theorem hm_le (c : Op) (q : Nat) (p : Pc) : hm c q p ≤ q + 4 := by
  cases p <;> simp [hm] <;> (try split) <;> omega

end PikaVerif.CV
