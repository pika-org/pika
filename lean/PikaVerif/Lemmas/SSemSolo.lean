import PikaVerif.Lemmas.SSemProg
/-!
# Solo continuations of the sliding semaphore: one `signal(l)` call wakes every queued waiter (C08t)

`sigSolo r l lower q` is the exact event sequence the signaller `r` produces when it runs alone from
the start of `signal(l)` (lock free, stored lower limit `lower`, wait queue `q` of parked waiters);
`waitSoloPass g u lower` / `waitSoloBlock g u qlen` are the sequences a woken waiter of `wait(u)`
produces when it then runs alone: it re-checks its condition under the lock and either returns
(`u - maxDiff ≤ lower`) or queues itself again and parks.
-/
namespace PikaVerif.SSem

/-- the notify loop of `signal`, entered at iteration `i` of `n` with the lock held -/
def popLoop (r : Nat) : Nat → Nat → List Nat → List Ev
  | _, _, [] => [.cvNone r, .slRel r]
  | i, n, g :: rest =>
    .popResume r rest.length g :: .slRel r ::
      (if rest = [] then [] else .slAcq r :: (if i + 1 < n then popLoop r (i + 1) n rest else [.slRel r]))

theorem popLoop_length (r n : Nat) : ∀ (q : List Nat) (i : Nat), i < n →
    (popLoop r i n q).length ≤ 3 * min (n - i) q.length + 2 := by
  intro q
  induction q with
  | nil => intro i _; simp [popLoop]
  | cons g rest ih =>
    intro i hik
    have h1 := ih (i + 1)
    have h2 : rest ≠ [] → 0 < rest.length := List.length_pos_iff.2
    simp only [popLoop]
    split
    · simp
    · split <;> simp <;> omega

/-- the state after the notify loop has popped the first `m` entries of `q` -/
def afterLoop (s : St) (r m : Nat) (q : List Nat) : St :=
  { s with lock := none, queue := q.drop m,
           tok := fun t => if t ∈ q.take m then s.tok t + 1 else s.tok t,
           pc := fun t => if t = r then .retn false
                          else if t ∈ q.take m then (setPopped (s.pc t)).getD (s.pc t) else s.pc t }

/-- **The notify loop.**  Entered at iteration `i < n` with the queue `q` of parked waiters, the
    signaller running alone pops and resumes the first `min (n - i) |q|` of them (each keeps its own
    upper limit), leaves the others queued and untouched, and ends with the lock released, about to
    return. -/
theorem popLoop_run (r n : Nat) : ∀ (q : List Nat) (i : Nat) (s : St),
    s.lock = some r → r < s.n → s.pc r = .sigL i n → i < n → s.queue = q →
    (∀ g, g ∈ q → ∃ u, s.pc g = .susp u false) → q.Nodup →
    runLog step s (popLoop r i n q) = some (afterLoop s r (n - i) q) := by
  intro q
  induction q with
  | nil =>
    intro i s hl hr hp hik hq _ _
    simp [popLoop, runLog, step, hl, hr, hp, hq, afterLoop]
    rfl
  | cons g rest ih =>
    intro i s hl hr hp hik hq hpark hnd
    obtain ⟨u0, hgs⟩ := hpark g (by simp)
    have hgr : g ≠ r := fun he => by rw [he, hp] at hgs; cases hgs
    have hnd' : g ∉ rest ∧ rest.Nodup := by simpa using hnd
    have hki : n - i = (n - (i + 1)) + 1 := by omega
    have hrr : r ∉ rest := fun h => by obtain ⟨u, hu⟩ := hpark r (by simp [h]); rw [hp] at hu; cases hu
    by_cases hrest : rest = []
    · subst hrest
      simp [popLoop, runLog, step, hl, hr, hp, hq, hgs, setPopped, afterLoop, hki]
      constructor <;> funext t <;> simp only [upd] <;> grind
    · by_cases hk : i + 1 < n
      · simp only [popLoop, hrest, hk, if_false, if_true, runLog]
        simp [step, hl, hr, hp, hq, hgs, setPopped, hrest, hk]
        refine (ih (i + 1) _ ?_ ?_ ?_ hk ?_ (fun g' hg' => ?_) hnd'.2).trans ?_
        · rfl
        · exact hr
        · exact upd_same ..
        · rfl
        · have h1 : g' ≠ r := fun h => hrr (h ▸ hg')
          have h2 : g' ≠ g := fun h => hnd'.1 (h ▸ hg')
          simpa [upd, h1, h2] using hpark g' (by simp [hg'])
        simp [afterLoop, hki]
        constructor <;> funext t <;> simp only [upd] <;> grind [setPopped]
      · have hk1 : n - i = 1 := by omega
        simp [popLoop, hrest, hk, runLog, step, hl, hr, hp, hq, hgs, setPopped, afterLoop, hk1]
        constructor <;> funext t <;> simp only [upd] <;> grind

/-- the complete solo run of `signal(l)` by thread `r` from the start of the call, with stored
    lower limit `lower` and wait queue `q` -/
def sigSolo (r : Nat) (l lower : Int) (q : List Nat) : List Ev :=
  .slAcq r :: .sig r (max l lower) q.length :: ((if 0 < q.length then popLoop r 0 q.length q else [.slRel r]) ++ [.ret r false])

theorem sigSolo_length (r : Nat) (l lower : Int) (q : List Nat) :
    (sigSolo r l lower q).length ≤ 3 * q.length + 5 := by
  simp only [sigSolo, List.length_cons, List.length_append, List.length_nil]
  by_cases hk : 0 < q.length
  · simp only [hk, if_true]
    have := popLoop_length r q.length q 0 hk
    simp only [Nat.sub_zero, Nat.min_self] at this
    omega
  · simp only [hk, if_false, List.length_cons, List.length_nil]; omega

/-- **One `signal(l)` call, run alone, raises the lower limit and wakes every parked waiter.** -/
theorem sigSolo_spec (r : Nat) (l : Int) (s : St) (hl : s.lock = none) (hr : r < s.n)
    (hp : s.pc r = .want (.signal l)) (hpark : ∀ g, g ∈ s.queue → ∃ u, s.pc g = .susp u false)
    (hnd : s.queue.Nodup) :
    ∃ s', runLog step s (sigSolo r l s.lower s.queue) = some s' ∧ s'.lock = none ∧ s'.pc r = .idle ∧
      s'.lower = max l s.lower ∧ s'.maxDiff = s.maxDiff ∧ s'.n = s.n ∧ s'.queue = [] ∧
      (∀ g u, g ∈ s.queue → s.pc g = .susp u false → s'.pc g = .susp u true ∧ s'.tok g = s.tok g + 1) ∧
      (∀ t, t ≠ r → t ∉ s.queue → s'.pc t = s.pc t ∧ s'.tok t = s.tok t) := by
  have hrq : ∀ g, g ∈ s.queue → g ≠ r := by
    intro g hg he; obtain ⟨u, hu⟩ := hpark g hg; rw [he, hp] at hu; simp at hu
  by_cases hk : 0 < s.queue.length
  · let S2 : St := { s with lock := some r, lower := max l s.lower, pc := upd (upd s.pc r (.lockedSig l)) r (.sigL 0 s.queue.length) }
    have hpre : runLog step s [.slAcq r, .sig r (max l s.lower) s.queue.length] = some S2 := by
      simp [runLog, step, hl, hr, hp, hk, S2]
    have hloop := popLoop_run r s.queue.length s.queue 0 S2 rfl hr (upd_same ..) hk rfl
      (fun g hg => by obtain ⟨u, hu⟩ := hpark g hg; exact ⟨u, by simpa [S2, upd, hrq g hg] using hu⟩) hnd
    refine ⟨{ afterLoop S2 r s.queue.length s.queue with
              pc := upd (afterLoop S2 r s.queue.length s.queue).pc r .idle }, ?_, ?_⟩
    · have : sigSolo r l s.lower s.queue =
          [.slAcq r, .sig r (max l s.lower) s.queue.length] ++ (popLoop r 0 s.queue.length s.queue ++ [.ret r false]) := by
        simp [sigSolo, hk]
      rw [this, runLog_append, hpre, Option.bind_some, runLog_append, hloop]
      simp [runLog, step, afterLoop, hr, S2]
    · refine ⟨rfl, by simp, rfl, rfl, rfl, by simp [afterLoop], ?_, ?_⟩
      · intro g u hg hu; simp [afterLoop, S2, upd, hg, hrq g hg, hu, setPopped]
      · intro t htr hnot; simp [afterLoop, S2, upd, htr, hnot]
  · have hq : s.queue = [] := by
      cases hqq : s.queue with
      | nil => rfl
      | cons a b => rw [hqq] at hk; simp at hk
    refine ⟨{ s with lower := max l s.lower, pc := upd s.pc r .idle }, ?_, ?_⟩
    · simp [sigSolo, runLog, step, hl, hr, hp, hq]
    · simp [upd, hq, hl]
      intro t htr h; exact absurd h htr

/-- the solo run of a woken waiter `g` of `wait(u)` whose condition now holds, up to its return -/
def waitSoloPass (g : Nat) (u lower : Int) : List Ev :=
  [.woke g, .slAcq g, .cvWoke g false, .pass g u lower, .slRel g, .ret g true]

/-- the solo run of a woken waiter `g` whose condition still fails: it queues itself again
    (`qlen` = current queue length) and parks -/
def waitSoloBlock (g : Nat) (_u : Int) (qlen : Nat) : List Ev :=
  [.woke g, .slAcq g, .cvWoke g false, .cvEnq g (qlen + 1), .slRel g, .suspend g]

theorem waitSoloPass_length (g : Nat) (u lower : Int) : (waitSoloPass g u lower).length = 6 := rfl
theorem waitSoloBlock_length (g : Nat) (u : Int) (qlen : Nat) : (waitSoloBlock g u qlen).length = 6 := rfl

theorem waitSoloPass_run (g : Nat) (u : Int) (s : St) (hl : s.lock = none) (hg : g < s.n)
    (hp : s.pc g = .susp u true) (ht : 0 < s.tok g) (hs : sat s u = true) :
    runLog step s (waitSoloPass g u s.lower) =
      some { s with lock := none, tok := upd s.tok g (s.tok g - 1), pc := upd s.pc g .idle } := by
  have hs' : u - s.maxDiff ≤ s.lower := by simpa [sat] using hs
  simp [waitSoloPass, runLog, step, hl, hg, hp, ht, sat, hs']

theorem waitSoloBlock_run (g : Nat) (u : Int) (s : St) (hl : s.lock = none) (hg : g < s.n)
    (hp : s.pc g = .susp u true) (ht : 0 < s.tok g) (hs : sat s u = false) :
    runLog step s (waitSoloBlock g u s.queue.length) =
      some { s with lock := none, queue := s.queue ++ [g], tok := upd s.tok g (s.tok g - 1),
                    pc := upd s.pc g (.susp u false) } := by
  have hs' : ¬ (u - s.maxDiff ≤ s.lower) := by simpa [sat] using hs
  simp [waitSoloBlock, runLog, step, hl, hg, hp, ht, sat, hs']

/-- the woken waiters `(g, u)` run to completion one after the other, all satisfied -/
def passAll : List (Nat × Int) → Int → List Ev
  | [], _ => []
  | p :: l, lower => waitSoloPass p.1 p.2 lower ++ passAll l lower

theorem passAll_length : ∀ (l : List (Nat × Int)) (lower : Int), (passAll l lower).length = 6 * l.length
  | [], _ => rfl
  | p :: l, lower => by simp [passAll, waitSoloPass, passAll_length l lower]; omega

/-- the state after the waiters in `l`, each woken, owning a token and satisfied, have returned -/
def afterPass (s : St) (l : List (Nat × Int)) : St :=
  { s with tok := fun t => if t ∈ l.map Prod.fst then s.tok t - 1 else s.tok t,
           pc := fun t => if t ∈ l.map Prod.fst then .idle else s.pc t }

theorem passAll_run : ∀ (l : List (Nat × Int)) (s : St), s.lock = none →
    (∀ p, p ∈ l → p.1 < s.n ∧ s.pc p.1 = .susp p.2 true ∧ 0 < s.tok p.1 ∧ sat s p.2 = true) →
    (l.map Prod.fst).Nodup → runLog step s (passAll l s.lower) = some (afterPass s l) := by
  intro l
  induction l with
  | nil => intro s hl _ _; simp [passAll, afterPass]
  | cons p l ih =>
    intro s hl hw hnd
    have hnd' : p.1 ∉ l.map Prod.fst ∧ (l.map Prod.fst).Nodup := by simpa using hnd
    obtain ⟨w1, w2, w3, w4⟩ := hw p (by simp)
    have w4' : p.2 - s.maxDiff ≤ s.lower := by simpa [sat] using w4
    rw [passAll, runLog_append]
    simp [waitSoloPass, runLog, step, hl, w1, w2, w3, sat, w4']
    refine (ih _ ?_ (fun p' hp' => ?_) hnd'.2).trans ?_
    · rfl
    · have hne : p'.1 ≠ p.1 := fun he => hnd'.1 (he ▸ List.mem_map_of_mem (f := Prod.fst) hp')
      simpa [upd, hne, sat] using hw p' (by simp [hp'])
    · simp [afterPass]
      refine ⟨hl.symm, ?_, ?_⟩ <;> funext t <;> simp only [upd] <;> grind

/-- the wait queue with the upper limit each queued waiter asked for -/
def qU (s : St) : List (Nat × Int) := s.queue.map (fun g => (g, (ubound (s.pc g)).getD 0))

theorem qU_fst (s : St) : (qU s).map Prod.fst = s.queue := by
  simp [qU, List.map_map, Function.comp_def]

theorem qU_length (s : St) : (qU s).length = s.queue.length := by simp [qU]

theorem mem_qU (s : St) (p : Nat × Int) (h : p ∈ qU s) (u : Int) (b : Bool) (hp : s.pc p.1 = .susp u b) :
    p.1 ∈ s.queue ∧ p.2 = u := by
  simp only [qU, List.mem_map] at h
  obtain ⟨g, hg, he⟩ := h
  subst he
  simp only at hp
  exact ⟨hg, by simp [hp, ubound]⟩

theorem mem_qU_queue (s : St) (p : Nat × Int) (h : p ∈ qU s) : p.1 ∈ s.queue := by
  simp only [qU, List.mem_map] at h
  obtain ⟨g, hg, he⟩ := h
  subst he
  exact hg

end PikaVerif.SSem
