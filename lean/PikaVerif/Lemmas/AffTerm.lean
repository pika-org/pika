import PikaVerif.Lemmas.AffBalanced
/-! C15: termination of the scatter / balanced loop nests.

The counting argument: in the `next_pu_index` loops the number of threads placed so far equals
the number of usable PUs lying *below* the `next_pu_index` of their core.  A pass of the outer
`for (;;)` that places nothing has pushed every `next_pu_index` to the end of its core, so the
threads placed equal **all** usable PUs the loop can see (`total`).  Hence:
* `goal ≤ total`  ⇒ every pass places a thread, the loop returns after at most `goal` passes
  (the fuel `goal + 1` of the model is never exhausted);
* `total < goal`  ⇒ the loop can never place the `goal`-th thread: it does not return.
The counting invariant is generic in the mask test `inm core pu`, the per-core scan limit `ncp core`
and the number of cores; it is applied to the first phase of balanced at an offset, which covers
balanced and the per-socket loops of numa-balanced (whose scan limit lacks the `core_offset`).  The
scatter loop nest is that first phase (offset 0, goal `n`) plus the assignments (`scatterLoop_rel`), so
it returns on the same inputs. -/
namespace PikaVerif.Aff

/-- usable PUs the loop nest can ever reach: per core, the PUs below the scan limit that pass
    the mask test -/
def total (inm : Nat → Nat → Bool) (ncp : Nat → Nat) (ncores : Nat) : Nat :=
  sumTo ncores (fun c => cntB (inm c) (ncp c))

/-- the counting invariant: `k` threads placed = usable PUs below the `next_pu_index`es -/
structure TBase (inm : Nat → Nat → Bool) (ncp : Nat → Nat) (ncores k : Nat) (nxt : Nat → Nat) :
    Prop where
  le : ∀ c, nxt c ≤ ncp c
  count : k = sumTo ncores (fun c => cntB (inm c) (nxt c))

theorem TBase.le_total {inm ncp ncores k nxt} (h : TBase inm ncp ncores k nxt) :
    k ≤ total inm ncp ncores := by
  rw [h.count]
  exact sumTo_mono (fun c _ => cntB_mono (inm c) (h.le c))

/-- position-dependent part: inside a pass that started with `k0` threads placed, being at
    core `c`; while nothing was placed in this pass every core passed is exhausted -/
structure TPos (ncp : Nat → Nat) (goal k0 c k : Nat) (nxt : Nat → Nat) : Prop where
  lt : k < goal
  mono : k0 ≤ k
  stuck : k = k0 → ∀ c', c' < c → ncp c' ≤ nxt c'

theorem tbase_step {inm : Nat → Nat → Bool} {ncp : Nat → Nat} {ncores k : Nat} {nxt : Nat → Nat}
    {c : Nat} (hc : c < ncores) (h : TBase inm ncp ncores k nxt) :
    TBase inm ncp ncores (k + (if (scanPu (inm c) (ncp c) (nxt c)).2 then 1 else 0))
      (upd nxt c (scanPu (inm c) (ncp c) (nxt c)).1) := by
  have sc := scanPu_ok (inm c) (ncp c) (nxt c)
  refine ⟨?_, ?_⟩
  · intro c'
    have := h.le c'
    have := sc.inside
    simp only [upd]
    grind
  · have e : (fun c' => cntB (inm c') (upd nxt c (scanPu (inm c) (ncp c) (nxt c)).1 c')) =
        upd (fun c' => cntB (inm c') (nxt c')) c (cntB (inm c) (scanPu (inm c) (ncp c) (nxt c)).1) := by
      funext c'
      by_cases hcc : c' = c
      · subst hcc; simp
      · simp [upd, hcc]
    rw [e, sumTo_upd_eq _ (fun x => x) _ _ _ hc, sc.count]
    have l := le_sumTo (f := fun c' => cntB (inm c') (nxt c')) hc
    have := h.count
    omega

theorem tpos_step_none {ncp : Nat → Nat} {goal k0 c k : Nat} {nxt : Nat → Nat} {j : Nat}
    (h : TPos ncp goal k0 c k nxt) (hj : ncp c ≤ j) : TPos ncp goal k0 (c + 1) k (upd nxt c j) := by
  refine ⟨h.lt, h.mono, fun hk c' hc' => ?_⟩
  have := h.stuck hk c'
  simp only [upd]
  grind

theorem tpos_step_some {ncp : Nat → Nat} {goal k0 c k : Nat} {nxt : Nat → Nat} {j : Nat}
    (h : TPos ncp goal k0 c k nxt) (hg : k + 1 ≠ goal) :
    TPos ncp goal k0 (c + 1) (k + 1) (upd nxt c j) := by
  have := h.lt
  have := h.mono
  exact ⟨by omega, by omega, fun hk => by omega⟩

/-- a pass that ran through all cores without placing anything has placed all there is -/
theorem stuck_total {inm : Nat → Nat → Bool} {ncp : Nat → Nat} {ncores goal k0 k : Nat}
    {nxt : Nat → Nat} (hb : TBase inm ncp ncores k nxt) (hp : TPos ncp goal k0 ncores k nxt)
    (hk : k = k0) : k = total inm ncp ncores := by
  rw [hb.count]
  unfold total
  apply sumTo_congr
  intro c hc
  have h1 := hp.stuck hk c hc
  have h2 := hb.le c
  have : nxt c = ncp c := by omega
  rw [this]

/-! ## balanced, first phase (generic in offset / goal / number of cores) -/

def balInm (cfg : Cfg) (off : Nat) : Nat → Nat → Bool := fun c p => inMask cfg (c + off) p
/-- the scan limit of the `next_pu_index` loops (balanced and scatter): `get_number_of_core_pus`
    without any offset -/
def balNcp (cfg : Cfg) : Nat → Nat := fun c => corePus cfg.t c

/-- usable PUs the first phase of balanced (offset 0) / of a numa-balanced socket can reach -/
def balTotal (cfg : Cfg) (off ncores : Nat) : Nat := total (balInm cfg off) (balNcp cfg) ncores

theorem balCore_term (cfg : Cfg) (off goal ncores k0 : Nat) {c : Nat} (hc : c < ncores) (s : BSt)
    (h : TBase (balInm cfg off) (balNcp cfg) ncores s.k s.nxt ∧
      TPos (balNcp cfg) goal k0 c s.k s.nxt) :
    CtlP (fun s => TBase (balInm cfg off) (balNcp cfg) ncores s.k s.nxt ∧
            TPos (balNcp cfg) goal k0 (c + 1) s.k s.nxt)
      (fun s => TBase (balInm cfg off) (balNcp cfg) ncores s.k s.nxt ∧ s.k = goal) False
      (balCore cfg off goal c s) := by
  obtain ⟨hb, hp⟩ := h
  have st := tbase_step hc hb
  have s4 := (scanPu_ok (balInm cfg off c) (balNcp cfg c) (s.nxt c)).none
  unfold balCore
  unfold balInm balNcp at st s4
  generalize scanPu (fun p => inMask cfg (c + off) p) (corePus cfg.t c) (s.nxt c) = r at st s4
  obtain ⟨j, u⟩ := r
  cases u with
  | false =>
    simp only [Bool.not_false, ↓reduceIte, CtlP]
    simp only [Bool.false_eq_true, ↓reduceIte, Nat.add_zero] at st
    exact ⟨st, tpos_step_none hp (s4 rfl)⟩
  | true =>
    simp only [Bool.not_true, Bool.false_eq_true, ↓reduceIte, upd_same]
    simp only [↓reduceIte] at st
    by_cases hn : s.k + 1 = goal
    · simp only [hn, ↓reduceIte, CtlP]
      rw [hn] at st
      exact ⟨st, trivial⟩
    · simp only [hn, ↓reduceIte, CtlP]
      exact ⟨st, tpos_step_some hp hn⟩

theorem balPass_term (cfg : Cfg) (off goal ncores : Nat) (s : BSt)
    (hb : TBase (balInm cfg off) (balNcp cfg) ncores s.k s.nxt) (hk : s.k < goal) :
    CtlP (fun s' => TBase (balInm cfg off) (balNcp cfg) ncores s'.k s'.nxt ∧
            TPos (balNcp cfg) goal s.k ncores s'.k s'.nxt)
      (fun s' => TBase (balInm cfg off) (balNcp cfg) ncores s'.k s'.nxt ∧ s'.k = goal) False
      (balPass cfg off goal ncores s) := by
  unfold balPass
  exact forRange_inv (balCore cfg off goal)
    (fun c s' => TBase (balInm cfg off) (balNcp cfg) ncores s'.k s'.nxt ∧
      TPos (balNcp cfg) goal s.k c s'.k s'.nxt) _ False ncores s
    (fun c s' hc hs => balCore_term cfg off goal ncores s.k hc s' hs)
    ⟨hb, hk, Nat.le_refl _, nofun⟩

/-- with fuel for every thread still to place, the loop returns exactly when the cores it scans hold `goal`
    usable PUs: a pass that places nothing has seen them all (`stuck_total`), every other pass places a
    thread and uses up one unit of fuel -/
theorem balLoop_spec (cfg : Cfg) (off goal ncores : Nat) : ∀ (f : Nat) (s : BSt),
    TBase (balInm cfg off) (balNcp cfg) ncores s.k s.nxt → s.k < goal → goal ≤ f + s.k →
    match balLoop cfg off goal ncores f s with
    | some b => b.k = goal ∧ goal ≤ balTotal cfg off ncores
    | none => balTotal cfg off ncores < goal := by
  intro f
  induction f with
  | zero => intro s _ h1 h2; omega
  | succ f ih =>
    intro s hb hk hf
    simp only [balLoop]
    have hp := balPass_term cfg off goal ncores s hb hk
    cases hr : balPass cfg off goal ncores s with
    | fin s' => rw [hr] at hp; exact ⟨hp.2, hp.2 ▸ hp.1.le_total⟩
    | err => rw [hr] at hp; exact hp.elim
    | run s' =>
      rw [hr] at hp
      obtain ⟨hb', hp'⟩ := hp
      have := hp'.lt
      have := hp'.mono
      by_cases he : s'.k = s.k
      · have := stuck_total hb' hp' he
        simp only [he, ↓reduceIte]
        unfold balTotal; omega
      · simp only [he, ↓reduceIte]
        exact ih s' hb' hp'.lt (by omega)

theorem init_TBase (inm : Nat → Nat → Bool) (ncp : Nat → Nat) (ncores : Nat) :
    TBase inm ncp ncores 0 (fun _ => 0) :=
  ⟨fun _ => Nat.zero_le _, (sumTo_eq_zero (fun _ _ => rfl)).symm⟩

/-- **first phase of balanced / of a numa-balanced socket returns iff the cores it scans hold
    at least `goal` usable PUs** -/
theorem balPhase1_isSome (cfg : Cfg) (off goal ncores : Nat) :
    (balPhase1 cfg off goal ncores).isSome = decide (goal ≤ balTotal cfg off ncores) := by
  unfold balPhase1
  by_cases h0 : goal = 0
  · simp [h0]
  · have := balLoop_spec cfg off goal ncores (goal + 1) BSt.init (init_TBase _ _ _)
      (by simp [BSt.init]; omega) (by omega)
    simp only [h0, ↓reduceIte]
    cases hb : balLoop cfg off goal ncores (goal + 1) BSt.init <;> rw [hb] at this <;> simp at this ⊢ <;> omega

theorem balPhase1_none_iff (cfg : Cfg) (off goal ncores : Nat) :
    balPhase1 cfg off goal ncores = none ↔ balTotal cfg off ncores < goal := by
  have := balPhase1_isSome cfg off goal ncores
  cases h : balPhase1 cfg off goal ncores <;> simp [h] at this ⊢ <;> omega

/-- the second phase started on fresh entries never raises "already set": it runs to its end -/
theorem balPhase2_noerr (cfg : Cfg) (b : BSt) (cn cm ncores : Nat) (s : ASt) (h : Fresh s) :
    ∃ s', balPhase2 cfg b cn cm ncores s = .run s' ∧ Fresh s' := by
  unfold balPhase2
  refine (forRange_inv _ (fun _ => Fresh) (fun _ => False) False ncores s ?_ h).run
  intro c s1 _ h1
  refine forRange_inv _ (fun _ => Fresh) (fun _ => False) False (b.cnt c) s1 ?_ h1
  intro j s2 _ h2
  unfold balAssign
  simp only [h2 s2.k (Nat.le_refl _), ne_eq, not_true_eq_false, ↓reduceIte, CtlP]
  exact fresh_upd h2

/-! ## scatter -/

def scInm (cfg : Cfg) : Nat → Nat → Bool := fun c p => inMask cfg c p

/-- usable PUs the scatter decoder / the first phase of balanced can reach -/
def usable (cfg : Cfg) : Nat := total (scInm cfg) (balNcp cfg) (effCores cfg)

theorem usable_eq_balTotal (cfg : Cfg) : usable cfg = balTotal cfg 0 (effCores cfg) := rfl

/-- two loop bodies both keep running or both return, in states related by `R`; neither raises an error -/
def CtlRel {σ τ : Type} (R : σ → τ → Prop) : Ctl σ → Ctl τ → Prop
  | .run s, .run t => R s t
  | .fin s, .fin t => R s t
  | _, _ => False

theorem forFrom_rel {σ τ : Type} (R : σ → τ → Prop) (f : Nat → σ → Ctl σ) (g : Nat → τ → Ctl τ)
    (h : ∀ i s t, R s t → CtlRel R (f i s) (g i t)) : ∀ (cnt i : Nat) (s : σ) (t : τ), R s t →
    CtlRel R (forFrom f i cnt s) (forFrom g i cnt t) := by
  intro cnt
  induction cnt with
  | zero => intro i s t hr; exact hr
  | succ m ih =>
    intro i s t hr
    have := h i s t hr
    simp only [forFrom]
    cases hf : f i s <;> cases hg : g i t <;> rw [hf, hg] at this <;>
      first | exact this.elim | exact this | exact ih _ _ _ this

/-- a scatter state whose unplaced workers have no mask yet, seen as a state of the first phase of
    balanced: the scatter loop nest is that phase with goal `n`, plus the assignments -/
def ScB (s : SSt) (b : BSt) : Prop := s.a.k = b.k ∧ s.nxt = b.nxt ∧ Fresh s.a

theorem scatterCore_rel (cfg : Cfg) (c : Nat) (s : SSt) (b : BSt) (h : ScB s b) :
    CtlRel ScB (scatterCore cfg c s) (balCore cfg 0 cfg.n c b) := by
  obtain ⟨hk, hn, hf⟩ := h
  simp only [scatterCore, balCore, assign, hf s.a.k (Nat.le_refl _), ne_eq, not_true_eq_false, ↓reduceIte,
    Nat.add_zero, hn]
  generalize scanPu (fun p => inMask cfg c p) (corePus cfg.t c) (b.nxt c) = r
  obtain ⟨j, u⟩ := r
  cases u with
  | false => exact ⟨hk, rfl, hf⟩
  | true =>
    simp only [Bool.not_true, Bool.false_eq_true, ↓reduceIte, upd_same, ← hk]
    by_cases he : s.a.k + 1 = cfg.n
    · rw [if_pos he, if_pos he]; exact ⟨rfl, rfl, fresh_upd hf⟩
    · rw [if_neg he, if_neg he]; exact ⟨rfl, rfl, fresh_upd hf⟩

theorem scatterLoop_rel (cfg : Cfg) : ∀ (f : Nat) (s : SSt) (b : BSt), ScB s b →
    (balLoop cfg 0 cfg.n (effCores cfg) f b = none → scatterLoop cfg f s = .diverge) ∧
    (balLoop cfg 0 cfg.n (effCores cfg) f b ≠ none → ∃ aff pn, scatterLoop cfg f s = .ok aff pn) := by
  intro f
  induction f with
  | zero => intro s b _; exact ⟨fun _ => rfl, fun h => absurd rfl h⟩
  | succ f ih =>
    intro s b h
    have hp := forFrom_rel ScB _ _ (scatterCore_rel cfg) (effCores cfg) 0 s b h
    simp only [scatterLoop, balLoop, scatterPass, balPass, forRange]
    cases hs : forFrom (scatterCore cfg) 0 (effCores cfg) s <;>
      cases hb : forFrom (balCore cfg 0 cfg.n) 0 (effCores cfg) b <;> rw [hs, hb] at hp <;>
      first | exact hp.elim | skip
    · simp only [hp.1, h.1]
      split
      · exact ⟨fun _ => rfl, fun h => absurd rfl h⟩
      · exact ih _ _ hp
    · exact ⟨nofun, fun _ => ⟨_, _, rfl⟩⟩

/-- **scatter returns if the cores it scans hold at least `n` usable PUs** (requests that pass
    `check_num_threads`) … -/
theorem decodeScatter_returns (cfg : Cfg) (ht : tooMany cfg = false) (hg : cfg.n ≤ usable cfg) :
    ∃ aff pn, decodeScatter cfg = .ok aff pn := by
  simp only [decodeScatter, ht, Bool.false_eq_true, ↓reduceIte]
  by_cases h0 : cfg.n = 0
  · simp only [h0, ↓reduceIte]; exact ⟨_, _, rfl⟩
  · have hb := mt (balPhase1_none_iff cfg 0 cfg.n (effCores cfg)).1 (Nat.not_lt.2 hg)
    simp only [balPhase1, h0, ↓reduceIte] at hb ⊢
    exact (scatterLoop_rel cfg (cfg.n + 1) _ BSt.init ⟨rfl, rfl, fun _ _ => rfl⟩).2 hb

/-- … **and does not return otherwise** -/
theorem decodeScatter_hangs (cfg : Cfg) (ht : tooMany cfg = false) (hg : usable cfg < cfg.n) :
    decodeScatter cfg = .diverge := by
  have h0 : cfg.n ≠ 0 := Nat.ne_of_gt (Nat.zero_lt_of_lt hg)
  have hb := (balPhase1_none_iff cfg 0 cfg.n (effCores cfg)).2 hg
  simp only [balPhase1, h0, ↓reduceIte] at hb
  simp only [decodeScatter, ht, Bool.false_eq_true, ↓reduceIte, h0]
  exact (scatterLoop_rel cfg (cfg.n + 1) _ BSt.init ⟨rfl, rfl, fun _ _ => rfl⟩).1 hb

/-! ## `usable` in terms of the machine and the mask -/

theorem usable_eq (cfg : Cfg) : usable cfg = cntTo cfg (base cfg.t (effCores cfg)) := by
  have := socketPus_eq_cntTo cfg 0 (effCores cfg) (by rw [Nat.zero_add]; exact effCores_le cfg)
  rw [Nat.zero_add] at this
  exact this

/-- with the process mask in use the decoders see every PU of the mask -/
theorem usable_mask (cfg : Cfg) (h : cfg.usePm = true) : usable cfg = countMask cfg := by
  rw [usable_eq]
  have : effCores cfg = cfg.t.nc := by simp [effCores, h]
  rw [this]
  exact cntTo_mask cfg h

/-- with the mask ignored they see the PUs of the first `min(max_cores, #cores)` cores -/
theorem usable_nomask (cfg : Cfg) (h : cfg.usePm = false) :
    usable cfg = base cfg.t (min cfg.maxCores cfg.t.nc) := by
  rw [usable_eq, cntTo_all cfg h]
  simp [effCores, h]

theorem usable_enough (cfg : Cfg) (hwf : WF cfg.t)
    (hc : cfg.usePm = true ∨ cfg.n ≤ cfg.maxCores) (hn : cfg.n ≤ avail cfg) :
    cfg.n ≤ usable cfg := by
  rw [usable_eq]; exact enough cfg hwf hc hn

end PikaVerif.Aff
