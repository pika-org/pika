import PikaVerif.Lemmas.Rw4
/-! Progress of the async_rw_mutex model: a state in which no step of the implementation is enabled has no
    thread inside `add_op_state` and no unfinished `done()` frame (`progress`), and has granted every started
    access whose predecessors are released (`no_stall`).  Both hold of every state with `Inv`; the vocabulary
    of the statements (`C04.Reachable`, `Started`, `WasGranted`, `Internal`, `Stuck`) is defined here because
    the final states of program runs (`Lemmas/RwProg.lean`) are stated with it too. -/
namespace PikaVerif.C04
open PikaVerif PikaVerif.Rw

def Reachable (s : St) : Prop := ∃ log, runLog step init log = some s

/-- the continuation of access `a` has run (it is held or already released) -/
def WasGranted (s : St) (a : Nat) : Prop := post (s.acc a) = true

/-- connect + start (or the sender's destructor) has been executed for `a` -/
def Started (s : St) (a : Nat) : Prop := s.acc a ≠ .none ∧ s.acc a ≠ .sender

/-- the steps the implementation takes on its own once operations have been invoked -/
def Internal : Ev → Prop
  | .load .. | .cas .. | .xchg .. | .cont .. => True
  | _ => False

/-- no thread is inside `add_op_state`, `done()` or a shared-state destructor with a step to take -/
def Stuck (s : St) : Prop := ∀ e, Internal e → step s e = none

end PikaVerif.C04

namespace PikaVerif.Rw
open PikaVerif.C04

theorem progress {s : St} (hi : Inv s) (hs : Stuck s) :
    (∀ a t d, s.acc a ≠ .starting t d) ∧ (∀ a t d h, s.acc a ≠ .loaded t d h) ∧
    (∀ g, g < s.ng → s.dn g = .idle ∨ ∃ t, s.dn g = .drain t []) := by
  have stuck : ∀ {e s'}, Step s e s' → Internal e → False := fun h he =>
    nomatch (hs _ he).symm.trans h.step
  refine ⟨fun a t det hx => ?_, fun a t det h hx => ?_, fun g hg => ?_⟩
  · cases hh : s.head (s.grp a) with
    | some q => exact stuck (.loadOpen hx hh) trivial
    | none => exact stuck (.loadDone hx hh) trivial
  · cases hh : s.head (s.grp a) with
    | some q =>
      by_cases hl : h = q.length
      · exact stuck (.casPush 0 (hl ▸ hx) hh) trivial
      · exact stuck (.casRetry hx hh) trivial
    | none => exact stuck (.casDone hx hh) trivial
  · cases hd : s.dn g with
    | idle => exact .inl rfl
    | pend t =>
      obtain ⟨q, hq⟩ := pend_open hi hg hd
      exact (stuck (.xchg hd hq hg) trivial).elim
    | drain t r =>
      cases r with
      | nil => exact .inr ⟨t, rfl⟩
      | cons a r =>
        obtain ⟨_, _, hga, det, hx⟩ := drain_front hi hg hd
        exact (stuck (.cont hd hx hga) trivial).elim

theorem no_stall {s : St} (hi : Inv s) (hs : Stuck s) (a : Nat) (ha : a < s.na)
    (hst : Started s a) (hall : ∀ b, b < s.na → s.grp b < s.grp a → s.acc b = .released) :
    WasGranted s a := by
  obtain ⟨p1, p2, p3⟩ := progress hi hs
  have hg := hi.grpLt a ha
  unfold WasGranted
  cases hx : s.acc a with
  | none => exact absurd hx hst.1
  | sender => exact absurd hx hst.2
  | granted c => rfl
  | released => rfl
  | starting t det => exact absurd hx (p1 a t det)
  | loaded t det h => exact absurd hx (p2 a t det h)
  | queued det =>
    -- `done()` has been called on the group of `a` and has finished, yet `a` is in its queue
    exfalso
    have hmem : a ∈ qof s (s.grp a) := (hi.qMem _ a hg).2 ⟨ha, rfl, by rw [hx]; rfl⟩
    obtain hd | ⟨t, hd⟩ := p3 _ hg
    · -- not called: but the predecessor is destroyed, every access up to it being released
      obtain ⟨h0, h1⟩ := (hi.dnIdle _ hg).1 hd
      exact nomatch h1.symm.trans
        ((dead_iff hi (by omega)).2 ⟨.inr (by omega), fun b hb hle => hall b hb (by omega)⟩)
    · have hh := hi.headDn _ hg
      rw [hd] at hh
      simp [qof, qofF, Option.isNone_iff_eq_none.1 hh, hd] at hmem

end PikaVerif.Rw
