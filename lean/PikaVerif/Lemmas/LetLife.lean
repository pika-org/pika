import PikaVerif.Model.LetLife
import PikaVerif.Lemmas.OpLife
/-!
Invariants of the life-cycle model of `let_value` / `let_error` (C03x).  The acceptor as a relation `Step`; the
chain of control and the stored objects are those of `OpLife.View` (Lemmas/OpLife.lean), to which the state
projects (`St.view`): every rule of `Step` is one of the kinds of step there.  What is particular to this
adaptor (`Loc`): what the history and the objects are at each program point (`ctlAt`, `objAt`), the exception
caught, the moved-from receiver, the result.  Both are preserved event by event (`Full`, `step_full`); `CInv`
is the summary of the chain of control in this model's own terms (`Full.cinv`).
-/
namespace PikaVerif.LetLife
open PikaVerif.SchedFromLife (Sig b2n)

inductive Step (s : St) : Ev → St → Prop
  | start {t} : s.pc t = .idle → s.started = false →
      Step s (.start t) { s with pc := upd s.pc t .starting, started := true, uaf := s.uaf || s.freed }
  | pred {t c} : s.started = true → s.predSig = none →
      Step s (.pred t c)
        { s with pc := upd s.pc t (.pred c), predSig := some c, holder := some t, uaf := s.uaf || s.freed }
  | store {t c} : s.pc t = .pred c → s.cfg.stores c = true →
      Step s (.store t none)
        { s with pc := upd s.pc t .stored, ts := some (payload c), tsCtor := s.tsCtor + 1,
                 uaf := s.uaf || s.freed }
  | storeThrow {t c e} : s.pc t = .pred c → s.cfg.stores c = true → Step s (.store t (some e)) (catchE s t e)
  | call {t} : s.pc t = .stored →
      Step s (.call t none) { s with pc := upd s.pc t .called, uaf := s.uaf || s.freed }
  | callThrow {t e} : s.pc t = .stored → Step s (.call t (some e)) (catchE s t e)
  | conn {t late} : s.pc t = .called →
      Step s (.conn t none late)
        { s with pc := upd s.pc t .connected, sop := true, sopCtor := s.sopCtor + 1, rcvMoved := true,
                 uaf := s.uaf || s.freed }
  | connThrow {t e late} : s.pc t = .called →
      Step s (.conn t (some e) late)
        { catchE s t e with rcvMoved := late, lateThrow := s.lateThrow || late }
  | sstart {t} : s.pc t = .connected →
      Step s (.sstart t)
        { s with pc := upd s.pc t .sstarted, holder := none, sopArmed := true, uaf := s.uaf || s.freed }
  | succ {t c} : s.sopArmed = true → s.succSig = none →
      Step s (.succ t c) (deliver { s with succSig := some c } t c false)
  | fwdCaught {t e} : s.pc t = .caught e → Step s (.fwd t (.error e)) (deliver s t (.error e) true)
  | fwdPred {t c} : s.pc t = .pred c → s.cfg.stores c = false → Step s (.fwd t c) (deliver s t c true)
  | ret {t} : (s.pc t = .out ∨ s.pc t = .sstarted ∨ s.pc t = .starting) → Step s (.ret t) { s with pc := upd s.pc t .idle }
  | destroy {t} : s.delivered = 1 → s.freed = false → Step s (.destroy t) (free s)
  | tdone {t} : s.pc t = .idle → Step s (.tdone t) { s with pc := upd s.pc t .fin }

theorem Step.of_step {s s' : St} {e : Ev} (h : step s e = some s') : Step s e s' := by
  cases e <;> simp only [step] at h <;> (repeat' split at h) <;>
    first | (cases h; done) | (cases h; subst_vars; constructor <;> first | assumption | simp_all)

/-- At most one thread is inside the adaptor, the `holder`; nobody is once the downstream completion was
    issued.  The `pc…` clauses say what the history fields hold while a thread is at that point; `progress`:
    what a started operation is waiting for. -/
structure CInv (s : St) : Prop where
  busyHolder : ∀ t, busy (s.pc t) = true → s.holder = some t
  holderBusy : ∀ t, s.holder = some t → busy (s.pc t) = true
  delivLe : s.delivered ≤ 1
  holderDeliv : ∀ t, s.holder = some t → s.delivered = 0
  predStarted : s.predSig ≠ none → s.started = true
  predNone : s.predSig = none → s.holder = none ∧ s.delivered = 0 ∧ s.sopArmed = false ∧ s.succSig = none ∧ s.thrown = none
  armedWait : s.sopArmed = true → s.succSig = none → s.holder = none ∧ s.delivered = 0
  succArmed : s.succSig ≠ none → s.sopArmed = true
  armedNoThrow : s.sopArmed = true → s.thrown = none ∧ ∀ p, s.predSig = some p → s.cfg.stores p = true
  pcPred : ∀ t c, s.pc t = .pred c → s.predSig = some c ∧ s.sopArmed = false ∧ s.thrown = none
  pcStored : ∀ t, s.pc t = .stored → s.sopArmed = false ∧ s.thrown = none ∧ ∀ p, s.predSig = some p → s.cfg.stores p = true
  pcCalled : ∀ t, s.pc t = .called → s.sopArmed = false ∧ s.thrown = none ∧ ∀ p, s.predSig = some p → s.cfg.stores p = true
  pcConn : ∀ t, s.pc t = .connected → s.sopArmed = false ∧ s.thrown = none ∧ ∀ p, s.predSig = some p → s.cfg.stores p = true
  pcCaught : ∀ t e, s.pc t = .caught e → s.thrown = some e ∧ s.sopArmed = false ∧ ∀ p, s.predSig = some p → s.cfg.stores p = true
  progress : s.predSig ≠ none → s.delivered = 1 ∨ s.holder ≠ none ∨ (s.sopArmed = true ∧ s.succSig = none)


/-- What `CInv` says at a thread's program point, as a function of the fields it reads there. -/
def ctlAt (cfg : Cfg) (predSig : Option Sig) (armed : Bool) (thrown : Option Nat) : Pc → Prop
  | .pred c => predSig = some c ∧ armed = false ∧ thrown = none
  | .stored | .called | .connected =>
    armed = false ∧ thrown = none ∧ ∀ p, predSig = some p → cfg.stores p = true
  | .caught e => thrown = some e ∧ armed = false ∧ ∀ p, predSig = some p → cfg.stores p = true
  | _ => True

theorem ctlAt_of_not_busy {cfg : Cfg} {ps : Option Sig} {a : Bool} {th : Option Nat} (p : Pc)
    (h : busy p = false) : ctlAt cfg ps a th p := by
  cases p <;> first | trivial | cases h

theorem armed_of_busy {cfg : Cfg} {ps : Option Sig} {a : Bool} {th : Option Nat} {p : Pc}
    (h : busy p = true) (hf : ctlAt cfg ps a th p) : a = false := by
  cases p with
  | pred c => exact hf.2.1
  | stored => exact hf.1
  | called => exact hf.1
  | connected => exact hf.1
  | caught e => exact hf.2.1
  | _ => cases h

/-- To prove `P` of the state after a completion: `deliver` leaves `s1` (named by the equation, so that it
    can be substituted or kept) when the receiver does not destroy the operation state, and `free s1` when
    it does; prove `P` of whichever the configuration selects. -/
theorem deliver_cases {P : St → Prop} {s : St} {t : Nat} {c : Sig} {v : Bool}
    (h : ∀ s1, s1 = { s with pc := upd s.pc t .out, holder := none, delivered := s.delivered + 1,
                             result := some c, hollow := s.hollow || (v && s.rcvMoved),
                             uaf := s.uaf || s.freed } →
      (s.cfg.selfdel = true → P (LetLife.free s1)) ∧ (s.cfg.selfdel = false → P s1)) :
    P (deliver s t c v) := by
  simp only [deliver]
  split
  · next hs => exact (h _ rfl).1 hs
  · next hs => exact (h _ rfl).2 (by simpa using hs)

def St.view (s : St) : OpLife.View :=
  { selfdel := s.cfg.selfdel, busy := fun t => busy (s.pc t), started := s.started, pred := s.predSig,
    armed := s.sopArmed, sig2 := s.succSig, holder := s.holder, ts := s.ts, tsCtor := s.tsCtor,
    tsDtor := s.tsDtor, sop := s.sop, sopCtor := s.sopCtor, sopDtor := s.sopDtor, delivered := s.delivered,
    result := s.result, freed := s.freed, nfree := s.nfree, uaf := s.uaf, stuck := false }

/-- The guard of every event that reads or writes the operation state, in the terms of the view. -/
theorem touching_of_step {s s' : St} {e : Ev} (h : step s e = some s') (ht : touches e = true) :
    OpLife.Touching s.view := by
  have hb : ∀ {t p}, s.pc t = p → busy p = true → OpLife.Touching s.view := fun {t _} hp hb =>
    .inr (.inr (.inl ⟨t, show busy (s.pc t) = true by rw [hp]; exact hb⟩))
  cases Step.of_step h with
  | start _ hs => exact .inl hs
  | pred _ hn => exact .inr (.inl hn)
  | store hp _ | storeThrow hp _ | call hp | callThrow hp | conn hp | connThrow hp | sstart hp | fwdPred hp _
  | fwdCaught hp => exact hb hp rfl
  | succ ha hsu => exact .inr (.inr (.inr ⟨ha, hsu⟩))
  | ret | destroy | tdone => cases ht

/-- What is known of the stored objects and the receiver at a thread's program point. -/
def objAt (ts : Option Nat) (tc : Nat) (sop : Bool) (sc : Nat) (rm lt : Bool) : Pc → Prop
  | .pred _ => tc = 0 ∧ sc = 0 ∧ ts = none ∧ sop = false ∧ rm = false
  | .stored | .called => ts ≠ none ∧ sc = 0 ∧ sop = false ∧ rm = false
  | .connected => ts ≠ none ∧ sop = true
  | .caught _ => sc = 0 ∧ sop = false ∧ (rm = true → lt = true)
  | _ => True

theorem objAt_of_not_busy {ts : Option Nat} {tc sc : Nat} {sop rm lt : Bool} (p : Pc)
    (h : busy p = false) : objAt ts tc sop sc rm lt p := by
  cases p <;> first | trivial | cases h

/-- What is particular to `let_value` / `let_error`: what the history and the stored objects are while a thread
    is at a program point, the exception caught, the moved-from receiver, the result. -/
structure Loc (s : St) : Prop where
  ctl : ∀ t, ctlAt s.cfg s.predSig s.sopArmed s.thrown (s.pc t)
  obj : ∀ t, objAt s.ts s.tsCtor s.sop s.sopCtor s.rcvMoved s.lateThrow (s.pc t)
  predNoneL : s.predSig = none → s.thrown = none ∧ s.rcvMoved = false
  armedNoThrow : s.sopArmed = true → s.thrown = none ∧ ∀ p, s.predSig = some p → s.cfg.stores p = true
  tsPred : ∀ v p, s.ts = some v → s.predSig = some p → payload p = v ∧ s.cfg.stores p = true
  hollowLate : s.hollow = true → s.lateThrow = true
  res : s.delivered = 1 → ∀ p, s.predSig = some p →
    (s.cfg.stores p = false → s.result = some p) ∧
    (s.cfg.stores p = true → ∀ e, s.thrown = some e → s.result = some (.error e)) ∧
    (s.cfg.stores p = true → s.thrown = none → s.result = s.succSig ∧ s.succSig ≠ none)

structure Full (s : St) : Prop where
  view : OpLife.Inv s.view
  loc : Loc s

variable {ts' th' h' : Option Nat} {tc' sc' : Nat} {ps' res' : Option Sig}
  {sop' rm' lt' st u a' : Bool} {p' : Pc} {s : St} {t : Nat}

theorem Loc.outside (hl : Loc s) (hp' : busy p' = false) :
    Loc { s with pc := upd s.pc t p', started := st, uaf := u } :=
  { hl with
    ctl := forall_upd (P := fun _ p => ctlAt s.cfg s.predSig s.sopArmed s.thrown p) hl.ctl (ctlAt_of_not_busy _ hp')
    obj := forall_upd (P := fun _ p => objAt s.ts s.tsCtor s.sop s.sopCtor s.rcvMoved s.lateThrow p) hl.obj
      (objAt_of_not_busy _ hp') }

/-- A step of the thread in control (every other thread is outside the adaptor) before the completion. -/
theorem Loc.holder (hl : Loc s) (hoth : ∀ v, v ≠ t → busy (s.pc v) = false) (hd : s.delivered = 0)
    (hps : ps' ≠ none) (hctl : ctlAt s.cfg ps' a' th' p') (hobj : objAt ts' tc' sop' sc' rm' lt' p')
    (harm : a' = true → th' = none ∧ ∀ p, ps' = some p → s.cfg.stores p = true)
    (htp : ∀ v p, ts' = some v → ps' = some p → payload p = v ∧ s.cfg.stores p = true)
    (hlt : s.lateThrow = true → lt' = true) :
    Loc { s with pc := upd s.pc t p', predSig := ps', thrown := th', holder := h', ts := ts', tsCtor := tc',
                 sop := sop', sopArmed := a', sopCtor := sc', rcvMoved := rm', lateThrow := lt', uaf := u } :=
  have h01 : s.delivered ≠ 1 := by omega
  ⟨forall_upd_of_others ctlAt_of_not_busy hoth hctl, forall_upd_of_others objAt_of_not_busy hoth hobj,
    fun h => absurd h hps, harm, htp, fun h => hlt (hl.hollowLate h), fun h => absurd h h01⟩

theorem Loc.free (hl : Loc s) (hidle : ∀ t, busy (s.pc t) = false) : Loc (free s) :=
  { hl with obj := fun t => objAt_of_not_busy _ (hidle t), tsPred := nofun }

/-- The completion `c`, issued while every thread but `t` is outside the adaptor: it is the denoted one. -/
theorem Loc.complete (hl : Loc s) (hoth : ∀ v, v ≠ t → busy (s.pc v) = false) (hps : s.predSig ≠ none)
    {c : Sig} {ss : Option Sig} {hol : Bool} (hhol : hol = true → s.lateThrow = true)
    (hres : ∀ p, s.predSig = some p →
      (s.cfg.stores p = false → c = p) ∧ (s.cfg.stores p = true → ∀ e, s.thrown = some e → c = .error e) ∧
      (s.cfg.stores p = true → s.thrown = none → some c = ss ∧ ss ≠ none)) :
    Loc { s with pc := upd s.pc t .out, succSig := ss, holder := none, delivered := s.delivered + 1,
                 result := some c, hollow := hol, uaf := u } :=
  ⟨forall_upd_of_others ctlAt_of_not_busy hoth trivial, forall_upd_of_others objAt_of_not_busy hoth trivial,
    fun h => absurd h hps, hl.armedNoThrow, hl.tsPred, hhol, fun _ p hp =>
      have := hres p hp
      ⟨fun h => congrArg some (this.1 h), fun h e he => congrArg some (this.2.1 h e he), this.2.2⟩⟩

theorem step_full (s : St) (e : Ev) (s' : St) (hf : Full s) (h : step s e = some s') : Full s' := by
  obtain ⟨hv, hl⟩ := hf
  -- what is known when thread `t` is at a point inside the adaptor
  have hbusy : ∀ {t p}, s.pc t = p → busy p = true →
      s.holder = some t ∧ (∀ u, u ≠ t → busy (s.pc u) = false) ∧ s.delivered = 0 ∧ s.freed = false ∧
      s.predSig ≠ none ∧ s.sopArmed = false ∧ ctlAt s.cfg s.predSig s.sopArmed s.thrown p ∧
      objAt s.ts s.tsCtor s.sop s.sopCtor s.rcvMoved s.lateThrow p := fun {t p} hp hb => by
    subst hp
    have hh : s.holder = some t := hv.busyHolder _ hb
    exact ⟨hh, hv.others (.inl hh), hv.holderDeliv _ hh, hv.not_freed (hv.holderDeliv _ hh),
      fun h => (by rw [show s.holder = none from (hv.predNone h).1] at hh; cases hh),
      armed_of_busy hb (hl.ctl t), hl.ctl t, hl.obj t⟩
  have ofFalse : ∀ {a : Bool} {P : Prop}, a = false → a = true → P := fun h1 h2 =>
    absurd (h1.symm.trans h2) Bool.false_ne_true
  -- the completion; a self-deleting receiver destroys the operation state and the objects in it
  have fin : ∀ {t c vo} {ss : Option Sig} (s0 : St), s0 = { s with succSig := ss } →
      (∀ u, u ≠ t → busy (s.pc u) = false) → s.delivered = 0 → s.predSig ≠ none →
      (s.sopArmed = true → ss ≠ none) → (ss ≠ none → s.sopArmed = true) →
      Loc { s with pc := upd s.pc t .out, succSig := ss, holder := none, delivered := s.delivered + 1,
                   result := some c, hollow := s.hollow || (vo && s.rcvMoved), uaf := s.uaf || s.freed } →
      Full (deliver s0 t c vo) := fun {t c vo ss} s0 h0 hoth hd hp hw hsa l1 => by
    subst h0
    have hidle : ∀ u, busy (upd s.pc t .out u) = false :=
      forall_upd_of_others (I := fun p => busy p = false) (F := fun p => busy p = false) (fun _ h => h) hoth rfl
    refine deliver_cases (P := Full) fun s1 h1 => ?_
    have vv := hv.deliver (res := some c) (s2' := ss) hd hp hw hsa hidle false (v1 := s1.view) (by rw [h1]; rfl)
    subst h1
    exact ⟨fun hs => ⟨vv.1 hs, l1.free hidle⟩, fun hs => ⟨vv.2 hs, l1⟩⟩
  cases Step.of_step h with
  | start hp hs =>
    have hd : s.delivered = 0 := hv.undelivered (.inl hs)
    exact ⟨hv.outside (apply_upd_of_eq busy (by rw [hp]; rfl)) (fun _ => rfl)
      (by rw [show s.uaf = false from hv.uafF, show s.freed = false from hv.not_freed hd]; rfl), hl.outside rfl⟩
  | ret hp =>
    exact ⟨hv.outside (st := s.started) (apply_upd_of_eq busy (by rcases hp with hp | hp | hp <;> rw [hp] <;> rfl)) id hv.uafF,
      hl.outside rfl⟩
  | tdone hp => exact ⟨hv.outside (st := s.started) (apply_upd_of_eq busy (by rw [hp]; rfl)) id hv.uafF, hl.outside rfl⟩
  | @pred t c hs hn =>
    obtain ⟨hh, hd, ha, -⟩ := hv.predNone hn
    obtain ⟨tc0, sc0, tsn, sopf, -⟩ := hv.predNoneO hn
    obtain ⟨hth, rmf⟩ := hl.predNoneL hn
    exact ⟨hv.take hh hd hs (Option.some_ne_none c) (ofFalse ha) hv.sig2Armed (apply_upd_same busy _ _ _) (fun _ => apply_upd_other busy _ _),
      hl.holder (hv.others (t := t) (.inr hh)) hd (Option.some_ne_none c) ⟨rfl, ha, hth⟩
        ⟨tc0, sc0, tsn, sopf, rmf⟩ (ofFalse ha) (fun v p h => by rw [show s.ts = none from tsn] at h; cases h) id⟩
  | @store t c hp hst =>
    -- the values are constructed in the operation state
    obtain ⟨hh, hoth, hd, hf, hps, ha, ⟨hpc, -, hth⟩, tc0, sc0, tsn, sopf, rmf⟩ := hbusy hp rfl
    have hcnt : s.tsCtor = s.tsDtor + b2n s.ts.isSome := hv.tsCount hf
    rw [tsn] at hcnt
    exact ⟨hv.advance hh hh (apply_upd_same busy _ _ _) (fun _ => apply_upd_other busy _ _) (by rw [hcnt]; rfl) (hv.sopCount hf)
        ⟨by show s.tsCtor + 1 ≤ 1; omega, hv.ctorLe.2⟩,
      hl.holder hoth hd hps (p' := .stored) ⟨ha, hth, fun q hq => by rw [hpc] at hq; cases hq; exact hst⟩
        ⟨nofun, sc0, sopf, rmf⟩ (ofFalse ha)
        (fun v p hv' hpp => by rw [hpc] at hpp; cases hpp; cases hv'; exact ⟨rfl, hst⟩) id⟩
  | @storeThrow t c e hp hst =>
    obtain ⟨hh, hoth, hd, hf, hps, ha, ⟨hpc, -, -⟩, -, sc0, -, sopf, rmf⟩ := hbusy hp rfl
    exact ⟨hv.advance hh hh (apply_upd_same busy _ _ _) (fun _ => apply_upd_other busy _ _) (hv.tsCount hf) (hv.sopCount hf) hv.ctorLe,
      hl.holder hoth hd hps (p' := .caught e) ⟨rfl, ha, fun q hq => by rw [hpc] at hq; cases hq; exact hst⟩
        ⟨sc0, sopf, ofFalse rmf⟩ (ofFalse ha) hl.tsPred id⟩
  | @call t hp =>
    obtain ⟨hh, hoth, hd, hf, hps, ha, hctl, hobj⟩ := hbusy hp rfl
    exact ⟨hv.advance hh hh (apply_upd_same busy _ _ _) (fun _ => apply_upd_other busy _ _) (hv.tsCount hf) (hv.sopCount hf) hv.ctorLe,
      hl.holder hoth hd hps (p' := .called) hctl hobj (ofFalse ha) hl.tsPred id⟩
  | @callThrow t e hp =>
    obtain ⟨hh, hoth, hd, hf, hps, ha, hctl, -, sc0, sopf, rmf⟩ := hbusy hp rfl
    exact ⟨hv.advance hh hh (apply_upd_same busy _ _ _) (fun _ => apply_upd_other busy _ _) (hv.tsCount hf) (hv.sopCount hf) hv.ctorLe,
      hl.holder hoth hd hps (p' := .caught e) ⟨rfl, ha, hctl.2.2⟩ ⟨sc0, sopf, ofFalse rmf⟩ (ofFalse ha)
        hl.tsPred id⟩
  | @conn t late hp =>
    -- the successor's operation state is constructed, the receiver moves into it
    obtain ⟨hh, hoth, hd, hf, hps, ha, hctl, tsne, sc0, sopf, -⟩ := hbusy hp rfl
    have hcnt : s.sopCtor = s.sopDtor + b2n s.sop := hv.sopCount hf
    rw [sopf] at hcnt
    exact ⟨hv.advance hh hh (apply_upd_same busy _ _ _) (fun _ => apply_upd_other busy _ _) (hv.tsCount hf) (by rw [hcnt]; rfl)
        ⟨hv.ctorLe.1, by show s.sopCtor + 1 ≤ 1; omega⟩,
      hl.holder hoth hd hps (p' := .connected) hctl ⟨tsne, rfl⟩ (ofFalse ha) hl.tsPred id⟩
  | @connThrow t e late hp =>
    obtain ⟨hh, hoth, hd, hf, hps, ha, hctl, -, sc0, sopf, -⟩ := hbusy hp rfl
    exact ⟨hv.advance hh hh (apply_upd_same busy _ _ _) (fun _ => apply_upd_other busy _ _) (hv.tsCount hf) (hv.sopCount hf) hv.ctorLe,
      hl.holder hoth hd hps (p' := .caught e) ⟨rfl, ha, hctl.2.2⟩ ⟨sc0, sopf, fun h => by rw [h]; simp⟩
        (ofFalse ha) hl.tsPred fun h => by rw [h]; rfl⟩
  | @sstart t hp =>
    -- the holder hands the chain of control to the successor
    obtain ⟨hh, hoth, hd, -, hps, ha, ⟨-, hth, hst⟩, tsne, sopt⟩ := hbusy hp rfl
    exact ⟨hv.handover hh ha tsne sopt (apply_upd_same busy _ _ _) (fun _ => apply_upd_other busy _ _),
      hl.holder hoth hd hps (p' := .sstarted) trivial trivial (fun _ => ⟨hth, hst⟩) hl.tsPred id⟩
  | @succ t c ha hsu =>
    -- the successor's completion: nothing was thrown and the predecessor's channel is the stored one
    obtain ⟨hth, hst⟩ := hl.armedNoThrow ha
    obtain ⟨hh, hd⟩ := hv.armedWait ha hsu
    have hps : s.predSig ≠ none := fun h => ofFalse (hv.predNone h).2.2.1 ha
    have hoth := hv.others (t := t) (.inr hh)
    exact fin _ rfl hoth hd hps (fun _ => Option.some_ne_none c) (fun _ => ha)
      (hl.complete hoth hps (fun h => hl.hollowLate (by simpa using h)) fun p hp =>
        ⟨fun h => (by rw [hst p hp] at h; cases h), fun _ e he => (by rw [hth] at he; cases he),
          fun _ _ => ⟨rfl, nofun⟩⟩)
  | @fwdPred t c hp hns =>
    -- a channel that is not stored passes through
    obtain ⟨-, hoth, hd, -, hps, ha, ⟨hpc, -, -⟩, -, -, -, -, rmf⟩ := hbusy hp rfl
    have heq : ∀ p, s.predSig = some p → p = c := fun p h => Option.some.inj (h.symm.trans hpc)
    exact fin s rfl hoth hd hps (ofFalse ha) hv.sig2Armed
      (hl.complete hoth hps (fun h => hl.hollowLate (by rw [rmf] at h; simpa using h))
        fun p hp => ⟨fun _ => (heq p hp).symm, fun h => (by rw [heq p hp, hns] at h; cases h),
          fun h => (by rw [heq p hp, hns] at h; cases h)⟩)
  | @fwdCaught t e hp =>
    -- the handler forwards the exception it caught; its receiver was moved from only by a late-throwing `connect`
    obtain ⟨-, hoth, hd, -, hps, ha, ⟨hth, -, hst⟩, -, -, hrm⟩ := hbusy hp rfl
    exact fin s rfl hoth hd hps (ofFalse ha) hv.sig2Armed
      (hl.complete hoth hps (fun h => by
          cases hh : s.hollow
          · rw [hh] at h; exact hrm (by simpa using h)
          · exact hl.hollowLate hh)
        fun p hp => ⟨fun h => (by rw [hst p hp] at h; cases h),
          fun _ e' he => (by rw [hth] at he; cases he; rfl), fun _ hn => (by rw [hth] at hn; cases hn)⟩)
  | destroy hd hf =>
    exact ⟨OpLife.Inv.destroy (v := s.view) (sd := s.cfg.selfdel) hv hd hf false, hl.free fun t => by
      cases hb : busy (s.pc t)
      · rfl
      · have : s.delivered = 0 := hv.holderDeliv t (hv.busyHolder t hb)
        rw [hd] at this; cases this⟩


theorem full_init (c : Cfg) : Full (init c) := by
  refine ⟨?_, ?_⟩ <;> constructor <;> simp [init, St.view, busy, b2n, ctlAt, objAt]

theorem full_of_runLog {c : Cfg} {log : List Ev} {s : St} (h : runLog step (init c) log = some s) : Full s :=
  inv_of_runLog Full step_full (full_init c) h

/-- An event that reads or writes the operation state is accepted only before the downstream completion. -/
theorem touch_before_delivery {s s' : St} {e : Ev} (hf : Full s) (h : step s e = some s')
    (ht : touches e = true) : s.delivered = 0 :=
  hf.view.undelivered (touching_of_step h ht)

theorem Full.cinv {s : St} (hf : Full s) : CInv s :=
  have hv := hf.view
  have hpc := hf.loc.ctl
  { busyHolder := hv.busyHolder, holderBusy := hv.holderBusy, delivLe := hv.delivLe
    holderDeliv := hv.holderDeliv, predStarted := hv.predStarted
    predNone := fun h => have := hv.predNone h
      ⟨this.1, this.2.1, this.2.2.1, this.2.2.2, (hf.loc.predNoneL h).1⟩
    armedWait := hv.armedWait, succArmed := hv.sig2Armed, armedNoThrow := hf.loc.armedNoThrow
    pcPred := fun t c h => by have := hpc t; rwa [h] at this
    pcStored := fun t h => by have := hpc t; rwa [h] at this
    pcCalled := fun t h => by have := hpc t; rwa [h] at this
    pcConn := fun t h => by have := hpc t; rwa [h] at this
    pcCaught := fun t e h => by have := hpc t; rwa [h] at this
    progress := fun h => (hv.progress h).imp id (Or.imp id fun h => h.resolve_right Bool.false_ne_true) }

theorem cinv_init (c : Cfg) : CInv (init c) := (full_init c).cinv

theorem cfg_of_runLog {s0 s : St} {log : List Ev} (h : runLog step s0 log = some s) : s.cfg = s0.cfg := by
  refine inv_of_runLog (fun s => s.cfg = s0.cfg) (fun s e s' hc hs => ?_) rfl h
  rw [← hc]
  cases Step.of_step hs <;> first | rfl | (simp only [deliver]; split <;> rfl)

end PikaVerif.LetLife
