import PikaVerif.Lemmas.BulkC
import PikaVerif.Lemmas.BulkProg
/-!
Termination measure of the composed bulk model `PikaVerif.BulkC` (C11).

`mu s` is a natural number that strictly decreases with every accepted event except the
stutter event `decide` (which leaves the state unchanged):

* every chunk `j` still in a queue weighs `2 · (number of its indices) + (w + 2)`
  (two events per call; one unit for leaving the queue; `w` units because the successful
  compare-exchange makes the expected word of up to `w` workers stale, one per later failed
  compare-exchange; one for the `chunk` event);
* every worker weighs `pcw` (its place in the spawn / steal-round / decrement protocol:
  `3·(w − off)` for the queues it has not yet seen empty) + `lpw` (calls left in the chunk it
  is running, two events each) + `exw` (2 before the load of a `pop_*` and while the loaded
  word is stale, 1 while the loaded word is current);
* 1 for the pending completion.
-/
namespace PikaVerif.BulkC
open PikaVerif.Gen.BulkArith PikaVerif.BulkPlan
open PikaVerif.BulkArith PikaVerif.Partition PikaVerif.C11

theorem sumTo_le_mul {n : Nat} {f : Nat → Nat} {b : Nat} (h : ∀ u, u < n → f u ≤ b) :
    sumTo n f ≤ n * b := by
  induction n with
  | zero => simp
  | succ m ih =>
    simp only [sumTo_succ]
    have := ih (fun u hu => h u (by omega))
    have := h m (by omega)
    rw [Nat.succ_mul]
    omega

def lpw (c n : Nat) : Lp → Nat
  | .out => 0
  | .got j => 2 * (cut c n (j + 1) - cut c n j) + 1
  | .at cur ie => 2 * (ie - cur).toNat
  | .incall cur ie => 2 * (ie - cur - 1).toNat + 1
  | .threw _ => 0

def exwf (w : Nat) (qs : Nat → Nat × Nat) (k : Nat) : Option (Int × Int) → Option Nat → Nat
  | some x, some off => if x = word (qs ((k + off) % w)) then 1 else 2
  | _, _ => 2

def exw (s : St) (k : Nat) : Nat := exwf s.w s.p.qs k (s.ex k) (popOff (s.p.pc k))

def qw (w c n : Nat) (r : Nat × Nat) : Nat :=
  2 * (cut c n r.2 - cut c n r.1) + (w + 2) * (r.2 - r.1)

def mu1 (s : St) : Nat :=
  sumTo s.w (fun q => qw s.w s.c s.n (s.p.qs q)) + sumTo s.w (fun k => pcw s.w (s.p.pc k)) +
    sumTo s.w (fun k => lpw s.c s.n (s.lp k)) + sumTo s.w (fun k => exw s k) + (1 - s.p.signals)

def planned (s : St) (c : Nat) : St :=
  { s with ph := 1, c := c, ts := some s.v, p := Bulk.init s.w s.p.L (cutsOf s.S s.w s.n c) }

/-- **The termination measure.**  Before `set_value`: everything the plan will create, plus 2;
    `shape == 0` path: the pending completion. -/
def mu (s : St) : Nat :=
  if s.ph = 0 then
    (match chunkSizeOf s.S fuel s.w s.n with
     | some c => mu1 (planned s c.toNat)
     | none => 0) + 2
  else if s.ph = 1 then mu1 s
  else 1 - s.done.length

theorem exwf_bounds (w : Nat) (qs : Nat → Nat × Nat) (k : Nat) (e : Option (Int × Int))
    (o : Option Nat) : 1 ≤ exwf w qs k e o ∧ exwf w qs k e o ≤ 2 := by
  unfold exwf
  split
  · split <;> omega
  · omega

theorem exw_bounds (s : St) (k : Nat) : 1 ≤ exw s k ∧ exw s k ≤ 2 := exwf_bounds _ _ _ _ _

theorem cut_mono_le (c n : Nat) {a b : Nat} (h : a ≤ b) : cut c n a ≤ cut c n b := by
  unfold cut
  have : a * c ≤ b * c := Nat.mul_le_mul_right c h
  omega

/-- a chunk that leaves its queue takes its calls and `w + 2` with it -/
theorem qw_popEnd (w c n off : Nat) {r : Nat × Nat} (h : r.1 < r.2) :
    qw w c n r = qw w c n (Bulk.popEnd off r).2 +
      2 * (cut c n ((Bulk.popEnd off r).1 + 1) - cut c n (Bulk.popEnd off r).1) + (w + 2) := by
  unfold qw Bulk.popEnd
  by_cases h0 : off = 0 <;> simp only [h0, if_true, if_false]
  · have h1 := cut_mono_le c n (show r.1 ≤ r.1 + 1 by omega)
    have h2 := cut_mono_le c n (show r.1 + 1 ≤ r.2 from h)
    rw [show r.2 - r.1 = (r.2 - (r.1 + 1)) + 1 by omega, Nat.mul_succ]
    omega
  · have h1 := cut_mono_le c n (show r.1 ≤ r.2 - 1 by omega)
    have h2 := cut_mono_le c n (show r.2 - 1 ≤ r.2 by omega)
    rw [show r.2 - 1 + 1 = r.2 by omega, show r.2 - r.1 = (r.2 - 1 - r.1) + 1 by omega, Nat.mul_succ]
    omega

theorem lpw_popReady (c n : Nat) (l : Lp) (h : popReady l = true) : lpw c n l = 0 := by
  cases l with
  | out => rfl
  | «at» cur ie =>
    simp only [popReady, decide_eq_true_eq] at h
    simp only [lpw]
    omega
  | _ => simp [popReady] at h

/-- an event of worker `k` that leaves the queues and the signal count alone: the measure moves
    by the change of `k`'s own weights -/
theorem mu1_worker (s s' : St) (k : Nat) (hk : k < s.w)
    (hw : s'.w = s.w) (hc : s'.c = s.c) (hn : s'.n = s.n) (hqs : s'.p.qs = s.p.qs)
    (hsig : s'.p.signals = s.p.signals)
    (hpc : ∀ u, u ≠ k → s'.p.pc u = s.p.pc u) (hlp : ∀ u, u ≠ k → s'.lp u = s.lp u)
    (hex : ∀ u, u ≠ k → s'.ex u = s.ex u)
    (hlt : pcw s.w (s'.p.pc k) + lpw s.c s.n (s'.lp k) + exw s' k <
           pcw s.w (s.p.pc k) + lpw s.c s.n (s.lp k) + exw s k) : mu1 s' < mu1 s := by
  unfold mu1
  rw [hw, hc, hn, hqs, hsig]
  have a := sumTo_change (f := fun u => pcw s.w (s.p.pc u)) (f' := fun u => pcw s.w (s'.p.pc u)) hk
    (fun u _ hu => by rw [hpc u hu])
  have b := sumTo_change (f := fun u => lpw s.c s.n (s.lp u)) (f' := fun u => lpw s.c s.n (s'.lp u)) hk
    (fun u _ hu => by rw [hlp u hu])
  have d := sumTo_change (f := fun u => exw s u) (f' := fun u => exw s' u) hk
    (fun u _ hu => by simp only [exw]; rw [hw, hqs, hex u hu, hpc u hu])
  omega

/-- as `mu1_worker`, the worker's `exw` bounded generically (it is 1 or 2) -/
theorem mu1_worker2 (s s' : St) (k : Nat) (hk : k < s.w)
    (hw : s'.w = s.w) (hc : s'.c = s.c) (hn : s'.n = s.n) (hqs : s'.p.qs = s.p.qs)
    (hsig : s'.p.signals = s.p.signals)
    (hpc : ∀ u, u ≠ k → s'.p.pc u = s.p.pc u) (hlp : ∀ u, u ≠ k → s'.lp u = s.lp u)
    (hex : ∀ u, u ≠ k → s'.ex u = s.ex u)
    (hlt : pcw s.w (s'.p.pc k) + lpw s.c s.n (s'.lp k) + 2 ≤
           pcw s.w (s.p.pc k) + lpw s.c s.n (s.lp k)) : mu1 s' < mu1 s := by
  apply mu1_worker s s' k hk hw hc hn hqs hsig hpc hlp hex
  have a := (exw_bounds s k).1
  have b := (exw_bounds s' k).2
  omega

theorem mu1_lpOnly (s s' : St) (k : Nat) (x : Lp) (hk : k < s.w)
    (hw : s'.w = s.w) (hc : s'.c = s.c) (hn : s'.n = s.n) (hp : s'.p = s.p) (hex : s'.ex = s.ex)
    (hlp : s'.lp = upd s.lp k x) (hlt : lpw s.c s.n x < lpw s.c s.n (s.lp k)) : mu1 s' < mu1 s := by
  apply mu1_worker s s' k hk hw hc hn (by rw [hp]) (by rw [hp]) (fun u _ => by rw [hp])
    (fun u hu => by rw [hlp]; exact upd_other _ _ _ _ hu) (fun u _ => by rw [hex])
  have : exw s' k = exw s k := by simp only [exw]; rw [hw, hp, hex]
  rw [this, hp, hlp, upd_same]
  omega

/-- the only event that leaves the state unchanged -/
def isStutter : Ev → Bool
  | .decide _ _ => true
  | _ => false

theorem Run.mu1_lt {s s' : St} {e : Ev} (hi : CInv s) (hs : isStutter e = false) (h : Run s e s') :
    mu1 s' < mu1 s := by
  have hw := hi.pw
  -- `pop_*` returned `nullopt`
  have hnone : ∀ {k off : Nat}, k < s.w → popReady (s.lp k) = true → Bulk.offOf (s.p.pc k) = some off →
      mu1 { s with p := { s.p with pc := upd s.p.pc k (Bulk.afterEmpty s.p.w off),
                                   sawAll := s.p.sawAll || Decidable.decide (s.p.w ≤ off + 1) },
                   ex := upd s.ex k none, lp := upd s.lp k .out } < mu1 s := fun {k off} hk hr hoff => by
    apply mu1_worker2 s _ k hk <;> worker_side
    dsimp only
    rw [upd_same, upd_same, lpw_popReady _ _ _ hr, hw]
    have := pcw_afterEmpty s.w off _ hoff
    simp only [lpw]
    omega
  -- the word seen by a load or a failed compare-exchange is the current one
  have hword : ∀ {k q off : Nat} {f l : Int}, k < s.w → popOff (s.p.pc k) = some off →
      q = (k + off) % s.w → (f, l) = word (s.p.qs q) → exw s k = 2 →
      mu1 { s with ex := upd s.ex k (some (f, l)) } < mu1 s := fun {k q off f l} hk hoff hq hfl hold => by
    apply mu1_worker s _ k hk <;> worker_side
    have e1 : exw { s with ex := upd s.ex k (some (f, l)) } k = 1 := by
      simp only [exw, upd_same, hoff, exwf, ← hq, hfl, if_true]
    rw [e1, hold]
    dsimp only
    omega
  cases h with
  | decide => simp [isStutter] at hs
  | @sig err tok _ _ hb =>
    cases hb with
    | sig _ h0 =>
    have e : ∀ u, exw { s with p := { s.p with signals := 1 }, done := (err, tok) :: s.done } u = exw s u :=
      fun u => rfl
    unfold mu1
    dsimp only
    simp only [e]
    rw [h0]
    omega
  | @spawn k _ hb | @skip k _ hb | @task k _ hb =>
    obtain ⟨hk, x, nx, rfl, hx⟩ := hb.start (k := k) (by simp)
    apply mu1_worker2 s _ k (by omega) <;> worker_side
    dsimp only
    rw [upd_same]
    rcases hx with ⟨h0, rfl | rfl | rfl⟩ | ⟨h0, rfl⟩ <;> rw [h0] <;> simp only [pcw] <;> omega
  | loadNone hk _ hr _ _ _ _ hb | casNone hk hr _ _ _ _ _ _ _ hb =>
    cases hb with
    | popNone _ hoff => exact hnone hk hr hoff
  | loadSome hk hex _ hfl hoff hq => exact hword hk hoff hq hfl (by simp only [exw, hex, exwf])
  | casSome hk _ hex hoff hq _ hcur hfl =>
    exact hword hk hoff hq hfl (by simp only [exw, hex, hoff, exwf]; rw [← hq, if_neg hcur])
  | @casOk k q _ _ _ idx _ _ p' hk hr _ _ _ _ _ _ hb =>
    -- the successful pop makes the word other workers hold stale: at most one unit each
    have D := sumTo_le_add (c := 1) (n := s.w) (g := fun u => exw s u)
      (f := fun u => exw { s with p := p', ex := upd s.ex k none, lp := upd s.lp k (.got idx.toNat) } u)
      (fun u _ => by
        have a := (exw_bounds s u).1
        have b := (exw_bounds { s with p := p', ex := upd s.ex k none,
                                       lp := upd s.lp k (.got idx.toNat) } u).2
        omega)
    cases hb with
    | @popSome _ _ off _ _ hoff hq hne hj =>
    generalize idx.toNat = j at *
    subst hj
    have hqw : q < s.w := by rw [hq, hw]; exact Nat.mod_lt _ (by omega)
    have hl0 := lpw_popReady s.c s.n _ hr
    have hp0 := pcw_of_offOf s.w off (Bulk.popEnd off (s.p.qs q)).1 _ hoff
    have A := sumTo_upd s.w (qw s.w s.c s.n) s.p.qs q (Bulk.popEnd off (s.p.qs q)).2 hqw
    have B := sumTo_upd s.w (pcw s.w) s.p.pc k (.work off (Bulk.popEnd off (s.p.qs q)).1) hk
    have C := sumTo_upd s.w (lpw s.c s.n) s.lp k (.got (Bulk.popEnd off (s.p.qs q)).1) hk
    have Q := qw_popEnd s.w s.c s.n off ((Bulk.qEmpty_false_iff _).1 hne)
    have hg : ∀ j, lpw s.c s.n (.got j) = 2 * (cut s.c s.n (j + 1) - cut s.c s.n j) + 1 := fun _ => rfl
    rw [hg] at C
    unfold mu1
    dsimp only at D ⊢
    omega
  | @chunk k j _ hk hlp _ hb =>
    cases hb
    have hj : j < nchunks s.c s.n := by have := hi.lpOK k; rwa [hlp] at this
    have hr := (chunkRange_ideal s.S s.w s.n s.c k j hi.safe hk hj).1
    have hc1 : 1 ≤ s.c := hi.safe.2.1
    apply mu1_lpOnly s _ k _ hk <;> worker_side
    rw [hlp, hr]
    simp only [lpw]
    have e1 := cut_of_lt s.c s.n j hc1 hj
    have e2 : cut s.c s.n (j + 1) = min ((j + 1) * s.c) s.n := rfl
    rw [e1, e2]
    omega
  | @call k _ _ _ hk hlp | @ret k _ _ hk hlp | @throw k _ _ hk hlp =>
    apply mu1_lpOnly s _ k _ hk <;> worker_side
    rw [hlp]; simp only [lpw]; omega
  | @exc k _ _ hk hlp hb =>
    cases hb with
    | exc _ _ hpc =>
    apply mu1_worker2 s _ k hk <;> worker_side
    dsimp only
    rw [upd_same, upd_same, hpc, hlp]
    simp only [pcw, lpw]; omega
  | @decOut k _ _ hk hlp hfin hb =>
    cases hb with
    | decWork _ _ hpc => rw [hpc] at hfin; cases hfin
    | decFin _ _ hpc =>
    apply mu1_worker2 s _ k hk <;> worker_side
    dsimp only
    rw [upd_same, hpc]
    simp only [pcw]; omega
  | @decThrew k _ _ _ hk hlp hwk hb =>
    cases hb with
    | decFin _ _ hpc => rw [hpc] at hwk; cases hwk
    | decWork _ _ hpc =>
    apply mu1_worker2 s _ k hk <;> worker_side
    dsimp only
    rw [upd_same, upd_same, hpc, hlp]
    simp only [pcw, lpw]; omega

theorem stutter_same (s s' : St) (e : Ev) (hs : isStutter e = true) (h : step s e = some s') :
    s' = s := by
  cases step_iff.1 h with
  | run _ hr => cases hr <;> first | rfl | simp [isStutter] at hs
  | _ => simp [isStutter] at hs

theorem mu_step (s s' : St) (e : Ev) (hf : Full s) (hs : isStutter e = false)
    (h : step s e = some s') : mu s' < mu s := by
  cases step_iff.1 h with
  | zero hph =>
    simp only [mu, hph, if_true]
    rw [if_neg (by decide), if_neg (by decide)]
    omega
  | @plan c hph _ hc =>
    simp only [mu, hph, if_true, hc, Int.toNat_natCast]
    show mu1 (planned s c) < mu1 (planned s c) + 2
    omega
  | sigZero hph hd =>
    have h0 : s.ph ≠ 0 := by omega
    have h1 : s.ph ≠ 1 := by omega
    simp only [mu, h0, h1, if_false, hd, List.length_nil, List.length_singleton]
    omega
  | run hph hr =>
    rcases hf with ⟨h0, _⟩ | ⟨h2, _⟩ | ⟨_, _, hi⟩
    · omega
    · omega
    · simp only [mu, hph, hr.frame.1.2.2.2.2.1.trans hph, if_true]
      exact hr.mu1_lt hi hs

def work (log : List Ev) : Nat := (log.filter (fun e => !isStutter e)).length

theorem work_le_mu (s s' : St) (log : List Ev) (hf : Full s) (h : runLog step s log = some s') :
    work log + mu s' ≤ mu s :=
  runLog_work_le Full mu isStutter (fun s e s' => full_step s s' e)
    (fun s e s' hf hs => by
      cases he : isStutter e
      · have := mu_step s s' e hf he hs; simp only [Bool.false_eq_true, if_false]; omega
      · rw [stutter_same s s' e he hs]; simp) hf h

theorem qw_tele (W c n : Nat) (a : Nat → Nat) (m : Nat) (hm : ∀ k, k < m → a k ≤ a (k + 1)) :
    sumTo m (fun k => qw W c n (a k, a (k + 1))) = qw W c n (a 0, a m) ∧ a 0 ≤ a m := by
  induction m with
  | zero => simp [qw]
  | succ j ih =>
    obtain ⟨e, hle⟩ := ih (fun k hk => hm k (by omega))
    have h1 := hm j (by omega)
    simp only [sumTo_succ]
    rw [e]
    refine ⟨?_, by omega⟩
    unfold qw
    dsimp only
    have c1 := cut_mono_le c n hle
    have c2 := cut_mono_le c n h1
    have : (W + 2) * (a (j + 1) - a 0) = (W + 2) * (a j - a 0) + (W + 2) * (a (j + 1) - a j) := by
      rw [← Nat.mul_add]; congr 1; omega
    omega

theorem nchunks_le (c n : Nat) (hc : 1 ≤ c) : nchunks c n ≤ n := by
  have h : n ≤ n * c := Nat.le_mul_of_pos_right _ hc
  have := (Nat.div_lt_iff_lt_mul (show 0 < c by omega)).2
    (show n + c - 1 < (n + 1) * c by rw [Nat.add_mul]; omega)
  unfold nchunks; omega

/-- explicit bound on the number of (non-stutter) events of `bulk` with shape `n` on `w`
    workers: `2n` calls / returns, `(w + 2)` per chunk (at most `n` chunks), and
    `3w + 10` per worker, 1 completion, 2 for `set_value` -/
def bound (n w : Nat) : Nat := (w + 4) * n + w * (3 * w + 10) + 3

theorem mu1_planned (S : CTy) (w n L : Nat) (v : Int) (c : Nat) (hsafe : SafeC S w n c) :
    mu1 (planned (init S w n L v) c) = 2 * n + (w + 2) * nchunks c n + w * (3 * w + 10) + 1 := by
  have hpa : ∀ k, k ≤ w → cutsOf S w n c k = part w (nchunks c n) k :=
    fun k hk => cutsOf_ideal S w n c hsafe k hk
  have hc1 : 1 ≤ c := hsafe.2.1
  have hw1 : 1 ≤ w := hsafe.2.2.2.1
  obtain ⟨t1, _⟩ := qw_tele w c n (cutsOf S w n c) w (cutsOf_mono S w n c hsafe)
  rw [hpa 0 (by omega), hpa w (by omega), part_zero, part_last _ _ (by omega)] at t1
  have q : qw w c n (0, nchunks c n) = 2 * n + (w + 2) * nchunks c n := by
    unfold qw; dsimp only
    rw [cut_last c n (by omega), cut_zero]; simp only [Nat.sub_zero]
  have e1 : sumTo w (fun k => pcw w (Bulk.Pc.idle)) = w * (3 * w + 8) := sumTo_const w _
  have e2 : sumTo w (fun _ => lpw c n Lp.out) = 0 := sumTo_eq_zero (fun _ _ => rfl)
  have e3 : sumTo w (fun k => exw (planned (init S w n L v) c) k) = w * 2 := sumTo_const w 2
  unfold mu1
  show sumTo w (fun k => qw w c n (cutsOf S w n c k, cutsOf S w n c (k + 1))) +
      sumTo w (fun k => pcw w (Bulk.Pc.idle)) + sumTo w (fun _ => lpw c n Lp.out) +
      sumTo w (fun k => exw (planned (init S w n L v) c) k) + (1 - 0) = _
  rw [t1, q, e1, e2, e3]
  have : w * (3 * w + 10) = w * (3 * w + 8) + w * 2 := by rw [← Nat.mul_add]
  omega

theorem mu_init_le (S : CTy) (w n L : Nat) (v : Int) (hs : Safe S w n) :
    mu (init S w n L v) ≤ bound n w := by
  obtain ⟨c, hc, hsafe⟩ := chunkSize_safe S w n hs
  have e : mu (init S w n L v) = mu1 (planned (init S w n L v) c) + 2 := by
    unfold mu
    rw [if_pos (show (init S w n L v).ph = 0 from rfl)]
    show (match chunkSizeOf S fuel w n with
          | some c => mu1 (planned (init S w n L v) c.toNat) | none => 0) + 2 = _
    rw [hc]
    simp only [Int.toNat_natCast]
  rw [e, mu1_planned S w n L v c hsafe]
  have hn := nchunks_le c n hsafe.2.1
  have : (w + 2) * nchunks c n ≤ (w + 2) * n := Nat.mul_le_mul_left _ hn
  have : (w + 4) * n = 2 * n + (w + 2) * n := by rw [← Nat.add_mul]; congr 1; omega
  unfold bound
  omega

end PikaVerif.BulkC
