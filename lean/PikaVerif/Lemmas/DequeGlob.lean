import PikaVerif.Model.Deque
import PikaVerif.Lemmas.DequeList
/-! Structural invariant of the deque model: the anchor and the node links describe the ghost
chain (`Glob`), and how each successful shared write preserves it. -/
namespace PikaVerif.Deque

/-- `p` is the chain neighbour of `e` on the interior side of end `d` -/
def Nbr (d : Bool) (C : List Nat) (e p : Nat) : Prop := if d then Adj C p e else Adj C e p

/-- The anchor and the node links describe the ghost chain `C`: the anchor's end pointers are its
    first and last node (null on the empty chain), its nodes are distinct, non-null and allocated,
    an unstable anchor (`st` 1 = rpush, 2 = lpush) has two nodes at least, and neighbours point at
    each other (`rlink`, `llink`) except for the one link an unfinished push has not set yet: the
    `right` link into the new right end while `st = 1`, the `left` link into the new left end while
    `st = 2`. -/
structure Glob (A : Anchor) (C : List Nat) (N : Nat → Node) (U : Nat → Bool) : Prop where
  hd : A.l = C.head?.getD 0
  lst : A.r = C.getLast?.getD 0
  mem : ∀ x, x ∈ C → x ≠ 0 ∧ U x = true
  nodup : C.Nodup
  st : A.st = 0 ∨ ((A.st = 1 ∨ A.st = 2) ∧ 2 ≤ C.length)
  rlink : ∀ a b, Adj C a b → (A.st = 1 → b ≠ A.r) → (N a).right.ptr = b
  llink : ∀ a b, Adj C a b → (A.st = 2 → a ≠ A.l) → (N b).left.ptr = a

variable {A : Anchor} {C : List Nat} {N : Nat → Node} {U : Nat → Bool}

@[simp] theorem inward_setInward (d : Bool) (nd : Node) (lk : Link) :
    inward d (setInward d nd lk) = lk := by cases d <;> rfl
@[simp] theorem outward_setOutward (d : Bool) (nd : Node) (lk : Link) :
    outward d (setOutward d nd lk) = lk := by cases d <;> rfl
@[simp] theorem data_setInward (d : Bool) (nd : Node) (lk : Link) :
    (setInward d nd lk).data = nd.data := by cases d <;> rfl
@[simp] theorem data_setOutward (d : Bool) (nd : Node) (lk : Link) :
    (setOutward d nd lk).data = nd.data := by cases d <;> rfl

theorem inward_setOutward (d : Bool) (nd : Node) (lk : Link) :
    inward d (setOutward d nd lk) = inward d nd := by cases d <;> rfl

theorem outward_setOutward_ne (d : Bool) (nd : Node) (lk : Link) :
    outward (!d) (setOutward d nd lk) = outward (!d) nd := by cases d <;> rfl

@[simp] theorem pushSt_false : pushSt false = 2 := rfl
@[simp] theorem pushSt_true : pushSt true = 1 := rfl

theorem pushSt_inj {d d' : Bool} (h : pushSt d = pushSt d') : d = d' := by
  cases d <;> cases d' <;> first | rfl | cases h

theorem pushSt_ne_zero (d : Bool) : pushSt d ≠ 0 := by cases d <;> exact Nat.succ_ne_zero _

theorem nbr_unique (hn : C.Nodup) {d : Bool} {e p p' : Nat} (h : Nbr d C e p) (h' : Nbr d C e p') :
    p = p' := by
  cases d
  · exact adj_right_unique hn h h'
  · exact adj_left_unique hn h h'

/-- the node whose side-`d` interior neighbour is `q` is unique -/
theorem nbr_unique_left (hn : C.Nodup) {d : Bool} {e e' q : Nat} (h : Nbr d C e q) (h' : Nbr d C e' q) :
    e = e' := by
  cases d
  · exact adj_left_unique hn h h'
  · exact adj_right_unique hn h h'

theorem nbr_mem {d : Bool} {e p : Nat} (h : Nbr d C e p) : e ∈ C ∧ p ∈ C := by
  cases d
  · exact adj_mem h
  · exact (adj_mem h).symm

theorem mem_of_mem_chainPop {d : Bool} {x : Nat} (h : x ∈ chainPop d C) : x ∈ C := by
  cases d
  · exact List.mem_of_mem_tail h
  · exact List.dropLast_subset _ h

theorem Glob.head_eq (g : Glob A C N U) (h : C ≠ []) : C.head? = some A.l := by
  cases C with
  | nil => exact absurd rfl h
  | cons x l => exact congrArg some g.hd.symm

theorem Glob.last_eq (g : Glob A C N U) (h : C ≠ []) : C.getLast? = some A.r := by
  cases hl : C.getLast? with
  | none => exact absurd (List.getLast?_eq_none_iff.1 hl) h
  | some y => have := g.lst; rw [hl] at this; exact congrArg some this.symm

theorem Glob.ends (g : Glob A C N U) : (C = [] ∧ A.l = 0 ∧ A.r = 0) ∨ (C ≠ [] ∧ A.l ∈ C ∧ A.r ∈ C) := by
  by_cases h : C = []
  · subst h; exact Or.inl ⟨rfl, g.hd, g.lst⟩
  · exact Or.inr ⟨h, List.mem_of_head? (g.head_eq h), List.mem_of_getLast? (g.last_eq h)⟩

theorem Glob.nil_of_end (g : Glob A C N U) (d : Bool) (h : A.endp d = 0) : C = [] := by
  have := g.ends; have := g.mem A.l; have := g.mem A.r
  cases d <;> grind [Anchor.endp]

theorem Glob.end_mem (g : Glob A C N U) (d : Bool) (h : A.endp d ≠ 0) : A.endp d ∈ C := by
  have := g.ends
  cases d <;> grind [Anchor.endp]

theorem Glob.ends_ne_iff (g : Glob A C N U) : A.l ≠ A.r ↔ 2 ≤ C.length := by
  have h1 := g.hd; have h2 := g.lst; have hn := g.nodup
  match C with
  | [] => simp at h1 h2; simp [h1, h2]
  | [x] => simp at h1 h2; simp [h1, h2]
  | x :: y :: l =>
    -- the head is not in the tail, where the last element lives
    have := @List.mem_of_getLast? _ (y :: l) A.r
    simp only [List.getLast?_cons_cons] at h2
    cases hl : (y :: l).getLast? <;> grind

theorem Glob.len_two (g : Glob A C N U) (h : A.l ≠ A.r) : 2 ≤ C.length := g.ends_ne_iff.1 h
theorem Glob.ends_ne (g : Glob A C N U) (h : 2 ≤ C.length) : A.l ≠ A.r := g.ends_ne_iff.2 h

theorem Glob.single (g : Glob A C N U) (h : A.l = A.r) (h0 : A.l ≠ 0) : C = [A.l] := by
  have := g.ends_ne_iff
  have h1 := g.hd
  match C with
  | [] => exact absurd h1 h0
  | [x] => exact congrArg (· :: []) h1.symm
  | _ :: _ :: _ => grind

variable (g : Glob A C N U)
include g

theorem Glob.st_zero (h : C.length < 2) : A.st = 0 :=
  g.st.resolve_right fun h2 => absurd h2.2 (Nat.not_le_of_lt h)

theorem Glob.ends_ne_of_st (h : A.st ≠ 0) : A.l ≠ A.r :=
  g.ends_ne (g.st.resolve_left h).2

theorem Glob.end_ne_zero (d : Bool) (h : A.l ≠ A.r) : A.endp d ≠ 0 := by
  intro h0
  have := g.len_two h
  rw [g.nil_of_end d h0] at this
  exact absurd this (by decide)

/-- an unstable anchor's status is that of the push on side `stabSide A` -/
theorem Glob.st_eq_pushSt (h : A.st ≠ 0) : A.st = pushSt (decide (A.st = 1)) := by
  rcases (g.st.resolve_left h).1 with h1 | h2
  · rw [h1]; rfl
  · rw [h2]; rfl

theorem Glob.nbr_inward (d : Bool) (h : A.l ≠ A.r)
    (hs : A.st = 0 ∨ A.st = pushSt d) :
    Nbr d C (A.endp d) (inward d (N (A.endp d))).ptr := by
  have hl := g.len_two h
  have hne : C ≠ [] := fun hc => by rw [hc] at hl; exact absurd hl (by decide)
  cases d
  · obtain ⟨y, hy, _⟩ := adj_head_exists (g.head_eq hne) hl
    rw [show (inward false (N (A.endp false))).ptr = y from
      g.rlink _ _ hy (fun h1 => by rcases hs with h0 | h0 <;> rw [h1] at h0 <;> cases h0)]
    exact hy
  · obtain ⟨y, hy, _⟩ := adj_last_exists (g.last_eq hne) hl
    rw [show (inward true (N (A.endp true))).ptr = y from
      g.llink _ _ hy (fun h1 => by rcases hs with h0 | h0 <;> rw [h1] at h0 <;> cases h0)]
    exact hy

theorem Glob.frame {N' : Nat → Node} {U' : Nat → Bool}
    (hN : ∀ x, x ∈ C → N' x = N x) (hU : ∀ x, x ∈ C → U' x = true) : Glob A C N' U' :=
  ⟨g.hd, g.lst, fun x hx => ⟨(g.mem x hx).1, hU x hx⟩, g.nodup, g.st,
    fun a b hab he => hN a (adj_mem hab).1 ▸ g.rlink a b hab he,
    fun a b hab he => hN b (adj_mem hab).2 ▸ g.llink a b hab he⟩

theorem Glob.push_empty (d : Bool) (h : A.endp d = 0) {n : Nat} (hn : n ≠ 0)
    (hu : U n = true) : Glob ⟨n, n, A.st, A.tag + 1⟩ (chainPush d C n) N U := by
  have hc := g.nil_of_end d h
  subst hc
  rw [show chainPush d [] n = [n] by cases d <;> rfl]
  exact ⟨rfl, rfl, fun x hx => by cases List.mem_singleton.1 hx; exact ⟨hn, hu⟩, (List.pairwise_singleton _ n),
    Or.inl (g.st_zero (by decide)), fun _ _ h => h.elim, fun _ _ h => h.elim⟩

/-- push at end `d` of a stable non-empty deque (the anchor CAS of `push_left/right`) -/
theorem Glob.push (d : Bool) (hst : A.st = 0) (h : A.endp d ≠ 0) {n : Nat}
    (hn : n ≠ 0) (hu : U n = true) (hnc : n ∉ C) (hl : (inward d (N n)).ptr = A.endp d) :
    Glob (if d then ⟨A.l, n, 1, A.tag + 1⟩ else ⟨n, A.r, 2, A.tag + 1⟩) (chainPush d C n) N U := by
  have hne : C ≠ [] := fun hc => by have := g.end_mem d h; rw [hc] at this; cases this
  have hlen : 1 ≤ C.length := List.length_pos_iff.2 hne
  have hh := g.head_eq hne
  have hla := g.last_eq hne
  have hr := g.rlink
  have hll := g.llink
  have hmem : ∀ x, x ∈ C ∨ x = n → x ≠ 0 ∧ U x = true := fun x hx => hx.elim (g.mem x) (· ▸ ⟨hn, hu⟩)
  cases d <;> simp only [inward, Anchor.endp] at hl
  · refine ⟨rfl, ?_, fun x hx => hmem x (List.mem_cons.1 hx).symm, List.nodup_cons.2 ⟨hnc, g.nodup⟩,
      Or.inr ⟨Or.inr rfl, Nat.succ_le_succ hlen⟩, fun a b hab _ => ?_, fun a b hab he => ?_⟩
    · match C, hne, g.lst with
      | _ :: _, _, h => exact h
    · have := (adj_cons n C a b).1 hab; grind
    · have := (adj_cons n C a b).1 hab; grind
  · refine ⟨?_, by simp [chainPush], fun x hx => hmem x (by simpa [chainPush] using hx), ?_,
      Or.inr ⟨Or.inl rfl, by simp [chainPush]; exact hlen⟩, fun a b hab he => ?_, fun a b hab _ => ?_⟩
    · match C, hne, g.hd with
      | _ :: _, _, h => exact h
    · exact List.nodup_append.2 ⟨g.nodup, List.pairwise_singleton _ n,
        fun a ha b hb hab => hnc (List.mem_singleton.1 hb ▸ hab ▸ ha)⟩
    · have := (adj_snoc C n a b).1 hab; grind
    · have := (adj_snoc C n a b).1 hab; grind

theorem Glob.chain_split (d : Bool) (h0 : A.endp d ≠ 0) :
    C = (if d then chainPop d C ++ [A.endp d] else A.endp d :: chainPop d C) := by
  have hne : C ≠ [] := fun hc => by have := g.end_mem d h0; rw [hc] at this; cases this
  cases d
  · have h1 := g.head_eq hne
    cases C with
    | nil => exact absurd rfl hne
    | cons x l => cases h1; rfl
  · exact dropLast_split C A.r (g.last_eq hne)

theorem Glob.end_not_mem_pop (d : Bool) (h0 : A.endp d ≠ 0) :
    A.endp d ∉ chainPop d C := by
  have hn := g.nodup
  rw [g.chain_split d h0] at hn
  cases d
  · exact (List.nodup_cons.1 hn).1
  · exact fun hm => (List.nodup_append.1 hn).2.2 _ hm _ (List.mem_singleton_self _) rfl

theorem Glob.pop_core (d : Bool) (hst : A.st = 0) {A' : Anchor} (h0 : A'.st = 0)
    (h1 : A'.l = (chainPop d C).head?.getD 0) (h2 : A'.r = (chainPop d C).getLast?.getD 0) :
    Glob A' (chainPop d C) N U := by
  have hadj : ∀ {a b}, Adj (chainPop d C) a b → Adj C a b := fun h => by
    cases d
    · exact adj_tail h
    · exact adj_dropLast h
  refine ⟨h1, h2, fun x hx => g.mem x (mem_of_mem_chainPop hx), ?_, Or.inl h0,
    fun a b hab _ => g.rlink a b (hadj hab) (fun h => by rw [hst] at h; cases h),
    fun a b hab _ => g.llink a b (hadj hab) (fun h => by rw [hst] at h; cases h)⟩
  cases d
  · exact g.nodup.sublist (List.tail_sublist C)
  · exact g.nodup.sublist (List.dropLast_sublist C)

theorem Glob.pop_single (d : Bool) (h : A.l = A.r) (h0 : A.endp d ≠ 0) :
    Glob ⟨0, 0, A.st, A.tag + 1⟩ (chainPop d C) N U := by
  have hc := g.single h (by cases d; exact h0; exact h ▸ h0)
  have hst : A.st = 0 := g.st_zero (by rw [hc]; exact Nat.lt_succ_self 1)
  have he : chainPop d C = [] := by rw [hc]; cases d <;> rfl
  exact g.pop_core d hst hst (by rw [he]; rfl) (by rw [he]; rfl)

theorem Glob.pop (d : Bool) (hst : A.st = 0) (h : A.l ≠ A.r) {p : Nat}
    (hp : Nbr d C (A.endp d) p) :
    Glob (if d then ⟨A.l, p, A.st, A.tag + 1⟩ else ⟨p, A.r, A.st, A.tag + 1⟩) (chainPop d C) N U := by
  have hl := g.len_two h
  have hne : C ≠ [] := fun hc => by rw [hc] at hl; exact absurd hl (by decide)
  cases d
  · obtain ⟨y, hy, hy2⟩ := adj_head_exists (g.head_eq hne) hl
    obtain rfl : p = y := adj_right_unique g.nodup hp hy
    refine g.pop_core false hst hst (by rw [show (chainPop false C).head? = some p from hy2]; rfl) ?_
    match C, hl, g.lst with
    | _ :: _ :: _, _, h2 => exact h2
  · obtain ⟨y, hy, hy2⟩ := adj_last_exists (g.last_eq hne) hl
    obtain rfl : p = y := adj_left_unique g.nodup hp hy
    refine g.pop_core true hst hst ?_ (by rw [show (chainPop true C).getLast? = some p from hy2]; rfl)
    match C, hl, g.hd with
    | _ :: _ :: _, _, h1 => exact h1

/-- the final anchor CAS of `stabilize_left/right` -/
theorem Glob.stab (d : Bool) (hst : A.st = pushSt d)
    (hk : ∀ p, Nbr d C (A.endp d) p → (outward d (N p)).ptr = A.endp d) :
    Glob ⟨A.l, A.r, 0, A.tag + 1⟩ C N U := by
  -- the one link the unfinished push had left open is the one `hk` speaks of
  have h1 := g.rlink
  have h2 := g.llink
  refine ⟨g.hd, g.lst, g.mem, g.nodup, Or.inl rfl, fun a b hab _ => ?_, fun a b hab _ => ?_⟩ <;>
    cases d <;> grind [Nbr, Anchor.endp, outward, pushSt]

/-- nothing lies outward of the end node -/
theorem Glob.no_nbr_end {d : Bool} {x : Nat} (h : Nbr d C x (A.endp d)) : False := by
  have hne : C ≠ [] := fun hc => by rw [hc] at h; cases d <;> exact h
  cases d
  · exact adj_not_head g.nodup h (g.head_eq hne)
  · exact adj_not_last g.nodup h (g.last_eq hne)

/-- a write into the side-`d` outward link of `P` (the link CAS of `stabilize_left/right`): the value the
    chain asks of that word, if it asks anything -/
theorem Glob.write_outward (d : Bool) {P : Nat} {lk : Link}
    (hP : ∀ x, Nbr d C x P → x = lk.ptr) : Glob A C (upd N P (setOutward d (N P) lk)) U := by
  have h1 := g.rlink
  have h2 := g.llink
  refine ⟨g.hd, g.lst, g.mem, g.nodup, g.st, fun a b hab he => ?_, fun a b hab he => ?_⟩ <;>
    cases d <;> simp only [Nbr, Bool.false_eq_true, if_false, if_true] at hP <;> grind [upd, setOutward]

end PikaVerif.Deque
