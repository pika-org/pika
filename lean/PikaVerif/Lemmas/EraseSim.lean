import PikaVerif.Model.Erase
import PikaVerif.Core.Run
/-! The abstraction `absSt` to the value-semantics specification: how it commutes with the operations
    states are built from, what `ASt.construct` does, and that the specification never answers `ub`.
    The simulation itself is `sim_exec` (`Lemmas/EraseExec.lean`). -/
namespace PikaVerif.Erase

@[simp] theorem absSlot_live (sl : Slot) : (absSlot sl).live = sl.live := by
  unfold absSlot; split <;> (try split) <;> simp_all [ASlot.live]

theorem absSt_live (s : St) (i : Nat) : ((absSt s).slots i).live = (s.slot i).live := absSlot_live _

theorem absSt_arm (s : St) : (absSt s).arm = s.arm := rfl

theorem absSt_slots (s : St) (i : Nat) : (absSt s).slots i = absSlot (s.slot i) := rfl

theorem callRes_core (o : Obj) (x : Int) (r : Bool) : (callRes o x r).core = aCall o.ty o.val x := by
  unfold callRes aCall; split <;> rfl

theorem complRes_core (o : Obj) : (complRes o).core = aCompl o.ty o.val := by
  unfold complRes; repeat' split
  all_goals simp [Res.core, aCompl, *]

/-! The abstraction sees the slots and the arming countdown, nothing of the ledger. -/

@[simp] theorem absSt_put (s : St) (i : Nat) (sl : Slot) : absSt (s.put i sl) = (absSt s).set i (absSlot sl) := by
  simp only [absSt, St.put, ASt.set, ASt.mk.injEq, and_true]
  funext k; by_cases hk : k = i <;> simp [upd, hk]

@[simp] theorem absSt_born (s : St) (k : Nat) : absSt (s.born k) = absSt s := rfl
@[simp] theorem absSt_die (s : St) (id : Nat) : absSt (s.die id) = absSt s := rfl
@[simp] theorem absSt_dieO (s : St) (o : Option Obj) : absSt (s.dieO o) = absSt s := by cases o <;> rfl
@[simp] theorem absSt_own (s : St) (id i : Nat) : absSt (s.own id i) = absSt s := rfl
@[simp] theorem absSt_ownO (s : St) (o : Option Obj) (i : Nat) : absSt (s.ownO o i) = absSt s := by cases o <;> rfl
@[simp] theorem absSt_tick (s : St) : absSt s.tick = { absSt s with arm := (absSt s).arm - 1 } := rfl

theorem absSt_full {s : St} {i : Nat} {o : Obj} (hl : (s.slot i).live = true) (ho : (s.slot i).obj = some o) :
    (absSt s).slots i = .full o.ty o.val := by simp [absSt, absSlot, hl, ho]

theorem absSt_empty {s : St} {i : Nat} (hl : (s.slot i).live = true) (ho : (s.slot i).obj = none) :
    (absSt s).slots i = .empty := by simp [absSt, absSlot, hl, ho]

theorem absSt_dead {s : St} {i : Nat} (hl : (s.slot i).live = false) : (absSt s).slots i = .dead := by
  simp [absSt, absSlot, hl]

theorem construct_ok {a : ASt} {i : Nat} {ty : PTy} {v : Int} {t : ASlot}
    (h : (a.construct i ty v t).2 = .ok) : (a.construct i ty v t).1.slots i = .full ty v := by
  simp only [ASt.construct] at h ⊢
  split at h
  · cases h
  · simp [*]

theorem construct_perr {a : ASt} {i : Nat} {ty : PTy} {v w : Int} {t : ASlot}
    (h : (a.construct i ty v t).2 = .perr w) : (a.construct i ty v t).1.slots i = t := by
  simp only [ASt.construct] at h ⊢
  split at h
  · simp [*]
  · cases h

theorem spec_ne_ub (c : Cfg) (a : ASt) (op : Op) : (specExec c a op).2 ≠ .ub := by
  cases op <;> simp only [specExec, ASt.construct] <;> (repeat' split) <;> simp [aCall, aCompl] <;>
    (repeat' split) <;> simp

theorem specRun_ne_ub (c : Cfg) (ops : List Op) : ∀ a, ∀ r ∈ specRun c a ops, r ≠ .ub := by
  induction ops with
  | nil => exact fun _ _ h => nomatch h
  | cons op ops ih =>
    intro a r hr
    rcases List.mem_cons.1 hr with rfl | hr
    · exact spec_ne_ub c a op
    · exact ih _ r hr

end PikaVerif.Erase
