import PikaVerif.Lemmas.Partition
import PikaVerif.Model.BulkPlan
/-!
# The generated bulk arithmetic equals the ideal (unbounded) arithmetic under `SafeC`

`SafeC S w n c` lists the no-wrap conditions for shape type `S`, `w` workers, shape `n` and an
arbitrary chunk size `c ≥ 1`.  Under it, each generated function (`Gen/BulkArith.lean`, C++
types with wrap-around) coincides with the plain natural-number function of
`Lemmas/Partition.lean`, and none of the signed operations overflows.
-/
namespace PikaVerif.BulkArith
open PikaVerif.Gen.BulkArith PikaVerif.Partition

theorem u32_wrap (x : Int) (h0 : 0 ≤ x) (h1 : x < 4294967296) : CTy.u32.wrap x = x := by
  show x % (2:Int)^32 = x
  omega
theorem u64_wrap (x : Int) (h0 : 0 ≤ x) (h1 : x < 18446744073709551616) : CTy.u64.wrap x = x := by
  show x % (2:Int)^64 = x
  omega
theorem i32_wrap (x : Int) (h0 : -2147483648 ≤ x) (h1 : x < 2147483648) : CTy.i32.wrap x = x := by
  show (x + (2:Int)^31) % (2:Int)^32 - (2:Int)^31 = x
  omega
theorem i64_wrap (x : Int) (h0 : -9223372036854775808 ≤ x) (h1 : x < 9223372036854775808) :
    CTy.i64.wrap x = x := by
  show (x + (2:Int)^63) % (2:Int)^64 - (2:Int)^63 = x
  omega

theorem u32_fits (x : Int) : CTy.u32.fits x = true ↔ 0 ≤ x ∧ x < 4294967296 := by
  simp [CTy.fits, CTy.u32]
  exact decide_eq_true_iff
theorem u64_fits (x : Int) : CTy.u64.fits x = true ↔ 0 ≤ x ∧ x < 18446744073709551616 := by
  simp [CTy.fits, CTy.u64]
  exact decide_eq_true_iff
theorem i32_fits (x : Int) : CTy.i32.fits x = true ↔ -2147483648 ≤ x ∧ x < 2147483648 := by
  simp [CTy.fits, CTy.i32]
  exact decide_eq_true_iff
theorem i64_fits (x : Int) :
    CTy.i64.fits x = true ↔ -9223372036854775808 ≤ x ∧ x < 9223372036854775808 := by
  simp [CTy.fits, CTy.i64]
  exact decide_eq_true_iff

theorem u32_ok (x : Int) : CTy.u32.ok x = true := by simp [CTy.ok, CTy.u32]
theorem u64_ok (x : Int) : CTy.u64.ok x = true := by simp [CTy.ok, CTy.u64]
theorem i32_ok (x : Int) : CTy.i32.ok x = CTy.i32.fits x := by simp [CTy.ok, CTy.i32]
theorem i64_ok (x : Int) : CTy.i64.ok x = CTy.i64.fits x := by simp [CTy.ok, CTy.i64]

/-- The four shape types for which the bulk customisation compiles. -/
def IsShape (S : CTy) : Prop := S = CTy.i32 ∨ S = CTy.u32 ∨ S = CTy.i64 ∨ S = CTy.u64

instance (S : CTy) : Decidable (IsShape S) := by unfold IsShape; infer_instance

def SafeC (S : CTy) (w n c : Nat) : Prop :=
  IsShape S ∧ 1 ≤ c ∧ c < 4294967296 ∧ 1 ≤ w ∧ w < 4294967296 ∧
  S.fits n = true ∧ (CTy.common S CTy.u32).fits ((n : Int) + c) = true ∧
  nchunks c n < 4294967296 ∧ w * nchunks c n < 4294967296 ∧
  S.fits ((nchunks c n * c : Nat) : Int) = true

instance (S : CTy) (w n c : Nat) : Decidable (SafeC S w n c) := by unfold SafeC; infer_instance

theorem partBegin_ideal (w k nc : Nat) (hw : 1 ≤ w) (hw2 : w < 4294967296)
    (hprod : k * nc < 4294967296) (hk : k < 4294967296) (hnc : nc < 4294967296) :
    partBegin w k nc = ((part w nc k : Nat) : Int) := by
  unfold partBegin part
  rw [Int.natCast_ediv, Int.natCast_mul]
  have hm : 0 ≤ (k:Int) * nc := Int.mul_nonneg (Int.natCast_nonneg k) (Int.natCast_nonneg nc)
  have hm2 : (k:Int) * nc < 4294967296 := by rw [← Int.natCast_mul]; omega
  have hd' : (k:Int) * nc / w ≤ k * nc := Int.ediv_le_self _ hm
  have hq : 0 ≤ (k:Int) * nc / w := Int.ediv_nonneg hm (Int.natCast_nonneg w)
  simp (disch := omega) only [u32_wrap, u64_wrap, Int.tdiv_eq_ediv_of_nonneg]

theorem partEnd_ideal (w k nc : Nat) (hw : 1 ≤ w) (hw2 : w < 4294967296)
    (hprod : (k + 1) * nc < 4294967296) (hk : k + 1 < 4294967296) (hnc : nc < 4294967296) :
    partEnd w k nc = ((part w nc (k + 1) : Nat) : Int) := by
  rw [← partBegin_ideal w (k + 1) nc hw hw2 hprod hk hnc]
  show partBegin w (CTy.u32.wrap (CTy.u32.wrap k + CTy.u32.wrap 1)) nc = _
  rw [u32_wrap k (by omega) (by omega), u32_wrap 1 (by omega) (by omega),
    u32_wrap _ (by omega) (by omega), Int.natCast_add, Int.natCast_one]

theorem initQueueNoUB_true (w k nc : Nat) (hw : 1 ≤ w) (hw2 : w < 4294967296) :
    initQueueNoUB w k nc = true := by
  unfold initQueueNoUB
  simp (disch := omega) only [u32_ok, u64_ok, u64_wrap, Bool.and_true, Bool.true_and, decide_eq_true_eq]
  omega

theorem cm_i32_i32 : CTy.common CTy.i32 CTy.i32 = CTy.i32 := by decide
theorem cm_i32_u32 : CTy.common CTy.i32 CTy.u32 = CTy.u32 := by decide
theorem cm_i32_i64 : CTy.common CTy.i32 CTy.i64 = CTy.i64 := by decide
theorem cm_i32_u64 : CTy.common CTy.i32 CTy.u64 = CTy.u64 := by decide
theorem cm_u32_i32 : CTy.common CTy.u32 CTy.i32 = CTy.u32 := by decide
theorem cm_u32_u32 : CTy.common CTy.u32 CTy.u32 = CTy.u32 := by decide
theorem cm_u32_i64 : CTy.common CTy.u32 CTy.i64 = CTy.i64 := by decide
theorem cm_u32_u64 : CTy.common CTy.u32 CTy.u64 = CTy.u64 := by decide
theorem cm_i64_i32 : CTy.common CTy.i64 CTy.i32 = CTy.i64 := by decide
theorem cm_i64_u32 : CTy.common CTy.i64 CTy.u32 = CTy.i64 := by decide
theorem cm_i64_i64 : CTy.common CTy.i64 CTy.i64 = CTy.i64 := by decide
theorem cm_i64_u64 : CTy.common CTy.i64 CTy.u64 = CTy.u64 := by decide
theorem cm_u64_i32 : CTy.common CTy.u64 CTy.i32 = CTy.u64 := by decide
theorem cm_u64_u32 : CTy.common CTy.u64 CTy.u32 = CTy.u64 := by decide
theorem cm_u64_i64 : CTy.common CTy.u64 CTy.i64 = CTy.u64 := by decide
theorem cm_u64_u64 : CTy.common CTy.u64 CTy.u64 = CTy.u64 := by decide

macro "cty_simp" : tactic => `(tactic| simp only [cm_i32_i32, cm_i32_u32, cm_i32_i64, cm_i32_u64, cm_u32_i32, cm_u32_u32, cm_u32_i64, cm_u32_u64, cm_i64_i32, cm_i64_u32, cm_i64_i64, cm_i64_u64, cm_u64_i32, cm_u64_u32, cm_u64_i64, cm_u64_u64, u32_ok, u64_ok, i32_ok, i64_ok] at *)

theorem natCast_nchunks (c n : Nat) (hc : 1 ≤ c) :
    ((nchunks c n : Nat) : Int) = ((n : Int) + c - 1) / c := by
  unfold nchunks
  rw [Int.natCast_ediv]
  congr 1
  omega

/-- closes the goals of the `…_ideal` lemmas once the shape type is concrete -/
macro "arith_close" : tactic => `(tactic| (
  cty_simp
  simp only [u32_fits, u64_fits, i32_fits, i64_fits] at *
  simp (disch := omega) only [u32_wrap, u64_wrap, i32_wrap, i64_wrap, Int.tdiv_eq_ediv_of_nonneg,
      u32_fits, u64_fits, i32_fits, i64_fits, Bool.and_true, Bool.true_and, decide_eq_true_eq,
      Bool.and_eq_true, and_true, true_and, eq_self, ite_true, if_true, decide_true]
  try omega))

theorem numChunksOf_ideal_aux (S : CTy) (n c : Nat) (hS : IsShape S) (hc : 1 ≤ c)
    (hc2 : c < 4294967296) (hn : S.fits n = true)
    (hsum : (CTy.common S CTy.u32).fits ((n : Int) + c) = true) :
    numChunksOf S n c = ((n : Int) + c - 1) / c ∧ numChunksNoUB S n c = true := by
  have hq : 0 ≤ ((n : Int) + c - 1) / c := Int.ediv_nonneg (by omega) (by omega)
  have hq2 : ((n : Int) + c - 1) / c ≤ (n : Int) + c - 1 := Int.ediv_le_self _ (by omega)
  unfold numChunksOf numChunksNoUB
  rcases hS with rfl | rfl | rfl | rfl <;> arith_close

theorem numChunksOf_ideal (S : CTy) (w n c : Nat) (h : SafeC S w n c) :
    numChunksOf S n c = ((nchunks c n : Nat) : Int) ∧ numChunksNoUB S n c = true := by
  obtain ⟨hS, hc, hc2, hw, hw2, hn, hsum, hnc, hwnc, hend⟩ := h
  rw [natCast_nchunks c n hc]
  exact numChunksOf_ideal_aux S n c hS hc hc2 hn hsum

theorem chunk_ideal_aux (S : CTy) (n c j : Nat) (hS : IsShape S) (hn : S.fits n = true)
    (hend : S.fits ((((j + 1) * c : Nat)) : Int) = true) (hj : S.fits ((j : Int) + 1) = true)
    (hcf : S.fits (c : Int) = true) (hj32 : j < 4294967296) (hc32 : c < 4294967296) :
    iBegin S j c = ((j * c : Nat) : Int) ∧ iEnd S j c n = ((min ((j + 1) * c) n : Nat) : Int) ∧
    doWorkChunkNoUB S j c n = true := by
  have e1 : (((j + 1) * c : Nat) : Int) = ((j : Int) + 1) * c := by
    rw [Int.natCast_mul, Int.natCast_add, Int.natCast_one]
  have e2 : ((j * c : Nat) : Int) = (j : Int) * c := Int.natCast_mul _ _
  have e3 : ((min ((j + 1) * c) n : Nat) : Int) = if (n : Int) < ((j : Int) + 1) * c then (n : Int)
      else ((j : Int) + 1) * c := by
    rw [← e1]; split <;> rename_i h <;> congr 1 <;> omega
  have hle : (j : Int) * c ≤ ((j : Int) + 1) * c := by
    have : ((j : Int) + 1) * c = j * c + c := by rw [Int.add_mul]; simp
    omega
  have h0 : 0 ≤ (j : Int) * c := Int.mul_nonneg (by omega) (by omega)
  rw [e1] at hend
  rw [e2, e3]
  unfold iBegin iEnd doWorkChunkNoUB CTy.minSame
  rcases hS with rfl | rfl | rfl | rfl <;> arith_close

theorem fits_mono (S : CTy) (hS : IsShape S) {x y : Int} (h0 : 0 ≤ x) (hxy : x ≤ y)
    (hy : S.fits y = true) : S.fits x = true := by
  rcases hS with rfl | rfl | rfl | rfl <;>
    simp only [u32_fits, u64_fits, i32_fits, i64_fits] at * <;> omega

theorem fits_lt32 (S : CTy) (hS : IsShape S) {x : Int} (h0 : 0 ≤ x) (h : x < 2147483648) :
    S.fits x = true := by
  rcases hS with rfl | rfl | rfl | rfl <;>
    simp only [u32_fits, u64_fits, i32_fits, i64_fits] at * <;> omega

open PikaVerif.BulkPlan in
/-- Under `SafeC` the queue of worker `k` is initialised with `[k·nc/w, (k+1)·nc/w)`. -/
theorem queueRange_ideal (S : CTy) (w n c k : Nat) (h : SafeC S w n c) (hk : k < w) :
    queueRange S w n c k =
      (((part w (nchunks c n) k : Nat) : Int), ((part w (nchunks c n) (k + 1) : Nat) : Int)) := by
  have hnc := (numChunksOf_ideal S w n c h).1
  obtain ⟨hS, hc, hc2, hw, hw2, hn, hsum, hnc32, hwnc, hend⟩ := h
  have h1 : k * nchunks c n ≤ w * nchunks c n := Nat.mul_le_mul_right _ (by omega)
  have h2 : (k + 1) * nchunks c n ≤ w * nchunks c n := Nat.mul_le_mul_right _ (by omega)
  unfold queueRange initQueueArgs
  simp only [hnc]
  rw [u32_wrap k (by omega) (by omega), u32_wrap (nchunks c n : Nat) (by omega) (by omega)]
  rw [partBegin_ideal w k _ hw hw2 (by omega) (by omega) hnc32,
    partEnd_ideal w k _ hw hw2 (by omega) (by omega) hnc32]

open PikaVerif.BulkPlan in
/-- Under `SafeC` chunk `j < nc` covers `[j·c, min((j+1)·c, n))`, whichever worker runs it. -/
theorem chunkRange_ideal (S : CTy) (w n c k j : Nat) (h : SafeC S w n c) (hk : k < w)
    (hj : j < nchunks c n) :
    chunkRange S n c k j = (((j * c : Nat) : Int), ((min ((j + 1) * c) n : Nat) : Int)) ∧
    noUB S w n c k j = true := by
  have hnc := numChunksOf_ideal S w n c h
  obtain ⟨hS, hc, hc2, hw, hw2, hn, hsum, hnc32, hwnc, hend⟩ := h
  have h1 : (j + 1) * c ≤ nchunks c n * c := Nat.mul_le_mul_right _ (by omega)
  have h2 : nchunks c n ≤ nchunks c n * c := Nat.le_mul_of_pos_right _ (by omega)
  have h3 : c ≤ nchunks c n * c := Nat.le_mul_of_pos_left _ (by omega)
  have f1 : S.fits ((((j + 1) * c : Nat)) : Int) = true := fits_mono S hS (by omega) (by omega) hend
  have f2 : S.fits ((j : Int) + 1) = true := fits_mono S hS (by omega) (by omega) hend
  have f3 : S.fits (c : Int) = true := fits_mono S hS (by omega) (by omega) hend
  have hch := chunk_ideal_aux S n c j hS hn f1 f2 f3 (by omega) hc2
  unfold chunkRange noUB taskArgs initQueueArgs
  simp only [hnc.1, hnc.2]
  rw [CTy.wrap_of_fits (by rcases hS with rfl | rfl | rfl | rfl <;> decide) hn,
    u32_wrap c (by omega) (by omega), u32_wrap k (by omega) (by omega),
    u32_wrap (nchunks c n : Nat) (by omega) (by omega)]
  simp only [hch.1, hch.2.1, hch.2.2, initQueueNoUB_true w k _ hw hw2, Bool.and_self, and_self]

end PikaVerif.BulkArith
