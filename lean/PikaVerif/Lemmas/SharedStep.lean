import PikaVerif.Model.Shared
/-! The steps of the shared-state acceptor as a relation: every proof about `step` goes through it. -/
namespace PikaVerif.Shared

/-- The accepted steps of the shared-state acceptor, one rule per outcome of an event: the guards
    of `step` that some proof reads, and the post-state.  Left out, being read by no proof:
    `aborted = false` (required by every event), `c.ch ≤ 2` at `invComplete`, the payload check
    `kind = .tuple ∨ n = conts.length` at `run`, and `ptid = t ∧ conts ≠ []` of the producer's `abort`.
    Where the outcomes of an event differ only in where the thread comes from (`seen1`, `abort`, `ret`)
    one rule with a disjunction covers them. -/
inductive Step (s : St) : Ev → St → Prop
  | completeArmed (t c) : s.pc t = .idle → s.sig = none → s.pending = none → s.claimed = none →
      s.armed = true →
      Step s (.invComplete t c) { s with pc := upd s.pc t .completing, claimed := some t }
  | completeEarly (t c) : s.pc t = .idle → s.sig = none → s.pending = none → s.claimed = none →
      s.armed = false →
      Step s (.invComplete t c)
        { s with pending := some c, pc := upd s.pc t .retP, claimed := some t }
  | fireOwn (t c) : s.pc t = .completing → s.pst = .none →
      Step s (.fire t c)
        { s with v := stored s.storesStopped c, sig := some c, pst := .fired, ptid := t,
                 pc := upd s.pc t (.prod none) }
  | fireInline (t c k) : s.pc t = .want k → s.pst = .none → s.started = false → s.pending = some c →
      Step s (.fire t c)
        { s with started := true, armed := true, v := stored s.storesStopped c, sig := some c,
                 pst := .fired, ptid := t, pc := upd s.pc t (.prod (some k)) }
  | consume (t k) : s.pc t = .idle → s.phase k = .unused →
      Step s (.invConsume t k)
        { s with pc := upd s.pc t (.want k), phase := upd s.phase k .active,
                 owner := upd s.owner k t, started := s.started || s.pending.isNone,
                 armed := s.armed || s.pending.isNone }
  | seen1 (t b k) : (s.pc t = .want k ∧ s.started = true ∨ s.pc t = .prod (some k) ∧ s.pst = .finished) →
      b = s.done →
      Step s (.seen1 t b) { s with pc := upd s.pc t (if b then .visiting k else .seenF k) }
  | acqCons (t k) : s.pc t = .seenF k → s.lock = none →
      Step s (.slAcq t) { s with lock := some t, pc := upd s.pc t (.clocked k) }
  | acqProd (t) : (∃ r, s.pc t = .prod r) → s.lock = none → s.pst = .flagged → s.ptid = t →
      Step s (.slAcq t) { s with lock := some t, pst := .locked }
  | seen2Done (t k b) : s.pc t = .clocked k → s.lock = some t → b = s.done → s.done = true →
      Step s (.seen2 t b) { s with pc := upd s.pc t (.seenT2 k) }
  | seen2Push (t k b) : s.pc t = .clocked k → s.lock = some t → b = s.done → s.done = false →
      Step s (.seen2 t b)
        { s with conts := push s.kind k s.conts, phase := upd s.phase k .queued,
                 pc := upd s.pc t (.pushed k) }
  | relPushed (t k) : s.pc t = .pushed k → s.lock = some t →
      Step s (.slRel t) { s with lock := none, pc := upd s.pc t (.cret k) }
  | relSeen (t k) : s.pc t = .seenT2 k → s.lock = some t →
      Step s (.slRel t) { s with lock := none, pc := upd s.pc t (.visiting k) }
  | relProd (t) : (∃ r, s.pc t = .prod r) → s.lock = some t → s.pst = .locked → s.ptid = t →
      Step s (.slRel t) { s with lock := none, pst := .unlocked }
  | flag (t i) : (∃ r, s.pc t = .prod r) → s.pst = .fired → s.ptid = t → i = variantIndex s.v →
      Step s (.flag t i) { s with done := true, pst := .flagged }
  | run (t n) : (∃ r, s.pc t = .prod r) → s.pst = .unlocked → s.ptid = t →
      Step s (.run t n) { s with pst := if s.conts = [] then .finished else .running }
  | rcvOwn (t k r) : s.pc t = .visiting k → (∃ c, s.v = some c ∧ r = sigFor s.kind k c) →
      Step s (.rcv t k r)
        { s with phase := upd s.phase k .got, got := upd s.got k (s.got k + 1),
                 gotSig := upd s.gotSig k (some r), pc := upd s.pc t (.cret k) }
  | rcvLoop (t k rest r) : (∃ q, s.pc t = .prod q) → (∃ c, s.v = some c ∧ r = sigFor s.kind k c) →
      s.pst = .running → s.ptid = t → s.conts = k :: rest →
      Step s (.rcv t k r)
        { s with conts := rest, phase := upd s.phase k .got, got := upd s.got k (s.got k + 1),
                 gotSig := upd s.gotSig k (some r),
                 pst := if rest = [] then .finished else .running }
  | abort (t) : ((∃ k, s.pc t = .visiting k) ∨ (∃ r, s.pc t = .prod r) ∧ s.pst = .running) → s.v = none →
      Step s (.abort t) { s with aborted := true }
  | ret (t) : (s.pc t = .retP ∨ (∃ k, s.pc t = .cret k) ∨ s.pc t = .prod none ∧ s.pst = .finished) →
      Step s (.ret t) { s with pc := upd s.pc t .idle }
  | tdone (t) : s.pc t = .idle → Step s (.tdone t) { s with pc := upd s.pc t .fin }

theorem Step.of_step {s s' : St} {e : Ev} (h : step s e = some s') : Step s e s' := by
  cases e <;> simp only [step] at h <;> (repeat' first | cases h | split at h) <;> constructor <;> grind

end PikaVerif.Shared
