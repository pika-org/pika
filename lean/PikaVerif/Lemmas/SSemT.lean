import PikaVerif.Lemmas.SSem2
/-!
# Termination measure of the sliding semaphore model (C08t, sliding clause)

Same potential argument as `Lemmas/SemT.lean`.  The difference: `signal(l)` notifies as many
waiters as are queued at that moment, so the potential of a `signal` is not a constant of the
operation; it is bounded by the number of threads `N = s.n` (the queue holds distinct threads
below `N`, `qlen_le`), and `rank` takes `N` as a parameter.
-/
namespace PikaVerif.SSem

def b2n (b : Bool) : Nat := if b then 1 else 0

/-- rank of a program counter in a system of `N` threads -/
def rank (N : Nat) : Pc → Nat
  | .fin => 0
  | .idle => 1
  | .retn _ => 2
  | .passed => 3
  | .refused => 3
  | .sigFin => 3
  | .want (.signal _) => 15 * N + 9
  | .want _ => 11
  | .lockedSig _ => 15 * N + 8
  | .locked _ _ _ => 10
  | .enq _ => 9
  | .unl _ p => 8 + 6 * b2n p
  | .susp _ p => 7 + 6 * b2n p
  | .wokeNL _ p => 12 + 6 * b2n p
  | .relk _ p => 11 + 6 * b2n p
  | .sigL i n => 15 * (n - i) + 5
  | .sigNL i n => 15 * (n - i) + 6
  | .sigRes i n _ => 15 * (n - i - 1) + 7

def tokW (k : Nat) : Nat := 6 * k

def mu (s : St) : Nat :=
  sumTo s.n (fun t => rank s.n (s.pc t)) + sumTo s.n (fun t => tokW (s.tok t))

/-- the queue holds distinct threads, hence at most `n` entries -/
theorem qlen_le {s : St} (hi : Inv1 s) : s.queue.length ≤ s.n :=
  length_le_of_nodup_lt hi.qNodup fun _ => hi.lt_of_mem

set_option hygiene false in
macro "ql_step" t:term : tactic => `(tactic| (
  simp only [step] at h
  obtain ⟨h1,h2,h3,h4,h5,h6,h7⟩ := hi
  split at h
  case isFalse => simp at h
  rename_i hg
  have htn : $t < s.n := by grind
  have hle := le_sumTo (f := fun u => qw (s.pc u)) htn
  repeat' split at h
  all_goals first | (simp at h; done) | skip
  all_goals (
    simp only [Option.some.injEq] at h
    subst h
    simp only [QLen] at hq ⊢
    rw [sumTo_upd_eq _ qw _ _ _ htn]
    grind)))

set_option hygiene false in
macro "mu_step" t:term : tactic => `(tactic| (
  simp only [step] at h
  split at h
  case isFalse => simp at h
  rename_i hg
  have htn : $t < s.n := by grind
  have hle := le_sumTo (f := fun u => rank s.n (s.pc u)) htn
  have hle2 := le_sumTo (f := fun u => tokW (s.tok u)) htn
  repeat' split at h
  all_goals first | (simp at h; done) | skip
  all_goals (
    simp only [Option.some.injEq] at h
    subst h
    simp only [mu]
    try rw [sumTo_upd_eq _ (rank s.n) _ _ _ htn]
    try rw [sumTo_upd_eq _ tokW _ _ _ htn]
    grind)))

theorem mu_inv (s s' : St) (t : Nat) (o : Op) (h : step s (.inv t o) = some s') :
    mu s' + 1 = mu s + rank s.n (.want o) := by
  cases step_iff.1 h with | inv htn hp => ?_
  have := sumTo_upd s.n (rank s.n) s.pc t (.want o) htn
  have e : rank s.n .idle = 1 := rfl
  rw [hp, e] at this
  simp only [mu]
  omega

theorem setPopped_rank (N : Nat) {p p' : Pc} (h : setPopped p = some p') :
    rank N p' = rank N p + 6 := by
  unfold setPopped at h
  split at h <;> cases h <;> simp [rank, b2n] <;> omega

/-- **The measure strictly decreases with every accepted event that is not the start of a new
    operation.** -/
theorem mu_step (s s' : St) (e : Ev) (hi : Inv1 s) (hne : ∀ t o, e ≠ .inv t o)
    (h : step s e = some s') : mu s' < mu s := by
  cases step_iff.1 h with
  | inv => exact absurd rfl (hne _ _)
  | ret htn hp | done htn hp | acqWait htn _ hp | acqTry htn _ hp | acqSig htn _ hp | acqWoke htn _ hp
  | relEnq htn _ hp | relPassed htn _ hp | relRefused htn _ hp | relTry htn _ hp _ | relFin htn _ hp
  | cvEnq htn _ hp _ | pass htn _ hp _ | suspend htn hp | wokePopped htn _ hp | wokeSpurious htn _ hp =>
    exact pot_lt_pc (rank s.n) tokW htn (by simp [hp, rank, b2n])
  | acqLoop htn _ hp | relRes htn _ hp =>
    refine pot_lt_pc (rank s.n) tokW htn ?_
    rw [hp]; split <;> simp only [rank] <;> omega
  | sig htn _ hp =>
    -- the queue is at most `s.n` long, and `15 * s.n` was set aside for this at the invocation
    have := qlen_le hi
    refine pot_lt_pc (rank s.n) tokW htn ?_
    rw [hp]; split <;> simp only [rank] <;> omega
  | cvNone htn _ hp _ =>
    have := hi.sigLt _ _ _ hp
    exact pot_lt_pc (rank s.n) tokW htn (by simp only [hp, rank]; omega)
  | woke htn hp htok =>
    -- the token pays for the way back to the check
    exact pot_lt (rank s.n) tokW htn (by simp [hp, rank, tokW]; omega)
  | @pop t i n g rest p' htn hl hp hq hp' =>
    -- the iteration's reserve of 15 pays for the mark on `g` (6), its token (6) and the step itself
    have hrk := setPopped_rank s.n hp'
    have hin := hi.sigLt t i n hp
    obtain ⟨-, -, hgt, hgn⟩ := hi.core.front rfl hl (by rw [hp]; rfl) hq
    have hw1 := sumTo_upd s.n (rank s.n) s.pc g p' hgn
    have hw2 := sumTo_upd s.n (rank s.n) (upd s.pc g p') t (.sigRes i n (decide (rest ≠ []))) htn
    have hw3 := sumTo_upd s.n tokW s.tok g (s.tok g + 1) hgn
    have e1 : rank s.n (.sigL i n) = 15 * (n - i) + 5 := rfl
    have e2 : rank s.n (.sigRes i n (decide (rest ≠ []))) = 15 * (n - i - 1) + 7 := rfl
    have e3 : tokW (s.tok g + 1) = tokW (s.tok g) + 6 := by simp only [tokW]; omega
    rw [upd_other _ _ _ _ hgt.symm, hp, e1, e2] at hw2
    rw [e3] at hw3
    simp only [mu]
    omega

end PikaVerif.SSem
