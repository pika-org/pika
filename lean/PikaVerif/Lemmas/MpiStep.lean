import PikaVerif.Model.Mpi
import PikaVerif.Core.Run
/-! The acceptor of the MPI request model as a relation.  Every event other than `post` and the six that
    name no operation rewrites the record of one existing operation (`OpStep`, one rule per outcome, the
    guard as premises) and at most one of the two counters (`newIF`, `newGac`). -/
namespace PikaVerif.Mpi

/-- The life of one operation: event `e` names operation `x` and, accepted in `s` (of which only the flags, the lock and
    `all_in_flight_` are read), takes its record from `o` to `o'`. -/
inductive OpStep (s : St) : Ev → Nat → Op → Op → Prop
  | eager {a x o} : (o.pc = .posted ∨ (s.bug = true ∧ o.pc = .errDone)) →
      OpStep s (.eager a x) x o { o with pc := .eagerOk, mpiDone := true }
  | ydone {a x o} : o.pc = .posted → o.mode = mYield →
      OpStep s (.ydone a x) x o { o with pc := .yDone, mpiDone := true }
  | sigFailed {a x o} : o.pc = .failed →
      OpStep s (.sig a x) x o { o with pc := (if s.bug then .errDone else .done), sigs := o.sigs + 1 }
  | sig {a x o} : (o.pc = .eagerOk ∨ o.pc = .yDone ∨ o.pc = .cbRun ∨ o.pc = .woken) →
      OpStep s (.sig a x) x o { o with pc := .done, sigs := o.sigs + 1 }
  | reg {a x o} : o.pc = .posted → o.mode ≠ mYield → s.installed = true →
      OpStep s (.reg a x) x o { o with pc := .reg0 }
  | gacInc {a x o} : o.pc = .reg0 → OpStep s (.gacInc a x) x o { o with pc := .reg1 }
  | ifInc {a x o} : o.pc = .reg1 → OpStep s (.ifInc a x (s.inFlight + 1)) x o { o with pc := .reg2 }
  | enq {a x o} : o.pc = .reg2 → s.stm = false →
      OpStep s (.enq a x) x o { o with pc := .waiting, rs := .queued }
  | addv {a x o} : o.pc = .reg2 → s.stm = true →
      OpStep s (.addv a x) x o { o with pc := .waiting, rs := .vec }
  | q2v {a x o} : o.rs = .queued → (s.stm = true ∨ s.lock = some a) →
      OpStep s (.q2v a x) x o { o with rs := .vec }
  | ready {a x e o} : o.rs = .vec → s.lock = some a → s.stm = false →
      OpStep s (.ready a x e) x o { o with rs := .ready e, mpiDone := true }
  | deq {a x e o} : o.rs = .ready e → OpStep s (.deq a x e) x o { o with rs := .taken a e }
  | testany {a x e o} : o.rs = .vec → s.stm = true →
      OpStep s (.testany a x e) x o { o with rs := .taken a e, mpiDone := true }
  | ifDec {a x v e o} : v + 1 = s.inFlight → o.rs = .taken a e →
      OpStep s (.ifDec a x v) x o { o with rs := .decd a e }
  | call {a x e o} : o.rs = .decd a e →
      OpStep s (.call a x) x o { o with rs := .calling a e, cbs := o.cbs + 1 }
  | cb {a x e o} : o.pc = .waiting → o.rs = .calling a e →
      OpStep s (.cb a x e) x o { o with pc := (if o.mode = mSuspend then .completed else .cbRun) }
  | ret {a x e o} : o.pc ≠ .waiting → o.rs = .calling a e →
      OpStep s (.ret a x) x o { o with rs := .returned a }
  | gacDec {a x o} : o.rs = .returned a → OpStep s (.gacDec a x) x o { o with rs := .gone }
  | woke {a x o} : o.pc = .completed → OpStep s (.woke a x) x o { o with pc := .woken }
  | rel {a x o} : o.rel = 0 → (o.okPost = false ∨ o.mpiDone = true) →
      OpStep s (.rel a x) x o { o with rel := 1 }

/-- `all_in_flight_` after the event -/
def newIF (s : St) : Ev → Nat
  | .ifInc .. => s.inFlight + 1
  | .ifDec .. => s.inFlight - 1
  | _ => s.inFlight

/-- the registry's share of the activity count after the event -/
def newGac (s : St) : Ev → Nat
  | .gacInc .. => s.gac + 1
  | .gacDec .. => s.gac - 1
  | _ => s.gac

inductive Step (s : St) : Ev → St → Prop
  | post {a m ok} : m < 4 →
      Step s (.post a s.n m ok)
        { s with op := upd s.op s.n { pc := (if ok then .posted else .failed), mode := m, okPost := ok },
                 n := s.n + 1 }
  | op {e x o'} : x < s.n → OpStep s e x (s.op x) o' →
      Step s e { setOp s x o' with inFlight := newIF s e, gac := newGac s e }
  | lock {a} : s.lock = none → Step s (.lock a) { s with lock := some a }
  | unlock {a} : s.lock = some a → Step s (.unlock a) { s with lock := none }
  | pollOn {a stm} : s.installed = false → s.inFlight = 0 →
      Step s (.pollOn a stm) { s with installed := true, stm := stm, nOn := s.nOn + 1 }
  | pollOff {a} : s.installed = true → Step s (.pollOff a) { s with installed := false, nOff := s.nOff + 1 }
  | pollOffIdle {a} : s.installed = false → Step s (.pollOff a) s
  | stopRet {a} : s.inFlight = 0 → s.installed = false → Step s (.stopRet a 0) s
  | waitRet {a v k} : v ≤ k → s.gac + k ≤ v → Step s (.waitRet a v k) s

theorem Step.of_step {s s' : St} {e : Ev} (h : step s e = some s') : Step s e s' := by
  cases e with
  | post => obtain ⟨⟨rfl, hm⟩, rfl⟩ := of_ite_some h; exact .post hm
  | sig =>
    obtain ⟨hx, h⟩ := of_ite h
    split at h <;> cases h
    · exact .op hx (.sigFailed ‹_›)
    all_goals exact .op hx (.sig (by simp_all))
  | ifInc => obtain ⟨⟨hx, g, rfl⟩, rfl⟩ := of_ite_some h; exact .op hx (.ifInc g)
  | ifDec =>
    obtain ⟨⟨hx, hv⟩, h⟩ := of_ite h
    split at h
    · obtain ⟨rfl, rfl⟩ := of_ite_some h; exact .op hx (.ifDec hv ‹_›)
    · cases h
  | cb =>
    obtain ⟨⟨hx, g⟩, h⟩ := of_ite h
    split at h
    · obtain ⟨⟨rfl, rfl⟩, rfl⟩ := of_ite_some h; exact .op hx (.cb g ‹_›)
    · cases h
  | ret =>
    obtain ⟨⟨hx, g⟩, h⟩ := of_ite h
    split at h
    · obtain ⟨rfl, rfl⟩ := of_ite_some h; exact .op hx (.ret g ‹_›)
    · cases h
  | stopRet => obtain ⟨⟨rfl, g1, g2⟩, rfl⟩ := of_ite_some h; exact .stopRet g1 g2
  | _ =>
    -- the other events: the guard of each accepting branch of `step` is the premises of its rule
    simp only [step] at h
    repeat' split at h
    all_goals first | cases h; done | cases h
    all_goals first
      | (refine .op (by simp_all) ?_; constructor <;> simp_all; done)
      | (constructor <;> simp_all)
end PikaVerif.Mpi
