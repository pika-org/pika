import PikaVerif.Lemmas.CVStep
/-! Events inside an operation.  Six events of the condition-variable model begin or end an
    operation, end a thread, or touch the user lock or the flag (`outer`).  Every other accepted event
    leaves the thread count, the current operations and the user lock alone and moves program counters
    only from inside an operation to inside an operation (`busy`); it leaves the wait queue alone
    unless it is one of four (`onQueue`).  Every accepted event is the step of a thread that has not
    finished and, if suspended, has a token (`Runnable`).  All of it is read off `Step`: what `write`
    leaves alone, and a look at the lines of `Loc`. -/
namespace PikaVerif.CV

/-- Inside an operation. -/
def busy : Pc → Bool
  | .idle | .fin => false
  | _ => true

/-- The events that begin or end an operation, end a thread, or touch the user lock or the flag. -/
def outer : Ev → Bool
  | .inv _ _ | .ret _ _ | .setFlag _ _ | .ulAcq _ | .ulRel _ | .done _ => true
  | _ => false

def onQueue : Ev → Bool
  | .cvEnq _ _ _ | .popResume _ _ _ _ | .popAll _ _ _ _ | .cvWoke _ _ _ => true
  | _ => false

theorem busy_exitPc (s : St) (t r : Nat) : busy (exitPc s t r) = true := by
  unfold exitPc; split <;> rfl

theorem busy_setPopped {p p' : Pc} (h : setPopped p = some p') : busy p = true ∧ busy p' = true := by
  rcases setPopped_some h with ⟨_, rfl, rfl⟩ | ⟨rfl, rfl⟩ | ⟨rfl, rfl⟩ | ⟨_, rfl, rfl⟩ <;> exact ⟨rfl, rfl⟩

/-! ## What `write` leaves alone -/

section
variable (s : St) (p : Pc) (e : Ev)

theorem write_queue (h : onQueue e = false) : (write s p e).queue = s.queue := by
  unfold write; split <;> first | rfl | nomatch h

theorem write_inner (h : outer e = false) : (write s p e).curOp = s.curOp ∧ (write s p e).ulock = s.ulock := by
  unfold write; split <;> first | exact ⟨rfl, rfl⟩ | nomatch h

theorem write_pc : (write s p e).pc = match popTarget e with | some g => popped s.pc g | none => s.pc := by
  cases e <;> first | rfl | (rename_i b; cases b <;> rfl) | (rename_i b _; cases b <;> rfl)

end

theorem runLog_n {s s' : St} {log : List Ev} (h : runLog step s log = some s') : s'.n = s.n :=
  inv_of_runLog (fun x => x.n = s.n) (fun _ _ _ hi hs => (step_n hs).trans hi) rfl h

theorem step_queue {s s' : St} {e : Ev} (h : step s e = some s') (hq : onQueue e = false) :
    s'.queue = s.queue := by
  obtain ⟨p, _, _, _, _, _, rfl⟩ := Step.of_step h; exact write_queue s p e hq

/-! ## Program counters -/

def InnerPc (pc pc' : Nat → Pc) : Prop := ∀ u, pc' u = pc u ∨ (busy (pc u) = true ∧ busy (pc' u) = true)

theorem InnerPc.upd {pc pc' : Nat → Pc} {t : Nat} {p p' : Pc} (h : InnerPc pc pc') (hp : pc t = p)
    (hb : busy p = true) (hb' : busy p' = true) : InnerPc pc (upd pc' t p') := by
  intro u
  by_cases hu : u = t
  · rw [hu, upd_same, hp]; exact .inr ⟨hb, hb'⟩
  · rw [upd_other _ _ _ _ hu]; exact h u

theorem InnerPc.refl (pc : Nat → Pc) : InnerPc pc pc := fun _ => .inl rfl

/-- Besides the program counter of its thread, an event moves only that of the entry it pops. -/
theorem write_innerPc (s : St) (p : Pc) (e : Ev) : InnerPc s.pc (write s p e).pc := by
  rw [write_pc]
  split
  · unfold popped
    cases h : setPopped (s.pc _) with
    | none => rw [Option.getD_none, upd_self]; exact .refl _
    | some q => exact (InnerPc.refl _).upd rfl (busy_setPopped h).1 (busy_setPopped h).2
  · exact .refl _

theorem busy_entryPc (o : Op) : busy (entryPc o) = true := by
  cases o <;> first | rfl | (simp only [entryPc]; split <;> rfl)

/-- The lines of an event inside an operation lead from inside an operation to inside an operation. -/
theorem Loc.inner {s : St} {e : Ev} {p p' : Pc} (hl : Loc s e p p') (he : outer e = false) :
    busy p = true ∧ busy p' = true := by
  cases hl <;> first
    | (refine ⟨rfl, ?_⟩; (repeat' split) <;> first | rfl | exact busy_exitPc ..)
    | cases he

/-- Every line leads into an operation or back between operations; only `done` finishes a thread. -/
theorem Loc.target {s : St} {e : Ev} {p p' : Pc} (hl : Loc s e p p') :
    busy p' = true ∨ p' = .idle ∨ e = .done (actor e) := by
  cases hl <;> first
    | exact .inr (.inl rfl)
    | exact .inr (.inr rfl)
    | (refine .inl ?_; (repeat' split) <;> first | rfl | exact busy_exitPc .. | exact busy_entryPc _)

structure Inner (s s' : St) (e : Ev) : Prop where
  n : s'.n = s.n
  curOp : s'.curOp = s.curOp
  ulock : s'.ulock = s.ulock
  queue : onQueue e = false → s'.queue = s.queue
  pc : InnerPc s.pc s'.pc

theorem step_inner {s s' : St} {e : Ev} (h : step s e = some s') (he : outer e = false) : Inner s s' e := by
  obtain ⟨p, p', _, hp, hl, _, rfl⟩ := Step.of_step h
  refine ⟨write_n s p e, (write_inner s p e he).1, (write_inner s p e he).2, write_queue s p e, ?_⟩
  exact (write_innerPc s p e).upd hp (hl.inner he).1 (hl.inner he).2

/-- As far as its own program counter and wake-up tokens go, `t` can take a step: it has not
    finished, and if it is suspended a token is there. -/
def Runnable (s : St) (t : Nat) : Prop :=
  t < s.n ∧ s.pc t ≠ .fin ∧ ∀ p, s.pc t = .susp p → 0 < s.tok t

theorem step_runnable {s s' : St} {e : Ev} (h : step s e = some s') : Runnable s (actor e) := by
  obtain ⟨p, p', ht, hp, hl, hg, -⟩ := Step.of_step h
  refine ⟨ht, ?_, ?_⟩ <;> rw [hp] <;> cases hl <;> first | exact fun _ _ => hg | nofun

end PikaVerif.CV
