import PikaVerif.Lemmas.Sem2
/-!
# Termination measure of the semaphore model (C08t)

The model has no stutter (see the head of `Props/C08t.lean`): every accepted event is a real move of
some thread.  This file defines a natural-number measure `mu` on model states and shows that it
strictly decreases with every accepted event other than the start of a new operation (`inv`), which
raises it by the potential of that operation (`mu_inv`, `mu_step`); `RelOk` is the invariant the
argument needs.  The program layer on which the measure bounds the length of runs is
`Lemmas/SemProg.lean`.

Potential argument: a waiter's loop iteration (`locked → enq → unl → susp → wokeNL → relk →
locked`) is paid for by the wake-up token (`tok`, worth `6`) or, for a timed waiter whose resume
was dropped by the agent, by the `popped` flag (worth `6`); both are created only by the
`popResume` of a releaser, whose loop iteration `i` of `n` holds `15 * (n - i)` in reserve.
-/
namespace PikaVerif.Sem

/-- rank of an operation at its check under the lock (`locked o _`); `want o` is one more -/
def opRank : Op → Nat
  | .rel k => 15 * k + 8
  | _ => 10

def rank : Pc → Nat
  | .fin => 0
  | .idle => 1
  | .retn _ => 2
  | .taken => 3
  | .failing => 3
  | .relFin => 3
  | .want o => opRank o + 1
  | .locked o _ => opRank o
  | .enq _ => 9
  | .unl _ p => 8 + 6 * b2n p
  | .susp p => 7 + 6 * b2n p
  | .slp p => 7 + 6 * b2n p
  | .wokeNL tm p => 12 - 6 * b2n tm + 6 * b2n p
  | .relk tm p => 11 - 6 * b2n tm + 6 * b2n p
  | .relL i n => 15 * (n - i) + 5
  | .relNL i n => 15 * (n - i) + 6
  | .relRes i n _ => 15 * (n - i - 1) + 7

def tokW (k : Nat) : Nat := 6 * k

def mu (s : St) : Nat := sumTo s.n (fun t => rank (s.pc t)) + sumTo s.n (fun t => tokW (s.tok t))

/-- the signal loop of `release` is only at its head with iterations left -/
def RelOk (s : St) : Prop := ∀ t i n, s.pc t = .relL i n → i < n

theorem relOk_init (n : Nat) (v : Int) : RelOk (init n v) := by
  intro t i m h; simp [init] at h

theorem RelOk.move {s s' : St} (hr : RelOk s) {t : Nat} {p' : Pc} (hpc : s'.pc = upd s.pc t p')
    (h : ∀ i n, p' = .relL i n → i < n) : RelOk s' := fun u i n => by
  rw [hpc]
  by_cases hu : u = t
  · subst hu; rw [upd_same]; exact h i n
  · rw [upd_other _ _ _ _ hu]; exact hr u i n

/-- Only `add` and the re-lock between two notifications enter the loop head, both with iterations
    left. -/
theorem relOk_step (s s' : St) (e : Ev) (hr : RelOk s) (h : step s e = some s') : RelOk s' := by
  cases step_iff.1 h with
  | add | acqLoop =>
    refine hr.move rfl fun i n => ?_
    split
    · next hc => intro h; cases h; exact hc.1
    · nofun
  | relRes => exact hr.move rfl fun i n => by split <;> nofun
  | pop _ _ _ _ hp' =>
    exact (hr.move (s' := { s with pc := upd s.pc _ _ }) rfl fun i n h => by
      have := (setPopped_inv hp').2.2.1; rw [h] at this; cases this).move rfl nofun
  | _ => exact hr.move rfl (by nofun)

set_option hygiene false in
macro "mu_step" t:term : tactic => `(tactic| (
  simp only [step] at h
  split at h
  case isFalse => simp at h
  rename_i hg
  have htn : $t < s.n := by grind
  have hle := le_sumTo (f := fun u => rank (s.pc u)) htn
  have hle2 := le_sumTo (f := fun u => tokW (s.tok u)) htn
  repeat' split at h
  all_goals first | (simp at h; done) | skip
  all_goals (
    simp only [Option.some.injEq] at h
    subst h
    simp only [mu]
    try rw [sumTo_upd_eq _ rank _ _ _ htn]
    try rw [sumTo_upd_eq _ tokW _ _ _ htn]
    grind)))

theorem mu_inv (s s' : St) (t : Nat) (o : Op) (h : step s (.inv t o) = some s') :
    mu s' + 1 = mu s + rank (.want o) := by
  cases step_iff.1 h with | inv htn hp => ?_
  have := sumTo_upd s.n rank s.pc t (.want o) htn
  rw [hp] at this
  simp only [mu, rank] at this ⊢
  omega

theorem setPopped_rank {p p' : Pc} (h : setPopped p = some p') :
    rank p' = rank p + 6 ∧ ∀ i n, p ≠ .relL i n := by
  unfold setPopped at h
  split at h <;> simp at h <;> subst h <;> simp [rank, b2n] <;> omega

/-- **The measure strictly decreases with every accepted event that is not the start of a new
    operation.** -/
theorem mu_step (s s' : St) (e : Ev) (hr : RelOk s) (hne : ∀ t o, e ≠ .inv t o)
    (h : step s e = some s') : mu s' < mu s := by
  cases step_iff.1 h with
  | inv => exact absurd rfl (hne _ _)
  | ret htn hp | done htn hp | acqWant htn _ hp | relEnq htn _ hp | relTaken htn _ hp
  | relFailing htn _ hp | relFin htn _ hp | relTry htn _ hp _ | suspend htn hp | timeout htn hp
  | wokeTimeout htn _ hp | wokeSpurious htn _ hp =>
    exact pot_lt_pc rank tokW htn (by simp [hp, rank, opRank, b2n])
  | @acqWoke _ tm p htn _ hp =>
    exact pot_lt_pc rank tokW htn (by cases tm <;> cases p <;> simp [hp, rank, b2n])
  | @wokePopped _ tm htn _ hp | @cvEnq _ tm _ htn _ hp _ =>
    exact pot_lt_pc rank tokW htn (by cases tm <;> simp [hp, rank, opRank, b2n])
  | acqLoop htn _ hp | relRes htn _ hp | add htn _ hp =>
    refine pot_lt_pc rank tokW htn ?_
    rw [hp]; split <;> simp only [rank, opRank] <;> omega
  | @take _ o _ htn _ hp ho _ =>
    refine pot_lt_pc rank tokW htn ?_
    cases o with
    | rel k => exact absurd rfl (ho k)
    | _ => simp [hp, rank, opRank]
  | cvNone htn _ hp _ =>
    have := hr _ _ _ hp
    exact pot_lt_pc rank tokW htn (by simp only [hp, rank]; omega)
  | woke htn hp htok | sleep htn hp =>
    -- the token pays for the way back to the check; a deadline wait gives its tokens up
    exact pot_lt rank tokW htn (by simp [hp, rank, b2n, tokW]; omega)
  | @pop t i n g rest p' htn _ hp hq hp' =>
    -- the iteration's reserve of 15 pays for the mark on `g` (6), its token (6) and the step itself
    obtain ⟨hrk, hnr⟩ := setPopped_rank hp'
    have hin := hr t i n hp
    have hgt : t ≠ g := fun he => hnr i n (he ▸ hp)
    have hw2 := sumTo_upd s.n rank (upd s.pc g p') t (.relRes i n (decide (rest ≠ []))) htn
    have e1 : rank (.relL i n) = 15 * (n - i) + 5 := rfl
    have e2 : rank (.relRes i n (decide (rest ≠ []))) = 15 * (n - i - 1) + 7 := rfl
    have e3 : tokW (s.tok g + 1) = tokW (s.tok g) + 6 := by simp only [tokW]; omega
    rw [upd_other _ _ _ _ hgt, hp, e1, e2] at hw2
    simp only [mu]
    by_cases hgn : g < s.n
    · have hw1 := sumTo_upd s.n rank s.pc g p' hgn
      have hw3 := sumTo_upd s.n tokW s.tok g (s.tok g + 1) hgn
      rw [e3] at hw3
      split <;> omega
    · have hw1 := sumTo_upd_ge s.n rank s.pc g p' (by omega)
      have hw3 := sumTo_upd_ge s.n tokW s.tok g (s.tok g + 1) (by omega)
      split <;> omega

end PikaVerif.Sem
