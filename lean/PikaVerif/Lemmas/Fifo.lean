import PikaVerif.Model.Fifo
/-! The FIFO wrapper model (`Model/Fifo.lean`): the acceptor as a relation (`Tr`), the inductive invariant
`Inv` and its preservation (`Inv.move`, `Tr.preserves`), the in-flight lists (`St.inflight`), and what the
invariant gives: `Inv.perm` (conservation as a multiset equation) and `Inv.quiescent`. -/
namespace PikaVerif.Fifo

/-- counted in `work_items_count_` but not in `stored` -/
def wc : Pc → Nat
  | .incd _ => 1 | .got _ => 1 | _ => 0
/-- occurrences of value `x` in flight inside the wrapper -/
def fl (x : Nat) : Pc → Nat
  | .incd v => if v = x then 1 else 0
  | .got v => if v = x then 1 else 0
  | _ => 0
/-- inside an inner-queue operation -/
def wa : Pc → Nat
  | .inPush => 1 | .inPop => 1 | _ => 0
/-- kind of the pending inner operation: 0 none, 1 enqueue, 2 dequeue -/
def qk : QOp → Nat
  | .idle => 0 | .enq => 1 | .deq _ => 2
/-- the same kind read off the wrapper's program counter (`Inv.pend` equates the two) -/
def pk : Pc → Nat
  | .inPush => 1 | .inPop => 2 | _ => 0

/-- threads outside `[0, n)` are idle; wrapper and inner queue agree on who is inside an inner operation
    (`pend`, `act`); the counter is the stored values plus those counted but not stored (`cnt`); every
    value handed in is returned, stored or in flight (`cons`) -/
structure Inv (s : St) : Prop where
  outside : ∀ t, s.n ≤ t → s.pc t = .idle
  pend : ∀ t, qk (s.q.pend t) = pk (s.pc t)
  act : s.q.active = sumTo s.n (fun t => wa (s.pc t))
  cnt : s.count = (s.q.stored.length : Int) + (sumTo s.n (fun t => wc (s.pc t)) : Nat)
  cons : ∀ x, s.handed.count x = s.returned.count x + s.values.count x + sumTo s.n (fun t => fl x (s.pc t))

theorem inv_init (n : Nat) : Inv (init n) := by
  refine ⟨?_, ?_, ?_, ?_, ?_⟩ <;> simp [init, qinit, qk, pk, St.values, wa, wc, fl, sumTo_eq_zero]

theorem qk_markAll (p : Nat → QOp) (u : Nat) : qk (markAll p u) = qk (p u) := by
  unfold markAll; split <;> simp_all [qk]

theorem count_values_erase (l : List (Nat × Nat)) (p v x : Nat) (h : (p, v) ∈ l) :
    (l.map (·.2)).count x = ((l.erase (p, v)).map (·.2)).count x + (if v = x then 1 else 0) := by
  have hp := (List.perm_cons_erase h).map (·.2)
  rw [hp.count_eq]
  simp [List.count_cons]

/-- The acceptor `step` read as a relation: what an accepted event `e` of thread `t` writes, and what it
    requires of `s` as far as the invariant needs it (the inner queue's own tests on `pend` and the
    per-producer order are left out). -/

inductive Tr (s : St) (t : Nat) : Ev → St → Prop
  | inc (v : Nat) (hpc : s.pc t = .idle) :
    Tr s t (.inc t v) { s with count := s.count + 1, pc := upd s.pc t (.incd v), handed := s.handed ++ [v] }
  | pushB {v : Nat} (hpc : s.pc t = .incd v) :
    Tr s t (.pushB t)
      { s with q := { s.q with stored := s.q.stored ++ [(t, v)], pend := upd (markAll s.q.pend) t .enq,
                               active := s.q.active + 1 },
               pc := upd s.pc t .inPush }
  | pushE (hpc : s.pc t = .inPush) :
    Tr s t (.pushE t)
      { s with q := { s.q with pend := upd s.q.pend t .idle, active := s.q.active - 1 },
               pc := upd s.pc t .idle }
  | load (lim : Int) (hpc : s.pc t = .idle) :
    Tr s t (.load t s.count lim) { s with pc := upd s.pc t (.loaded s.count lim) }
  | retLoaded {c lim : Int} (hpc : s.pc t = .loaded c lim) :
    Tr s t (.retF t) { s with pc := upd s.pc t .idle }
  | retFailed (hpc : s.pc t = .failed) : Tr s t (.retF t) { s with pc := upd s.pc t .idle }
  | popB (hpc : canPop (s.pc t) = true) :
    Tr s t (.popB t)
      { s with q := { s.q with pend := upd (markAll s.q.pend) t (.deq (s.q.stored.isEmpty || s.q.active != 0)),
                               active := s.q.active + 1, deqs := s.q.deqs + 1 },
               pc := upd s.pc t .inPop }
  | popNone (hpc : s.pc t = .inPop) :
    Tr s t (.popE t none)
      { s with q := { s.q with pend := upd s.q.pend t .idle, active := s.q.active - 1, deqs := s.q.deqs - 1 },
               pc := upd s.pc t .failed }
  | popSome {p v : Nat} (hpc : s.pc t = .inPop) (hmem : (p, v) ∈ s.q.stored) :
    Tr s t (.popE t (some (p, v)))
      { s with q := { stored := s.q.stored.erase (p, v), pend := upd s.q.pend t .idle,
                      active := s.q.active - 1, deqs := s.q.deqs - 1 },
               pc := upd s.pc t (.got v) }
  | dec {v : Nat} (hpc : s.pc t = .got v) :
    Tr s t (.dec t) { s with count := s.count - 1, pc := upd s.pc t .idle, returned := s.returned ++ [v] }

variable {s s' : St} {e : Ev}

/-- Unfold the acceptor and split every test: each accepting branch is an outcome of `Tr`. -/
theorem Tr.of_step (h : step s e = some s') : ∃ t, t < s.n ∧ Tr s t e s' := by
  rcases e with _ | _ | _ | _ | _ | _ | ⟨t, _ | ⟨p, v⟩⟩ | _
  all_goals
    simp only [step, qstep] at h
    repeat' (first | cases h | split at h)
  all_goals repeat (cases ‹_ ∧ _›)
  all_goals subst_vars
  all_goals refine ⟨_, by assumption, ?_⟩
  -- (`retF` from `failed` leads to the same state as from `loaded`)
  all_goals first | (constructor <;> assumption) | exact .retFailed ‹_›

variable {t : Nat} {p : Pc}

/-- `[v]` counted as the in-flight weight of a thread at `incd v` (that of `got v` is the same term) -/
theorem count_singleton_fl (v x : Nat) : List.count x [v] = fl x (.incd v) := by
  rw [List.count_singleton]; unfold fl; by_cases h : v = x <;> simp [h]

/-- Thread `t` moves from `p` to `p'`: the three sums change by the difference of the weights of
    `p` and `p'`, so each counting field is an equation between the old and the new quantities. -/
theorem Inv.move (hi : Inv s) (ht : t < s.n) (hpc : s.pc t = p) {q' : QSt} {c' : Int} {p' : Pc}
    {h' r' : List Nat}
    (hpend : ∀ u, qk (q'.pend u) = pk (upd s.pc t p' u))
    (hcons : ∀ x, h'.count x + s.returned.count x + (s.q.stored.map (·.2)).count x + fl x p =
      s.handed.count x + r'.count x + (q'.stored.map (·.2)).count x + fl x p' := by exact fun _ => rfl)
    (hact : q'.active + wa p = s.q.active + wa p' := by simp only [wa] at * <;> omega)
    (hcnt : c' + (wc p : Int) + s.q.stored.length = s.count + wc p' + q'.stored.length := by
      simp only [wc, List.length_append, List.length_singleton] <;> omega) :
    Inv ⟨s.n, q', c', upd s.pc t p', h', r'⟩ := by
  subst hpc
  refine ⟨fun u hu => ?_, hpend, ?_, ?_, fun x => ?_⟩
  · dsimp only at hu ⊢; rw [upd_other _ _ _ _ (by omega)]; exact hi.outside u hu
  · have := sumTo_upd s.n wa s.pc t p' ht; have := hi.act; dsimp only; omega
  · have := sumTo_upd s.n wc s.pc t p' ht; have := hi.cnt; dsimp only; omega
  · have := sumTo_upd s.n (fl x) s.pc t p' ht; have := hi.cons x; have := hcons x
    unfold St.values at *; dsimp only; omega

theorem Inv.pend_same (hi : Inv s) (hpc : s.pc t = p) {p' : Pc} (h : pk p' = pk p) :
    ∀ u, qk (s.q.pend u) = pk (upd s.pc t p' u) := by
  intro u
  have := hi.pend u
  grind [upd]

theorem Inv.pend_upd (hi : Inv s) {P : Nat → QOp} (hP : ∀ u, qk (P u) = qk (s.q.pend u)) {op : QOp}
    {p' : Pc} (h : qk op = pk p') : ∀ u, qk (upd P t op u) = pk (upd s.pc t p' u) := by
  intro u
  have := hi.pend u; have := hP u
  grind [upd]

theorem Tr.preserves (tr : Tr s t e s') (ht : t < s.n) (hi : Inv s) : Inv s' := by
  cases tr with
  | inc v hpc | dec hpc =>
    exact hi.move ht hpc (hi.pend_same hpc rfl)
      (fun x => by rw [List.count_append, count_singleton_fl]; simp only [fl]; omega)
  | pushB hpc =>
    exact hi.move ht hpc (hi.pend_upd (qk_markAll _) rfl)
      (fun x => by rw [List.map_append, List.count_append, List.map_singleton, count_singleton_fl]; simp only [fl]; omega)
  | pushE hpc | popNone hpc =>
    have := hi.act; have := le_sumTo (f := fun u => wa (s.pc u)) ht; rw [hpc] at this
    exact hi.move ht hpc (hi.pend_upd (fun _ => rfl) rfl)
  | load lim hpc | retLoaded hpc | retFailed hpc => exact hi.move ht hpc (hi.pend_same hpc rfl)
  | popB hpc =>
    -- `work_items_.pop` starts from `idle` or `loaded`: nothing in flight, nothing counted
    have hz : wa (s.pc t) = 0 ∧ wc (s.pc t) = 0 ∧ ∀ x, fl x (s.pc t) = 0 := by
      cases hp : s.pc t <;> rw [hp] at hpc <;> first | exact ⟨rfl, rfl, fun _ => rfl⟩ | cases hpc
    exact hi.move ht rfl (hi.pend_upd (qk_markAll _) rfl) (fun x => by rw [hz.2.2 x]; rfl)
      (by rw [hz.1]; rfl) (by rw [hz.2.1]; simp only [wc])
  | @popSome p v hpc hmem =>
    have := hi.act; have := le_sumTo (f := fun u => wa (s.pc u)) ht; rw [hpc] at this
    have := List.length_erase_of_mem hmem
    have := List.length_pos_of_mem hmem
    exact hi.move ht hpc (hi.pend_upd (fun _ => rfl) rfl)
      (fun x => by rw [count_values_erase _ p v x hmem]; simp only [fl]; omega)

theorem step_inv (hi : Inv s) (h : step s e = some s') : Inv s' :=
  let ⟨_, ht, tr⟩ := Tr.of_step h
  tr.preserves ht hi

theorem inv_of_accepted {n : Nat} {log : List Ev} (h : runLog step (init n) log = some s) : Inv s :=
  inv_of_runLog Inv (fun _ _ _ hi hs => step_inv hi hs) (inv_init n) h

set_option hygiene false in
macro "fifo_step" t:term : tactic => `(tactic| (
  simp only [step, qstep] at h
  obtain ⟨h1, h2, h3, h4, h5⟩ := hi
  split at h
  case isFalse => simp at h
  rename_i hg
  have htn : $t < s.n := by grind
  have hlea := le_sumTo (f := fun u => wa (s.pc u)) htn
  have hlec := le_sumTo (f := fun u => wc (s.pc u)) htn
  repeat' split at h
  all_goals first | (simp at h; done) | skip
  all_goals (
    simp only [Option.map_some, Option.some.injEq] at h
    subst h
    refine ⟨?_, ?_, ?_, ?_, ?_⟩ <;> dsimp only [St.values]
  )
  all_goals first
    | assumption
    | (intro u; grind [upd, qk_markAll])
    | (rw [sumTo_upd_eq _ _ _ _ _ htn]; grind)
    | (intro x
       have := h5 x
       have hle := le_sumTo (f := fun u => fl x (s.pc u)) htn
       rw [sumTo_upd_eq _ _ _ _ _ htn]
       simp only [List.count_append, List.count_singleton, List.map_append, List.map_cons, List.map_nil, St.values] at *
       grind)
    | skip))

/-- Values in flight inside the wrapper (handed over but not yet in the queue, or taken out of the
    queue but not yet returned), thread by thread. -/
def flv : Pc → List Nat
  | .incd v => [v]
  | .got v => [v]
  | _ => []

def inflightTo (pc : Nat → Pc) : Nat → List Nat
  | 0 => []
  | k + 1 => inflightTo pc k ++ flv (pc k)

def St.inflight (s : St) : List Nat := inflightTo s.pc s.n

theorem count_flv (x : Nat) (pc : Pc) : (flv pc).count x = fl x pc := by
  cases pc <;> first | exact count_singleton_fl _ x | rfl

theorem count_inflightTo (x : Nat) (pc : Nat → Pc) (n : Nat) :
    (inflightTo pc n).count x = sumTo n (fun t => fl x (pc t)) := by
  induction n with
  | zero => simp [inflightTo]
  | succ k ih => simp [inflightTo, sumTo_succ, List.count_append, ih, count_flv]

theorem inflightTo_nil (pc : Nat → Pc) (n : Nat) (h : ∀ t, pc t = .idle) : inflightTo pc n = [] := by
  induction n with
  | zero => rfl
  | succ k ih => simp [inflightTo, ih, h k, flv]

theorem Inv.perm {s : St} (hi : Inv s) : s.handed.Perm (s.returned ++ s.values ++ s.inflight) := by
  rw [List.perm_iff_count]
  intro x
  simp only [List.count_append, St.inflight, count_inflightTo]
  exact hi.cons x

/-- What a quiescent state looks like on the inner queue. -/
theorem Inv.quiescent {s : St} (hi : Inv s) (hq : Quiescent s) :
    s.q.active = 0 ∧ (∀ t, s.q.pend t = .idle) ∧ s.count = (s.q.stored.length : Int) ∧ s.inflight = [] := by
  refine ⟨?_, ?_, ?_, ?_⟩
  · rw [hi.act]; exact sumTo_eq_zero (fun t _ => by simp [hq t, wa])
  · intro t
    have := hi.pend t
    rw [hq t] at this
    cases hp : s.q.pend t <;> simp_all [qk, pk]
  · rw [hi.cnt, sumTo_eq_zero (fun t _ => by simp [hq t, wc])]; simp
  · exact inflightTo_nil _ _ hq

end PikaVerif.Fifo
