import PikaVerif.Lemmas.Mtx2
/-!
# Termination measure of the mutex model (C06t)

The model `PikaVerif.Mtx` has **no stutter** on the mutex itself: a failed attempt to take the
internal spinlock is not an event of the model (`slAcq` is only accepted when the spinlock is free;
the hook points `sl.lock` / `ag.yield` of a spinning task are dropped by the driver before the
acceptor), a failed `try_lock` is a complete operation (`inv … ret fail`), and a timed wait ends
only by its deadline event `timeout`, which the model accepts exactly once per wait.  The only
events that can repeat without moving any operation forward are the harness marks `cs.enter` /
`cs.exit` (they change the history counters only); the program layer (`Lemmas/MtxProg.lean`) allows one
`cs.enter … cs.exit` bracket per invoked operation, which is what the harness does.

`mu` is a natural-number measure on model states that strictly decreases with every accepted
event other than the start of a new operation (`inv`) and the mark `cs.enter`.  Potential argument:
an iteration of `lock()`'s wait loop (`again → enq → unl → susp → wokeNL → relk → again`, 6 events)
is paid for by the wake-up token (worth 6) that the agent consumes at `woke`; tokens are created
only by the `notify_one` of an `unlock` (`popResume`), which holds 7 in reserve at `disowned`.
-/
namespace PikaVerif.Mtx

/-- potential of one operation not yet started -/
def opRank : Op → Nat
  | .unlock => 11
  | _ => 10

/-- what a task at this program counter contributes to `mu`: chosen so that every event of the task
    lowers it, except that the way back from a wait to the loop head is paid by the token consumed -/
def rank : Pc → Nat
  | .fin => 0
  | .idle => 1
  | .retn _ _ => 2
  | .owned _ => 3
  | .notified => 3
  | .timedOut => 3
  | .sig => 4
  | .want o => opRank o + 1
  | .locked o => opRank o
  | .again _ => 10
  | .enq _ => 9
  | .unl _ _ => 8
  | .susp _ => 7
  | .slp _ => 7
  | .wokeNL tm _ => 12 - 6 * b2n tm
  | .relk tm _ => 11 - 6 * b2n tm
  | .disowned => 10

/-- value of a wake-up token -/
def tokW (k : Nat) : Nat := 6 * k

/-- the measure on model states: ranks + tokens + 1 per open critical-section mark -/
def mu (s : St) : Nat :=
  sumTo s.n (fun t => rank (s.pc t)) + sumTo s.n (fun t => tokW (s.tok t)) + sumTo s.n (fun t => b2n (s.inCS t))

set_option hygiene false in
macro "mu_step" t:term : tactic => `(tactic| (
  simp only [step] at h
  split at h
  case isFalse => simp at h
  rename_i hg
  have htn : $t < s.n := by grind
  have hle := le_sumTo (f := fun u => rank (s.pc u)) htn
  have hle2 := le_sumTo (f := fun u => tokW (s.tok u)) htn
  have hle3 := le_sumTo (f := fun u => b2n (s.inCS u)) htn
  repeat' split at h
  all_goals first | (simp at h; done) | skip
  all_goals (
    simp only [Option.some.injEq] at h
    subst h
    simp only [mu]
    try rw [sumTo_upd_eq _ rank _ _ _ htn]
    try rw [sumTo_upd_eq _ tokW _ _ _ htn]
    try rw [sumTo_upd_eq _ b2n _ _ _ htn]
    grind)))

theorem acqNext_rank {p p' : Pc} (h : acqNext p = some p') : rank p' < rank p := by
  unfold acqNext at h
  split at h <;> cases h
  · exact Nat.lt_succ_self _
  · rename_i tm _; cases tm <;> simp [rank, b2n]

theorem relNext_rank {ow : Option Nat} {t : Nat} {p p' : Pc} (h : relNext ow t p = some p') :
    rank p' < rank p := by
  unfold relNext at h
  split at h <;> (try split at h) <;> cases h <;> simp [rank, opRank]

theorem setPopped_rank {p p' : Pc} (h : setPopped p = some p') : rank p' = rank p := by
  unfold setPopped at h
  split at h <;> cases h <;> rfl

theorem mu_csEnter (s s' : St) (t : Nat) (h : step s (.csEnter t) = some s') : mu s' = mu s + 1 := by
  cases Step.of h; rename_i ht _ _ hc
  have := sumTo_upd s.n b2n s.inCS t true ht
  rw [hc, show b2n false = 0 from rfl, show b2n true = 1 from rfl] at this
  simp only [mu]
  omega

theorem mu_inv (s s' : St) (t : Nat) (o : Op) (h : step s (.inv t o) = some s') :
    mu s' + 1 = mu s + rank (.want o) := by
  cases Step.of h; rename_i ht hp _
  have := sumTo_upd s.n rank s.pc t (.want o) ht
  rw [hp] at this
  simp only [mu, rank] at this ⊢
  omega

/-- **The measure strictly decreases with every accepted event that is not the start of a new
    operation or the harness mark `cs.enter`.** -/
theorem mu_step (s s' : St) (e : Ev) (hne : ∀ t o, e ≠ .inv t o) (hnc : ∀ t, e ≠ .csEnter t)
    (h : step s e = some s') : mu s' < mu s := by
  cases Step.of h with
  | inv t o => exact absurd rfl (hne t o)
  | csEnter t => exact absurd rfl (hnc t)
  | slAcq t ht _ p' hp =>
    exact Nat.add_lt_add_right (pot_lt_pc rank tokW ht (acqNext_rank hp)) _
  | slRel t ht _ p' hp =>
    exact Nat.add_lt_add_right (pot_lt_pc rank tokW ht (relNext_rank hp)) _
  | cvEnq t z b ht _ _ _ hp =>
    exact Nat.add_lt_add_right (pot_lt_pc rank tokW ht (by rcases hp with ⟨hp, _⟩ | ⟨c, hp, _⟩ | ⟨hp, _⟩ <;> rw [hp] <;> simp [rank, opRank])) _
  | own t k w ht _ _ _ o _ _ hp =>
    refine Nat.add_lt_add_right (pot_lt_pc rank tokW ht ?_) _
    rcases hp with hp | ⟨_, c, hp⟩ | ⟨_, hp⟩ <;> rw [hp]
    · cases o <;> simp [rank, opRank]
    · simp [rank]
    · simp [rank]
  | disown t ht _ _ hp =>
    exact Nat.add_lt_add_right (pot_lt_pc rank tokW ht (by rw [hp]; simp [rank, opRank])) _
  | ret _ _ ht _ hp | cvNone _ ht _ _ hp | suspend _ ht _ hp | done _ ht hp =>
    exact Nat.add_lt_add_right (pot_lt_pc rank tokW ht (by rw [hp]; simp [rank])) _
  | timeout t ht p hp =>
    exact Nat.add_lt_add_right (pot_lt_pc rank tokW ht (by rw [hp]; simp [rank, b2n])) _
  | cvWoke t a tm ht _ popped hp _ =>
    exact Nat.add_lt_add_right (pot_lt_pc rank tokW ht (by rw [hp]; cases tm <;> cases popped <;> simp [rank, wokeNext, b2n])) _
  | woke t ht hk p hp | sleep t ht p hp =>
    -- the token consumed pays for the way back to the loop head; a deadline wait gives its tokens up
    exact Nat.add_lt_add_right (pot_lt rank tokW ht (by simp [hp, rank, tokW, b2n]; omega)) _
  | csExit t ht _ hc =>
    have := sumTo_upd s.n b2n s.inCS t false ht
    rw [hc, show b2n false = 0 from rfl, show b2n true = 1 from rfl] at this
    simp only [mu]
    omega
  | popResume t z g d ht _ hp rest p' _ _ hp' _ =>
    -- `disowned` held 7 in reserve: 6 for the token handed to the waiter, 1 for this event
    have hgt : t ≠ g := fun he => by subst he; rw [hp] at hp'; cases hp'
    have h2 := sumTo_upd s.n rank (upd s.pc g p') t .notified ht
    rw [upd_other _ _ _ _ hgt, hp, show rank .disowned = 10 from rfl, show rank .notified = 3 from rfl] at h2
    simp only [mu]
    by_cases hgn : g < s.n
    · have h1 := sumTo_upd s.n rank s.pc g p' hgn
      have h3 := sumTo_upd s.n tokW s.tok g (s.tok g + 1) hgn
      rw [setPopped_rank hp'] at h1
      have e3 : tokW (s.tok g + 1) = tokW (s.tok g) + 6 := by simp only [tokW]; omega
      rw [e3] at h3
      split <;> omega
    · have h1 := sumTo_upd_ge s.n rank s.pc g p' (by omega)
      have h3 := sumTo_upd_ge s.n tokW s.tok g (s.tok g + 1) (by omega)
      split <;> omega

end PikaVerif.Mtx
