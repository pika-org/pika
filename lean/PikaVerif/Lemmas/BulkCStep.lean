import PikaVerif.Model.BulkC
import PikaVerif.Lemmas.BulkStep
/-! What `BulkC.step` accepts and does, as a relation (`step_iff`).  `Run` lists the events of the
    running phase, one constructor per branch of the model; a protocol step the event contains is
    given as a `Bulk.Step`, to be taken apart by `cases` where its effect matters. -/
namespace PikaVerif.BulkC
open PikaVerif.Gen.BulkArith PikaVerif.BulkPlan

inductive Run (s : St) : Ev → St → Prop
  | spawn {k : Nat} {p' : Bulk.St} (hb : Bulk.Step s.p (.spawn k) p') : Run s (.spawn k) { s with p := p' }
  | skip {k : Nat} {p' : Bulk.St} (hb : Bulk.Step s.p (.skip k) p') : Run s (.skip k) { s with p := p' }
  | task {k : Nat} {p' : Bulk.St} (hb : Bulk.Step s.p (.task k) p') : Run s (.task k) { s with p := p' }
  | loadNone {k q off : Nat} {f l : Int} {p' : Bulk.St} (hk : k < s.w) (hex : s.ex k = none)
      (hr : popReady (s.lp k) = true) (hfl : (f, l) = word (s.p.qs q))
      (hoff : popOff (s.p.pc k) = some off) (hq : q = (k + off) % s.w) (hpt : popTry off f l = none)
      (hb : Bulk.Step s.p (.pop k q none) p') : Run s (.load k q f l) { s with p := p', ex := upd s.ex k none, lp := upd s.lp k .out }
  | loadSome {k q off : Nat} {f l : Int} (hk : k < s.w) (hex : s.ex k = none)
      (hr : popReady (s.lp k) = true) (hfl : (f, l) = word (s.p.qs q))
      (hoff : popOff (s.p.pc k) = some off) (hq : q = (k + off) % s.w) (hpt : popTry off f l ≠ none) :
      Run s (.load k q f l) { s with ex := upd s.ex k (some (f, l)) }
  | casOk {k q off : Nat} {ef el idx df dl : Int} {p' : Bulk.St} (hk : k < s.w)
      (hr : popReady (s.lp k) = true) (hex : s.ex k = some (ef, el))
      (hoff : popOff (s.p.pc k) = some off) (hq : q = (k + off) % s.w)
      (hpt : popTry off ef el = some (idx, (df, dl))) (hcur : (ef, el) = word (s.p.qs q))
      (h0 : 0 ≤ idx) (hb : Bulk.Step s.p (.pop k q (some idx.toNat)) p')
      (hwd : word (p'.qs q) = (df, dl)) :
      Run s (.cas k q true df dl)
        { s with p := p', ex := upd s.ex k none, lp := upd s.lp k (.got idx.toNat) }
  /-- the word changed since it was loaded: the compare-exchange fails and goes on like a load of the
      word it observed -/
  | casNone {k q off : Nat} {ef el f l : Int} {p' : Bulk.St} (hk : k < s.w)
      (hr : popReady (s.lp k) = true) (hex : s.ex k = some (ef, el))
      (hoff : popOff (s.p.pc k) = some off) (hq : q = (k + off) % s.w)
      (hpe : popTry off ef el ≠ none) (hcur : (ef, el) ≠ word (s.p.qs q))
      (hfl : (f, l) = word (s.p.qs q)) (hpt : popTry off f l = none)
      (hb : Bulk.Step s.p (.pop k q none) p') : Run s (.cas k q false f l) { s with p := p', ex := upd s.ex k none, lp := upd s.lp k .out }
  | casSome {k q off : Nat} {ef el f l : Int} (hk : k < s.w)
      (hr : popReady (s.lp k) = true) (hex : s.ex k = some (ef, el))
      (hoff : popOff (s.p.pc k) = some off) (hq : q = (k + off) % s.w)
      (hpe : popTry off ef el ≠ none) (hcur : (ef, el) ≠ word (s.p.qs q))
      (hfl : (f, l) = word (s.p.qs q)) (hpt : popTry off f l ≠ none) :
      Run s (.cas k q false f l) { s with ex := upd s.ex k (some (f, l)) }
  | chunk {k j : Nat} {p' : Bulk.St} (hk : k < s.w) (hlp : s.lp k = .got j)
      (hub : noUB s.S s.w s.n s.c k j = true) (hb : Bulk.Step s.p (.chunk k j) p') :
      Run s (.chunk k j)
        { s with p := p',
                 lp := upd s.lp k (.at (chunkRange s.S s.n s.c k j).1 (chunkRange s.S s.n s.c k j).2) }
  | call {k : Nat} {cur ie v : Int} (hk : k < s.w) (hlp : s.lp k = .at cur ie) (hlt : cur < ie)
      (hts : s.ts = some v) :
      Run s (.call k cur v) { s with lp := upd s.lp k (.incall cur ie), calls := (cur, v) :: s.calls }
  | ret {k : Nat} {cur ie : Int} (hk : k < s.w) (hlp : s.lp k = .incall cur ie) :
      Run s (.ret k) { s with lp := upd s.lp k (.at (cur + 1) ie) }
  | throw {k : Nat} {cur ie : Int} (hk : k < s.w) (hlp : s.lp k = .incall cur ie) :
      Run s (.throw k) { s with lp := upd s.lp k (.threw cur), thrown := cur :: s.thrown }
  | exc {k : Nat} {i : Int} {p' : Bulk.St} (hk : k < s.w) (hlp : s.lp k = .threw i)
      (hb : Bulk.Step s.p (.exc k) p') :
      Run s (.exc k) { s with p := p', lp := upd s.lp k .out, exception := some i }
  | decOut {k : Nat} {last : Bool} {p' : Bulk.St} (hk : k < s.w) (hlp : s.lp k = .out)
      (hfin : isFin (s.p.pc k) = true) (hb : Bulk.Step s.p (.dec k last) p') :
      Run s (.dec k last) { s with p := p' }
  /-- an exception that lost the `exchange`: `finish()` without `exc` -/
  | decThrew {k : Nat} {i : Int} {last : Bool} {p' : Bulk.St} (hk : k < s.w) (hlp : s.lp k = .threw i)
      (hwk : isWork (s.p.pc k) = true) (hb : Bulk.Step s.p (.dec k last) p') :
      Run s (.dec k last) { s with p := p', lp := upd s.lp k .out }
  | decide {k : Nat} {err : Bool} (hk : k < s.w) (hpc : s.p.pc k = .decd)
      (ho : s.p.outcome = some err) (h0 : s.p.signals = 0) : Run s (.decide k err) s
  | sig {err : Bool} {tok : Int} {p' : Bulk.St}
      (htok : if err then s.exception = some tok else s.ts = some tok)
      (hb : Bulk.Step s.p (.sig err) p') :
      Run s (.sig err tok) { s with p := p', done := (err, tok) :: s.done }

inductive Step (s : St) : Ev → St → Prop
  | zero (hph : s.ph = 0) (hn : s.n = 0) : Step s .zero { s with ph := 2 }
  | plan {c : Nat} (hph : s.ph = 0) (hn : s.n ≠ 0) (hc : chunkSizeOf s.S fuel s.w s.n = some (c : Int))
      (hok : planOK s.S s.w s.n c = true) :
      Step s (.plan c) { s with ph := 1, c := c, ts := some s.v,
                                p := Bulk.init s.w s.p.L (cutsOf s.S s.w s.n c) }
  | run {e : Ev} {s' : St} (hph : s.ph = 1) (h : Run s e s') : Step s e s'
  /-- `shape == 0`: the receiver gets the arguments of `set_value` -/
  | sigZero (hph : s.ph = 2) (hd : s.done = []) : Step s (.sig false s.v) { s with done := [(false, s.v)] }

theorem step_iff {s s' : St} {e : Ev} : step s e = some s' ↔ Step s e s' := by
  constructor
  · -- unfold the acceptor and split every test: each accepting branch is a constructor.  The alternatives
    -- close, in turn: `sigZero`; `zero` and `plan` (all premises are tests); the constructors of `Run`,
    -- whose premises are tests, `q = (k + off) % w` after substitution (`rfl`), a protocol step
    -- (`Bulk.step_iff`), `popTry … ≠ none` from the value found, and the test of `sig` on `err`.
    intro h
    cases e <;> simp only [step, popNone] at h <;> (repeat' split at h) <;> cases h
    all_goals repeat (cases ‹_ ∧ _›)
    all_goals subst_vars
    all_goals first
      | exact .sigZero ‹_› ‹_›
      | (constructor <;> assumption)
      | (refine .run ‹_› ?_
         constructor <;> first
           | assumption | rfl | exact Bulk.step_iff.1 ‹_› | (rw [‹popTry _ _ _ = _›]; nofun)
           | (split <;> first | assumption | contradiction))
  · intro h
    cases h with
    | zero hph hn => simp [step, hph, hn]
    | plan hph hn hc hok => simp [step, hph, hn, hc, hok]
    | sigZero hph hd => simp [step, hph, hd]
    | run hph h =>
      cases h with
      | spawn hb | skip hb | task hb => simp [step, hph, Bulk.step_iff.2 hb]
      | loadNone hk hex hr hfl hoff hq hpt hb =>
        simp [step, hph, hk, hex, hr, ← hfl, hoff, ← hq, hpt, popNone, Bulk.step_iff.2 hb]
      | loadSome hk hex hr hfl hoff hq hpt =>
        cases hp : popTry _ _ _ with
        | none => exact absurd hp hpt
        | some x => simp [step, hph, hk, hex, hr, ← hfl, hoff, ← hq, hp]
      | casOk hk hr hex hoff hq hpt hcur h0 hb hwd =>
        simp [step, hph, hk, hr, hex, hoff, ← hq, hpt, ← hcur, h0, Bulk.step_iff.2 hb, hwd]
      | casNone hk hr hex hoff hq hpe hcur hfl hpt hb =>
        cases hp : popTry _ _ _ with
        | none => exact absurd hp hpe
        | some x =>
          simp [step, hph, hk, hr, hex, hoff, ← hq, hp, ← hfl, hpt, popNone, Bulk.step_iff.2 hb]
          exact fun a b => hcur (by rw [← hfl, a, b])
      | casSome hk hr hex hoff hq hpe hcur hfl hpt =>
        cases hp : popTry _ _ _ with
        | none => exact absurd hp hpe
        | some x =>
          cases hp' : popTry _ _ _ with
          | none => exact absurd hp' hpt
          | some y =>
            simp [step, hph, hk, hr, hex, hoff, ← hq, hp, ← hfl, hp']
            exact fun a b => hcur (by rw [← hfl, a, b])
      | chunk hk hlp hub hb => simp [step, hph, hk, hlp, hub, Bulk.step_iff.2 hb]
      | call hk hlp hlt hts => simp [step, hph, hk, hlp, hlt, hts]
      | ret hk hlp | throw hk hlp => simp [step, hph, hk, hlp]
      | exc hk hlp hb => simp [step, hph, hk, hlp, Bulk.step_iff.2 hb]
      | decOut hk hlp hfin hb => simp [step, hph, hk, hlp, hfin, Bulk.step_iff.2 hb]
      | decThrew hk hlp hwk hb => simp [step, hph, hk, hlp, hwk, Bulk.step_iff.2 hb]
      | decide hk hpc ho h0 => simp [step, hph, hk, hpc, ho, h0]
      | sig htok hb => simp [step, hph, htok, Bulk.step_iff.2 hb]

end PikaVerif.BulkC
