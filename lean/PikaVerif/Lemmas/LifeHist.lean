import PikaVerif.Lemmas.Life
/-!
# Finite histories over the life-cycle model (C05t)

The life-cycle model `Life.step` is an acceptor of *every* log: it accepts unboundedly many
submissions, phases, suspensions and incarnations.  A *history* fixes what the program does:

* a controller (OS thread 0, not a pika task) runs a finite script of calls
  `start th pol | submit | wait | suspend | resume | finalize | stop`;
* task bodies spawn at most `kids` children in total and yield at most `yields` times in total
  (every task body is a finite program);
* every thread object runs the task it holds exactly once: `tp o` is the progress of the task in
  object `o` (0 created, 1 first phase begun, 2 body entered, 3 body entered and switched out,
  4 body exited, 5 last phase ended = terminated).

`hstep` is `Life.step` restricted to the logs of such a history (`led` = the ledger transition,
which never touches the model state), so every accepted history log is an accepted model log
(`hstep_step`).  `phi` is the termination measure.
-/
namespace PikaVerif.Life

inductive Call where
  | start (th pol : Nat)
  | submit
  | wait
  | suspend
  | resume
  | finalize
  | stop
  deriving DecidableEq, Repr

/-- where the controller is -/
inductive CPc where
  | idle      -- between two calls
  | start1    -- `x.start` noted (configuration requested), runtime not yet constructed
  | start2    -- runtime constructed, workers registering
  | wait1     -- inside `pika::wait()`, polling
  | wait2     -- the predicate's sample let `thread_manager::wait` return
  | susp      -- inside `pika::suspend()`
  | res       -- inside `pika::resume()`
  | stop      -- inside `pika::stop()` (position = `St.spc`)
  deriving DecidableEq, Repr

structure HSt where
  s : St
  script : List Call
  cpc : CPc
  /-- thread count of the current incarnation -/
  th : Nat
  wleft : Nat
  toSleep : Nat
  toWake : Nat
  /-- children the task bodies may still spawn / yields they may still perform -/
  kids : Nat
  yields : Nat
  /-- units that may still pass through the staged queue (each unit at most once) -/
  stageable : Nat
  /-- progress of the task held by thread object `o` -/
  tp : Nat → Nat
  /-- the worker that executes the current phase of object `o` -/
  runner : Nat → Nat
  /-- number of `body.enter` / `body.exit` events so far -/
  bodies : Nat
  exits : Nat
  /-- number of `suspend()` / `resume()` calls entered so far -/
  nsusp : Nat
  nres : Nat

def hinit (na no : Nat) (script : List Call) (kids yields : Nat) : HSt :=
  { s := init na no, script := script, cpc := .idle, th := 0, wleft := 0, toSleep := 0, toWake := 0,
    kids := kids, yields := yields, stageable := 0, tp := fun _ => 0, runner := fun _ => 0,
    bodies := 0, exits := 0, nsusp := 0, nres := 0 }

/-- The ledger transition: which events the history allows in `h`, and how its books change.
    The model state `h.s` is only read. -/
def led (h : HSt) : Ev → Option HSt
  | .inc a _ =>
    if a = 0 then
      match h.cpc, h.script with
      | .idle, .submit :: r => some { h with script := r, stageable := h.stageable + 1 }
      | _, _ => none
    else
      match h.s.cur a with
      | some o =>
        if h.tp o = 2 ∧ 0 < h.kids then some { h with kids := h.kids - 1, stageable := h.stageable + 1 }
        else none
      | none => none
  | .dec _ _ => some h
  | .stage _ => if 0 < h.stageable then some { h with stageable := h.stageable - 1 } else none
  | .unstage _ => some h
  | .new _ o => some { h with tp := upd h.tp o 0 }
  | .destroy _ o => if h.tp o = 5 then some h else none
  | .phaseBegin a o =>
    if h.tp o = 0 then some { h with tp := upd h.tp o 1, runner := upd h.runner o a }
    else if h.tp o = 3 then some { h with tp := upd h.tp o 2, runner := upd h.runner o a }
    else none
  | .phaseEnd _ o =>
    if h.tp o = 2 ∧ 0 < h.yields then some { h with tp := upd h.tp o 3, yields := h.yields - 1 }
    else if h.tp o = 4 then some { h with tp := upd h.tp o 5 }
    else none
  | .body _ o =>
    if h.tp o = 1 then some { h with tp := upd h.tp o 2, bodies := h.bodies + 1 }
    else if h.tp o = 2 then some { h with tp := upd h.tp o 4, exits := h.exits + 1 }
    else none
  | .sample a v self =>
    if a = 0 then
      match h.cpc with
      | .wait1 => if v ≤ self then some { h with cpc := .wait2 } else some h
      | .stop => if h.s.stopper = some 0 then some h else none
      | _ => none
    else none
  | .rtState a v =>
    if a = 0 then
      if v = rsInitialized then (if h.cpc = .start1 then some { h with cpc := .start2 } else none)
      else if v = rsPreStartup ∨ v = rsStartup ∨ v = rsPreMain then some h
      else if v = rsRunning then
        (match h.cpc with
         | .start2 => some { h with cpc := .idle }
         | .res => some { h with cpc := .idle }
         | _ => none)
      else if v = rsSleeping then (if h.cpc = .susp then some { h with cpc := .idle } else none)
      else if v = rsStopped then (if h.cpc = .stop then some h else none)
      else none
    else none
  | .result _ _ => some h
  | .fin a =>
    if a = 0 then
      match h.cpc, h.script with
      | .idle, .finalize :: r => some { h with script := r }
      | _, _ => none
    else none
  | .stopEnter a =>
    if a = 0 then
      match h.cpc, h.script with
      | .idle, .stop :: r => some { h with script := r, cpc := .stop, toWake := h.th }
      | _, _ => none
    else none
  | .waitFin a => if a = 0 ∧ h.cpc = .stop then some h else none
  | .waited a _ => if a = 0 ∧ h.cpc = .stop then some h else none
  | .stopExit a _ => if a = 0 ∧ h.cpc = .stop then some { h with cpc := .idle } else none
  | .suspendEnter a =>
    if a = 0 then
      match h.cpc, h.script with
      | .idle, .suspend :: r => some { h with script := r, cpc := .susp, toSleep := h.th, nsusp := h.nsusp + 1 }
      | _, _ => none
    else none
  | .resumeEnter a =>
    if a = 0 then
      match h.cpc, h.script with
      | .idle, .resume :: r => some { h with script := r, cpc := .res, toWake := h.th, nres := h.nres + 1 }
      | _, _ => none
    else none
  | .worker a =>
    -- actors are numbered by first appearance: the controller is 0, the workers of an incarnation
    -- register as 1, 2, …
    if a = h.s.nworkers + 1 ∧ h.cpc = .start2 ∧ 0 < h.wleft then some { h with wleft := h.wleft - 1 } else none
  | .sleep _ => if 0 < h.toSleep then some { h with toSleep := h.toSleep - 1 } else none
  | .wake _ => if 0 < h.toWake then some { h with toWake := h.toWake - 1 } else none
  | .waitEnter a =>
    if a = 0 then
      match h.cpc, h.script with
      | .idle, .wait :: r => some { h with script := r, cpc := .wait1 }
      | _, _ => none
    else none
  | .waitExit a => if a = 0 ∧ h.cpc = .wait2 then some { h with cpc := .idle } else none
  | .reqCfg a th pol =>
    if a = 0 then
      match h.cpc, h.script with
      | .idle, .start t p :: r =>
        if t = th ∧ p = pol ∧ 1 ≤ t ∧ t < h.s.na then
          some { h with script := r, cpc := .start1, th := t, wleft := t, nsusp := 0, nres := 0 }
        else none
      | _, _ => none
    else none
  | .seenCfg _ _ _ => some h

/-- one step of a history: the model accepts the event and the history allows it -/
def hstep (h : HSt) (e : Ev) : Option HSt :=
  match step h.s e, led h e with
  | some s', some l => some { l with s := s' }
  | _, _ => none

section
variable {h l : HSt} {a o n v self : Nat}

theorem led_inc (hl : led h (.inc a n) = some l) :
    (a = 0 ∧ h.cpc = .idle ∧ ∃ r, h.script = .submit :: r ∧
      l = { h with script := r, stageable := h.stageable + 1 }) ∨
    (a ≠ 0 ∧ ∃ o, h.s.cur a = some o ∧ (h.tp o = 2 ∧ 0 < h.kids) ∧
      l = { h with kids := h.kids - 1, stageable := h.stageable + 1 }) := by
  simp only [led] at hl
  split at hl
  · split at hl
    · cases hl; exact .inl ⟨‹_›, ‹_›, _, ‹_›, rfl⟩
    · cases hl
  · split at hl
    · obtain ⟨hg, rfl⟩ := of_ite_some hl
      exact .inr ⟨‹_›, _, ‹_›, hg, rfl⟩
    · cases hl

theorem led_phaseBegin (hl : led h (.phaseBegin a o) = some l) :
    (h.tp o = 0 ∧ l = { h with tp := upd h.tp o 1, runner := upd h.runner o a }) ∨
    (h.tp o = 3 ∧ l = { h with tp := upd h.tp o 2, runner := upd h.runner o a }) := by
  simp only [led] at hl
  split at hl
  · cases hl; exact .inl ⟨‹_›, rfl⟩
  · exact .inr (of_ite_some hl)

theorem led_phaseEnd (hl : led h (.phaseEnd a o) = some l) :
    ((h.tp o = 2 ∧ 0 < h.yields) ∧ l = { h with tp := upd h.tp o 3, yields := h.yields - 1 }) ∨
    (h.tp o = 4 ∧ l = { h with tp := upd h.tp o 5 }) := by
  simp only [led] at hl
  split at hl
  · cases hl; exact .inl ⟨‹_›, rfl⟩
  · exact .inr (of_ite_some hl)

theorem led_body (hl : led h (.body a o) = some l) :
    (h.tp o = 1 ∧ l = { h with tp := upd h.tp o 2, bodies := h.bodies + 1 }) ∨
    (h.tp o = 2 ∧ l = { h with tp := upd h.tp o 4, exits := h.exits + 1 }) := by
  simp only [led] at hl
  split at hl
  · cases hl; exact .inl ⟨‹_›, rfl⟩
  · exact .inr (of_ite_some hl)

theorem led_sample (hl : led h (.sample a v self) = some l) : a = 0 ∧
    ((h.cpc = .wait1 ∧ v ≤ self ∧ l = { h with cpc := .wait2 }) ∨
     (h.cpc = .wait1 ∧ ¬ v ≤ self ∧ l = h) ∨
     (h.cpc = .stop ∧ h.s.stopper = some 0 ∧ l = h)) := by
  simp only [led] at hl
  grind

theorem led_rtState (hl : led h (.rtState a v) = some l) :
    (v = rsInitialized ∧ h.cpc = .start1 ∧ l = { h with cpc := .start2 }) ∨
     ((v = rsPreStartup ∨ v = rsStartup ∨ v = rsPreMain) ∧ l = h) ∨
     (v = rsRunning ∧ (h.cpc = .start2 ∨ h.cpc = .res) ∧ l = { h with cpc := .idle }) ∨
     (v = rsSleeping ∧ h.cpc = .susp ∧ l = { h with cpc := .idle }) ∨
     (v = rsStopped ∧ h.cpc = .stop ∧ l = h) := by
  obtain ⟨_, hl⟩ := of_ite hl
  by_cases h0 : v = rsInitialized
  · rw [if_pos h0] at hl
    exact .inl ⟨h0, of_ite_some hl⟩
  rw [if_neg h0] at hl
  by_cases h1 : v = rsPreStartup ∨ v = rsStartup ∨ v = rsPreMain
  · rw [if_pos h1] at hl; cases hl
    exact .inr (.inl ⟨h1, rfl⟩)
  rw [if_neg h1] at hl
  by_cases h2 : v = rsRunning
  · rw [if_pos h2] at hl
    refine .inr (.inr (.inl ⟨h2, ?_⟩))
    split at hl
    · cases hl; exact ⟨.inl ‹_›, rfl⟩
    · cases hl; exact ⟨.inr ‹_›, rfl⟩
    · cases hl
  rw [if_neg h2] at hl
  by_cases h3 : v = rsSleeping
  · rw [if_pos h3] at hl
    exact .inr (.inr (.inr (.inl ⟨h3, of_ite_some hl⟩)))
  rw [if_neg h3] at hl
  obtain ⟨hv, hl⟩ := of_ite hl
  exact .inr (.inr (.inr (.inr ⟨hv, of_ite_some hl⟩)))

theorem led_rtState_noop (hv : v = rsPreStartup ∨ v = rsStartup ∨ v = rsPreMain)
    (hl : led h (.rtState a v) = some l) : l = h := by
  have := led_rtState hl; grind

theorem led_rtState_init (hl : led h (.rtState a rsInitialized) = some l) :
    h.cpc = .start1 ∧ l = { h with cpc := .start2 } := by
  have := led_rtState hl; grind

theorem led_rtState_running (hl : led h (.rtState a rsRunning) = some l) :
    (h.cpc = .start2 ∨ h.cpc = .res) ∧ l = { h with cpc := .idle } := by
  have := led_rtState hl; grind

theorem led_rtState_sleeping (hl : led h (.rtState a rsSleeping) = some l) :
    h.cpc = .susp ∧ l = { h with cpc := .idle } := by
  have := led_rtState hl; grind

theorem led_rtState_stopped (hl : led h (.rtState a rsStopped) = some l) :
    h.cpc = .stop ∧ l = h := by
  have := led_rtState hl; grind

/-- the actor and the call of the events by which the controller issues a call -/
def callOf : Ev → Option (Nat × Call)
  | .fin a => some (a, .finalize) | .stopEnter a => some (a, .stop) | .suspendEnter a => some (a, .suspend)
  | .resumeEnter a => some (a, .resume) | .waitEnter a => some (a, .wait)
  | .reqCfg a t p => some (a, .start t p) | _ => none

/-- the books after the call `c` was issued and `r` is left of the script -/
def issued (h : HSt) (r : List Call) : Call → HSt
  | .start t _ => { h with script := r, cpc := .start1, th := t, wleft := t, nsusp := 0, nres := 0 }
  | .wait => { h with script := r, cpc := .wait1 }
  | .suspend => { h with script := r, cpc := .susp, toSleep := h.th, nsusp := h.nsusp + 1 }
  | .resume => { h with script := r, cpc := .res, toWake := h.th, nres := h.nres + 1 }
  | .finalize => { h with script := r }
  | .stop => { h with script := r, cpc := .stop, toWake := h.th }
  | .submit => h

theorem led_call {e : Ev} {c : Call} (hc : callOf e = some (a, c))
    (hl : led h e = some l) : a = 0 ∧ h.cpc = .idle ∧ ∃ r, h.script = c :: r ∧ l = issued h r c := by
  cases e <;> cases hc <;> obtain ⟨ha, hl⟩ := of_ite hl <;> split at hl <;> try cases hl
  -- `reqCfg`, whose call carries the configuration
  case h_1 => obtain ⟨⟨rfl, rfl, _⟩, rfl⟩ := of_ite_some hl; exact ⟨ha, ‹_›, _, ‹_›, rfl⟩
  all_goals exact ⟨ha, ‹_›, _, ‹_›, rfl⟩
end

theorem led_frame {h l : HSt} {e : Ev} (hl : led h e = some l) :
    l.s = h.s ∧ ((∀ a o, e ≠ .body a o) → l.bodies = h.bodies ∧ l.exits = h.exits) := by
  cases e with
  | body a o =>
    obtain ⟨_, rfl⟩ | ⟨_, rfl⟩ := led_body hl <;> exact ⟨rfl, fun hne => absurd rfl (hne a o)⟩
  | inc a n => obtain ⟨_, _, _, _, rfl⟩ | ⟨_, _, _, _, rfl⟩ := led_inc hl <;> exact ⟨rfl, fun _ => ⟨rfl, rfl⟩⟩
  | dec a n => rw [(Option.some.inj hl).symm]; exact ⟨rfl, fun _ => ⟨rfl, rfl⟩⟩
  | unstage a => rw [(Option.some.inj hl).symm]; exact ⟨rfl, fun _ => ⟨rfl, rfl⟩⟩
  | new a o => rw [(Option.some.inj hl).symm]; exact ⟨rfl, fun _ => ⟨rfl, rfl⟩⟩
  | phaseBegin a o => obtain ⟨_, rfl⟩ | ⟨_, rfl⟩ := led_phaseBegin hl <;> exact ⟨rfl, fun _ => ⟨rfl, rfl⟩⟩
  | phaseEnd a o => obtain ⟨_, rfl⟩ | ⟨_, rfl⟩ := led_phaseEnd hl <;> exact ⟨rfl, fun _ => ⟨rfl, rfl⟩⟩
  | sample a v w =>
    obtain ⟨_, ⟨_, _, rfl⟩ | ⟨_, _, rfl⟩ | ⟨_, _, rfl⟩⟩ := led_sample hl <;> exact ⟨rfl, fun _ => ⟨rfl, rfl⟩⟩
  | rtState a v =>
    obtain ⟨_, _, rfl⟩ | ⟨_, rfl⟩ | ⟨_, _, rfl⟩ | ⟨_, _, rfl⟩ | ⟨_, _, rfl⟩ := led_rtState hl <;>
      exact ⟨rfl, fun _ => ⟨rfl, rfl⟩⟩
  | result a r => rw [(Option.some.inj hl).symm]; exact ⟨rfl, fun _ => ⟨rfl, rfl⟩⟩
  | fin a => obtain ⟨_, _, _, _, rfl⟩ := led_call rfl hl; exact ⟨rfl, fun _ => ⟨rfl, rfl⟩⟩
  | stopEnter a => obtain ⟨_, _, _, _, rfl⟩ := led_call rfl hl; exact ⟨rfl, fun _ => ⟨rfl, rfl⟩⟩
  | suspendEnter a => obtain ⟨_, _, _, _, rfl⟩ := led_call rfl hl; exact ⟨rfl, fun _ => ⟨rfl, rfl⟩⟩
  | resumeEnter a => obtain ⟨_, _, _, _, rfl⟩ := led_call rfl hl; exact ⟨rfl, fun _ => ⟨rfl, rfl⟩⟩
  | waitEnter a => obtain ⟨_, _, _, _, rfl⟩ := led_call rfl hl; exact ⟨rfl, fun _ => ⟨rfl, rfl⟩⟩
  | reqCfg a t p => obtain ⟨_, _, _, _, rfl⟩ := led_call rfl hl; exact ⟨rfl, fun _ => ⟨rfl, rfl⟩⟩
  | seenCfg a t p => rw [(Option.some.inj hl).symm]; exact ⟨rfl, fun _ => ⟨rfl, rfl⟩⟩
  | _ => rw [(of_ite_some hl).2]; exact ⟨rfl, fun _ => ⟨rfl, rfl⟩⟩

theorem led_s (h l : HSt) (e : Ev) (hl : led h e = some l) : l.s = h.s :=
  (led_frame hl).1

theorem hstep_some {h h' : HSt} {e : Ev} (hs : hstep h e = some h') :
    ∃ s' l, step h.s e = some s' ∧ led h e = some l ∧ h' = { l with s := s' } := by
  simp only [hstep] at hs
  split at hs
  · rename_i s' l h1 h2
    exact ⟨s', l, h1, h2, (Option.some.inj hs).symm⟩
  · cases hs

/-- **Refinement.**  Every accepted history step is an accepted model step on the model part. -/
theorem hstep_step {h h' : HSt} {e : Ev} (hs : hstep h e = some h') : step h.s e = some h'.s := by
  obtain ⟨s', l, h1, _, rfl⟩ := hstep_some hs
  exact h1

theorem runLog_hstep_step (log : List Ev) (h h' : HSt) (hr : runLog hstep h log = some h') :
    runLog step h.s log = some h'.s := by
  simpa using runLog_map HSt.s id (fun _ _ _ => hstep_step) hr

/-- **The stutter, precisely.**  Events the model accepts without any progress of the history: a
    sample of `thread_manager::wait`'s predicate that sees a busy counter (the poll of `wait()` /
    `stop()` goes on), the runtime-state stores `pre_startup / startup / pre_main` (no-ops of the
    phase machine), the harness' configuration observation, and the store of the entry function's
    result. -/
def neutral : Ev → Bool
  | .sample _ v self => decide (self < v)
  | .rtState _ v => decide (v = rsPreStartup ∨ v = rsStartup ∨ v = rsPreMain)
  | .seenCfg _ _ _ => true
  | .result _ _ => true
  | _ => false

def nMoves : List Ev → Nat
  | [] => 0
  | e :: es => (if neutral e then 0 else 1) + nMoves es

/-- remaining obligatory events of the task in a live thread object, by its progress `tp`: from
    `0` (created) these are phase begin, body enter, body exit, phase end, `destroy`, `dec` -/
def rem : Nat → Nat
  | 0 => 6 | 1 => 5 | 2 => 4 | 3 => 5 | 4 => 3 | _ => 2

def objPot (h : HSt) : Nat := sumTo h.s.no (fun o => if h.s.live o = true then rem (h.tp o) else 0)

/-- cost of the remaining script, given the thread count of the current incarnation -/
def scost : Nat → List Call → Nat
  | _, [] => 0
  | _, .start t _ :: r => t + 3 + scost t r
  | th, .submit :: r => 10 + scost th r
  | th, .wait :: r => 3 + scost th r
  | th, .suspend :: r => th + 2 + scost th r
  | th, .resume :: r => th + 2 + scost th r
  | th, .finalize :: r => 1 + scost th r
  | th, .stop :: r => th + 6 + scost th r

/-- events the call in progress still owes the controller, apart from those counted in `wleft`,
    `toSleep`, `toWake` and in `spcRank` -/
def cpcRank : CPc → Nat
  | .idle => 0 | .start1 => 2 | .start2 => 1 | .wait1 => 2 | .wait2 => 1 | .susp => 1 | .res => 1 | .stop => 0

/-- events left on the path through `stop()` -/
def spcRank : StopPc → Nat
  | .out => 0 | .entered => 5 | .waitedFin => 4 | .drained => 3 | .waited => 2 | .halted => 1

/-- **The termination measure**: an upper bound on the non-stutter events still to come.  A unit of
    activity costs 7 events once its creation is in flight (`new`, then `rem 0 = 6`; the last of
    them is `dec`, which is all a unit being destroyed still owes), 8 when staged (`unstage` first), 2 more
    while it may still pass through the staged queue (`stage`, `unstage`); hence 10 per child a body may still
    spawn (`inc` first), as for a `submit` in `scost`; a yield costs a phase end and a phase begin. -/
def phi (h : HSt) : Nat :=
  scost h.th h.script + cpcRank h.cpc + spcRank h.s.spc + h.wleft + h.toSleep + h.toWake +
  10 * h.kids + 2 * h.yields + 7 * h.s.creating + 8 * h.s.staged + 2 * h.stageable + objPot h +
  h.s.destroying

def wTerm (w : Nat → Nat) (live : Nat → Bool) (tp : Nat → Nat) (o : Nat) : Nat := if live o = true then w (tp o) else 0
def wPotF (w : Nat → Nat) (no : Nat) (live : Nat → Bool) (tp : Nat → Nat) : Nat := sumTo no (wTerm w live tp)

/-- a weighted sum over the live objects changes by one term when object `o` changes -/
theorem wPotF_upd (w : Nat → Nat) (no : Nat) (live : Nat → Bool) (tp : Nat → Nat) {o : Nat} (ho : o < no)
    (b : Bool) (p : Nat) : wPotF w no (upd live o b) (upd tp o p) + wTerm w live tp o =
      wPotF w no live tp + if b = true then w p else 0 := by
  have := sumTo_change (f := wTerm w live tp) (f' := wTerm w (upd live o b) (upd tp o p)) ho
    (fun u _ hu => by simp only [wTerm, upd_other _ _ _ _ hu])
  unfold wPotF
  simpa only [wTerm, upd_same] using this

theorem wPotF_tp (w : Nat → Nat) (no : Nat) (live : Nat → Bool) (tp : Nat → Nat) {o : Nat} (ho : o < no)
    (hl : live o = true) (p : Nat) :
    wPotF w no live (upd tp o p) + w (tp o) = wPotF w no live tp + w p := by
  have := wPotF_upd w no live tp ho true p
  rwa [← hl, upd_self, hl, wTerm, if_pos hl, if_pos rfl] at this

theorem eq_some_getD {α : Type} {o : Option α} (h : o.isSome = true) (d : α) : o = some (o.getD d) := by
  cases o with
  | none => cases h
  | some v => rfl

/-- the busy poll of `wait()`: with the controller polling in `wait()` and a non-zero counter, the
    sample is accepted and leaves the controller polling with the same counter -/
def Polling (c : Nat) (h : HSt) : Prop :=
  h.cpc = .wait1 ∧ h.s.cnt = c ∧ 0 < h.s.na ∧ h.s.cur 0 = none ∧ h.s.stopper = none

theorem poll_step (c : Nat) (hc : 0 < c) (h : HSt) (hp : Polling c h) :
    ∃ h', hstep h (.sample 0 c 0) = some h' ∧ Polling c h' := by
  obtain ⟨h1, h2, h3, h4, h5⟩ := hp
  have hnot : ¬ c ≤ 0 := by omega
  refine ⟨_, by simp [hstep, step, led, h1, h2, h3, h4, h5, b2n, hnot]; rfl, ?_⟩
  exact ⟨rfl, rfl, h3, h4, rfl⟩

end PikaVerif.Life
