import PikaVerif.Lemmas.SemStep
import PikaVerif.Core.CvQueue
/-! Inductive invariant of the semaphore model. -/
namespace PikaVerif.Sem

/-- Program counters at which the thread holds the internal spinlock. -/
def holds : Pc → Bool
  | .locked _ _ | .enq _ | .relk _ _ | .taken | .failing
  | .relL _ _ | .relRes _ _ _ | .relFin => true
  | _ => false

/-- Program counters at which the thread's entry is linked in the cv queue. -/
def inQ : Pc → Bool
  | .enq _ => true
  | .unl _ p | .susp p | .slp p | .wokeNL _ p | .relk _ p => !p
  | _ => false

def b2n (b : Bool) : Nat := if b then 1 else 0

/-- Wake-ups in flight: 1 for a waiter that was notified and has not yet re-examined the
    count; for a releaser the number of notifications it will still attempt. -/
def weight : Pc → Nat
  | .unl _ p | .susp p | .slp p | .wokeNL _ p | .relk _ p => b2n p
  | .locked _ c => b2n c
  | .relL i n => n - i
  | .relRes i n _ => n - i - 1
  | .relNL i n => n - i
  | _ => 0

def wsum (s : St) : Nat := sumTo s.n (fun t => weight (s.pc t))

structure Inv (s : St) : Prop where
  lockHolder : ∀ t, holds (s.pc t) = true → s.lock = some t
  outside : ∀ t, s.n ≤ t → s.pc t = .idle
  qIff : ∀ t, t ∈ s.queue ↔ inQ (s.pc t) = true
  qNodup : s.queue.Nodup
  /-- `notify_one` reports "nobody left" only when it found the queue empty -/
  noneEmpty : ∀ t i n, s.pc t = .relRes i n false → s.queue = []
  /-- a notified untimed waiter that has not yet woken up owns a wake-up token (no lost wake-up) -/
  wake : ∀ t, (s.pc t = .unl false true ∨ s.pc t = .susp true) →
      0 < s.tok t
  /-- while somebody is queued, every available permit is matched by a wake-up in flight (`weight`) -/
  budget : s.queue ≠ [] → s.value ≤ (wsum s : Int)
  account : s.value = s.init + (s.released : Int) - (s.acquired : Int)

theorem inv_init (n : Nat) (v : Int) : Inv (init n v) := by
  refine ⟨?_, ?_, ?_, ?_, ?_, ?_, ?_, ?_⟩ <;> simp [init, holds, inQ]

set_option hygiene false in
macro "sem_step" t:term : tactic => `(tactic| (
  simp only [step] at h
  obtain ⟨h1,h2,h3,h4,h5,h6,h7,h8⟩ := hi
  split at h
  case isFalse => simp at h
  rename_i hg
  have htn : $t < s.n := by grind
  have hle := le_sumTo (f := fun u => weight (s.pc u)) htn
  simp only [wsum] at h7
  repeat' split at h
  all_goals first | (simp at h; done) | skip
  all_goals (
    simp only [Option.some.injEq] at h
    subst h
    refine ⟨?_, ?_, ?_, ?_, ?_, ?_, ?_, ?_⟩ <;> dsimp only [wsum]
  )
  all_goals first
    | assumption
    | (intro u; grind [upd])
    | (rw [sumTo_upd_eq _ _ _ _ _ htn]; grind)
    | grind [upd]))

/-- What `setPopped` does to the classifying functions: a popped waiter was queued and not holding
    the lock, carried no wake-up, and now carries one. -/
theorem setPopped_inv {p p' : Pc} (h : setPopped p = some p') :
    inQ p = true ∧ inQ p' = false ∧ holds p' = false ∧ weight p = 0 ∧ weight p' = 1 ∧
    (∀ i n b, p' ≠ .relRes i n b) ∧
    (p' = .unl false true ∨ p' = .susp true → p ≠ .slp false) := by
  unfold setPopped at h
  split at h <;> cases h <;> simp [inQ, holds, weight, b2n]

/-- The part of the invariant that speaks of the lock, the queue and the tokens.  A notified untimed
    waiter that has not yet woken up is owed a token. -/
def Core (s : St) : Prop :=
  CvInv holds inQ (fun p => p = .unl false true ∨ p = .susp true) .idle s.n s.pc s.lock s.queue s.tok

/-- The converse of `Inv.lockHolder` (a clause of `Inv2`). -/
def LockConv (s : St) : Prop := ∀ r, s.lock = some r → holds (s.pc r) = true ∧ r < s.n

/-- Every event moves the lock, the queue and the tokens together with one program counter (`notify_one`:
    two); the same moves keep the converse of `lockHolder`. -/
theorem Core.step {s s' : St} {e : Ev} (hc : Core s) (h : Step s e s') : Core s' ∧ (LockConv s → LockConv s') := by
  cases h with
  | inv htn hp | ret htn hp | done htn hp | timeout htn hp | wokePopped htn _ hp | cvNone htn _ hp | take htn _ hp =>
    exact hc.move_conv htn (.same (by rw [hp]; rfl)) (.same (by rw [hp]; rfl)) (fun _ _ => rfl) (by simp)
  | suspend htn hp =>
    exact hc.move_conv htn (.same (by rw [hp]; rfl)) (.same (by rw [hp]; rfl)) (fun _ _ => rfl)
      fun h => hc.wake _ (.inl (by simpa [hp] using h))
  | woke htn hp | sleep htn hp =>
    -- a token consumed or cleared belongs to a thread that is no longer owed one
    exact hc.move_conv htn (.same (by rw [hp]; rfl)) (.same (by rw [hp]; rfl)) (fun u hu => upd_other _ _ _ _ hu) (by simp)
  | add htn hl hp =>
    exact hc.move_conv htn (.held hl (by split <;> rfl)) (.same (by rw [hp]; split <;> rfl)) (fun _ _ => rfl) (by split <;> simp)
  | acqWant htn hl hp | acqWoke htn hl hp =>
    exact hc.move_conv htn (.acq hl rfl) (.same (by rw [hp]; rfl)) (fun _ _ => rfl) (by simp)
  | acqLoop htn hl hp =>
    exact hc.move_conv htn (.acq hl (by split <;> rfl)) (.same (by rw [hp]; split <;> rfl)) (fun _ _ => rfl) (by split <;> simp)
  | relEnq htn hl hp | relTaken htn hl hp | relFailing htn hl hp | relFin htn hl hp | relTry htn hl hp =>
    exact hc.move_conv htn (.rel hl rfl) (.same (by rw [hp]; rfl)) (fun _ _ => rfl) (by simp)
  | relRes htn hl hp =>
    exact hc.move_conv htn (.rel hl (by split <;> rfl)) (.same (by rw [hp]; split <;> rfl)) (fun _ _ => rfl) (by split <;> simp)
  | cvEnq htn hl hp => exact hc.move_conv htn (.held hl rfl) (.enq (by rw [hp]; rfl) rfl) (fun _ _ => rfl) (by simp)
  | wokeTimeout htn hl | wokeSpurious htn hl => exact hc.move_conv htn (.held hl rfl) (.erase rfl) (fun _ _ => rfl) (by simp)
  | pop htn hl hp hq hp' =>
    obtain ⟨-, hq', hh', -, -, -, hslp⟩ := setPopped_inv hp'
    refine ⟨hc.pop htn rfl hq (by rw [hp]; rfl) ⟨hq', hh'⟩ hl (by rw [hp]; rfl) rfl (fun u hu => ?_)
      (fun h => ?_) (by simp), fun _ r hr => ?_⟩
    · dsimp only; split
      · rfl
      · exact upd_other _ _ _ _ hu
    · -- the resume is dropped only for a thread in `slp`, which is not marked `unl`/`susp`
      simp [hslp h]
    · -- the lock stays with the notifier
      obtain rfl := Option.some.inj (hl.symm.trans hr)
      exact ⟨by show holds (upd _ _ _ _) = true; rw [upd_same]; rfl, htn⟩

namespace Inv
variable {s : St} (hi : Inv s) {t : Nat}
include hi

theorem core : Core s := ⟨hi.lockHolder, hi.outside, hi.qIff, hi.qNodup, hi.wake⟩

theorem lt_of_mem {g : Nat} : g ∈ s.queue → g < s.n := hi.core.lt_of_mem rfl

/-- The front waiter of a non-empty queue is not the lock holder, so `notify_one` can mark it. -/
theorem front_poppable (hl : s.lock = some t) {g : Nat} {rest : List Nat} (hq : s.queue = g :: rest)
    (hp : inQ (s.pc t) = false) : ∃ p', setPopped (s.pc g) = some p' := by
  obtain ⟨hg, hnh, -, -⟩ := hi.core.front rfl hl hp hq
  cases hpg : s.pc g <;> simp [hpg, inQ, holds] at hg hnh <;> simp [setPopped, hg]

/-- The budget after thread `t` moves to `p'` and the count becomes `V`: either no permit is
    available, or the move pays for the change of the count out of the thread's weight. -/
theorem budget_upd (htn : t < s.n) {p' : Pc} {V : Int}
    (h : V ≤ 0 ∨ (s.queue ≠ [] ∧ V + weight (s.pc t) ≤ s.value + weight p')) :
    V ≤ (sumTo s.n (fun u => weight (upd s.pc t p' u)) : Int) := by
  have hw := sumTo_upd s.n weight s.pc t p' htn
  rcases h with h | ⟨hq, h⟩
  · omega
  · have := hi.budget hq
    simp only [wsum] at this
    omega

end Inv

/-- What a step must satisfy beyond `Core`: `notify_one` reports "nobody left" only on an empty queue, the
    budget, and the account of the count. -/
theorem Inv.of_core {s : St} (hc : Core s) (hne : ∀ t i n, s.pc t = .relRes i n false → s.queue = [])
    (hb : s.queue ≠ [] → s.value ≤ (wsum s : Int))
    (ha : s.value = s.init + (s.released : Int) - (s.acquired : Int)) : Inv s :=
  ⟨hc.lockHolder, hc.outside, hc.qIff, hc.qNodup, hne, hc.wake, hb, ha⟩

/-- Thread `t` moves to `p'` without touching the queue; the count and the counters may change. -/
theorem Inv.move {s s' : St} (hi : Inv s) {t : Nat} (htn : t < s.n) {p' : Pc} (hc : Core s')
    (hn : s'.n = s.n) (hpc : s'.pc = upd s.pc t p') (hqu : s'.queue = s.queue)
    (hne : ∀ i n, p' = .relRes i n false → s.queue = [])
    (hbud : s.queue ≠ [] → s'.value ≤ 0 ∨ s'.value + weight (s.pc t) ≤ s.value + weight p')
    (hacc : s'.value = s'.init + (s'.released : Int) - (s'.acquired : Int)) : Inv s' := by
  refine .of_core hc ?_ (fun hne => ?_) hacc
  · rw [hpc, hqu]
    exact forall_upd (P := fun _ p => ∀ i n, p = Pc.relRes i n false → s.queue = []) hi.noneEmpty hne
  · rw [wsum, hn, hpc]; rw [hqu] at hne
    exact hi.budget_upd htn ((hbud hne).imp_right fun h => ⟨hne, h⟩)

theorem Inv.step {s s' : St} {e : Ev} (hi : Inv s) (h : step s e = some s') : Inv s' := by
  have hc := (hi.core.step (step_iff.1 h)).1
  cases step_iff.1 h with
  | inv htn hp | ret htn hp | done htn hp | timeout htn hp | wokePopped htn _ hp | suspend htn hp | woke htn hp _
  | sleep htn hp | acqWant htn _ hp | acqWoke htn _ hp | relEnq htn _ hp | relTaken htn _ hp | relFailing htn _ hp
  | relFin htn _ hp =>
    exact hi.move htn hc rfl rfl rfl nofun (fun _ => .inr (by simp [hp, weight, b2n])) hi.account
  | cvNone htn _ hp hq => exact hi.move htn hc rfl rfl rfl (fun _ _ _ => hq) (fun hne => absurd hq hne) hi.account
  | take htn _ hp _ hv =>
    -- the permit taken is paid for by the notification the taker may carry
    refine hi.move htn hc rfl rfl rfl nofun (fun _ => .inr ?_)
      (by have := hi.account; simp only [Int.natCast_add]; omega)
    simp only [hp, weight, b2n]; split <;> omega
  | @add t c htn _ hp =>
    -- `c` new permits, `c` notifications to come (none if the count stays negative)
    refine hi.move htn hc rfl rfl rfl (fun i n => by split <;> nofun) (fun _ => ?_)
      (by have := hi.account; simp only [Int.natCast_add]; omega)
    rw [hp]; split
    · exact .inr (by simp [weight, b2n])
    · simp only [weight, b2n, Bool.false_eq_true, if_false]; omega
  | acqLoop htn hl hp =>
    -- the loop goes on only while the count is non-negative
    refine hi.move htn hc rfl rfl rfl (fun i n => by split <;> nofun) (fun _ => ?_) hi.account
    rw [hp]; split
    · exact .inr (Int.le_refl _)
    · simp only [weight]; omega
  | relTry htn hl hp hv => exact hi.move htn hc rfl rfl rfl nofun (fun _ => .inl (by dsimp only; omega)) hi.account
  | @relRes t i n more htn hl hp =>
    -- `notify_one` returned false only on an empty queue
    refine hi.move htn hc rfl rfl rfl (fun i n => by split <;> nofun) (fun hne => .inr ?_) hi.account
    cases more
    · exact absurd (hi.noneEmpty t i n hp) hne
    · simp [hp, weight]; omega
  | @cvEnq t _ _ htn hl hp hv =>
    refine .of_core hc (fun u i n => ?_) (fun _ => hi.budget_upd (V := s.value) htn (.inl (by omega))) hi.account
    -- a thread at `relRes` holds the lock, so it is `t`, which is at `enq` now
    have := hi.core.holder hl (u := u)
    simp only [upd_apply]; grind [holds]
  | wokeTimeout htn _ hp | wokeSpurious htn _ hp =>
    -- a waiter that woke up with its entry still linked erases it under the lock
    refine .of_core hc (fun u i n => ?_) (fun hne => ?_) hi.account
    · have := hi.noneEmpty u i n
      simp only [upd_apply]; grind
    · have hq' : s.queue ≠ [] := fun h => hne (by simp [h])
      exact hi.budget_upd (V := s.value) htn (.inr ⟨hq', by rw [hp]; show s.value + ((0 : Nat) : Int) ≤ _; omega⟩)
  | @pop t i n g rest p' htn hl hp hq hp' =>
    -- the front waiter leaves the queue carrying a notification (weight 1) that the notifier's loop
    -- counter gives up
    obtain ⟨-, -, -, hw, hw', hres, -⟩ := setPopped_inv hp'
    obtain ⟨-, -, hgt, hgn⟩ := hi.core.front rfl hl (by rw [hp]; rfl) hq
    refine .of_core hc (fun u i' n' => ?_) (fun hne => ?_) hi.account
    · have := hi.noneEmpty u i' n'
      simp only [upd_apply]; grind
    · have h1 := sumTo_upd s.n weight s.pc g p' hgn
      have h2 := sumTo_upd s.n weight (upd s.pc g p') t (.relRes i n (decide (rest ≠ []))) htn
      rw [upd_other _ _ _ _ (Ne.symm hgt), hp] at h2
      have e1 : weight (.relL i n) = n - i := rfl
      have e2 : weight (.relRes i n (decide (rest ≠ []))) = n - i - 1 := rfl
      have := hi.budget (by simp [hq])
      simp only [wsum] at this
      show s.value ≤ ((sumTo s.n fun u => weight (upd (upd s.pc g p') t (.relRes i n (decide (rest ≠ []))) u) : Nat) : Int)
      omega

theorem inv_of_accepted {n : Nat} {v : Int} {log : List Ev} {s : St}
    (h : runLog step (init n v) log = some s) : Inv s :=
  inv_of_runLog Inv (fun _ _ _ hi hs => hi.step hs) (inv_init n v) h

end PikaVerif.Sem
