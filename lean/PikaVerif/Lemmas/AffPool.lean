import PikaVerif.Lemmas.Aff
/-! C15: the resource partitioner keeps the pools a partition of the exposed PUs. -/
namespace PikaVerif.Aff.Pool

theorem step_some {s s' : St} {e : Ev} (hs : step s e = some s') : s.configured = false ∧
    match e with
    | .create => s' = { s with npools := s.npools + 1 }
    | .add pu pool => pu ∈ s.exposed ∧ pool < s.npools ∧ s.occ pu = 0 ∧
        s' = { s with pool := upd s.pool pool (s.pool pool ++ [pu]), occ := upd s.occ pu 1,
                      total := s.total + 1 }
    | .setup =>
        s' = { s with pool := upd s.pool 0 (s.pool 0 ++ free s),
                      occ := fun p => if p ∈ free s then 1 else s.occ p,
                      total := s.total + (free s).length, configured := true } := by
  unfold step at hs
  split at hs
  · cases hs
  · rename_i hnc
    refine ⟨by simpa using hnc, ?_⟩
    cases e with
    | create => cases hs; rfl
    | add pu pool =>
      simp only at hs ⊢
      split at hs
      · rename_i hpre
        split at hs
        · rename_i hocc
          split at hs
          · cases hs
          · cases hs; exact ⟨hpre.1, hpre.2, hocc, rfl⟩
        · cases hs
      · cases hs
    | setup =>
      simp only at hs ⊢
      split at hs
      · cases hs; rfl
      · cases hs

/-- invariant of the partitioner: the pools are a partition of the PUs handed out so far -/
structure Inv (s : St) : Prop where
  nodupE : s.exposed.Nodup
  pos : 0 < s.npools
  nodup : ∀ i, (s.pool i).Nodup
  disj : ∀ i j p, i ≠ j → p ∈ s.pool i → p ∉ s.pool j
  cover : ∀ p, (∃ i, i < s.npools ∧ p ∈ s.pool i) ↔ (p ∈ s.exposed ∧ s.occ p ≠ 0)
  inside : ∀ i p, p ∈ s.pool i → i < s.npools

/-- what `add_resource` (one PU) and `setup_pools` (all that is left) have in common: pool `k` receives
    a duplicate-free list `L` of exposed PUs nobody holds, and exactly these become occupied -/
theorem inv_append {s : St} (h : Inv s) {k : Nat} (hk : k < s.npools) {L : List Nat} (hL : L.Nodup)
    (hfree : ∀ p, p ∈ L → p ∈ s.exposed ∧ s.occ p = 0) {occ' : Nat → Nat}
    (hocc : ∀ p, occ' p ≠ 0 ↔ (p ∈ L ∨ s.occ p ≠ 0)) (total' : Nat) (conf' : Bool) :
    Inv { s with pool := upd s.pool k (s.pool k ++ L), occ := occ', total := total',
                 configured := conf' } := by
  have hnot : ∀ i p, p ∈ L → p ∉ s.pool i := fun i p hp hm =>
    ((h.cover p).1 ⟨i, h.inside i p hm, hm⟩).2 (hfree p hp).2
  refine ⟨h.nodupE, h.pos, ?_, ?_, ?_, ?_⟩ <;> dsimp only
  · intro i
    by_cases hi : i = k
    · subst hi
      rw [upd_same, List.nodup_append]
      exact ⟨h.nodup i, hL, fun a ha b hb he => hnot i b hb (he ▸ ha)⟩
    · rw [upd_other _ _ _ _ hi]; exact h.nodup i
  · -- a PU of the enlarged pool is an old member or one of `L`, which no pool held
    intro i j p hij hp hq
    have := h.disj
    simp only [upd] at hp hq
    grind
  · intro p
    have hc := h.cover p
    rw [hocc p]
    constructor
    · rintro ⟨i, hi, hm⟩
      have := hfree p
      simp only [upd] at hm
      grind
    · rintro ⟨he, hm | ho⟩
      · exact ⟨k, hk, by simp [hm]⟩
      · obtain ⟨i, hi, hm⟩ := hc.2 ⟨he, ho⟩
        exact ⟨i, hi, by simp only [upd]; grind⟩
  · intro i p hp
    have := h.inside
    simp only [upd] at hp
    grind

theorem step_inv (s s' : St) (e : Ev) (h : Inv s) (hs : step s e = some s') : Inv s' := by
  cases e with
  | create =>
    obtain rfl : s' = _ := (step_some hs).2
    refine ⟨h.nodupE, by dsimp only; omega, h.nodup, h.disj, ?_, ?_⟩ <;> dsimp only
    · intro p
      rw [← h.cover p]
      constructor
      · rintro ⟨i, _, hp⟩; exact ⟨i, h.inside i p hp, hp⟩
      · rintro ⟨i, hi, hp⟩; exact ⟨i, by omega, hp⟩
    · intro i p hp; have := h.inside i p hp; omega
  | add pu pool =>
    obtain ⟨hpu, hpool, hocc, rfl⟩ : _ ∧ _ ∧ _ ∧ s' = _ := (step_some hs).2
    refine inv_append h hpool (L := [pu]) (by simp)
      (fun p hp => by rw [List.mem_singleton.1 hp]; exact ⟨hpu, hocc⟩) (fun p => ?_) _ _
    by_cases hp : p = pu
    · subst hp; simp
    · simp [upd, hp]
  | setup =>
    obtain rfl : s' = _ := (step_some hs).2
    refine inv_append h h.pos (L := free s) (h.nodupE.sublist List.filter_sublist)
      (fun p hp => by simpa [free, List.mem_filter] using hp) (fun p => ?_) _ _
    by_cases hf : p ∈ free s <;>
      simp only [hf, if_true, if_false, true_or, false_or, ne_eq, Nat.one_ne_zero, not_false_eq_true]

theorem init_inv (exposed : List Nat) (osThreads : Nat) (h : exposed.Nodup) :
    Inv (init exposed osThreads) :=
  ⟨h, by simp [init], fun _ => by simp [init], fun _ _ _ _ hp => by simp [init] at hp,
   fun p => by simp [init], fun _ _ hp => by simp [init] at hp⟩

/-- once configured, nothing is free any more -/
theorem configured_full (s s' : St) (e : Ev) (hs : step s e = some s') (hc : s'.configured = true) :
    ∀ p, p ∈ s'.exposed → s'.occ p ≠ 0 := by
  cases e with
  | create => obtain ⟨hnc, (rfl : s' = _)⟩ := step_some hs; rw [hnc] at hc; cases hc
  | add pu pool => obtain ⟨hnc, (⟨_, _, _, rfl⟩ : _ ∧ _ ∧ _ ∧ s' = _)⟩ := step_some hs; rw [hnc] at hc; cases hc
  | setup =>
    obtain rfl : s' = _ := (step_some hs).2
    intro p hp
    dsimp only at hp ⊢
    by_cases hf : p ∈ free s
    · simp [hf]
    · simp only [hf, ↓reduceIte]
      intro h0
      exact hf (by simp [free, List.mem_filter, hp, h0])

end PikaVerif.Aff.Pool
