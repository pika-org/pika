import PikaVerif.Lemmas.Aff
/-! C15: the compact decoder returns and its result satisfies the property. -/
namespace PikaVerif.Aff

/-- invariant of the first pass of the compact decoder, at linear PU position `pos` -/
structure CInv (cfg : Cfg) (pos : Nat) (s : ASt) : Prop where
  count : s.k = cntTo cfg pos
  lt : s.k < cfg.n
  bound : ∀ i, i < s.k → ∃ q, q < pos ∧ s.aff i = [q] ∧ s.pn i = q ∧ ind cfg q = true
  fresh : ∀ i, s.k ≤ i → s.aff i = []
  distinct : ∀ i j, i < s.k → j < s.k → i ≠ j → s.aff i ≠ s.aff j

theorem compactPu_inv (cfg : Cfg) (hu : effUsed cfg = 0) {c p : Nat} (hc : c < cfg.t.nc)
    (hp : p < cfg.t.pus c) (s : ASt) (h : CInv cfg (base cfg.t c + p) s) :
    CtlP (CInv cfg (base cfg.t c + p + 1)) (Fin cfg) False (compactPu cfg c p s) := by
  have hlt := base_add_lt_numPus cfg.t hc hp
  unfold compactPu
  rw [inMask_eq cfg hc hp, hu]
  simp only [Nat.add_zero]
  cases hi : ind cfg (base cfg.t c + p) with
  | false =>
    simp only [Bool.not_false, ↓reduceIte, CtlP]
    refine ⟨?_, h.lt, ?_, h.fresh, h.distinct⟩
    · rw [cntTo_succ, hi]; simpa using h.count
    · intro i hi'
      obtain ⟨q, hq, r⟩ := h.bound i hi'
      exact ⟨q, by omega, r⟩
  | true =>
    have hf := h.fresh s.k (Nat.le_refl _)
    simp only [Bool.not_true, Bool.false_eq_true, ↓reduceIte, assign, hf, ne_eq, not_true_eq_false,
      threadMask, puNumber_eq cfg.t hc hp]
    have hb : ∀ i, i < s.k + 1 → ∃ q, q < base cfg.t c + p + 1 ∧
        upd s.aff s.k [base cfg.t c + p] i = [q] ∧ upd s.pn s.k (base cfg.t c + p) i = q ∧
        ind cfg q = true := by
      intro i hi'
      have := h.bound i
      simp only [upd]
      grind
    have hd := distinct_upd h.distinct (v := [base cfg.t c + p]) fun i hi' he => by
      obtain ⟨q, hq, r1, _⟩ := h.bound i hi'
      rw [r1] at he; injection he with he; omega
    by_cases hn : s.k + 1 = cfg.n
    · simp only [hn, ↓reduceIte, CtlP]
      refine ⟨?_, ?_⟩ <;> dsimp only
      · intro i hi'
        obtain ⟨q, hq, r⟩ := hb i (by omega)
        exact ⟨q, r.1, r.2.1, by omega, r.2.2⟩
      · intro i j hi' hj; exact hd i j (by omega) (by omega)
    · simp only [hn, ↓reduceIte, CtlP]
      refine ⟨?_, ?_, hb, fresh_upd h.fresh, hd⟩ <;> dsimp only
      · rw [cntTo_succ, hi]; simp [h.count]
      · have := h.lt; omega


theorem compactCore_inv (cfg : Cfg) (hu : effUsed cfg = 0) {c : Nat} (hc : c < cfg.t.nc)
    (s : ASt) (h : CInv cfg (base cfg.t c) s) :
    CtlP (CInv cfg (base cfg.t (c + 1))) (Fin cfg) False (compactCore cfg c s) := by
  unfold compactCore
  rw [hu]; simp only [Nat.add_zero]; rw [corePus_eq cfg.t hc, base_succ]
  exact forRange_inv (compactPu cfg c) (fun p => CInv cfg (base cfg.t c + p)) (Fin cfg) False
    (cfg.t.pus c) s (fun p s hp hs => compactPu_inv cfg hu hc hp s hs) h

theorem compactPass_inv (cfg : Cfg) (hu : effUsed cfg = 0) (s : ASt) (h : CInv cfg 0 s) :
    CtlP (CInv cfg (base cfg.t (effCores cfg))) (Fin cfg) False (compactPass cfg s) := by
  unfold compactPass
  exact forRange_inv (compactCore cfg) (fun c => CInv cfg (base cfg.t c)) (Fin cfg) False
    (effCores cfg) s
    (fun c s hc hs => compactCore_inv cfg hu (Nat.lt_of_lt_of_le hc (effCores_le cfg)) s hs) h

theorem init_CInv (cfg : Cfg) (hn : 0 < cfg.n) : CInv cfg 0 ASt.init :=
  ⟨rfl, hn, nofun, fun _ _ => rfl,
   nofun⟩

/-- **compact**: every satisfiable request (with `used_cores = 0`, and — when the process mask
    is ignored — `max_cores` not below the thread count) returns masks satisfying C15. -/
theorem compact_spec (cfg : Cfg) (hwf : WF cfg.t) (hused : effUsed cfg = 0)
    (hu : cfg.usePm = true ∨ cfg.n ≤ cfg.maxCores) (hn : cfg.n ≤ avail cfg) :
    ∃ aff pn, decodeCompact cfg = .ok aff pn ∧ Good cfg aff pn := by
  unfold decodeCompact
  rw [tooMany_false cfg hn]
  simp only [Bool.false_eq_true, ↓reduceIte]
  by_cases h0 : cfg.n = 0
  · simp only [h0, ↓reduceIte]
    exact ⟨_, _, rfl, ⟨fun i hi => by omega, fun i j hi => by omega⟩⟩
  · simp only [h0, ↓reduceIte, compactLoop]
    have hp := compactPass_inv cfg hused ASt.init (init_CInv cfg (by omega))
    cases hr : compactPass cfg ASt.init with
    | fin s' => rw [hr] at hp; exact ⟨_, _, rfl, hp⟩
    | err => rw [hr] at hp; exact hp.elim
    | run s' =>
      rw [hr] at hp
      have h1 := hp.count
      have h2 := hp.lt
      have := enough cfg hwf hu hn
      omega

end PikaVerif.Aff
