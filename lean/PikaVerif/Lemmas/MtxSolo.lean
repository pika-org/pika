import PikaVerif.Lemmas.MtxCover
/-!
# Solo runs: the hand-off of the mutex in an explicit number of events (C06t)

`unlockSolo r g z dropped`: the owner `r` runs `unlock()` alone while `g` is the front waiter (6 events);
`lockWake g`: the notified `lock()` waiter `g` runs alone until its `lock()` has returned
(6 events); `timedWake g`: the same for a front waiter inside `try_lock_for`, whose resume the
agent drops, so that its first event is its deadline (6 events); `wakeSolo d g` is the one or the other,
and `handoff_bound` the hand-off to either kind of waiter.
-/
namespace PikaVerif.Mtx

def unlockSolo (r g z : Nat) (dropped : Bool) : List Ev :=
  [.inv r .unlock, .slAcq r, .disown r, .popResume r z g dropped, .slRel r, .ret r .ok]

def lockWake (g : Nat) : List Ev :=
  [.woke g, .slAcq g, .cvWoke g false false, .own g 1 false, .slRel g, .ret g .ok]

def timedWake (g : Nat) : List Ev :=
  [.timeout g, .slAcq g, .cvWoke g false true, .own g 3 false, .slRel g, .ret g .ok]

theorem unlockSolo_length (r g z : Nat) (d : Bool) : (unlockSolo r g z d).length = 6 := rfl
theorem lockWake_length (g : Nat) : (lockWake g).length = 6 := rfl
theorem timedWake_length (g : Nat) : (timedWake g).length = 6 := rfl

/-- the owner's `unlock()` run alone while the front waiter `g` is parked in `lock()` (`d = false`) or
    polling the deadline of a `try_lock_for` (`d = true`): accepted, pops `g` and marks it
    notified; a parked `g` gets a wake-up token, a polling one does not (the agent drops the resume);
    mutex and spinlock free afterwards -/
theorem unlockSolo_spec (s : St) (r g : Nat) (rest : List Nat) (d : Bool) (hl : s.lock = none) (hr : r < s.n)
    (hrg : r ≠ g) (hp : s.pc r = .idle) (hcs : s.inCS r = false) (ho : s.owner = some r)
    (hq : s.queue = g :: rest) (hg : s.pc g = if d then .slp false else .susp false) :
    ∃ s1, runLog step s (unlockSolo r g rest.length d) = some s1 ∧ s1.lock = none ∧ s1.owner = none ∧
      s1.queue = rest ∧ s1.pc g = (if d then .slp true else .susp true) ∧
      s1.tok g = (if d then s.tok g else s.tok g + 1) ∧ s1.pc r = .idle ∧
      s1.holdsG r = false ∧ s1.n = s.n ∧ (∀ u, u ≠ r → u ≠ g → s1.pc u = s.pc u) := by
  have hgr : g ≠ r := fun h => hrg h.symm
  cases d <;> simp [unlockSolo, runLog, step, upd, hl, hr, hp, hcs, ho, hq, hg, hgr, setPopped] <;>
    intro u h1 h2 <;> simp [h1, h2]

/-- The notified front waiter run alone: parked in `lock()` it consumes its token; polling the
    deadline of a `try_lock_for` (`d`, its resume was dropped) its first event is the deadline. -/
def wakeSolo (d : Bool) (g : Nat) : List Ev := if d then timedWake g else lockWake g

theorem wakeSolo_spec (s : St) (g : Nat) (d : Bool) (hl : s.lock = none) (hgn : g < s.n) (ho : s.owner = none)
    (hg : s.pc g = if d then .slp true else .susp true) (ht : d = false → 0 < s.tok g) :
    ∃ s2, runLog step s (wakeSolo d g) = some s2 ∧ s2.lock = none ∧ s2.owner = some g ∧
      s2.queue = s.queue ∧ s2.pc g = .idle ∧ s2.holdsG g = true ∧ s2.tookOp g = true ∧
      (∀ u, u ≠ g → s2.pc u = s.pc u ∧ s2.holdsG u = s.holdsG u) := by
  cases d <;> simp only [Bool.false_eq_true, if_false, if_true, forall_const] at hg ht <;>
    simp [wakeSolo, lockWake, timedWake, runLog, step, upd, hl, hgn, ho, hg, ht] <;>
    intro u h1 <;> simp [h1]

theorem handoff_ready {n : Nat} {log : List Ev} {s : St} (hlog : runLog step (init n) log = some s)
    {r g : Nat} {rest : List Nat} (hp : s.pc r = .idle) (hh : s.holdsG r = true)
    (hq : s.queue = g :: rest) : r < s.n ∧ g < s.n ∧ r ≠ g ∧ s.owner = some r := by
  obtain ⟨hi, hi2⟩ := inv2_of_accepted hlog
  have hgq : inQ (s.pc g) = true := (hi.qIff g).1 (by rw [hq]; exact List.mem_cons_self)
  refine ⟨Nat.lt_of_not_le fun hc => ?_, Nat.lt_of_not_le fun hc => ?_, fun he => ?_, (hi2.loc r).1 hh⟩
  · rw [holdsG_outside hlog r hc] at hh; cases hh
  · rw [hi.outside g hc] at hgq; cases hgq
  · rw [← he, hp] at hgq; cases hgq

/-- The hand-off in 12 events, to a front waiter parked in `lock()` or (`d`) polling the deadline
    of a `try_lock_for`. -/
theorem handoff_bound {n : Nat} {log : List Ev} {s : St} (hlog : runLog step (init n) log = some s)
    (r g : Nat) (rest : List Nat) (d : Bool)
    (hl : s.lock = none) (hp : s.pc r = .idle) (hh : s.holdsG r = true) (hcs : s.inCS r = false)
    (hq : s.queue = g :: rest) (hg : s.pc g = if d then .slp false else .susp false) :
    ∃ s', runLog step s (unlockSolo r g rest.length d ++ wakeSolo d g) = some s' ∧
      s'.pc g = .idle ∧ s'.holdsG g = true ∧ s'.owner = some g ∧ s'.tookOp g = true ∧
      s'.pc r = .idle ∧ s'.holdsG r = false ∧ s'.queue = rest ∧ s'.lock = none := by
  obtain ⟨hrn, hgn, hrg, ho⟩ := handoff_ready hlog hp hh hq
  obtain ⟨s1, hrun1, h1l, h1o, h1q, h1g, h1t, h1r, h1h, h1n, _⟩ :=
    unlockSolo_spec s r g rest d hl hrn hrg hp hcs ho hq hg
  obtain ⟨s2, hrun2, h2l, h2o, h2q, h2g, h2h, h2t, h2u⟩ :=
    wakeSolo_spec s1 g d h1l (by omega) h1o h1g (fun hd => by rw [h1t, hd]; exact Nat.succ_pos _)
  refine ⟨s2, ?_, h2g, h2h, h2o, h2t, ?_, ?_, by rw [h2q, h1q], h2l⟩
  · rw [runLog_append, hrun1]; exact hrun2
  · rw [(h2u r hrg).1]; exact h1r
  · rw [(h2u r hrg).2]; exact h1h

end PikaVerif.Mtx
