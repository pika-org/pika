import PikaVerif.Lemmas.StopInv
/-!
# Progress and the spin loops

`next s a` is the productive event activity `a` can perform in `s`, if any (`next_spec`: the model accepts it).
The lock holder always has one; an activity inside an operation has one, or spins behind a holder that has, or is
above an active nested operation, or legitimately waits; a state without productive steps has every activity
idle.  For the repaired constructor (`fixCtor`) and identities that tell the threads apart (`Faith`).

Spin loops, bounded exit in solo continuations:
* `holder_releases`: every productive event of the lock holder frees the lock;
* `spinDist`: number of own steps a spinning activity needs once the lock is free
  (`spin`: re-load + CAS = 2; `cas` with a stale stop bit: failed CAS + CAS = 2; `cas` with the
  current stop bit: 1);
* `spurious`: a failed CAS although the lock bit and the stop bit of the word equal the expected
  ones: in the code the source count of the expected value was stale, or
  `compare_exchange_weak` failed spuriously.  The model does not keep the expected count, so it
  accepts such a failure any number of times; the bounds below exclude it (after one failed CAS
  the expected value is the current word, so in a solo continuation only a spurious failure of
  the weak CAS remains);
* `spin_decreases`: while the lock stays free every own non-spurious productive step decreases
  `spinDist`.
-/
namespace PikaVerif.Stop

def spurious (s : St) : Ev → Bool
  | .casFail a lk rq _ =>
    match s.pc a with
    | .cas _ b => !lk && (rq == b)
    | _ => false
  | _ => false

/-- every productive event of the lock holder frees the lock: from `locked k` the holder can only
    dequeue, end its loop, push or unlink -/
theorem holder_releases {s s' : St} (hA : InvA s) {h : Nat} (hl : s.lock = some h) {e : Ev}
    (he : actor e = h) (hp : productive e = true) (hs : step s e = some s') : s'.lock = none := by
  have hh := (hA.lockConv _ hl).1
  obtain ⟨p', -, hm⟩ := (step_frame hs).move
  rw [he] at hm
  cases hpc : s.pc h <;> rw [hpc] at hh <;> cases hh
  rw [hpc] at hm
  cases hm with
  | deq => obtain ⟨_, -, -, -, -, -, rfl⟩ := step_deq hs; rfl
  | rsDone => obtain ⟨-, -, -, -, rfl⟩ := step_rsDone hs; rfl
  | push => obtain ⟨-, -, -, -, rfl⟩ := step_push hs; rfl
  | unlinked | unlinkNone => obtain ⟨-, -, -, ⟨-, -, rfl⟩ | ⟨-, -, rfl⟩⟩ := step_unlink hs <;> rfl
  | _ => cases hp

/-- The productive event activity `a` performs next, if the state lets it: a lock loop does not get on while the lock
    is held, a callback body ends when its nested activity is idle, a waiting destructor goes on when the finished
    flag is set. -/
def next (s : St) (a : Nat) : Option Ev :=
  match s.pc a with
  | .ld _ => some (.load a s.lock.isSome s.req s.srcs)
  | .cas _ b => if s.lock = none then some (if b = s.req then .acq a else .casFail a false s.req s.srcs) else none
  | .spin _ => if s.lock = none then some (.reload a false s.req s.srcs) else none
  | .locked (.reg c) => some (.push a c (decide (s.list ≠ [])))
  | .locked (.unreg c) => some (.unlink a c (decide (c ∈ s.list)))
  | .locked _ =>
    match s.list with
    | [] => some (.rsDone a)
    | c :: rest => some (.deq a c (decide (rest ≠ [])))
  | .pre c => some (.preExec a c)
  | .exec c _ => some (.cbBegin a c)
  | .body c _ => if s.pc (a + s.K) = .idle then some (.cbEnd a c) else none
  | .post c false => some (.finStore a c (s.remFlag a))
  | .post c true => some (.inFin a c)
  | .chk c => some (.selfChk a c (decide (s.sig = s.ident a)) (decide (s.sig = s.ident a) && (s.remPtr c).isSome))
  | .wait c => if s.fin c = true then some (.waited a c) else none
  | .retn .relock _ => none
  | .retn _ r => some (.ret a r)
  | _ => none

/-- The model accepts it (read off `step`, program counter by program counter), provided the lock bit agrees with
    the program counter of `a`. -/
theorem next_spec {s : St} {a : Nat} {e : Ev} (h : next s a = some e) (ha : a < s.n)
    (hl : holds (s.pc a) = true → s.lock = some a) :
    actor e = a ∧ productive e = true ∧ spurious s e = false ∧ enabled s e = true := by
  unfold next at h
  split at h <;> (try split at h) <;> (try split at h) <;> cases h <;> (try cases ‹Kind›) <;>
    simp_all [actor, productive, spurious, enabled, step, holds, @eq_comm Bool s.req] <;>
    (repeat' split) <;> simp_all

theorem next_locked {s : St} {a : Nat} {k : Kind} (hp : s.pc a = .locked k) : ∃ e, next s a = some e := by
  unfold next; rw [hp]
  cases k <;> first | exact ⟨_, rfl⟩ | (cases s.list <;> exact ⟨_, rfl⟩)

/-- once the lock is free an activity in a lock loop gets on -/
theorem next_loop {s : St} {a : Nat} (hloop : lockLoop (s.pc a) = true) (hl : s.lock = none) :
    ∃ e, next s a = some e := by
  unfold next
  cases hp : s.pc a <;> rw [hp] at hloop <;> first | exact ⟨_, if_pos hl⟩ | cases hloop

/-- the holder of the lock can always perform its next step, which releases the lock -/
theorem holder_steps {s : St} (hA : InvA s) {h : Nat} (hl : s.lock = some h) :
    ∃ e, actor e = h ∧ productive e = true ∧ enabled s e = true ∧ ∀ s', step s e = some s' → s'.lock = none := by
  obtain ⟨hh, hn⟩ := hA.lockConv h hl
  cases hp : s.pc h <;> rw [hp] at hh <;> cases hh
  obtain ⟨e, he⟩ := next_locked hp
  obtain ⟨h1, h2, -, h3⟩ := next_spec he hn fun _ => hl
  exact ⟨e, h1, h2, h3, fun s' => holder_releases hA hl h1 h2⟩

/-- a waiting destructor waits for a callback that request_stop is processing on another thread -/
theorem wait_legit {s : St} (hP : Inv s) (hF : Faith s) (hc : s.fixCtor = true) {a c : Nat} (hp : s.pc a = .wait c) (hf : s.fin c = false) :
    ∃ w, winPhase (s.pc w) = some c ∧ thr s.K w ≠ thr s.K a := by
  have hpath : unregPath (s.pc a) = some c := by simp [hp, unregPath]
  have hpu := hP.U.path a c hpath hc
  have hout := (hP.B.unregOut a c (by simp [hp, unregDone])).1
  have hd : s.deqd c = true := by
    rcases hP.U.linked c hpu (.inr ⟨a, hpath⟩) with h | h
    · exact absurd h hout
    · exact h
  have hw : winPhase (s.pc (s.owner c)) = some c := by
    rcases hP.U.deq c hd (.inr ⟨a, hpath⟩) with h | h
    · rw [hf] at h; simp at h
    · exact h
  refine ⟨s.owner c, hw, ?_⟩
  intro ht
  have hwin := hP.A.winPhaseWinner _ c hw
  have hs := hP.S.sigW _ hwin
  apply (hP.D hF).waitOther a c hp
  rw [hs]; exact (hF.2 _ a).2 ht

theorem act_lt {s : St} (hA : InvA s) {a : Nat} (ha : act (s.pc a) = true) : a < s.n := by
  rcases Nat.lt_or_ge a s.n with h | h
  · exact h
  · have := hA.outside a h; rw [this] at ha; simp [act] at ha

/-- **Progress, local form.**  Every activity that is inside an operation
    (2) can perform a productive step itself (`next`), or else
    (1) is inside a callback body whose nested operation is active (the thread is working there), or
    (3) is in a lock loop while another activity holds the lock, and that holder can perform its
        next step, which releases the lock, or
    (4) legitimately waits in `remove_callback`: the callback is being processed by request_stop
        on another thread and its finished flag is not yet stored. -/
theorem progress_local {s : St} (hP : Inv s) (hF : Faith s) (hc : s.fixCtor = true) (a : Nat) (ha : act (s.pc a) = true) :
    (isBody (s.pc a) = true ∧ act (s.pc (a + s.K)) = true)
    ∨ (∃ e, actor e = a ∧ productive e = true ∧ enabled s e = true)
    ∨ (∃ h e, s.lock = some h ∧ h ≠ a ∧ lockLoop (s.pc a) = true ∧ actor e = h ∧ productive e = true ∧
          enabled s e = true ∧ ∀ s', step s e = some s' → s'.lock = none)
    ∨ (∃ c w, s.pc a = .wait c ∧ s.fin c = false ∧ winPhase (s.pc w) = some c ∧ thr s.K w ≠ thr s.K a) := by
  have hA := hP.A
  cases hn : next s a with
  | some e =>
    obtain ⟨h1, h2, -, h3⟩ := next_spec hn (act_lt hA ha) (hA.lockHolder a)
    exact .inr (.inl ⟨e, h1, h2, h3⟩)
  | none =>
    -- the holder of the lock is not in a lock loop, so it is another activity
    have lockCase : ∀ p, s.pc a = p → lockLoop p = true → s.lock ≠ none → ∃ h e, s.lock = some h ∧ h ≠ a ∧
        lockLoop p = true ∧ actor e = h ∧ productive e = true ∧ enabled s e = true ∧
        ∀ s', step s e = some s' → s'.lock = none := fun p hp hloop hne => by
      obtain ⟨h, hl⟩ := Option.ne_none_iff_exists'.1 hne
      obtain ⟨e, he1, he2, he3, he4⟩ := holder_steps hA hl
      refine ⟨h, e, hl, fun hha => ?_, hloop, he1, he2, he3, he4⟩
      have := (hA.lockConv h hl).1
      rw [hha, hp] at this
      cases p <;> first | (cases hloop; done) | cases this
    cases hp : s.pc a with
    | idle | fin => rw [hp] at ha; cases ha
    | cas k b | spin k => exact .inr (.inr (.inl (lockCase _ hp rfl fun hl => by simp [next, hp, hl] at hn)))
    | locked k => obtain ⟨e, he⟩ := next_locked hp; rw [he] at hn; cases hn
    | body c inl =>
      refine .inl ⟨rfl, ?_⟩
      cases hq : s.pc (a + s.K) with
      | idle => simp [next, hp, hq] at hn
      | fin => have := hP.finTop _ hq; omega
      | _ => rfl
    | wait c =>
      have hf : s.fin c = false := by
        cases hf : s.fin c with
        | false => rfl
        | true => simp [next, hp, hf] at hn
      obtain ⟨w, hw1, hw2⟩ := wait_legit hP hF hc hp hf
      exact .inr (.inr (.inr ⟨c, w, rfl, hf, hw1, hw2⟩))
    | retn k r => cases k <;> first | exact absurd hp (hP.S.noRelockRet a r) | simp [next, hp] at hn
    | post c inl => cases inl <;> simp [next, hp] at hn
    | _ => simp [next, hp] at hn

/-- Activities above `s.n` are idle: if every active activity with `P` has an active child with `P`,
    no activity with `P` is active. -/
theorem no_active_chain {s : St} (hA : InvA s) (hK : 0 < s.K) {P : Nat → Prop}
    (h : ∀ x, P x → act (s.pc x) = true → P (x + s.K) ∧ act (s.pc (x + s.K)) = true) :
    ∀ x, P x → act (s.pc x) = false := by
  have key : ∀ m x, s.n - x ≤ m → P x → act (s.pc x) = true → False := by
    intro m
    induction m with
    | zero => intro x hm _ ha; have := act_lt hA ha; omega
    | succ m ih =>
      intro x hm hp ha
      have := act_lt hA ha
      exact ih (x + s.K) (by omega) (h x hp ha).1 (h x hp ha).2
  intro x hp
  cases ha : act (s.pc x) with
  | false => rfl
  | true => exact (key _ x (Nat.le_refl _) hp ha).elim

theorem stuck_local {s : St} (hP : Inv s) (hF : Faith s) (hc : s.fixCtor = true) (hstuck : ∀ e, productive e = true → enabled s e = false)
    {x : Nat} (ha : act (s.pc x) = true) :
    act (s.pc (x + s.K)) = true ∨ ∃ c w, winPhase (s.pc w) = some c ∧ thr s.K w ≠ thr s.K x := by
  rcases progress_local hP hF hc x ha with h | ⟨e, _, h2, h3⟩ | ⟨_, e, _, _, _, _, h2, h3, _⟩ | ⟨c, w, _, _, hw, hne⟩
  · exact .inl h.2
  · rw [hstuck e h2] at h3; cases h3
  · rw [hstuck e h2] at h3; cases h3
  · exact .inr ⟨c, w, hw, hne⟩

/-- no activity of the thread of a request_stop that is processing a callback is stuck -/
theorem no_stuck_on_winner_thread {s : St} (hP : Inv s) (hF : Faith s) (hc : s.fixCtor = true)
    (hstuck : ∀ e, productive e = true → enabled s e = false) {w0 c0 : Nat}
    (hw0 : winPhase (s.pc w0) = some c0) : ∀ x, thr s.K x = thr s.K w0 → act (s.pc x) = false := by
  refine no_active_chain hP.A hF.1 fun x ht ha => ?_
  rcases stuck_local hP hF hc hstuck ha with h | ⟨c, w, hw, hne⟩
  · exact ⟨by rw [thr_add]; exact ht, h⟩
  · -- the winner is unique
    have := (hP.A.winPhaseWinner w c hw).symm.trans (hP.A.winPhaseWinner w0 c0 hw0)
    cases this
    exact absurd ht.symm hne

/-- **No deadlock.**  A state in which no productive step is possible has every activity idle
    or finished. -/
theorem stuck_all_idle {s : St} (hP : Inv s) (hF : Faith s) (hc : s.fixCtor = true) (hstuck : ∀ e, productive e = true → enabled s e = false) :
    ∀ a, act (s.pc a) = false := by
  refine fun a => no_active_chain hP.A hF.1 (P := fun _ => True) (fun x _ ha => ?_) a trivial
  rcases stuck_local hP hF hc hstuck ha with h | ⟨c, w, hw, _⟩
  · exact ⟨trivial, h⟩
  · have := no_stuck_on_winner_thread hP hF hc hstuck hw w rfl
    rw [winPhase_act hw] at this; cases this

/-! ## Spin loops -/

def spinDist (s : St) (a : Nat) : Nat :=
  match s.pc a with
  | .spin _ => 2
  | .cas _ b => if b = s.req then 1 else 2
  | _ => 0

theorem spinDist_le (s : St) (a : Nat) : spinDist s a ≤ 2 := by
  unfold spinDist
  split <;> (try split) <;> omega

theorem spinDist_zero {s : St} {a : Nat} (h : spinDist s a = 0) : lockLoop (s.pc a) = false := by
  unfold spinDist at h
  cases hp : s.pc a <;> rw [hp] at h <;> first | rfl | cases h | (dsimp only at h; split at h <;> cases h)

/-- an observation of the unlocked word leaves the loop or goes to a CAS with the current stop bit -/
theorem checked_unlocked_dist (k : Kind) (rq : Bool) (src : Nat) {s' : St} {a : Nat}
    (hq : s'.req = rq) (hp : s'.pc a = checked k false rq src) : spinDist s' a ≤ 1 := by
  unfold spinDist
  rw [hp, hq]
  cases k <;> cases rq <;> simp only [checked] <;>
    first
    | (simp; done)
    | (by_cases h0 : src = 0 <;> simp [h0])

theorem spin_decreases {s s' : St} (hA : InvA s) {a : Nat} (hloop : lockLoop (s.pc a) = true) (hl : s.lock = none)
    {e : Ev} (he : actor e = a) (hp : productive e = true) (hsp : spurious s e = false)
    (hs : step s e = some s') :
    spinDist s' a < spinDist s a ∧ (lockLoop (s'.pc a) = true → s'.lock = none) := by
  obtain ⟨p', -, hm⟩ := (step_frame hs).move
  rw [he] at hm
  cases hpc : s.pc a <;> rw [hpc] at hloop <;> cases hloop <;> rw [hpc] at hm
  case cas k b =>
    cases hm with
    | casFail a' lk rq src _ _ =>
      -- the word is unlocked and the failure is not spurious: the expected stop bit was stale
      obtain rfl : a' = a := he
      obtain ⟨k', b', -, hlk, hrq, -, hpc', rfl⟩ := step_casFail hs
      rw [hl] at hlk; subst hlk
      rw [hpc] at hpc'; cases hpc'
      have hne : b ≠ s.req := fun hb => by simp [spurious, hpc, hb, hrq] at hsp
      have h1 : spinDist s a' = 2 := by simp [spinDist, hpc, hne]
      exact ⟨Nat.lt_of_le_of_lt (checked_unlocked_dist k rq src hrq.symm (by simp [hA.fix])) (by omega),
        fun _ => hl⟩
    | acq a' =>
      obtain rfl : a' = a := he
      obtain ⟨-, -, ⟨hpc', rfl⟩ | ⟨k', -, hpc', rfl⟩⟩ := step_acq hs <;>
        exact ⟨by simp only [spinDist, upd_same, hpc']; split <;> omega,
          fun h => by simp only [upd_same] at h; cases h⟩
    | _ => cases hp
  case spin k =>
    cases hm with
    | reload a' lk rq src =>
      obtain rfl : a' = a := he
      obtain ⟨k', -, hlk, hrq, -, hpc', rfl⟩ := step_reload hs
      rw [hl] at hlk; subst hlk
      have h1 : spinDist s a' = 2 := by simp [spinDist, hpc]
      exact ⟨Nat.lt_of_le_of_lt (checked_unlocked_dist k' rq src hrq.symm (upd_same ..)) (by omega),
        fun _ => hl⟩
    | _ => cases hp

end PikaVerif.Stop
