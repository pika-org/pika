import PikaVerif.Lemmas.DequeInv
/-! Solo runs of the deque model (C17t): a thread that takes steps alone finishes its operation within
a fixed number of its own events.  `FinUsed` (only finitely many nodes are allocated, so the freelist
can hand one out) comes first.  The runs are constructed explicitly, phase by phase (`SoloRun`): anchor
load, helping stabilisation of an anchor another thread left unstable, the operation proper on the stable
anchor, the stabilisation of the thread's own push.  The last section puts the phases together into whole
operations from `inv` to `ret` (`solo_pop_op_nonempty`, `solo_pop_op_empty`, `solo_push_op`; the argument
`x` of a pop's `inv` is the value field the event carries and a pop ignores), and into the two forms the
Props file states: `solo_op` (the events between `inv` and `ret`) and `solo_bound_of_glob` (one log). -/
namespace PikaVerif.Deque

variable {fx : Bool}

theorem run_n {log : List Ev} {s0 s : St} (h : runLog (stepG fx) s0 log = some s) :
    s.n = s0.n :=
  inv_of_runLog (fun s => s.n = s0.n) (fun _ _ _ hs hst => (step_n hst).trans hs) rfl h

/-- only finitely many node identities are allocated -/
def FinUsed (s : St) : Prop := ∃ M, ∀ x, M ≤ x → s.used x = false

theorem step_finUsed {s s' : St} {e : Ev} (hf : FinUsed s) (h : stepG fx s e = some s') :
    FinUsed s' := by
  obtain ⟨M, hM⟩ := hf
  obtain ⟨t, _, tr⟩ := Tr.of_step h
  -- only `alloc` and `free` write `used`, at one identity
  have : s'.used = s.used ∨ ∃ n b, s'.used = upd s.used n b := by
    cases tr with
    | alloc hn hu hpc | free hpc => exact Or.inr ⟨_, _, rfl⟩
    | _ => exact Or.inl rfl
  rcases this with hu | ⟨n, b, hu⟩
  · exact ⟨M, fun x hx => by rw [hu]; exact hM x hx⟩
  · refine ⟨max M (n + 1), fun x hx => ?_⟩
    rw [hu, upd_other _ _ _ _ (by omega)]
    exact hM x (by omega)

theorem finUsed_of_accepted {n : Nat} {log : List Ev} {s : St}
    (h : runLog (stepG fx) (init n) log = some s) : FinUsed s :=
  inv_of_runLog FinUsed (fun _ _ _ hf hs => step_finUsed hf hs) ⟨0, fun _ _ => rfl⟩ h

/-- the freelist can always hand out a node: some non-null identity is not allocated -/
theorem FinUsed.fresh {s : St} (hf : FinUsed s) : ∃ x, x ≠ 0 ∧ s.used x = false := by
  obtain ⟨M, hM⟩ := hf
  exact ⟨M + 1, by omega, hM _ (by omega)⟩

/-! ## Solo runs -/

/-- thread `t` alone can take at most `B` steps from `s` and reach a state satisfying `P` -/
def SoloRun (fx : Bool) (t B : Nat) (s : St) (P : St → Prop) : Prop :=
  ∃ evs : List Ev, evs.length ≤ B ∧ (∀ e ∈ evs, Ev.tid e = t) ∧
    ∃ s', runLog (stepG fx) s evs = some s' ∧ P s'

/-- the run was accepted and its final state satisfies `P` -/
def After (o : Option St) (P : St → Prop) : Prop := ∃ s', o = some s' ∧ P s'

@[simp] theorem after_some (s : St) (P : St → Prop) : After (some s) P ↔ P s := by
  simp [After]
@[simp] theorem after_none (P : St → Prop) : After none P ↔ False := by
  simp [After]

variable {s : St} {t : Nat}

theorem SoloRun.intro {B : Nat} {P : St → Prop} (evs : List Ev)
    (h : After (runLog (stepG fx) s evs) P) (hl : evs.length ≤ B := by simp)
    (ht : ∀ e ∈ evs, Ev.tid e = t := by simp [Ev.tid]) : SoloRun fx t B s P :=
  ⟨evs, hl, ht, h⟩

theorem SoloRun.bind {B1 B2 : Nat} {P Q : St → Prop}
    (h1 : SoloRun fx t B1 s P) (h2 : ∀ s', P s' → SoloRun fx t B2 s' Q) :
    SoloRun fx t (B1 + B2) s Q :=
  PikaVerif.SoloRun.bind h1 h2

theorem SoloRun.mono {B B' : Nat} {P Q : St → Prop}
    (h : SoloRun fx t B s P) (hb : B ≤ B') (hq : ∀ s', P s' → Q s') : SoloRun fx t B' s Q :=
  PikaVerif.SoloRun.mono h hb hq

theorem SoloRun.le {B B' : Nat} {P : St → Prop} (h : SoloRun fx t B s P) (hb : B ≤ B') :
    SoloRun fx t B' s P :=
  PikaVerif.SoloRun.le h hb

theorem SoloRun.cons {B : Nat} {P : St → Prop} {e : Ev} {s₁ : St} (he : stepG fx s e = some s₁)
    (ht : Ev.tid e = t) (h : SoloRun fx t B s₁ P) : SoloRun fx t (B + 1) s P :=
  PikaVerif.SoloRun.cons he ht h

/-- what a solo run of `t` never changes: the number of threads, the other threads' program
    counters, the value stored in a node (outside `alloc_node`) -/
structure Keep (t : Nat) (s s' : St) : Prop where
  n : s'.n = s.n
  others : ∀ u, u ≠ t → s'.pc u = s.pc u
  data : ∀ x, (s'.nodes x).data = (s.nodes x).data

theorem Keep.refl (t : Nat) (s : St) : Keep t s s := ⟨rfl, fun _ _ => rfl, fun _ => rfl⟩

theorem Keep.trans {s1 s2 : St} (h1 : Keep t s s1) (h2 : Keep t s1 s2) : Keep t s s2 :=
  ⟨h2.n.trans h1.n, fun u hu => (h2.others u hu).trans (h1.others u hu),
   fun x => (h2.data x).trans (h1.data x)⟩

theorem Keep.step {A' : Anchor} {N' : Nat → Node} {U' : Nat → Bool} {p' : Pc}
    {C' pu po : List Nat} {st' : Bool} (hd : ∀ x, (N' x).data = (s.nodes x).data) :
    Keep t s ⟨s.n, A', N', U', upd s.pc t p', C', pu, po, st'⟩ :=
  ⟨rfl, fun _ hu => upd_other _ _ _ _ hu, hd⟩

/-- history part of the state unchanged -/
def SameHist (s s' : St) : Prop :=
  s'.chain = s.chain ∧ s'.pushed = s.pushed ∧ s'.popped = s.popped

/-- `t` is about to return from a pop at end `d` with the end node's value; the node has left the chain -/
abbrev Popped (t : Nat) (d : Bool) (s s' : St) : Prop :=
  s'.pc t = .retn true (s.nodes (s.anchor.endp d)).data ∧ Keep t s s' ∧ s'.chain = chainPop d s.chain ∧
    s'.pushed = s.pushed ∧ s'.popped = (s.nodes (s.anchor.endp d)).data :: s.popped

/-- `t` is about to return from a push of its node `n` at end `d`; the node has joined the chain -/
abbrev Pushed (t : Nat) (d : Bool) (n : Nat) (s s' : St) : Prop :=
  s'.pc t = .retn true 0 ∧ Keep t s s' ∧ s'.chain = chainPush d s.chain n ∧
    s'.pushed = (s.nodes n).data :: s.pushed ∧ s'.popped = s.popped

theorem endp_stab (a : Anchor) (d : Bool) :
    (⟨a.l, a.r, 0, a.tag + 1⟩ : Anchor).endp d = a.endp d := by
  cases d <;> rfl

/-- a pop that finds its end pointer null answers "empty" after one event -/
theorem solo_pop_empty {fx : Bool} (s : St) (t : Nat) (d : Bool) (ht : t < s.n)
    (hpc : s.pc t = .popLd d) (h0 : s.anchor.endp d = 0) :
    SoloRun fx t 1 s (fun s' => s'.pc t = .retn false 0 ∧ Keep t s s' ∧ SameHist s s') := by
  refine SoloRun.intro [.ld t s.anchor] ?_
  simp [runLog, stepG, ht, hpc, h0, SameHist]
  exact Keep.step fun _ => rfl

/-- for the examples of `Props/C17Solo.lean` only: thread 0's program counter and the contents after a
    concrete two-thread log of the repaired model, read off an evaluated `Option.map` -/
theorem idle_of_map {lg : List Ev} {s : St} (h : runLog stepF (init 2) lg = some s) {c : List Nat}
    (hm : (runLog stepF (init 2) lg).map (fun s => (s.pc 0, contents s)) = some (.idle, c)) :
    s.pc 0 = .idle ∧ contents s = c := by
  rw [h] at hm
  simpa using hm

/-! ## Phase: `stabilize(lrs)` run alone on the current anchor (6 events at most) -/

variable (s) (t) (ht : t < s.n)
include ht

theorem solo_stab (k : Kont) (d : Bool)
    (hpc : s.pc t = .stRd1 k d s.anchor)
    (hprev : (inward d (s.nodes (s.anchor.endp d))).ptr ≠ 0) :
    SoloRun fx t 6 s (fun s' => s'.pc t = kont k ∧
      s'.anchor = ⟨s.anchor.l, s.anchor.r, 0, s.anchor.tag + 1⟩ ∧ Keep t s s' ∧ SameHist s s') := by
  by_cases hl : (outward d (s.nodes (inward d (s.nodes (s.anchor.endp d))).ptr)).ptr = s.anchor.endp d
  · refine SoloRun.intro
      [.rd t (inward d (s.nodes (s.anchor.endp d))), .chk t true,
       .rd t (outward d (s.nodes (inward d (s.nodes (s.anchor.endp d))).ptr)), .cas t true] ?_
    simp [runLog, stepG, ht, hpc, hprev, hl, SameHist]
    exact Keep.step fun _ => rfl
  · refine SoloRun.intro
      [.rd t (inward d (s.nodes (s.anchor.endp d))), .chk t true,
       .rd t (outward d (s.nodes (inward d (s.nodes (s.anchor.endp d))).ptr)), .chk t true,
       .lcas t true, .cas t true] ?_
    simp [runLog, stepG, ht, hpc, hprev, hl, SameHist]
    exact Keep.step (data_upd (data_setOutward ..))

/-! ## Phase: a pop on a stable (or one-element) non-empty anchor (5 events at most) -/

theorem solo_pop_stable (d : Bool)
    (hpc : s.pc t = .popLd d) (h0 : s.anchor.endp d ≠ 0)
    (hst : s.anchor.l = s.anchor.r ∨ s.anchor.st = 0) :
    SoloRun fx t 5 s (Popped t d s) := by
  by_cases hlr : s.anchor.l = s.anchor.r
  · refine SoloRun.intro [.ld t s.anchor, .cas t true, .free t (s.anchor.endp d)] ?_
    simp [runLog, stepG, ht, hpc, h0, hlr, Popped]
    exact Keep.step fun _ => rfl
  · have hs0 : s.anchor.st = 0 := by rcases hst with h | h; exact absurd h hlr; exact h
    refine SoloRun.intro [.ld t s.anchor, .chk t true,
        .rd t (inward d (s.nodes (s.anchor.endp d))), .cas t true, .free t (s.anchor.endp d)] ?_
    simp [runLog, stepG, ht, hpc, h0, hlr, hs0, Popped]
    exact Keep.step fun _ => rfl

/-! ## Phase: a push on an empty deque (2 events), on a stable anchor (3 + 6 events) -/

theorem solo_push_empty (d : Bool) (n : Nat)
    (hpc : s.pc t = .pushLd d n) (h0 : s.anchor.endp d = 0) :
    SoloRun fx t 2 s (Pushed t d n s) := by
  refine SoloRun.intro [.ld t s.anchor, .cas t true] ?_
  simp [runLog, stepG, ht, hpc, h0, Pushed]
  exact Keep.step fun _ => rfl

theorem solo_push_stable (d : Bool) (n : Nat)
    (hpc : s.pc t = .pushLd d n) (h0 : s.anchor.endp d ≠ 0) (hs0 : s.anchor.st = 0) :
    SoloRun fx t 9 s (Pushed t d n s) := by
  -- load, inward link store, anchor CAS: the anchor is now unstable, by this thread
  have r1 : SoloRun fx t 3 s (fun s1 => t < s1.n ∧ s1.pc t = .stRd1 .pushDone d s1.anchor ∧
      (inward d (s1.nodes (s1.anchor.endp d))).ptr ≠ 0 ∧ Keep t s s1 ∧
      s1.chain = chainPush d s.chain n ∧ s1.pushed = (s.nodes n).data :: s.pushed ∧
      s1.popped = s.popped) := by
    refine SoloRun.intro [.ld t s.anchor, .link t n (s.anchor.endp d), .cas t true] ?_
    simp [runLog, stepG, ht, hpc, h0, hs0]
    refine ⟨?_, Keep.step (data_upd (data_setInward ..))⟩
    cases d <;> simp [Anchor.endp, upd, inward, setInward] <;> simpa [Anchor.endp] using h0
  refine (r1.bind (B2 := 6) ?_).le (by omega)
  rintro s1 ⟨t1, p1, hp1, k1, c1, pu1, po1⟩
  refine (solo_stab (fx := fx) s1 t t1 .pushDone d p1 hp1).mono (Nat.le_refl _) ?_
  rintro s2 ⟨p2, _, k2, c2, pu2, po2⟩
  exact ⟨p2, k1.trans k2, by rw [c2, c1], by rw [pu2, pu1], by rw [po2, po1]⟩

/-! ## Any anchor: help an unfinished push first -/

variable (hg : Glob s.anchor s.chain s.nodes s.used)
include hg

/-- Alone, a thread whose anchor load finds the anchor unstable completes the pending push (the load
    and `stabilize`: 7 events) and is back at its loop head, on the stabilised anchor. -/
theorem solo_help (k : Kont) (hs0 : s.anchor.st ≠ 0)
    (hld : stepG fx s (.ld t s.anchor) =
      some { s with pc := upd s.pc t (.stRd1 k (stabSide s.anchor) s.anchor) }) :
    SoloRun fx t 7 s (fun s' => s'.pc t = kont k ∧
      s'.anchor = ⟨s.anchor.l, s.anchor.r, 0, s.anchor.tag + 1⟩ ∧ Keep t s s' ∧ SameHist s s') := by
  exact (SoloRun.cons hld rfl (solo_stab (fx := fx)
    { s with pc := upd s.pc t (.stRd1 k (stabSide s.anchor) s.anchor) } t ht k (stabSide s.anchor) (upd_same _ _ _)
    -- the node the stabilisation starts from names a real neighbour
    (hg.mem _ (nbr_mem (hg.nbr_inward _ (hg.ends_ne_of_st hs0) (Or.inr (hg.st_eq_pushSt hs0)))).2).1)).mono
    (Nat.le_refl _) fun _ ⟨hp, ha, hk, hh⟩ =>
      ⟨hp, ha, ⟨hk.n, fun u hu => (hk.others u hu).trans (upd_other _ _ _ _ hu), hk.data⟩, hh⟩

/-- **pop, any anchor**: alone, a pop on a non-empty deque reaches its `return true` within 12
    events (anchor load, helping stabilisation of an unstable anchor another thread left behind,
    reload, pop proper, free), and the value is the one stored in the end node. -/
theorem solo_pop_nonempty (d : Bool)
    (hpc : s.pc t = .popLd d) (h0 : s.anchor.endp d ≠ 0) :
    SoloRun fx t 12 s (Popped t d s) := by
  by_cases hst : s.anchor.l = s.anchor.r ∨ s.anchor.st = 0
  · exact (solo_pop_stable s t ht d hpc h0 hst).le (by omega)
  · have hlr : s.anchor.l ≠ s.anchor.r := fun h => hst (Or.inl h)
    have hs0 : s.anchor.st ≠ 0 := fun h => hst (Or.inr h)
    refine ((solo_help s t ht hg (.popLoop d) hs0 (by simp [stepG, ht, hpc, h0, hlr, hs0])).bind
      (B2 := 5) fun s2 ⟨p2, a2, k2, c2, pu2, po2⟩ => ?_).le (by omega)
    have e2 : s2.anchor.endp d = s.anchor.endp d := by rw [a2, endp_stab]
    refine (solo_pop_stable s2 t (k2.n ▸ ht) d p2 (e2 ▸ h0) (Or.inr (by rw [a2]))).mono (Nat.le_refl _) ?_
    rintro s3 ⟨p3, k3, c3, pu3, po3⟩
    rw [e2, k2.data] at p3 po3
    exact ⟨p3, k2.trans k3, by rw [c3, c2], by rw [pu3, pu2], by rw [po3, po2]⟩

/-- **push, any anchor**: alone, a push that owns its node reaches `return true` within 16 events
    (anchor load, helping stabilisation, reload, link store, anchor CAS, own stabilisation). -/
theorem solo_push_any (d : Bool) (n : Nat)
    (hpc : s.pc t = .pushLd d n) :
    SoloRun fx t 16 s (Pushed t d n s) := by
  by_cases h0 : s.anchor.endp d = 0
  · exact (solo_push_empty s t ht d n hpc h0).le (by omega)
  by_cases hs0 : s.anchor.st = 0
  · exact (solo_push_stable s t ht d n hpc h0 hs0).le (by omega)
  refine ((solo_help s t ht hg (.pushLoop d n) hs0 (by simp [stepG, ht, hpc, h0, hs0])).bind
    (B2 := 9) fun s2 ⟨p2, a2, k2, c2, pu2, po2⟩ => ?_).le (by omega)
  have e2 : s2.anchor.endp d = s.anchor.endp d := by rw [a2, endp_stab]
  refine (solo_push_stable s2 t (k2.n ▸ ht) d n p2 (e2 ▸ h0) (by rw [a2])).mono (Nat.le_refl _) ?_
  rintro s3 ⟨p3, k3, c3, pu3, po3⟩
  rw [k2.data] at pu3
  exact ⟨p3, k2.trans k3, by rw [c3, c2], by rw [pu3, pu2], by rw [po3, po2]⟩

/-! ## Whole operations, from `idle` to `idle` -/

theorem solo_pop_op_nonempty (d : Bool) (x : Nat) (hidle : s.pc t = .idle) (hne : s.chain ≠ []) :
    ∃ (mid : List Ev) (v : Nat) (s' : St), mid.length ≤ 12 ∧ (∀ e ∈ mid, Ev.tid e = t) ∧
      runLog (stepG fx) s (.inv t false d x :: mid ++ [.ret t true v]) = some s' ∧
      s'.pc t = .idle ∧ (∀ u, u ≠ t → s'.pc u = s.pc u) ∧
      contents s = (if d then contents s' ++ [v] else v :: contents s') ∧
      s'.popped = v :: s.popped ∧ s'.pushed = s.pushed := by
  have h0 : s.anchor.endp d ≠ 0 := fun h => hne (hg.nil_of_end d h)
  obtain ⟨mid, hl, htid, s1, hr, p1, k1, c1, pu1, po1⟩ :=
    solo_pop_nonempty (fx := fx) { s with pc := upd s.pc t (.popLd d) } t ht hg d (by simp) h0
  refine ⟨mid, (s.nodes (s.anchor.endp d)).data, { s1 with pc := upd s1.pc t .idle }, hl, htid, ?_,
    by simp, ?_, ?_, po1, pu1⟩
  · have ht1 : t < s1.n := by rw [k1.n]; exact ht
    have hr' : runLog (stepG fx) { s with pc := upd s.pc t (.popLd d) } mid = some s1 := hr
    simp [runLog, stepG, ht, hidle, runLog_append, hr']
    simp at p1
    simp [ht1, p1]
  · intro u hu
    exact (upd_other _ _ _ _ hu).trans ((k1.others u hu).trans (upd_other _ _ _ _ hu))
  · have hc : contents { s1 with pc := upd s1.pc t .idle } =
        (chainPop d s.chain).map (fun n => (s.nodes n).data) := by
      rw [contents, show s1.chain = _ from c1]; exact List.map_congr_left fun y _ => k1.data y
    rw [hc]; exact hg.map_pop d h0 _

theorem solo_pop_op_empty (d : Bool) (x : Nat) (hidle : s.pc t = .idle) (he : s.chain = []) :
    ∃ s' : St, runLog (stepG fx) s [.inv t false d x, .ld t s.anchor, .ret t false 0] = some s' ∧
      s'.pc t = .idle ∧ (∀ u, u ≠ t → s'.pc u = s.pc u) ∧
      contents s' = [] ∧ s'.popped = s.popped ∧ s'.pushed = s.pushed := by
  have h0 : s.anchor.endp d = 0 := by
    have h1 := hg.hd; have h2 := hg.lst
    rw [he] at h1 h2
    cases d <;> simp [Anchor.endp] <;> simpa using ‹_›
  simp [runLog, stepG, ht, hidle, h0, contents, he]
  intro u hu
  simp [upd, hu]

theorem solo_push_op (d : Bool) (v : Nat) (hf : FinUsed s) (hidle : s.pc t = .idle) :
    ∃ (mid : List Ev) (s' : St), mid.length ≤ 17 ∧ (∀ e ∈ mid, Ev.tid e = t) ∧
      runLog (stepG fx) s (.inv t true d v :: mid ++ [.ret t true 0]) = some s' ∧
      s'.pc t = .idle ∧ (∀ u, u ≠ t → s'.pc u = s.pc u) ∧
      contents s' = (if d then contents s ++ [v] else v :: contents s) ∧
      s'.pushed = v :: s.pushed ∧ s'.popped = s.popped := by
  obtain ⟨nd, hnd0, hndu⟩ := hf.fresh
  have hne : ∀ y, y ∈ s.chain → y ≠ nd := fun y hy he =>
    Bool.noConfusion (hndu.symm.trans (he ▸ (hg.mem y hy).2))
  -- the state after `inv` and `alloc`
  let s0 : St := { s with nodes := upd s.nodes nd ⟨⟨0, newTag fx (s.nodes nd).left⟩,
                                                    ⟨0, newTag fx (s.nodes nd).right⟩, v⟩,
                          used := upd s.used nd true, pc := upd s.pc t (.pushLd d nd) }
  have hN0 : ∀ y, y ∈ s.chain → s0.nodes y = s.nodes y := fun y hy => upd_other _ _ _ _ (hne y hy)
  obtain ⟨mid, hl, htid, s1, hr, p1, k1, c1, pu1, po1⟩ :=
    solo_push_any (fx := fx) s0 t ht
      (hg.frame hN0 fun y hy => (upd_other _ _ _ _ (hne y hy)).trans (hg.mem y hy).2) d nd (upd_same _ _ _)
  refine ⟨.alloc t nd :: mid, { s1 with pc := upd s1.pc t .idle }, Nat.succ_le_succ hl, ?_, ?_,
    upd_same _ _ _, fun u hu => ?_, ?_, by simp [pu1, s0], po1⟩
  · intro e he
    rcases List.mem_cons.1 he with rfl | h
    · rfl
    · exact htid e h
  · have hr' : runLog (stepG fx) s0 mid = some s1 := hr
    simp [runLog, stepG, ht, hidle, hnd0, hndu]
    rw [show St.mk _ _ _ _ _ _ _ _ _ = s0 from rfl, runLog_append, hr']
    simp [runLog, stepG, k1.n ▸ ht, p1]
  · exact (upd_other _ _ _ _ hu).trans ((k1.others u hu).trans (upd_other _ _ _ _ hu))
  · have hmap : s.chain.map (fun n => (s1.nodes n).data) = s.chain.map (fun n => (s.nodes n).data) :=
      List.map_congr_left fun y hy => by rw [k1.data y, hN0 y hy]
    have hnd : (s1.nodes nd).data = v := by rw [k1.data]; simp [s0]
    rw [contents, show s1.chain = _ from c1, map_chainPush, hnd, hmap]; rfl

/-- **Obstruction freedom from the structural invariant**, any tagging discipline: a thread between
    operations that runs an operation alone returns after `inv`, at most `soloBound push - 2` shared
    accesses and `ret`; the answer is `false` exactly for a pop on the empty deque. -/
theorem solo_op (hf : FinUsed s) (hidle : s.pc t = .idle)
    (push d : Bool) (v : Nat) :
    ∃ (mid : List Ev) (ok : Bool) (r : Nat) (s' : St), mid.length + 2 ≤ soloBound push ∧
      (∀ e ∈ mid, Ev.tid e = t) ∧
      runLog (stepG fx) s (.inv t push d v :: mid ++ [.ret t ok r]) = some s' ∧ s'.pc t = .idle ∧
      (∀ u, u ≠ t → s'.pc u = s.pc u) ∧ (ok = false ↔ (push = false ∧ contents s = [])) := by
  cases push
  · by_cases he : s.chain = []
    · obtain ⟨s', h1, h2, h3, _⟩ := solo_pop_op_empty (fx := fx) s t ht hg d v hidle he
      exact ⟨[.ld t s.anchor], false, 0, s', by simp [soloBound], by simp [Ev.tid], h1, h2, h3, by simp [contents, he]⟩
    · obtain ⟨mid, r, s', h1, h2, h3, h4, h5, _⟩ :=
        solo_pop_op_nonempty (fx := fx) s t ht hg d v hidle he
      exact ⟨mid, true, r, s', by simp [soloBound]; omega, h2, h3, h4, h5, by simp [contents, he]⟩
  · obtain ⟨mid, s', h1, h2, h3, h4, h5, _⟩ := solo_push_op (fx := fx) s t ht hg d v hf hidle
    exact ⟨mid, true, 0, s', by simp [soloBound]; omega, h2, h3, h4, h5, by simp⟩

/-- the same as one log of at most `soloBound push` events, first `inv`, last `ret` -/
theorem solo_bound_of_glob (hf : FinUsed s) (hidle : s.pc t = .idle)
    (push d : Bool) (v : Nat) :
    ∃ (evs : List Ev) (ok : Bool) (r : Nat) (s' : St), evs.length ≤ soloBound push ∧
      (∀ e ∈ evs, Ev.tid e = t) ∧ evs.head? = some (.inv t push d v) ∧
      evs.getLast? = some (.ret t ok r) ∧ runLog (stepG fx) s evs = some s' ∧ s'.pc t = .idle ∧
      (ok = false ↔ (push = false ∧ contents s = [])) := by
  obtain ⟨mid, ok, r, s', hl, hm, hr, hp, _, hok⟩ := solo_op (fx := fx) s t ht hg hf hidle push d v
  refine ⟨.inv t push d v :: mid ++ [.ret t ok r], ok, r, s', by simp; omega, fun e he => ?_, rfl,
    by rw [List.getLast?_append]; rfl, hr, hp, hok⟩
  have := hm e
  grind [Ev.tid]

end PikaVerif.Deque
