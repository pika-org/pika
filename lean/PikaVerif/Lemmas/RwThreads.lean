import PikaVerif.Lemmas.RwT
/-!
Per-thread programs over the async_rw_mutex model: every thread `t < n` has a finite list of
operations which it invokes in that order (an operation that the model does not accept yet -
e.g. `rel a` before `a` has been granted - simply waits); the steps of the implementation are free.
Every accepted step of such a program is an accepted step of the model that pays for the work it
creates by taking the operation off its thread's list (`tstep_spec`): a client layer in the sense of
`runLog_client`, beside the free-placement programs of `RwProg.lean` and not a restriction of them.
-/
namespace PikaVerif.Rw

inductive Op where
  | req (w : Bool)
  | destroy
  | start (a : Nat) (det : Bool)
  | copy (a : Nat)
  | rel (a : Nat)
  | write (a : Nat)
  | readv (a : Nat)
  deriving DecidableEq, Repr

/-- the thread and the operation an event invokes (`none`: a step of the implementation) -/
def opOf : Ev → Option (Nat × Op)
  | .req t _ w _ _ => some (t, .req w)
  | .destroy t _ => some (t, .destroy)
  | .start t a det => some (t, .start a det)
  | .copy t a => some (t, .copy a)
  | .rel t a _ => some (t, .rel a)
  | .write t a _ => some (t, .write a)
  | .readv t a _ => some (t, .readv a)
  | _ => none

/-- the work an operation creates: `gain` of its event (`gain_opOf`) -/
def opCost : Op → Nat
  | .req _ => 7
  | .copy _ => 2
  | .write _ => 1
  | .readv _ => 1
  | _ => 0

def progCost : List Op → Nat
  | [] => 0
  | o :: l => opCost o + progCost l

structure TSt where
  s : St
  n : Nat
  prog : Nat → List Op

def tinit (n : Nat) (prog : Nat → List Op) : TSt := ⟨init, n, prog⟩

def tstep (p : TSt) (e : Ev) : Option TSt :=
  match opOf e with
  | none => (step p.s e).map (fun s' => { p with s := s' })
  | some (t, o) =>
    match p.prog t with
    | o' :: rest =>
      if o' = o ∧ t < p.n then (step p.s e).map (fun s' => { p with s := s', prog := upd p.prog t rest })
      else none
    | [] => none

theorem gain_opOf (e : Ev) : gain e = match opOf e with
    | some (_, o) => opCost o
    | none => 0 := by
  cases e <;> rfl

/-- Every step of a per-thread program is a model step; an operation is paid for by taking it off
    its thread's list. -/
theorem tstep_spec {p p' : TSt} {e : Ev} (h : tstep p e = some p') :
    step p.s e = some p'.s ∧ p'.n = p.n ∧
    sumTo p.n (fun t => progCost (p'.prog t)) + gain e = sumTo p.n (fun t => progCost (p.prog t)) := by
  rw [gain_opOf]
  unfold tstep at h
  cases ho : opOf e with
  | none =>
    rw [ho] at h
    obtain ⟨s', hs, rfl⟩ := Option.map_eq_some_iff.1 h
    exact ⟨hs, rfl, rfl⟩
  | some to =>
    obtain ⟨t, o⟩ := to
    rw [ho] at h
    dsimp only at h ⊢
    split at h
    · rename_i o' rest hp
      simp only [Option.ite_none_right_eq_some, Option.map_eq_some_iff] at h
      obtain ⟨⟨rfl, ht⟩, s', hs, rfl⟩ := h
      have := sumTo_upd p.n progCost p.prog t rest ht
      rw [hp, progCost] at this
      exact ⟨hs, rfl, by dsimp only; omega⟩
    · cases h

def boundT (n : Nat) (prog : Nat → List Op) : Nat := 2 + sumTo n (fun t => progCost (prog t))

end PikaVerif.Rw
