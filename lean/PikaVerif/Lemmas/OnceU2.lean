import PikaVerif.Lemmas.OnceU
import PikaVerif.Core.Prog
/-!
# Finite programs over the event / call_once model; length bound modulo spin rounds (C09u)

`pstep`: the model's `step` restricted to the logs of a program (every thread owns a finite list
of operations; `inv t o` consumes the next one; `done t` needs the list to be empty).
`phi` = `mu` + price of the operations not yet started decreases with every accepted event except
the fast-path return `evLoad _ true`, which raises it by at most 2.  Hence
`log.length ≤ bound + 3 * spins log` (a spin round has three events).
-/
namespace PikaVerif.Once

structure PSt where
  s : St
  prog : Nat → List Op
  /-- observation (history variable of the program layer, does not influence acceptance):
      the value each thread's last operation returned -/
  res : Nat → Option Nat

def pstep (p : PSt) (e : Ev) : Option PSt :=
  match e with
  | .inv t o =>
    match p.prog t with
    | o' :: rest =>
      if o' = o then (step p.s (.inv t o)).map (fun s' => ⟨s', upd p.prog t rest, p.res⟩) else none
    | [] => none
  | .done t => if p.prog t = [] then (step p.s (.done t)).map (fun s' => ⟨s', p.prog, p.res⟩) else none
  | .ret t r => (step p.s (.ret t r)).map (fun s' => ⟨s', p.prog, upd p.res t (some r)⟩)
  | e => (step p.s e).map (fun s' => ⟨s', p.prog, p.res⟩)

def pinit (n : Nat) (prog : Nat → List Op) : PSt := ⟨init n, prog, fun _ => none⟩

theorem layer : ProgLayer step pstep PSt.s PSt.prog .inv .done := by
  refine ⟨fun {p e p'} h => ?_, nofun⟩
  cases e
  case inv t o =>
    simp only [pstep] at h
    split at h
    · rename_i o' rest hp
      split at h
      · rename_i ho; subst ho
        obtain ⟨s₁, hs, rfl⟩ := Option.map_eq_some_iff.1 h
        exact ⟨hs, .inl ⟨t, o', rest, rfl, hp, rfl⟩⟩
      · cases h
    · cases h
  case done t =>
    simp only [pstep] at h
    split at h
    · rename_i hp
      obtain ⟨s₁, hs, rfl⟩ := Option.map_eq_some_iff.1 h
      exact ⟨hs, .inr ⟨fun _ _ => nofun, rfl, fun _ he => by cases he; exact hp⟩⟩
    · cases h
  all_goals
    obtain ⟨s₁, hs, rfl⟩ := Option.map_eq_some_iff.1 h
    exact ⟨hs, .inr ⟨fun _ _ => nofun, rfl, fun _ => nofun⟩⟩

variable {p p' : PSt} {e : Ev} {t : Nat}

theorem pstep_step (h : pstep p e = some p') : step p.s e = some p'.s := (layer.sound h).1

theorem pstep_inv {o : Op} (h : pstep p (.inv t o) = some p') :
    ∃ rest, p.prog t = o :: rest ∧ p'.prog = upd p.prog t rest := by
  obtain ⟨-, ⟨_, _, rest, he, hp, hp'⟩ | ⟨hne, -⟩⟩ := layer.sound h
  · cases he; exact ⟨rest, hp, hp'⟩
  · exact absurd rfl (hne t o)

theorem pstep_other (h : pstep p e = some p') (hne : ∀ t o, e ≠ .inv t o) :
    p'.prog = p.prog ∧ ∀ t, e = .done t → p.prog t = [] := by
  obtain ⟨-, ⟨t, o, _, he, -⟩ | ⟨-, hp⟩⟩ := layer.sound h
  · exact absurd he (hne t o)
  · exact hp

/-- The observation records the value of a return and is otherwise left alone. -/
theorem pstep_res (h : pstep p e = some p') :
    p'.res = match (generalizing := false) e with | .ret t r => upd p.res t (some r) | _ => p.res := by
  cases e <;> simp only [pstep] at h <;> (repeat' split at h) <;>
    first
    | contradiction
    | (obtain ⟨s₁, -, rfl⟩ := Option.map_eq_some_iff.1 h; rfl)

/-- price of the operations a thread has not started yet (`n` = number of threads) -/
def progCost (n : Nat) : List Op → Nat
  | [] => 0
  | o :: l => rank n false (entry o) + progCost n l

def phi (p : PSt) : Nat := mu p.s + sumTo p.s.n (fun t => progCost p.s.n (p.prog t))

/-- number of fast-path returns of `event::wait` (`event.load 1` at the point `event.wait`) -/
def spins : List Ev → Nat
  | [] => 0
  | .evLoad _ true :: l => spins l + 1
  | _ :: l => spins l

theorem phi_step {p p' : PSt} {e : Ev} (h : pstep p e = some p') (hns : ∀ t, e ≠ .evLoad t true) :
    phi p' < phi p := by
  have hs := pstep_step h
  have hn := step_n hs
  by_cases hinv : ∃ t o, e = .inv t o
  · obtain ⟨t, o, rfl⟩ := hinv
    obtain ⟨rest, hp, hp'⟩ := pstep_inv h
    have hm := mu_inv hs
    have := sumTo_upd p.s.n (progCost p.s.n) p.prog t rest (step_inv hs).1
    rw [hp] at this
    simp only [phi, hn, hp', progCost] at this ⊢
    omega
  · have hne : ∀ t o, e ≠ .inv t o := fun t o he => hinv ⟨t, o, he⟩
    have hm := mu_step hne hns hs
    simp only [phi, hn, (pstep_other h hne).1]
    omega

theorem phi_spin {p p' : PSt} {t : Nat} (h : pstep p (.evLoad t true) = some p') : phi p' ≤ phi p + 2 := by
  have hs := pstep_step h
  have hm := mu_spin hs
  simp only [phi, step_n hs, (pstep_other h nofun).1]
  omega

/-- explicit bound: 1 per thread + the price of every operation -/
def bound (n : Nat) (prog : Nat → List Op) : Nat := n + sumTo n (fun t => progCost n (prog t))

theorem phi_pinit (n : Nat) (prog : Nat → List Op) : phi (pinit n prog) = bound n prog := by
  simp only [phi, pinit, mu, init, bound]
  rw [sumTo_const, sumTo_const]
  simp [rank, tokW]

/-- A spin is granted 3: it raises `phi` by at most 2. -/
theorem runLog_phi {log : List Ev} {p p' : PSt} (h : runLog pstep p log = some p') :
    log.length + phi p' ≤ phi p + 3 * spins log := by
  have := runLog_balance (fun _ => True) phi List.length (fun l => 3 * spins l) rfl rfl
    (fun _ _ _ _ _ => trivial) (fun p e p₁ es _ hs => by
      cases e with
      | evLoad t v =>
        cases v
        · have := phi_step hs nofun; simp only [spins, List.length_cons]; omega
        · have := phi_spin hs; simp only [spins, List.length_cons]; omega
      | _ => have := phi_step hs nofun; simp only [spins, List.length_cons]; omega) trivial h
  omega

/-- the program of `k` callers of `call_once` on one flag; `thr t` = the callable of caller `t`
    throws -/
def callers (thr : Nat → Bool) : Nat → List Op := fun t => [.call (thr t)]

theorem bound_callers (k : Nat) (thr : Nat → Bool) : bound k (callers thr) = 21 * k * k + 12 * k := by
  simp only [bound, callers, progCost, entry, rank]
  rw [sumTo_const, Nat.mul_add, Nat.add_zero, Nat.mul_add, Nat.mul_left_comm, Nat.mul_assoc]
  omega

end PikaVerif.Once
