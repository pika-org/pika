import PikaVerif.Lemmas.SharedStep
/-! The first group `Inv` of the inductive invariant of the shared-state model (split / split_tuple /
    ensure_started): lock, flag and stage protocol; and the facts about the continuation container. -/
namespace PikaVerif.Shared

/-- Consumer program counters at which the thread holds the shared state's spinlock. -/
def cHolds : Pc → Bool
  | .clocked _ | .pushed _ | .seenT2 _ => true
  | _ => false

def isProd : Pc → Bool
  | .prod _ => true
  | _ => false

/-- The consumer a thread is working for, before that consumer's continuation has been stored
    or run. -/
def consOf : Pc → Option Nat
  | .want k | .seenF k | .clocked k | .seenT2 k | .visiting k => some k
  | .prod r => r
  | _ => none

/-- Program counters that are only reached after `start_called` was set. -/
def begun : Pc → Bool
  | .seenF _ | .clocked _ | .pushed _ | .seenT2 _ | .visiting _ | .cret _ | .prod _ | .completing => true
  | _ => false

def b2n (b : Bool) : Nat := if b then 1 else 0

/-- Lock discipline and the flag / stage protocol of `set_predecessor_done` versus
    `add_continuation`. -/
structure Inv (s : St) : Prop where
  cLock : ∀ t, cHolds (s.pc t) = true → s.lock = some t
  pLock : s.pst = .locked → s.lock = some s.ptid
  prodPc : ∀ t, isProd (s.pc t) = true → s.ptid = t ∧ s.pst ≠ .none
  prodActive : s.pst ≠ .none → s.pst ≠ .finished → isProd (s.pc s.ptid) = true
  doneIff : s.done = true ↔ 2 ≤ s.pst.rank
  pushedEarly : ∀ t k, s.pc t = .pushed k → s.pst.rank ≤ 2
  finishedEmpty : s.pst = .finished → s.conts = []
  runningNonempty : s.pst = .running → s.conts ≠ []
  /-- (a consequence of `pushedEarly`) -/
  lateConts : 4 ≤ s.pst.rank → ∀ t, cHolds (s.pc t) = true → ∀ k, s.pc t ≠ .pushed k

theorem inv_init (kind : Kind) (ss : Bool) : Inv (init kind ss) := by
  refine ⟨?_, ?_, ?_, ?_, ?_, ?_, ?_, ?_, ?_⟩ <;>
    simp [init, cHolds, isProd, PStage.rank]

theorem mem_insertSorted (k x : Nat) (l : List Nat) : x ∈ insertSorted k l ↔ x = k ∨ x ∈ l := by
  induction l with
  | nil => simp [insertSorted]
  | cons a r ih => grind [insertSorted]

theorem nodup_insertSorted (k : Nat) (l : List Nat) (h : l.Nodup) (hk : k ∉ l) :
    (insertSorted k l).Nodup := by
  induction l with
  | nil => simp [insertSorted]
  | cons a r ih => grind [insertSorted, mem_insertSorted]

theorem mem_push (kind : Kind) (k x : Nat) (l : List Nat) : x ∈ push kind k l ↔ x = k ∨ x ∈ l := by
  grind [push, mem_insertSorted]

theorem nodup_push (kind : Kind) (k : Nat) (l : List Nat) (h : l.Nodup) (hk : k ∉ l) :
    (push kind k l).Nodup := by
  grind [push, nodup_insertSorted]

-- new values of the fields a structure does not read: arbitrary in the lemmas about one shape of step
variable {ar st ab : Bool} {pe v' sg : Option Compl} {cl : Option Nat} {ph : Nat → Phase} {ow g : Nat → Nat}
  {gs : Nat → Option RSig}

/-- Thread `t` moves to `p'`, which is neither a producer point nor `pushed`, and nothing else of
    what `Inv` reads changes: `p'` may be a point inside the critical section only if `t` has the
    lock, and `t` may leave the producer points only once the predecessor's call has finished. -/
theorem Inv.move {s : St} (hi : Inv s) {t : Nat} {p' : Pc}
    (h1 : cHolds p' = false ∨ s.lock = some t ∧ ∀ k, p' ≠ .pushed k) (h3 : isProd p' = false)
    (h4 : isProd (s.pc t) = false ∨ s.pst = .finished) :
    Inv { s with pc := upd s.pc t p', armed := ar, started := st, pending := pe, v := v', sig := sg,
                 phase := ph, owner := ow, got := g, gotSig := gs, aborted := ab, claimed := cl } :=
  ⟨by grind [upd, cHolds, hi.cLock], hi.pLock, by grind [upd, hi.prodPc],
   by grind [upd, hi.prodActive], hi.doneIff, by grind [upd, cHolds, hi.pushedEarly],
   hi.finishedEmpty, hi.runningNonempty, by grind [upd, cHolds, hi.lateConts]⟩

theorem step_inv (s s' : St) (e : Ev) (hi : Inv s) (h : step s e = some s') : Inv s' := by
  cases Step.of_step h with
  | completeArmed t c hp | completeEarly t c hp | consume t k hp | tdone t hp | rcvOwn t k r hp =>
    exact hi.move (.inl rfl) rfl (.inl (hp ▸ rfl))
  | ret t hp => exact hi.move (.inl rfl) rfl (by grind [isProd])
  | seen1 t b k hp => cases b <;> exact hi.move (.inl rfl) rfl (by grind [isProd])
  | seen2Done t k b hp hl => exact hi.move (.inr ⟨hl, by nofun⟩) rfl (.inl (hp ▸ rfl))
  | fireOwn t | fireInline t | acqCons t | acqProd t | seen2Push t | relPushed t | relSeen t | relProd t
  | flag t | run t | rcvLoop t =>
    -- the lock changes hands only between threads inside their critical sections, and the predecessor's
    -- thread is the one at the producer points: each field from the old field named in its proof
    exact ⟨fun u => by have := hi.cLock u; grind [upd, cHolds],
      by have := hi.pLock; have := hi.prodActive; have := hi.cLock t; grind [isProd, cHolds],
      fun u => by have := hi.prodPc u; grind [upd, isProd],
      by have := hi.prodActive; have := hi.prodPc t; grind [upd, isProd],
      by have := hi.doneIff; grind [PStage.rank],
      fun u k => by
        have := hi.pushedEarly u k; have := hi.cLock u; have := hi.doneIff
        grind [upd, cHolds, PStage.rank],
      by have := hi.finishedEmpty; have := hi.doneIff; grind [PStage.rank],
      by have := hi.runningNonempty; have := hi.doneIff; grind [PStage.rank],
      fun h u => by
        have := hi.pushedEarly u; have := hi.cLock u; have := hi.doneIff
        grind [upd, cHolds, PStage.rank]⟩
  | abort t => exact ⟨hi.1, hi.2, hi.3, hi.4, hi.5, hi.6, hi.7, hi.8, hi.9⟩

theorem inv_of_accepted {kind : Kind} {ss : Bool} {log : List Ev} {s : St}
    (h : runLog step (init kind ss) log = some s) : Inv s :=
  inv_of_runLog Inv (fun s e s' => step_inv s s' e) (inv_init kind ss) h

end PikaVerif.Shared
