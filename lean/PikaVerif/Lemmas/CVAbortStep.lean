import PikaVerif.Model.CVAbort
import PikaVerif.Core.Run
/-! What a step of the `abort_all` model is.  The acting thread follows its own text (`Loc`: the event it
    produces at a program counter, and where that takes it); the event writes the shared data (`write`)
    under the guards the code tests (`Guard`; of those only what some later proof reads: the size
    arguments of the hook lines and, where nothing needs it, the lock guard are left out).  `Step.of_step`
    reads this off `step`; `Step.pc` says whose program counter an event changes. -/
namespace PikaVerif.CVAbort

theorem setPopped_some {p p' : Pc} (h : setPopped p = some p') :
    (∃ tm, p = .unl tm false ∧ p' = .unl tm true) ∨ (p = .susp false ∧ p' = .susp true) ∨
    (p = .slp false ∧ p' = .slp true) ∨ (∃ tm, p = .wokeNL tm false ∧ p' = .wokeNL tm true) ∨
    (p = .thrNL false ∧ p' = .thrNL true) := by
  unfold setPopped at h
  grind

/-- the thread that produces an event -/
def actor : Ev → Nat
  | .inv t _ | .ret t _ | .slAcq t | .slRel t | .cvEnq t _ _ | .popResume t _ _ _ | .cvNone t | .cvAll t _
  | .popAll t _ _ _ | .cvWoke t _ _ | .suspend t | .woke t _ | .sleep t | .timeout t | .threw t
  | .abSwap t _ | .abPop t _ _ | .abort t _ _ | .abDone t _ | .done t => t

/-- The text each thread runs: its event `e`, produced at `p`, takes it to `p'`. -/
inductive Loc : Ev → Pc → Pc → Prop
  | wait {t tm} : Loc (.inv t (.wait tm)) .idle (.wWant tm)
  | notify {t all} : Loc (.inv t (.notify all)) .idle (.nWant all)
  | abortAll {t} : Loc (.inv t .abort) .idle .aWant
  | retW {t r} : Loc (.ret t r) (.retn r) .idle
  | retN {t} : Loc (.ret t 0) .nRet .idle
  | retA {t} : Loc (.ret t 0) .aRet .idle
  | acqW {t tm} : Loc (.slAcq t) (.wWant tm) (.wLocked tm)
  | acqK {t tm p} : Loc (.slAcq t) (.wokeNL tm p) (.relk tm p)
  | acqT {t p} : Loc (.slAcq t) (.thrNL p) (.thrLk p)
  | acqN {t all} : Loc (.slAcq t) (.nWant all) (.nLocked all)
  | acqA {t} : Loc (.slAcq t) .aWant .aLoop
  | acqR {t} : Loc (.slAcq t) .aRelk .aLoop
  | relE {t tm} : Loc (.slRel t) (.enq tm) (.unl tm false)
  | relP {t r} : Loc (.slRel t) (.post r) (.retn r)
  | relD {t} : Loc (.slRel t) .nDone .nRet
  | relN {t} : Loc (.slRel t) .nAll .nRet
  | relA {t g} : Loc (.slRel t) (.aPopped g) (.aUnl g)
  | relF {t} : Loc (.slRel t) .aDone .aRet
  | enq {t z tm} : Loc (.cvEnq t z tm) (.wLocked tm) (.enq tm)
  | pop1 {t z g d} : Loc (.popResume t z g d) (.nLocked false) .nDone
  | none {t} : Loc (.cvNone t) (.nLocked false) .nDone
  | all {t z} : Loc (.cvAll t z) (.nLocked true) .nAll
  | popA {t z g d} : Loc (.popAll t z g d) .nAll .nAll
  | susp {t p} : Loc (.suspend t) (.unl false p) (.susp p)
  | wokeN {t p} : Loc (.woke t false) (.susp p) (.wokeNL false p)
  | wokeT {t p} : Loc (.woke t true) (.susp p) (.thrNL p)
  | sleep {t p} : Loc (.sleep t) (.unl true p) (.slp p)
  | timeout {t p} : Loc (.timeout t) (.slp p) (.wokeNL true p)
  | wokeP {t tm} : Loc (.cvWoke t false tm) (.relk tm true) (.post 0)
  | wokeL {t tm} : Loc (.cvWoke t true tm) (.relk tm false) (.post 1)
  | threw {t p} : Loc (.threw t) (.thrLk p) (.post 2)
  | swap {t z} : Loc (.abSwap t z) .aLoop .aLoop
  | abPop {t z g} : Loc (.abPop t z g) .aLoop (.aPopped g)
  | abort {t g d} : Loc (.abort t g d) (.aUnl g) .aRelk
  | abDone {t z} : Loc (.abDone t z) .aLoop .aDone
  | done {t} : Loc (.done t) .idle .fin

/-- The program counters after the entry of `g` was popped (`ctx_` reset). -/
def popped (pc : Nat → Pc) (g : Nat) : Nat → Pc := upd pc g ((setPopped (pc g)).getD (pc g))

/-- `ctx.resume()` / `ctx.abort()` aimed at `g`: a token, unless the agent drops the call. -/
def tokTo (s : St) (g : Nat) (d : Bool) : Nat → Nat := if d then s.tok else upd s.tok g (s.tok g + 1)

/-- What an event of a thread at `p` writes besides the program counter of that thread. -/
def write (s : St) (p : Pc) : Ev → St
  | .inv t .abort => { s with ab := some t }
  | .ret _ _ => { s with ab := if p = .aRet then none else s.ab }
  | .slAcq t => { s with lock := some t }
  | .slRel _ => { s with lock := none }
  | .cvEnq t _ _ => { s with queue := s.queue ++ [t], enqs := upd s.enqs t (s.enqs t + 1) }
  | .popResume _ _ g d | .popAll _ _ g d =>
    { s with queue := s.queue.tail, tok := tokTo s g d, pc := popped s.pc g, pops := upd s.pops g (s.pops g + 1) }
  | .woke t _ => { s with tok := upd s.tok t (s.tok t - 1), abt := upd s.abt t false }
  | .sleep t => { s with tok := upd s.tok t 0 }
  | .cvWoke t true _ => { s with queue := s.queue.erase t, lq := s.lq.erase t }
  | .threw t => if p = .thrLk false then { s with queue := s.queue.erase t, lq := s.lq.erase t } else s
  | .abSwap _ _ => { s with lq := s.queue, queue := [] }
  | .abPop _ _ g => { s with lq := s.lq.tail, pc := popped s.pc g, abPops := upd s.abPops g (s.abPops g + 1) }
  | .abort _ g d =>
    { s with tok := tokTo s g d, abt := if d then s.abt else upd s.abt g true,
             aborts := upd s.aborts g (s.aborts g + 1) }
  | _ => s

/-- The guards on the shared data that later proofs read. -/
def Guard (s : St) : Ev → Prop
  | .inv _ .abort => s.ab = none
  | .slAcq _ => s.lock = none
  | .slRel t => s.lock = some t
  | .popResume _ _ g d | .popAll _ _ g d =>
    s.queue.head? = some g ∧ (setPopped (s.pc g)).isSome = true ∧ d = isSlp (s.pc g)
  | .abSwap _ _ => s.lq = []
  | .abPop _ _ g => s.lq.head? = some g ∧ (setPopped (s.pc g)).isSome = true
  | .abort _ g d => d = isSlp (s.pc g)
  | .abDone _ _ => s.lq = [] ∧ s.queue = []
  | _ => True

/-- the thread whose entry an event pops -/
def target : Ev → Option Nat
  | .popResume _ _ g _ | .popAll _ _ g _ | .abPop _ _ g => some g
  | _ => none

/-- An accepted event: its thread is at a point `p` of its text where it produces the event, the guards
    hold, and the new state is what the event writes, with the thread moved on to `p'`. -/
def Step (s : St) (e : Ev) (s' : St) : Prop :=
  ∃ p p', s.pc (actor e) = p ∧ Loc e p p' ∧ Guard s e ∧
    s' = { write s p e with pc := upd (write s p e).pc (actor e) p' }

/-- Each accepted branch of `step` is one constructor of `Loc`, with the guards and the writes as stated:
    unfold, split the conditions, name the program counter found. -/
theorem Step.of_step {s s' : St} {e : Ev} (h : step s e = some s') : Step s e s' := by
  cases e
  case woke t ab =>
    -- the new program counter is an `if` on the flag of the event: decide it first
    cases ab <;> simp only [step, Bool.false_eq_true, ↓reduceIte] at h <;> (repeat' split at h) <;>
      first | (cases h; done) | (cases h; exact ⟨_, _, ‹_›, by constructor, trivial, rfl⟩)
  case abSwap t z =>
    simp only [step] at h
    split at h
    next hg =>
      split at h
      -- the program counter does not move: `upd` has to be put in
      next hp => cases h; exact ⟨_, _, hp, .swap, hg.2.1, by simp only [write, actor]; rw [← hp, upd_self]⟩
      next => cases h
    next => cases h
  all_goals
    simp only [step, popCore] at h
    (repeat' split at h) <;>
      first
        | (cases h; done)
        | (cases h
           repeat (cases ‹_ ∧ _›)
           try simp only [Bool.not_eq_true] at *
           subst_vars
           refine ⟨_, _, by assumption, by constructor, ?_, ?_⟩
           · simp_all [Guard]
           · simp_all [write, actor, popped, tokTo])

theorem popped_of_some {pc : Nat → Pc} {g : Nat} {p' : Pc} (h : setPopped (pc g) = some p') :
    popped pc g = upd pc g p' := by
  rw [popped, h]; rfl

theorem write_pc (s : St) (p : Pc) (e : Ev) (u : Nat) :
    (write s p e).pc u = if target e = some u then (setPopped (s.pc u)).getD (s.pc u) else s.pc u := by
  have pop : ∀ g, popped s.pc g u = if some g = some u then (setPopped (s.pc u)).getD (s.pc u) else s.pc u := by
    intro g; unfold popped; rw [upd_apply]; grind
  cases e <;> first | exact pop _ | rfl | skip
  case cvWoke t still tm => cases still <;> rfl
  case inv t o => cases o <;> rfl
  case threw t => show (if _ then _ else _ : St).pc u = s.pc u; split <;> rfl

theorem Guard.target {s : St} {e : Ev} {g : Nat} (h : Guard s e) (hg : target e = some g) :
    (setPopped (s.pc g)).isSome = true := by
  cases e <;> cases hg <;> first | exact h.2.1 | exact h.2

/-- An event moves its own thread along its text, marks the thread it pops, and leaves every other
    program counter alone. -/
theorem Step.pc {s s' : St} {e : Ev} (h : Step s e s') (u : Nat) :
    (u = actor e ∧ ∃ p', Loc e (s.pc u) p' ∧ s'.pc u = p') ∨
    (u ≠ actor e ∧ target e = some u ∧ setPopped (s.pc u) = some (s'.pc u)) ∨
    (u ≠ actor e ∧ target e ≠ some u ∧ s'.pc u = s.pc u) := by
  obtain ⟨p, p', hp, hl, hg, rfl⟩ := h
  by_cases hu : u = actor e
  · subst hu; exact .inl ⟨rfl, p', hp ▸ hl, upd_same ..⟩
  · have : upd (write s p e).pc (actor e) p' u = _ := (upd_other _ _ _ _ hu).trans (write_pc s p e u)
    by_cases ht : target e = some u
    · obtain ⟨q, hq⟩ := Option.isSome_iff_exists.1 (hg.target ht)
      exact .inr (.inl ⟨hu, ht, by dsimp only; rw [this, if_pos ht, hq]; rfl⟩)
    · exact .inr (.inr ⟨hu, ht, by dsimp only; rw [this, if_neg ht]⟩)

end PikaVerif.CVAbort
