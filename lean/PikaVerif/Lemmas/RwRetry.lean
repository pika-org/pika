import PikaVerif.Lemmas.RwT
/-!
Real CAS retries are bounded.

A CAS retry is *real* when the head has moved since the retrying thread's last observation
(`h0 ≠ q.length`, in fact `h0 < q.length`: invariant `LoadedLe`), *spurious* otherwise (the weak
CAS failed although the expected value was current; the state does not change).  The expected value
of a thread in the CAS loop only grows: a load or a retry sets it to the length of the queue, a real
retry strictly raises it, and it never exceeds the length of an open queue, which is at most `na`.
Potential `psi N s` = Σ over the accesses of `slack N`: how far the expected value of the access may
still grow below `N ≥ na` (`N` itself before the first load, 0 after the loop).  It is a weight on the
state of each access alone; only a request raises it, by `N`.
Hence: (real retries in a log) ≤ `N · (requests)` whenever `na ≤ N`.
-/
namespace PikaVerif.Rw
open PikaVerif

/-- the expected value of a thread inside the CAS loop is never ahead of the queue -/
def LoadedLe (s : St) : Prop :=
  ∀ a t det h q, s.acc a = .loaded t det h → s.head (s.grp a) = some q → h ≤ q.length

/-- how far the expected value of an access may still grow below `N` -/
def slack : Nat → Acc → Nat
  | _, .none => 0
  | N, .sender => N
  | N, .starting _ _ => N
  | N, .loaded _ _ h => N - h
  | _, .queued _ => 0
  | _, .granted _ => 0
  | _, .released => 0

def psi (N : Nat) (s : St) : Nat := sumTo s.na (fun a => slack N (s.acc a))

theorem open_length_le {s : St} (hi : Inv s) {a : Nat} {q : List Nat} (ha : a < s.na)
    (hq : s.head (s.grp a) = some q) : q.length ≤ s.na :=
  have hg := hi.grpLt a ha
  have hqo : qof s (s.grp a) = q := qofF_open hq
  length_le_of_nodup_lt (hqo ▸ hi.qNodup _ hg) fun x hx => ((hi.qMem _ x hg).1 (hqo ▸ hx)).1

/-! ## the invariant `LoadedLe` -/

theorem loadedLe_init : LoadedLe init := by
  intro a t det h q hx; simp [init] at hx

theorem Step.loadedLe {s s' : St} {e : Ev} (h : Step s e s') (hi : Inv s) (hl : LoadedLe s) : LoadedLe s' := by
  intro b t det h0 q hx hh
  have H := hl b t det h0
  -- an expected value is set to the length of the queue, an open queue only grows, and an access in the
  -- loop is one of the old ones, whose queue a request leaves alone
  have L := lt_of_acc hi (a := b)
  have G := hi.grpLt b
  cases h <;> try simp only [decRc_fields, grant_fields, newGroup] at hx hh
  case destroy | destroyEmpty | write | readv | vfree => exact H q hx hh
  case rel c _ => cases c <;> grind [upd, relAcc]
  all_goals grind [upd]

theorem loadedLe_of_accepted {log : List Ev} {s : St} (h : runLog step init log = some s) :
    Inv s ∧ LoadedLe s :=
  inv_of_runLog (fun s => Inv s ∧ LoadedLe s)
    (fun s e s' hi hs => ⟨step_inv s s' e hi.1 hs, (Step.of_step hs).loadedLe hi.1 hi.2⟩)
    ⟨inv_init, loadedLe_init⟩ h

/-! ## counting real retries along a run -/

/-- a CAS retry whose expected value is stale: the head has moved since the last observation -/
def isReal (s : St) : Ev → Bool
  | .cas _ a false cls _ _ =>
    cls != 2 && (match s.acc a, s.head (s.grp a) with
                 | .loaded _ _ h, some q => h != q.length
                 | _, _ => false)
  | _ => false

theorem isReal_isRetry (s : St) (e : Ev) (h : isReal s e = true) : isRetry e = true := by
  cases e with
  | cas t a ok cls ack died =>
    cases ok with
    | true => simp [isReal] at h
    | false => simp only [isReal, Bool.and_eq_true] at h; simpa [isRetry] using h.1
  | _ => simp [isReal] at h

def reals : St → List Ev → Nat
  | _, [] => 0
  | s, e :: es => (if isReal s e then 1 else 0) +
      (match step s e with
       | some s' => reals s' es
       | none => 0)

theorem reals_le_retries (log : List Ev) : ∀ s, reals s log ≤ retries log := by
  induction log with
  | nil => intro s; simp [reals, retries]
  | cons e es ih =>
    intro s
    simp only [reals, retries]
    have := isReal_isRetry s e
    cases hs : step s e with
    | none => grind
    | some s1 => have := ih s1; grind

theorem psi_step (N : Nat) (s s' : St) (e : Ev) (hi : Inv s) (hl : LoadedLe s) (hN : s.na ≤ N)
    (h : step s e = some s') :
    psi N s' + (if isReal s e then 1 else 0) ≤ psi N s + N * reqN e := by
  have new := sumTo_upd_ge s.na (slack N) s.acc s.na .sender (Nat.le_refl _)
  cases Step.of_step h <;>
    simp only [isReal, reqN, psi, decRc_fields, grant_fields, newGroup, Bool.false_eq_true, if_false,
      Nat.mul_zero, Nat.mul_one, Nat.add_zero, Nat.le_refl, sumTo_succ, upd_same, new, bne_self_eq_false,
      Bool.false_and]
  case start hx | copy hx _ | loadOpen hx _ | casPush hx _ =>
    obtain ⟨l, e⟩ := sum_acc_upd hi (slack N) hx nofun
    simp only [e]; simp only [slack] at l ⊢; omega
  case loadDone det hx _ | casDone det hx _ | cont det _ hx _ =>
    obtain ⟨l, e⟩ := sum_acc_upd hi (slack N) hx nofun
    cases det <;> simp only [e, Bool.false_eq_true, if_false, if_true] <;> simp only [slack] at l ⊢ <;> omega
  case rel c hx =>
    obtain ⟨l, e⟩ := sum_acc_upd hi (slack N) hx nofun
    cases c <;> simp only [e, relAcc] <;> simp only [slack] at l ⊢ <;> omega
  case casRetry t a h0 det q hx hq =>
    -- the expected value grows (strictly, if the retry is real) and stays below `N`
    obtain ⟨l, e⟩ := sum_acc_upd hi (slack N) hx nofun
    have h2 := hl a _ det h0 q hx hq
    have h3 := open_length_le hi (lt_of_acc hi (hx ▸ nofun)) hq
    simp only [e, hx, hq, clsOf_ne_two, Bool.true_and, bne_iff_ne]; simp only [slack] at l ⊢
    split <;> omega
  all_goals exact Nat.le_refl _

theorem runLog_na {log : List Ev} {s s' : St} (h : runLog step s log = some s') :
    s'.na = s.na + (log.map reqN).sum :=
  runLog_count St.na reqN (fun _ _ _ h => (Step.of_step h).na) h

theorem runLog_psi (N : Nat) {log : List Ev} {s s' : St} (hi : Inv s) (hl : LoadedLe s)
    (h : runLog step s log = some s') (hN : s'.na ≤ N) :
    psi N s' + reals s log ≤ psi N s + N * (log.map reqN).sum := by
  induction log generalizing s with
  | nil => cases h; simp [reals]
  | cons e es ih =>
    obtain ⟨s₁, hs, h2⟩ := runLog_cons_some h
    have hS := Step.of_step hs
    have := runLog_na h2
    have := hS.na
    have := psi_step N s s₁ e hi hl (by omega) hs
    have := ih (hS.inv hi) (hS.loadedLe hi hl) h2
    simp only [reals, hs, List.map_cons, List.sum_cons, Nat.mul_add]
    omega

theorem reals_bound (log : List Ev) (s : St) (h : runLog step init log = some s) :
    reals init log ≤ s.na * s.na := by
  have h1 := runLog_psi s.na inv_init loadedLe_init h (Nat.le_refl _)
  have h2 : s.na = 0 + _ := runLog_na h
  rw [show psi s.na init = 0 from rfl, ← Nat.zero_add (List.sum _), ← h2] at h1
  omega

/-- A client layer over the model (`runLog_client`) started on the initial state: its logs are logs of
    the model, and `2 + budget` bounds their length up to CAS retries, `2 + budget + na²` up to the
    spurious ones. -/
theorem client_bounds {σ : Type} {cstep : σ → Ev → Option σ} (st : σ → St) (budget : σ → Nat)
    (hspec : ∀ p e p', cstep p e = some p' → step (st p) e = some (st p') ∧ budget p' + gain e = budget p)
    {p₀ p : σ} {log : List Ev} (h0 : st p₀ = init) (h : runLog cstep p₀ log = some p) :
    runLog step init log = some (st p) ∧
    log.length + mu (st p) + budget p ≤ 2 + budget p₀ + retries log ∧
    log.length + mu (st p) + budget p ≤
      2 + budget p₀ + (st p).na * (st p).na + (retries log - reals init log) := by
  have hs : runLog step init log = some (st p) := by
    simpa [h0] using runLog_map st id (fun p e p' h => (hspec p e p' h).1) h
  have h1 := runLog_client st budget hspec (h0 ▸ inv_init) h
  have h2 := costs_retries log
  have h3 := reals_bound log _ hs
  have h4 := reals_le_retries log init
  rw [h0, mu_init] at h1
  exact ⟨hs, by omega, by omega⟩

end PikaVerif.Rw
