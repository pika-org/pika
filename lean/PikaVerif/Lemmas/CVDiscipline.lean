import PikaVerif.Lemmas.CVInvResults
import PikaVerif.Lemmas.CVInner
import PikaVerif.Lemmas.CVProgram
/-!
# Lock discipline of programs (C07t)

`wf h l`: the operation list `l` respects the preconditions of the operations when started with
(`h = true`) / without the user lock, and ends without it.  `heldAfter s t` = whether thread `t`
will own the user lock when it is next between operations.  Along the runs of a program whose
threads all satisfy `wf false`, every thread's remaining program stays well-formed for the lock state
it will be in (`WfOk`), so no `inv` is refused for lock reasons (`inv_accepted`); that no thread ends
its program owning the lock is drawn from this in `Props/C07t.lean`.
-/
namespace PikaVerif.CV

def wf : Bool → List Op → Bool
  | h, [] => !h
  | h, .lock :: l => !h && wf true l
  | h, .unlock :: l => h && wf false l
  | h, .set _ :: l => h && wf true l
  | h, .wait _ _ :: l => h && wf true l
  | h, .swait _ :: l => h && wf true l
  | h, .notify _ :: l => wf h l
  | h, .stop :: l => wf h l

/-- Whether a thread inside operation `c` will own the user lock when the operation has returned
    (`ul` = the present owner): `notify` and `request_stop` leave the lock where it is. -/
def opHeld (ul : Option Nat) (t : Nat) : Op → Bool
  | .lock | .set _ | .wait _ _ | .swait _ => true
  | .unlock => false
  | .notify _ | .stop => decide (ul = some t)

/-- ... of a thread at program counter `p`: between operations it keeps what it has. -/
def heldAt (ul : Option Nat) (c : Op) (t : Nat) : Pc → Bool
  | .idle | .fin => decide (ul = some t)
  | _ => opHeld ul t c

def heldAfter (s : St) (t : Nat) : Bool := heldAt s.ulock (s.curOp t) t (s.pc t)

theorem heldAt_busy {ul : Option Nat} {c : Op} {t : Nat} {p : Pc} (h : busy p = true) :
    heldAt ul c t p = opHeld ul t c := by
  cases p <;> first | rfl | nomatch h

theorem opHeld_wait {ul : Option Nat} {t : Nat} {c : Op} (h : isWait c = true) : opHeld ul t c = true := by
  cases c <;> first | rfl | nomatch h

/-- Another thread's prospects do not depend on whether `t` or nobody owns the user lock. -/
theorem heldAt_other {t u : Nat} (h : u ≠ t) (c : Op) (p : Pc) : heldAt (some t) c u p = heldAt none c u p := by
  have hd : decide (some t = some u) = decide ((none : Option Nat) = some u) :=
    (decide_eq_false (fun e => h (Option.some.inj e).symm)).trans (decide_eq_false nofun).symm
  cases p <;> first | exact hd | (cases c <;> first | rfl | exact hd)

/-- Thread `t` alone moves, and the user lock stays or changes hands between `t` and nobody: it suffices to
    look at `t`.  (`ul'` is named so that the first three hypotheses hold by `rfl`.) -/
theorem held_move {s s' : St} {t : Nat} {p' : Pc} {ul' : Option Nat} (hpc : s'.pc = upd s.pc t p')
    (hcur : s'.curOp = s.curOp) (hu : s'.ulock = ul')
    (hul : ul' = s.ulock ∨ (s.ulock = none ∧ ul' = some t) ∨ (s.ulock = some t ∧ ul' = none))
    (ht : heldAt ul' (s.curOp t) t p' = heldAt s.ulock (s.curOp t) t (s.pc t)) (u : Nat) :
    heldAfter s' u = heldAfter s u := by
  unfold heldAfter
  rw [hpc, hcur, hu]
  by_cases hut : u = t
  · rw [hut, upd_same]; exact ht
  · rw [upd_other _ _ _ _ hut]
    rcases hul with rfl | ⟨h, rfl⟩ | ⟨h, rfl⟩
    · rfl
    · rw [h]; exact heldAt_other hut _ _
    · rw [h]; exact (heldAt_other hut _ _).symm

theorem held_step_all (s s' : St) (e : Ev) (hA : Inv s) (hB : Inv2 s) (hne : ∀ t o, e ≠ .inv t o)
    (h : step s e = some s') : ∀ u, heldAfter s' u = heldAfter s u := by
  cases he : outer e with
  | false =>
    obtain ⟨_, hcur, hul, _, hpc⟩ := step_inner h he
    intro u
    unfold heldAfter
    rcases hpc u with hp | ⟨hb, hb'⟩
    · rw [hp, hcur, hul]
    · rw [heldAt_busy hb, heldAt_busy hb', hcur, hul]
  | true =>
    obtain ⟨p, p', _, hp, hl, hg, rfl⟩ := Step.of_step h
    have hop := hB.opOk (actor e)
    rw [hp] at hop
    cases hl <;> first | (cases he; done) | skip
    case inv => exact absurd rfl (hne _ _)
    case ret =>
      -- a wait returns with the user lock held
      refine held_move (ul' := s.ulock) rfl rfl rfl (.inl rfl) ?_
      rw [hp]
      show decide (s.ulock = some _) = opHeld s.ulock _ (s.curOp _)
      rw [opHeld_wait hop, hA.uHolder _ (by rw [hp]; rfl)]; exact decide_eq_true rfl
    case retN =>
      refine held_move (ul' := s.ulock) rfl rfl rfl (.inl rfl) ?_
      rw [hp]; cases hc : s.curOp _ <;> rw [hc] at hop <;> first | rfl | nomatch hop
    case retRs | retLost =>
      refine held_move (ul' := s.ulock) rfl rfl rfl (.inl rfl) ?_
      rw [hp, of_decide_eq_true hop]; rfl
    case done => refine held_move (ul' := s.ulock) rfl rfl rfl (.inl rfl) ?_; rw [hp]; rfl
    case setFlag =>
      refine held_move (ul' := s.ulock) rfl rfl rfl (.inl rfl) ?_
      rw [hp, of_decide_eq_true hop]
      show decide (s.ulock = some _) = true
      rw [hA.uHolder _ (by rw [hp]; rfl)]; exact decide_eq_true rfl
    case ulAcq =>
      refine held_move (ul' := some _) rfl rfl rfl (.inr (.inl ⟨hg, rfl⟩)) ?_
      rw [hp, of_decide_eq_true hop]; exact decide_eq_true rfl
    case ulAcqW =>
      refine held_move (ul' := some _) rfl rfl rfl (.inr (.inl ⟨hg, rfl⟩)) ?_
      rw [hp, heldAt_busy (by split <;> rfl)]; exact (opHeld_wait hop).trans (opHeld_wait hop).symm
    case ulRel =>
      refine held_move (ul' := none) rfl rfl rfl (.inr (.inr ⟨hg, rfl⟩)) ?_
      rw [hp, of_decide_eq_true hop]; rfl
    case ulRelW =>
      refine held_move (ul' := none) rfl rfl rfl (.inr (.inr ⟨hg, rfl⟩)) ?_
      rw [hp]; exact (opHeld_wait hop).trans (opHeld_wait hop).symm

theorem wf_opHeld (ul : Option Nat) (t : Nat) (o : Op) (rest : List Op)
    (h : wf (decide (ul = some t)) (o :: rest) = true) : wf (opHeld ul t o) rest = true := by
  cases o <;> simp only [wf, Bool.and_eq_true] at h <;> first | exact h | exact h.2

theorem held_inv (s s' : St) (t : Nat) (o : Op) (rest : List Op)
    (h : step s (.inv t o) = some s') :
    (∀ u, u ≠ t → heldAfter s' u = heldAfter s u) ∧
    (wf (heldAfter s t) (o :: rest) = true → wf (heldAfter s' t) rest = true) := by
  obtain ⟨p, p', _, hp, hl, _, rfl⟩ := Step.of_step h
  cases hl
  unfold heldAfter
  refine ⟨fun u hu => ?_, fun hw => ?_⟩
  · show heldAt s.ulock (upd s.curOp t o u) u (upd s.pc t (entryPc o) u) = _
    rw [upd_other _ _ _ _ hu, upd_other _ _ _ _ hu]
  · show wf (heldAt s.ulock (upd s.curOp t o t) t (upd s.pc t (entryPc o) t)) rest = true
    rw [upd_same, upd_same, heldAt_busy (busy_entryPc o)]
    rw [show s.pc t = .idle from hp] at hw
    exact wf_opHeld _ _ _ _ hw

theorem inv_accepted (s : St) (t : Nat) (o : Op) (rest : List Op) (htn : t < s.n) (hp : s.pc t = .idle)
    (hw : wf (heldAfter s t) (o :: rest) = true) : step s (.inv t o) ≠ none := by
  simp only [heldAfter, hp, heldAt] at hw
  cases o <;> simp [wf] at hw <;> simp [step, htn, hp, hw]

def WfOk (p : PSt) : Prop := ∀ t, wf (heldAfter p.s t) (p.prog t) = true

theorem wfOk_init (n : Nat) (f : Bool) (prog : Nat → List Op) (h : ∀ t, wf false (prog t) = true) :
    WfOk (pinit n f prog) := by
  intro t; exact h t

theorem wfOk_step {p p' : PSt} {e : Ev} (hA : Inv p.s) (hB : Inv2 p.s) (hw : WfOk p) (h : pstep p e = some p') :
    WfOk p' := fun u => by
  obtain ⟨hs, ⟨t, o, rest, rfl, hp, hp'⟩ | ⟨hne, hp', -⟩⟩ := layer.sound h <;> rw [hp']
  · obtain ⟨h1, h2⟩ := held_inv p.s p'.s t o rest hs
    by_cases hut : u = t
    · rw [hut, upd_same]; exact h2 (hp ▸ hw t)
    · rw [upd_other _ _ _ _ hut, h1 u hut]; exact hw u
  · rw [held_step_all p.s p'.s e hA hB hne hs u]; exact hw u

theorem runLog_wfOk {log : List Ev} {p p' : PSt} (hA : Inv p.s) (hB : Inv2 p.s) (hw : WfOk p)
    (h : runLog pstep p log = some p') : WfOk p' :=
  (inv_of_runLog (fun p => (Inv p.s ∧ Inv2 p.s) ∧ WfOk p)
    (fun _ _ _ hi hp => have hs := (layer.sound hp).1
      ⟨⟨step_inv _ _ _ hi.1.1 hs, step_inv2 _ _ _ hi.1.1 hi.1.2 hs⟩, wfOk_step hi.1.1 hi.1.2 hi.2 hp⟩)
    ⟨⟨hA, hB⟩, hw⟩ h).2

end PikaVerif.CV
