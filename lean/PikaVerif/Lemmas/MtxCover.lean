import PikaVerif.Props.C06
import PikaVerif.Lemmas.MtxProg
/-!
# Final states of maximal runs of mutex programs (C06t)

`FinOk`: a finished task has no operation left.  `Closed`: the static condition on a task's
program under which the task cannot end while holding the mutex — no lock-type operation
(`lock`, `try_lock`, `try_lock_for`) after its last `unlock`.  Every well-bracketed program
(`bracketed`) is closed.  `Cl` is the run-time invariant that carries `Closed` through a run.

Both are facts about one task at a time, in terms of what the program layer sees of it
(`PSt.view`: program counter, `holdsG`, operations left).  An event changes the view of a task in one
of four ways (`TMove`, `pstep_view`), so such a fact holds along every run as soon as those four keep
it (`runLog_view`).

`final_of_pstuck` is the classification of the end of a maximal run: where the layer is stuck the model is
(`PStuck.other`), so `C06_mutex_stuck_only_when_blocked` and `C06_mutex_handoff` apply.
-/
namespace PikaVerif.Mtx
open PikaVerif.C06

/-- Does a task that runs the operations `l`, starting with (`h` = true) or without a possibly
    successful lock-type call behind it, possibly end while holding?  `unlock` closes, every
    lock-type operation opens. -/
def endsOpen : Bool → List Op → Bool
  | h, [] => h
  | _, .unlock :: l => endsOpen false l
  | _, _ :: l => endsOpen true l

/-- **Closed program**: no lock-type operation after the last `unlock`. -/
def Closed (l : List Op) : Prop := endsOpen false l = false

instance (l : List Op) : Decidable (Closed l) := by unfold Closed; infer_instance

/-- Well-bracketed program: every lock-type operation is immediately followed, in the same task,
    by its `unlock` (so there is no lock-type call while holding, and no stray `unlock`). -/
def bracketed : List Op → Bool
  | [] => true
  | .unlock :: _ => false
  | _ :: .unlock :: l => bracketed l
  | _ => false

theorem endsOpen_mono : ∀ (l : List Op), endsOpen true l = false → endsOpen false l = false := by
  intro l h
  cases l with
  | nil => simp [endsOpen] at h
  | cons o l => cases o <;> simpa [endsOpen] using h

/-- program counters inside a lock-type operation -/
def lockish : Pc → Bool
  | .want o | .locked o | .owned o | .retn o _ => !decide (o = .unlock)
  | .idle | .fin | .disowned | .notified => false
  | _ => true

/-- the task holds by program order or is inside a lock-type call that may still succeed -/
def mayHold (s : St) (t : Nat) : Bool := s.holdsG t || lockish (s.pc t)

/-- A move inside an operation: between program counters other than `idle` and `fin`, and not from
    outside a lock-type call into one. -/
def Inner (p p' : Pc) : Prop :=
  (lockish p' = true → lockish p = true) ∧ p ≠ .idle ∧ p ≠ .fin ∧ p' ≠ .idle ∧ p' ≠ .fin

theorem acqNext_inner {p p' : Pc} (h : acqNext p = some p') : Inner p p' := by
  unfold acqNext at h
  split at h <;> cases h <;> simp [Inner, lockish]

theorem relNext_inner {ow : Option Nat} {t : Nat} {p p' : Pc} (h : relNext ow t p = some p') :
    Inner p p' := by
  unfold relNext at h
  split at h <;> (try split at h) <;> cases h <;> simp [Inner, lockish]

theorem setPopped_inner {p p' : Pc} (h : setPopped p = some p') : Inner p p' := by
  unfold setPopped at h
  split at h <;> cases h <;> simp [Inner, lockish]

/-- What the program layer sees of one task: its program counter, whether it holds by program order,
    and the operations it has still to invoke. -/
def PSt.view (p : PSt) (t : Nat) : Pc × Bool × List Op := (p.s.pc t, p.s.holdsG t, p.prog t)

/-- What an event does to the view of a task: the task invokes its next operation, the operation
    returns, the task ends with nothing left, or the task moves inside an operation. -/
inductive TMove : Pc × Bool × List Op → Pc × Bool × List Op → Prop
  | inv (o hG rest) : TMove (.idle, hG, o :: rest) (.want o, if o = .unlock then false else hG, rest)
  | ret (o r hG l) : TMove (.retn o r, hG, l) (.idle, if r = .ok ∧ o ≠ .unlock then true else hG, l)
  | done (hG) : TMove (.idle, hG, []) (.fin, hG, [])
  | inner (p p' hG l) : Inner p p' → TMove (p, hG, l) (p', hG, l)

/-- One task's view changes by a move, the others' not at all.  (`s'` is `p'.s`: as in `Step.of'`.) -/
theorem view_upd {p p' : PSt} {s' : St} {t : Nat} {pc' : Pc} {hG' : Bool} {l' : List Op} (hs' : s' = p'.s)
    (hpc : s'.pc = upd p.s.pc t pc') (hG : s'.holdsG = upd p.s.holdsG t hG')
    (hl : p'.prog = upd p.prog t l') (hm : TMove (p.view t) (pc', hG', l')) (u : Nat) :
    p'.view u = p.view u ∨ TMove (p.view u) (p'.view u) := by
  subst hs'
  by_cases hu : u = t
  · subst hu; right; simp only [PSt.view, hpc, hG, hl, upd_same]; exact hm
  · left; simp only [PSt.view, hpc, hG, hl, upd_other _ _ _ _ hu]

theorem pstep_view {p p' : PSt} {e : Ev} (h : pstep p e = some p') (u : Nat) :
    p'.view u = p.view u ∨ TMove (p.view u) (p'.view u) := by
  obtain ⟨hs, hm⟩ := pstep_iff.1 h
  obtain ⟨s', hs', hst⟩ := Step.of' hs
  -- a task that moves inside an operation: `holdsG` and the programs stay
  have inner : ∀ {t : Nat} {q : Pc}, s'.pc = upd p.s.pc t q → s'.holdsG = p.s.holdsG → p'.prog = p.prog →
      Inner (p.s.pc t) q → p'.view u = p.view u ∨ TMove (p.view u) (p'.view u) := fun {t q} h1 h2 h3 hin =>
    view_upd (t := t) hs' h1 (by rw [h2, upd_self]) (by rw [h3, upd_self]) (.inner _ _ _ _ hin) u
  cases hst with
  | inv t o _ hpc =>
    obtain ⟨rest, hp, hp', -⟩ := hm
    exact view_upd (t := t) hs' rfl rfl hp' (by simp only [PSt.view, hpc, hp]; exact .inv ..) u
  | ret t r _ o hpc =>
    exact view_upd (t := t) hs' rfl rfl (by rw [hm.1, upd_self]) (by simp only [PSt.view, hpc]; exact .ret ..) u
  | done t _ hpc =>
    exact view_upd (t := t) hs' rfl (upd_self _ _).symm (by rw [hm.2.1, upd_self])
      (by simp only [PSt.view, hpc, hm.1]; exact .done _) u
  | csEnter => exact .inl (by simp only [PSt.view, ← hs', hm.2.1])
  | csExit => exact .inl (by simp only [PSt.view, ← hs', hm.1])
  | slAcq t _ _ q hq => exact inner rfl rfl hm.1 (acqNext_inner hq)
  | slRel t _ _ q hq => exact inner rfl rfl hm.1 (relNext_inner hq)
  | cvEnq t z tm _ _ _ _ hp =>
    exact inner rfl rfl hm.1
      (by rcases hp with ⟨hp, _⟩ | ⟨c, hp, _⟩ | ⟨hp, _⟩ <;> rw [hp] <;> simp [Inner, lockish])
  | own t k w _ _ _ _ o _ _ hp =>
    exact inner rfl rfl hm.1
      (by rcases hp with hp | ⟨_, c, hp⟩ | ⟨_, hp⟩ <;> rw [hp] <;> simp [Inner, lockish])
  | disown _ _ _ _ hp | cvNone _ _ _ _ hp | suspend _ _ _ hp | woke _ _ _ _ hp | sleep _ _ _ hp
  | timeout _ _ _ hp => exact inner rfl rfl hm.1 (by rw [hp]; simp [Inner, lockish])
  | cvWoke t st tm _ _ popped hp _ =>
    exact inner rfl rfl hm.1 (by rw [hp]; cases tm <;> cases popped <;> simp [Inner, lockish, wokeNext])
  | popResume t z g d _ _ hp rest q _ _ hq _ =>
    -- two tasks move: the waiter is marked, the notifier has notified
    have hgt : t ≠ g := fun he => by subst he; rw [hp] at hq; cases hq
    simp only [PSt.view, ← hs', hm.1]
    by_cases hu : u = t
    · subst hu; rw [upd_same, hp]; exact .inr (.inner _ _ _ _ (by simp [Inner, lockish]))
    · rw [upd_other _ _ _ _ hu]
      by_cases hg : u = g
      · subst hg; rw [upd_same]; exact .inr (.inner _ _ _ _ (setPopped_inner hq))
      · rw [upd_other _ _ _ _ hg]; exact .inl rfl

/-- A property of the views of the tasks in `Q` that every move of a task keeps holds along every
    accepted log of a program. -/
theorem runLog_view {P : Pc × Bool × List Op → Prop} (hP : ∀ a b, TMove a b → P a → P b) {Q : Nat → Prop}
    {log : List Ev} {p p' : PSt} (h0 : ∀ u, Q u → P (p.view u)) (h : runLog pstep p log = some p') :
    ∀ u, Q u → P (p'.view u) :=
  inv_of_runLog (fun p => ∀ u, Q u → P (p.view u))
    (fun p e p' hi hs u hu => by
      rcases pstep_view hs u with h' | h'
      · rw [h']; exact hi u hu
      · exact hP _ _ h' (hi u hu)) h0 h

/-- a finished task has no operation left -/
def FinOk (p : PSt) : Prop := ∀ t, p.s.pc t = .fin → p.prog t = []

theorem runLog_finOk (log : List Ev) (p p' : PSt) (hf : FinOk p) (h : runLog pstep p log = some p') :
    FinOk p' := fun t =>
  runLog_view (P := fun v => v.1 = .fin → v.2.2 = []) (Q := fun _ => True)
    (fun a b hm ha => by cases hm with
      | inv | ret => nofun
      | done => exact fun _ => rfl
      | inner _ _ _ _ hin => exact fun hb => absurd hb hin.2.2.2.2)
    (fun u _ => hf u) h t trivial

/-- Only the events of tasks of the system change `holdsG`. -/
theorem holdsG_outside_step (s s' : St) (e : Ev) (hs : step s e = some s')
    (ho : ∀ t, s.n ≤ t → s.holdsG t = false) : ∀ t, s'.n ≤ t → s'.holdsG t = false := by
  cases Step.of hs with
  | inv t _ ht | ret t _ ht =>
    intro u (hu : s.n ≤ u); show upd s.holdsG t _ u = false; rw [upd_other _ _ _ _ (by omega)]; exact ho u hu
  | _ => exact ho

theorem holdsG_outside {n : Nat} {log : List Ev} {s : St} (h : runLog step (init n) log = some s) :
    ∀ t, s.n ≤ t → s.holdsG t = false :=
  inv_of_runLog (fun s => ∀ t, s.n ≤ t → s.holdsG t = false) (fun s e s' hi hs => holdsG_outside_step s s' e hs hi)
    (fun _ _ => rfl) h

/-- run-time form of `Closed` -/
structure Cl (p : PSt) : Prop where
  closed : ∀ t, t < p.s.n → endsOpen (mayHold p.s t) (p.prog t) = false
  /-- numbers from `n` on hold nothing -/
  hout : ∀ t, p.s.n ≤ t → p.s.holdsG t = false

theorem cl_pinit (n : Nat) (prog : Nat → List Op) (h : ∀ t, t < n → Closed (prog t)) : Cl (pinit n prog) :=
  ⟨fun t ht => by have := h t ht; unfold Closed at this; simpa [pinit, init, mayHold, lockish] using this, fun _ _ => rfl⟩

/-- The less a task may hold, the less it may end holding. -/
theorem endsOpen_anti {b b' : Bool} {l : List Op} (h : b' = true → b = true) (ha : endsOpen b l = false) :
    endsOpen b' l = false := by
  cases b' <;> cases b <;> first | exact ha | exact endsOpen_mono _ ha | exact absurd (h rfl) nofun

theorem runLog_cl (log : List Ev) (p p' : PSt) (hc : Cl p) (h : runLog pstep p log = some p') : Cl p' := by
  have hn : p'.s.n = p.s.n :=
    inv_of_runLog (fun q : PSt => q.s.n = p.s.n) (fun q e q' hi hs => (step_frame (layer.sound hs).1).1.trans hi)
      rfl h
  refine ⟨?_, inv_of_runLog (fun q : PSt => ∀ t, q.s.n ≤ t → q.s.holdsG t = false)
    (fun q e q' hi hs => holdsG_outside_step _ _ e (layer.sound hs).1 hi) hc.hout h⟩
  rw [hn]
  -- `mayHold` rises only where an invocation consumes the operation that opens
  refine runLog_view (P := fun v => endsOpen (v.2.1 || lockish v.1) v.2.2 = false) (fun a b hm ha => ?_)
    hc.closed h
  cases hm with
  | inv o hG rest => cases o <;> cases hG <;> exact ha
  | ret o r hG l => refine endsOpen_anti (fun hb => ?_) ha; cases o <;> cases hG <;> simp_all [lockish]
  | done hG => exact ha
  | inner p q hG l hin => exact endsOpen_anti (by simpa using Or.imp_right hin.1) ha

/-- a state in which the spinlock is free and every task is finished or parked in `lock()`
    without a token accepts no event: it ends a maximal run -/
theorem pstuck_of_rest (p : PSt) (hl : p.s.lock = none)
    (h : ∀ t, t < p.s.n → p.s.pc t = .fin ∨ (p.s.pc t = .susp false ∧ p.s.tok t = 0)) : PStuck p := by
  intro e
  cases hpe : pstep p e with
  | none => rfl
  | some p' =>
    exfalso
    have hs := (layer.sound hpe).1
    -- every event needs its task at a program counter other than `fin`, and `woke` needs a token
    have no : ∀ {t : Nat} {q : Pc}, t < p.s.n → p.s.pc t = q → q ≠ .fin →
        (q = .susp false → 0 < p.s.tok t) → False := by
      intro t q ht hq h1 h2
      rcases h t ht with hf | ⟨hf, hk⟩
      · exact h1 (hq.symm.trans hf)
      · have := h2 (hq.symm.trans hf); omega
    obtain ⟨_, -, hst⟩ := Step.of' hs
    cases hst with
    | inv t o ht hp => exact no ht hp nofun nofun
    | ret t r ht o hp => exact no ht hp nofun nofun
    | done t ht hp => exact no ht hp nofun nofun
    | csEnter t ht hp => exact no ht hp nofun nofun
    | csExit t ht hp => exact no ht hp nofun nofun
    | suspend t ht q hp => exact no ht hp nofun nofun
    | sleep t ht q hp => exact no ht hp nofun nofun
    | timeout t ht q hp => exact no ht hp nofun nofun
    | woke t ht hk q hp => exact no ht hp nofun fun _ => hk
    | slAcq t ht _ q hq => rcases h t ht with hf | ⟨hf, _⟩ <;> rw [hf] at hq <;> cases hq
    | slRel t _ h2 | cvEnq t _ _ _ h2 | own t _ _ _ h2 | disown t _ h2 | popResume t _ _ _ _ h2
    | cvNone t _ h2 | cvWoke t _ _ _ h2 => rw [hl] at h2; cases h2

theorem n_of_log (n : Nat) (log : List Ev) (s : St) (h : runLog step (init n) log = some s) : s.n = n :=
  inv_of_runLog (fun s => s.n = n) (fun _ _ _ hi hs => (step_frame hs).1.trans hi) rfl h

/-- **Where a program ends.**  In a reachable state in which the program layer accepts nothing, every task of the
    system has finished with no operation left, or is parked in `lock()` without a wake-up token — and then the
    mutex is owned by a task that holds it by program order and has finished its program, so it will never
    unlock. -/
theorem final_of_pstuck {p : PSt} (hr : Reachable p.s) (hf : FinOk p) (hs : PStuck p) (t : Nat) (ht : t < p.s.n) :
    (p.s.pc t = .fin ∧ p.prog t = []) ∨
      (Blocked p.s t ∧ ∃ u, u < p.s.n ∧ u ≠ t ∧ p.s.owner = some u ∧ p.s.holdsG u = true ∧
        p.s.pc u = .fin ∧ p.prog u = []) := by
  have hstuck : Stuck p.s := fun e h1 h2 h3 _ => hs.other h1 h2 h3
  have hall : ∀ t, t < p.s.n → p.s.pc t = .fin ∨ Blocked p.s t := by
    intro t ht
    rcases C06_mutex_stuck_only_when_blocked p.s hr hstuck t ht with hi | hf | hb
    · -- between operations a task could leave its critical section, end, or invoke its next operation
      exfalso
      cases hcs : p.s.inCS t with
      | true => have := hs (.csExit t); simp [pstep, step, hi, ht, hcs] at this
      | false =>
        cases hp : p.prog t with
        | nil => have := hs (.done t); simp [pstep, hp, step, hi, ht] at this
        | cons o rest => have := hs (.inv t o); simp [pstep, hp, step, hi, ht, hcs] at this
    · exact .inl hf
    · exact .inr hb
  rcases hall t ht with hft | hb
  · exact .inl ⟨hft, hf t hft⟩
  · refine .inr ⟨hb, ?_⟩
    obtain ⟨u, ho, hh⟩ := C06_mutex_handoff p.s hr hstuck t hb
    obtain ⟨n, log, hlog⟩ := hr
    -- a holder is not parked in `lock()`: parked there it is not the owner
    have hnb : ¬ Blocked p.s u := fun hb' => by
      obtain ⟨_, _, _, h1, h2⟩ := (inv2_of_accepted hlog).2.at_pc hb'.1
      rw [h2.2 ho] at h1; cases h1 rfl
    have hun : u < p.s.n := Nat.lt_of_not_le fun hc => by rw [holdsG_outside hlog u hc] at hh; cases hh
    have hfu : p.s.pc u = .fin := (hall u hun).resolve_right hnb
    exact ⟨u, hun, fun he => hnb (he ▸ hb), ho, hh, hfu, hf u hfu⟩

end PikaVerif.Mtx
