import PikaVerif.Model.Once
import PikaVerif.Core.Run
/-! What each accepted event of the event / call_once model does, as a relation: its guard, the
    program counter it starts from, and the state it produces.  Every later proof about `step` starts
    from `Step.of`. -/
namespace PikaVerif.Once

/-- `Step s e s'`: the model accepts `e` in `s` and produces `s'`; one constructor per outcome, with
    the thread's guard `htn`, its program counter `hpc` and what else the guard says. -/
inductive Step (s : St) : Ev → St → Prop
  | inv (t o) (htn : t < s.n) (hpc : s.pc t = .idle) :
    Step s (.inv t o) { s with pc := upd s.pc t (entry o), curOp := upd s.curOp t o }
  | done (t) (htn : t < s.n) (hpc : s.pc t = .idle) : Step s (.done t) { s with pc := upd s.pc t .fin }
  | ret (t r) (htn : t < s.n) (hpc : s.pc t = .retn r) : Step s (.ret t r) { s with pc := upd s.pc t .idle }
  | occ (t r) (htn : t < s.n) (hpc : s.pc t = .oWant) (hr : r = b2n s.flag) :
    Step s (.ret t r) { s with pc := upd s.pc t .idle }
  | evLoadT (t c) (htn : t < s.n) (hpc : s.pc t = .wWant c) (hf : s.flag = true) :
    Step s (.evLoad t true) { s with pc := upd s.pc t (wDone c) }
  | evLoadF (t c) (htn : t < s.n) (hpc : s.pc t = .wWant c) (hf : s.flag = false) :
    Step s (.evLoad t false) { s with pc := upd s.pc t (.wLockW c) }
  | acqW (t c) (htn : t < s.n) (hpc : s.pc t = .wLockW c) (hl : s.lock = none) :
    Step s (.slAcq t) { s with lock := some t, pc := upd s.pc t (.wLocked c) }
  | acqK (t c p) (htn : t < s.n) (hpc : s.pc t = .wokeNL c p) (hl : s.lock = none) :
    Step s (.slAcq t) { s with lock := some t, pc := upd s.pc t (.relk c p) }
  | acqS (t c) (htn : t < s.n) (hpc : s.pc t = .sLockW c) (hl : s.lock = none) :
    Step s (.slAcq t) { s with lock := some t, pc := upd s.pc t (.sLocked c) }
  | evLoadLT (t c) (htn : t < s.n) (hpc : s.pc t = .wLocked c) (hf : s.flag = true) :
    Step s (.evLoadL t true) { s with pc := upd s.pc t (.wPass c) }
  | evLoadLF (t c) (htn : t < s.n) (hpc : s.pc t = .wLocked c) (hf : s.flag = false) :
    Step s (.evLoadL t false) { s with pc := upd s.pc t (.wMustEnq c) }
  | cvEnq (t c z) (htn : t < s.n) (hpc : s.pc t = .wMustEnq c) :
    Step s (.cvEnq t z) { s with queue := s.queue ++ [t], pc := upd s.pc t (.enq c) }
  | relE (t c) (htn : t < s.n) (hpc : s.pc t = .enq c) (hl : s.lock = some t) :
    Step s (.slRel t) { s with lock := none, pc := upd s.pc t (.unl c false) }
  | relW (t c) (htn : t < s.n) (hpc : s.pc t = .wPass c) (hl : s.lock = some t) :
    Step s (.slRel t) { s with lock := none, pc := upd s.pc t (wDone c) }
  | relS (t c) (htn : t < s.n) (hpc : s.pc t = .sRel c) (hl : s.lock = some t) :
    Step s (.slRel t) { s with lock := none, pc := upd s.pc t (sDone c) }
  | suspend (t c p) (htn : t < s.n) (hpc : s.pc t = .unl c p) :
    Step s (.suspend t) { s with pc := upd s.pc t (.susp c p) }
  | woke (t c p) (htn : t < s.n) (hpc : s.pc t = .susp c p) (hk : 0 < s.tok t) :
    Step s (.woke t) { s with tok := upd s.tok t (s.tok t - 1), pc := upd s.pc t (.wokeNL c p) }
  | cvWoke (t c a) (htn : t < s.n) (hpc : s.pc t = .relk c true) :
    Step s (.cvWoke t a) { s with pc := upd s.pc t (.wLocked c) }
  | set (t c) (htn : t < s.n) (hpc : s.pc t = .sWant c) :
    Step s (.stored t true) { s with flag := true, sets := s.sets + 1, pc := upd s.pc t (.sLockW c) }
  | reset (t) (htn : t < s.n) (hpc : s.pc t = .rWant) :
    Step s (.stored t false) { s with flag := false, resets := s.resets + 1, topResets := s.topResets + 1,
                                       pc := upd s.pc t (.retn 0) }
  | onceReset (t thr) (htn : t < s.n) (hpc : s.pc t = .cReset thr) :
    Step s (.stored t false) { s with flag := false, resets := s.resets + 1, pc := upd s.pc t (.cBody thr) }
  | notifyAll (t c l) (htn : t < s.n) (hpc : s.pc t = .sLocked c) (hl : s.lock = some t) :
    Step s (.notifyAll t l)
      { s with queue := [], tok := fun u => if u ∈ s.queue then s.tok u + 1 else s.tok u,
               pc := upd (fun u => if u ∈ s.queue then popd (s.pc u) else s.pc u) t (.sRel c) }
  | onceLoadC (t thr) (htn : t < s.n) (hpc : s.pc t = .cLoad thr) (hst : s.status = .complete) :
    Step s (.onceLoad t) { s with pc := upd s.pc t (.retn 0) }
  | onceLoadN (t thr) (htn : t < s.n) (hpc : s.pc t = .cLoad thr) (hst : s.status ≠ .complete) :
    Step s (.onceLoad t) { s with pc := upd s.pc t (.cCas thr) }
  | onceWon (t thr) (htn : t < s.n) (hpc : s.pc t = .cCas thr) (hz : s.status = .zero) :
    Step s (.onceWon t) { s with status := .running, wins := s.wins + 1, pc := upd s.pc t (.cReset thr) }
  | onceLostC (t thr) (htn : t < s.n) (hpc : s.pc t = .cCas thr) (hst : s.status = .complete) :
    Step s (.onceLost t true) { s with pc := upd s.pc t (.retn 0) }
  | onceLostR (t thr) (htn : t < s.n) (hpc : s.pc t = .cCas thr) (hst : s.status = .running) :
    Step s (.onceLost t false) { s with pc := upd s.pc t (.wWant (.once thr)) }
  | body (t thr) (htn : t < s.n) (hpc : s.pc t = .cBody thr) :
    Step s (.body t thr) { s with runs := s.runs + 1, okRuns := s.okRuns + b2n (!thr), pc := upd s.pc t (.cRan thr) }
  | onceStored (t thr v) (htn : t < s.n) (hpc : s.pc t = .cRan thr) (hv : v = !thr) :
    Step s (.onceStored t v)
      { s with status := if thr then .zero else .complete, completions := s.completions + b2n (!thr),
               pc := upd s.pc t (.sWant (.once thr)) }

theorem Step.of {s s' : St} {e : Ev} (h : step s e = some s') : Step s e s' := by
  cases e with
  | ret t r =>
    simp only [step, Option.ite_none_right_eq_some] at h
    obtain ⟨htn, h⟩ := h
    split at h
    · obtain ⟨rfl, h'⟩ := Option.ite_none_right_eq_some.1 h; cases h'; exact .ret _ _ htn ‹_›
    · obtain ⟨hr, h⟩ := Option.ite_none_right_eq_some.1 h; cases h; exact .occ _ _ htn ‹_› hr
    · contradiction
  | onceLoad t =>
    simp only [step, Option.ite_none_right_eq_some] at h
    obtain ⟨htn, h⟩ := h
    split at h
    · cases h; by_cases hst : s.status = .complete
      · rw [if_pos hst]; exact .onceLoadC _ _ htn ‹_› hst
      · rw [if_neg hst]; exact .onceLoadN _ _ htn ‹_› hst
    · contradiction
  | onceLost t a =>
    simp only [step, Option.ite_none_right_eq_some] at h
    obtain ⟨⟨htn, hz, ha⟩, h⟩ := h
    split at h
    · cases h; cases a
      · refine .onceLostR _ _ htn ‹_› ?_
        cases hs : s.status <;> simp_all
      · exact .onceLostC _ _ htn ‹_› (of_decide_eq_true ha.symm)
    · contradiction
  | _ =>
    -- the guard, the case of the program counter, and for events that carry a Boolean its value
    (try cases ‹Bool›) <;> simp only [step, Option.ite_none_right_eq_some] at h <;> obtain ⟨hg, h⟩ := h <;>
      (try split at h) <;> (try simp only [Option.ite_none_right_eq_some] at h) <;>
      first
      | contradiction
      | (simp at h; done)
      | (cases h; constructor <;> simp_all; done)
      | (obtain ⟨hg', h⟩ := h; subst_vars; cases h; constructor <;> simp_all; done)

variable {s s' : St} {t : Nat}

/-! The events the program layer looks at one by one. -/

theorem step_inv {o : Op} (h : step s (.inv t o) = some s') :
    t < s.n ∧ s.pc t = .idle ∧ s'.pc = upd s.pc t (entry o) ∧ s'.curOp = upd s.curOp t o := by
  cases Step.of h with
  | inv _ _ htn hpc => exact ⟨htn, hpc, rfl, rfl⟩

theorem step_done (h : step s (.done t) = some s') :
    t < s.n ∧ s.pc t = .idle ∧ s'.pc = upd s.pc t .fin ∧ s'.curOp = s.curOp := by
  cases Step.of h with
  | done _ htn hpc => exact ⟨htn, hpc, rfl, rfl⟩

theorem step_ret {r : Nat} (h : step s (.ret t r) = some s') :
    t < s.n ∧ (s.pc t = .retn r ∨ s.pc t = .oWant ∧ r = b2n s.flag) ∧ s'.pc = upd s.pc t .idle ∧
      s'.curOp = s.curOp := by
  cases Step.of h with
  | ret _ _ htn hpc => exact ⟨htn, .inl hpc, rfl, rfl⟩
  | occ _ _ htn hpc hr => exact ⟨htn, .inr ⟨hpc, hr⟩, rfl, rfl⟩

theorem step_evLoad {v : Bool} (h : step s (.evLoad t v) = some s') :
    ∃ c, t < s.n ∧ v = s.flag ∧ s.pc t = .wWant c ∧
      s' = { s with pc := upd s.pc t (if v then wDone c else .wLockW c) } := by
  cases Step.of h with
  | evLoadT _ c htn hpc hf => exact ⟨c, htn, hf.symm, hpc, rfl⟩
  | evLoadF _ c htn hpc hf => exact ⟨c, htn, hf.symm, hpc, rfl⟩

theorem step_body {thr : Bool} (h : step s (.body t thr) = some s') : t < s.n ∧ s.pc t = .cBody thr := by
  cases Step.of h with
  | body _ _ htn hpc => exact ⟨htn, hpc⟩

theorem step_counters {e : Ev} (h : step s e = some s') :
    s'.n = s.n ∧ s'.okRuns = s.okRuns + (match (generalizing := false) e with | .body _ false => 1 | _ => 0) ∧
      s'.completions = s.completions + (match (generalizing := false) e with | .onceStored _ true => 1 | _ => 0) ∧
      (s'.topResets = s.topResets ∨ ∃ t, s.pc t = .rWant) := by
  cases Step.of h with
  | body t thr => cases thr <;> exact ⟨rfl, rfl, rfl, .inl rfl⟩
  | onceStored t thr v _ _ hv => subst hv; cases thr <;> exact ⟨rfl, rfl, rfl, .inl rfl⟩
  | reset t _ hpc => exact ⟨rfl, rfl, rfl, .inr ⟨t, hpc⟩⟩
  | _ => exact ⟨rfl, rfl, rfl, .inl rfl⟩

theorem step_n {e : Ev} (h : step s e = some s') : s'.n = s.n := (step_counters h).1

theorem step_thread {e : Ev} (h : step s e = some s') : ∃ t, t < s.n ∧ s.pc t ≠ .fin := by
  cases e <;> simp only [step, Option.ite_none_right_eq_some] at h <;>
    exact ⟨_, by first | exact h.1.1 | exact h.1, fun hf => by simp [hf] at h⟩

theorem arrive {α : Type} {pc : Nat → α} {t₀ t : Nat} {p' x : α} (hnew : upd pc t₀ p' t = x) (hold : pc t ≠ x) :
    t = t₀ ∧ p' = x := by
  by_cases ht : t = t₀
  · rw [ht, upd_same] at hnew; exact ⟨ht, hnew⟩
  · rw [upd_other _ _ _ _ ht] at hnew; exact absurd hnew hold

end PikaVerif.Once
