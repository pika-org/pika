import PikaVerif.Lemmas.Shared
/-!
Ghost-counter invariants of the shared-state model (split / split_tuple / ensure_started):
every started consumer receives the stored completion exactly once.

The invariant is split into small groups that are proved separately, each from some of the groups
on the pre-state (`step_pinv` and `step_cinv` use `PInv` and `CInv` together, `step_rinv` all of them):
* `Inv`  (Lemmas/Shared.lean) lock / flag / stage protocol,
* `SInv` the predecessor's signal, the variant, `start_called` and the pending completion,
* `PInv` consumer phase / owner versus the program counters,
* `CInv` the continuation container versus the phases,
* `RInv` the per-consumer receive counters.
-/
namespace PikaVerif.Shared

/-- Program counters reached only after reading `predecessor_done = true`. -/
def sawDone : Pc → Bool
  | .seenT2 _ | .visiting _ => true
  | _ => false

/-- The predecessor's signal, the variant, `start_called`, the pending completion. -/
structure SInv (s : St) : Prop where
  sigNone : s.sig = none ↔ s.pst = .none
  sigV : ∀ c, s.sig = some c → s.v = stored s.storesStopped c
  armedStarted : s.armed = s.started
  pendSig : ∀ c, s.pending = some c → s.started = true → s.sig = some c
  notStartedPc : s.started = false → ∀ t, begun (s.pc t) = false
  notStartedPhase : s.started = false → ∀ k, s.phase k = .unused ∨ s.phase k = .active
  sawDoneDone : ∀ t, sawDone (s.pc t) = true → s.done = true
  noAbort : s.storesStopped = true → s.aborted = false

/-- Consumer phase / owner versus the program counters. -/
structure PInv (s : St) : Prop where
  consPhase : ∀ t k, consOf (s.pc t) = some k → s.phase k = .active ∧ s.owner k = t
  activeCons : ∀ k, s.phase k = .active → consOf (s.pc (s.owner k)) = some k

/-- The continuation container holds exactly the queued consumers, once each. -/
structure CInv (s : St) : Prop where
  contsQ : ∀ k, k ∈ s.conts ↔ s.phase k = .queued
  nodup : s.conts.Nodup

/-- Receive counters: a consumer in phase `got` has received exactly one signal, the stored one;
    every other consumer none. -/
structure RInv (s : St) : Prop where
  gotCount : ∀ k, s.got k = if s.phase k = .got then 1 else 0
  gotSigV : ∀ k c, s.phase k = .got → s.v = some c → s.gotSig k = some (sigFor s.kind k c)
  gotLate : ∀ k, s.phase k = .got → s.done = true
  gotV : ∀ k, s.phase k = .got → s.v ≠ none

theorem sinv_init (kind : Kind) (ss : Bool) : SInv (init kind ss) := by
  constructor <;> simp [init, begun, sawDone]
theorem pinv_init (kind : Kind) (ss : Bool) : PInv (init kind ss) := by
  constructor <;> simp [init, consOf]
theorem cinv_init (kind : Kind) (ss : Bool) : CInv (init kind ss) := by
  constructor <;> simp [init]
theorem rinv_init (kind : Kind) (ss : Bool) : RInv (init kind ss) := by
  constructor <;> simp [init]

theorem stored_true (c : Compl) : stored true c = some c := by simp [stored]



theorem SInv.started_of_begun {s : St} (hs : SInv s) {t : Nat} (h : begun (s.pc t) = true) :
    s.started = true := by
  cases hst : s.started with
  | true => rfl
  | false => have := hs.notStartedPc hst t; rw [h] at this; cases this

-- new values of the fields a structure does not read: arbitrary in the lemmas about one shape of step
variable {ar st d ab : Bool} {pe v' sg : Option Compl} {l cl : Option Nat} {cs : List Nat} {q : PStage}
  {pt : Nat} {g : Nat → Nat} {gs : Nat → Option RSig}

theorem step_sinv (s s' : St) (e : Ev) (hi : Inv s) (hs : SInv s) (h : step s e = some s') :
    SInv s' := by
  cases Step.of_step h with
  | completeEarly t | fireOwn t | fireInline t | consume t =>
    -- a completion requested before the leaf is armed binds nobody, `start_called` not being set; the
    -- predecessor completes once, from `completing` or inline in the first `start()`, which sets it
    exact ⟨by have := hs.sigNone; grind, fun c' => by have := hs.sigV c'; grind,
      by have := hs.armedStarted; grind,
      fun c' => by have := hs.pendSig c'; have := hs.sigNone; have := hs.armedStarted; grind,
      fun h u => by
        have := fun h' => hs.notStartedPc h' u; have := fun h' => hs.notStartedPc h' t
        have := hs.armedStarted; grind [upd, begun],
      fun h j => by have := fun h' => hs.notStartedPhase h' j; have := hs.armedStarted; grind [upd],
      fun u => by have := hs.sawDoneDone u; grind [upd, sawDone], hs.noAbort⟩
  | acqProd t | relProd t | flag t | run t | rcvLoop t =>
    exact ⟨by have := hs.sigNone; grind, hs.sigV, hs.armedStarted, hs.pendSig, hs.notStartedPc,
      fun h j => by have := hs.notStartedPhase h j; have := hs.notStartedPc h t; grind [upd, begun],
      fun u hu => by have := hs.sawDoneDone u hu; grind, hs.noAbort⟩
  | abort t hwho hv =>
    refine ⟨hs.sigNone, hs.sigV, hs.armedStarted, hs.pendSig, hs.notStartedPc, hs.notStartedPhase,
      hs.sawDoneDone, fun hss => ?_⟩
    -- with the stopped completion stored, a predecessor that has completed leaves the variant
    -- non-empty: nothing to abort on
    have hne : s.pst ≠ .none := by
      rcases hwho with ⟨k, hpc⟩ | ⟨-, hst⟩
      · grind [PStage.rank, sawDone, hi.doneIff, hs.sawDoneDone t]
      · rw [hst]; nofun
    cases hsig : s.sig with
    | none => exact absurd (hs.sigNone.mp hsig) hne
    | some c => have := hs.sigV c hsig; rw [hv, hss, stored_true] at this; cases this
  | completeArmed t | seen1 t | acqCons t | seen2Done t | seen2Push t | relPushed t | relSeen t
  | rcvOwn t | ret t | tdone t =>
    -- thread `t` moves: past the first read only with `start_called` set, past a read of the set
    -- flag only with the flag set
    exact ⟨hs.sigNone, hs.sigV, hs.armedStarted, hs.pendSig,
      fun h u => by grind [upd, begun, hs.notStartedPc h u, hs.notStartedPc h t, hs.armedStarted],
      fun h j => by grind [upd, begun, hs.notStartedPhase h j, hs.notStartedPc h t],
      fun u => by grind [upd, sawDone, hs.sawDoneDone u, hs.sawDoneDone t], hs.noAbort⟩


theorem PInv.move {s : St} (hp : PInv s) {t : Nat} {p' : Pc} (hc : consOf p' = consOf (s.pc t)) :
    PInv { s with pc := upd s.pc t p', armed := ar, started := st, pending := pe, v := v', done := d,
                  lock := l, conts := cs, pst := q, ptid := pt, sig := sg, got := g, gotSig := gs,
                  aborted := ab, claimed := cl } :=
  ⟨fun u k => by grind [upd, hp.consPhase u k, hp.consPhase t k],
   fun k => by grind [upd, hp.activeCons k]⟩

theorem step_pinv (s s' : St) (e : Ev) (hp : PInv s) (hc : CInv s) (h : step s e = some s') :
    PInv s' := by
  cases Step.of_step h with
  | consume t k | seen2Push t k | rcvOwn t k | rcvLoop t k =>
    -- consumer `k` becomes `active` with its thread `t` at `want`, or leaves `active` as `t` leaves
    -- the points that work for it, or was queued: the others keep their threads
    have := hp.consPhase t k; have := hc.contsQ k
    exact ⟨fun u j => by have := hp.consPhase u j; grind [upd, consOf],
      fun j => by have := hp.activeCons j; grind [upd, consOf]⟩
  | seen1 t b k hpc =>
    have : consOf (s.pc t) = some k := hpc.elim (·.1 ▸ rfl) (·.1 ▸ rfl)
    cases b <;> exact hp.move (by exact this.symm)
  | ret t hpc =>
    refine hp.move ?_
    rcases hpc with h | ⟨k, h⟩ | ⟨h, -⟩ <;> rw [h] <;> rfl
  | completeArmed t c hpc | completeEarly t c hpc | fireOwn t c hpc | fireInline t c k hpc
  | acqCons t k hpc | seen2Done t k b hpc | relPushed t k hpc | relSeen t k hpc | tdone t hpc =>
    exact hp.move (by rw [hpc]; rfl)
  | _ => exact ⟨hp.1, hp.2⟩


theorem step_cinv (s s' : St) (e : Ev) (hp : PInv s) (hc : CInv s) (h : step s e = some s') :
    CInv s' := by
  cases Step.of_step h with
  | consume t k | seen2Push t k | rcvOwn t k | rcvLoop t k =>
    -- a continuation is stored while its consumer is still `active`, hence not in the container yet;
    -- the head of the container, taken off, occurs once; other phase changes are not to or from `queued`
    have := hp.consPhase t k; have := hc.contsQ k; have := hc.nodup
    exact ⟨fun j => by have := hc.contsQ j; grind [upd, consOf, mem_push],
      by grind [consOf, nodup_push]⟩
  | _ => exact ⟨hc.1, hc.2⟩

/-- The complete inductive invariant. -/
structure Full (s : St) : Prop where
  inv : Inv s
  sinv : SInv s
  pinv : PInv s
  cinv : CInv s
  rinv : RInv s

theorem full_init (kind : Kind) (ss : Bool) : Full (init kind ss) :=
  ⟨inv_init kind ss, sinv_init kind ss, pinv_init kind ss, cinv_init kind ss, rinv_init kind ss⟩


theorem step_rinv (s s' : St) (e : Ev) (hf : Full s) (h : step s e = some s') : RInv s' := by
  obtain ⟨hi, hs, hp, hc, hr⟩ := hf
  cases Step.of_step h with
  | fireOwn t c _ hst | fireInline t c k _ hst =>
    -- the variant is written before anybody can have received: the flag is not set yet
    have hng : ∀ k, s.phase k ≠ .got := fun k h' => by
      have := hi.doneIff.mp (hr.gotLate k h'); rw [hst] at this; simp [PStage.rank] at this
    exact ⟨hr.gotCount, fun k _ h' => absurd h' (hng k), hr.gotLate, fun k h' => absurd h' (hng k)⟩
  | flag t i => exact ⟨hr.gotCount, hr.gotSigV, fun _ _ => rfl, hr.gotV⟩
  | consume t k | seen2Push t k | rcvOwn t k | rcvLoop t k =>
    -- a consumer that receives had not received (it was `active` or queued), the flag is set and
    -- the signal is the stored one; a consumer changing between other phases has not received
    have := hp.consPhase t k; have := hc.contsQ k; have := hs.sawDoneDone t; have := hi.doneIff
    exact ⟨fun j => by have := hr.gotCount j; grind [upd, consOf],
      fun j c => by have := hr.gotSigV j c; grind [upd, consOf],
      fun j => by have := hr.gotLate j; grind [upd, consOf, sawDone, PStage.rank],
      fun j => by have := hr.gotV j; grind [upd, consOf]⟩
  | _ => exact ⟨hr.1, hr.2, hr.3, hr.4⟩

theorem step_full (s s' : St) (e : Ev) (hf : Full s) (h : step s e = some s') : Full s' :=
  ⟨step_inv s s' e hf.inv h, step_sinv s s' e hf.inv hf.sinv h, step_pinv s s' e hf.pinv hf.cinv h,
   step_cinv s s' e hf.pinv hf.cinv h, step_rinv s s' e hf h⟩

theorem full_of_accepted {kind : Kind} {ss : Bool} {log : List Ev} {s : St}
    (h : runLog step (init kind ss) log = some s) : Full s :=
  inv_of_runLog Full (fun s e s' => step_full s s' e) (full_init kind ss) h

end PikaVerif.Shared
