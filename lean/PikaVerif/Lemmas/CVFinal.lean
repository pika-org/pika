import PikaVerif.Lemmas.CVWaits
import PikaVerif.Lemmas.CVProgram
import PikaVerif.Lemmas.CVCover
import PikaVerif.Lemmas.CVPosition
import PikaVerif.Lemmas.CVDiscipline
/-! The end of a maximal run of a program over the condition-variable model (C07t).  `final_of_run`
    classifies every thread (finished, parked with no notification owed, queueing for the user lock,
    refused) and says of a parked thread everything the ghost states of the log know about it;
    `final_of_run_wf` is the same under the lock discipline, where the last two cases cannot occur.  The
    final-state and covering theorems of `Props/C07t.lean` each read one clause of these. -/
namespace PikaVerif.C07t
open PikaVerif PikaVerif.CV PikaVerif.C07

/-- Parked in an untimed wait with no notification owed: suspended, no wake-up token, still
    linked, not popped, and not covered by any notification since its last `cv.enq` (log order). -/
def ParkedUnowed (s : St) (log : List Ev) (t : Nat) : Prop :=
  s.pc t = .susp false ∧ s.tok t = 0 ∧ isTimed (s.curOp t) = false ∧ t ∈ s.queue ∧
    s.poppedOp t = false ∧ (obsGLog gh0 log).cov t = false

/-- The next operation of the thread is refused by the model: its precondition is violated
    (`wait` / `unlock` / `set` without owning the user lock, `lock` while owning it). -/
def Refused (p : PSt) (t : Nat) : Prop :=
  p.s.pc t = .idle ∧ ∃ o rest, p.prog t = o :: rest ∧ step p.s (.inv t o) = none

theorem stuck_model {p : PSt} (hs : PStuck p) : Stuck p.s := complete.stuck hs

/-- A thread that is between operations at the end of a maximal run has an operation left, which the
    model refuses: with none left it could end its program. -/
theorem refused_of_idle {p : PSt} (hs : PStuck p) {t : Nat} (ht : t < p.s.n) (hi : p.s.pc t = .idle) :
    Refused p t := by
  refine ⟨hi, ?_⟩
  cases hp : p.prog t with
  | nil =>
    have := complete.finish hp (hs _)
    simp [step, hi, ht] at this
  | cons o rest => exact ⟨o, rest, rfl, complete.start hp (hs _)⟩

theorem final_of_run {n : Nat} {f : Bool} {prog : Nat → List Op} {log : List Ev} {p : PSt}
    (h : runLog pstep (pinit n f prog) log = some p) (hs : PStuck p) {t : Nat} (ht : t < n) :
    (p.s.pc t = .fin ∧ p.prog t = []) ∨
      (ParkedUnowed p.s log t ∧
        (isPred (p.s.curOp t) = true → p.s.flag = true → (obsGLog gh0 log).dirty = true) ∧
        (obsKLog gk0 log).k t < (obsKLog gk0 log).z t) ∨
      BlockedOnUserLock p.s t ∨ Refused p t := by
  have hlog : runLog step (init n f) log = some p.s := layer.run h
  obtain ⟨hA, hB, hC⟩ := inv3_of_accepted hlog
  have hst := stuck_model hs
  have hc := cov_of_runLog (inv_init n f) (inv2_init n f) (cov_init n f) hlog
  have ht : t < p.s.n := (runLog_n hlog).symm ▸ ht
  rcases hst.blocked hA hB hC ht with hi | hfin | hb | hb
  · exact .inr (.inr (.inr (refused_of_idle hs ht hi)))
  · exact .inl ⟨hfin, finOk_of_run h t hfin⟩
  · have hq : t ∈ p.s.queue := (hA.qIff t).2 (by rw [hb.1]; rfl)
    have hop := hB.opOk t
    have hpo := hB.popped t
    rw [hb.1] at hop hpo
    -- a linked waiter that is covered is being popped by the holder of the internal lock: there is none
    have hcov : (obsGLog gh0 log).cov t = false := by
      cases h : (obsGLog gh0 log).cov t with
      | false => rfl
      | true => obtain ⟨r, hl, _⟩ := hc.gn t hq h; exact nomatch (hst.free hA hB hC).1.symm.trans hl
    refine .inr (.inl ⟨⟨hb.1, hb.2, by simp [pcOpOk] at hop; exact hop.2, hq, by simpa [poppedOk] using hpo, hcov⟩,
      fun hpr hfl => ?_,
      Nat.lt_of_le_of_lt (Nat.le_add_left ..) (cnt_of_runLog (inv_init n f) (fun _ hu => nomatch hu) hlog t hq)⟩)
    cases hd : (obsGLog gh0 log).dirty with
    | true => rfl
    | false => exact nomatch hcov.symm.trans (hc.j3 t hpr hq hfl hd)
  · exact .inr (.inr (.inl hb))

/-- Under the lock discipline nobody is refused and nobody keeps the user lock at the end. -/
theorem final_of_run_wf {n : Nat} {f : Bool} {prog : Nat → List Op} (hwf : ∀ t, wf false (prog t) = true)
    {log : List Ev} {p : PSt} (h : runLog pstep (pinit n f prog) log = some p) (hs : PStuck p) {t : Nat}
    (ht : t < n) :
    (p.s.pc t = .fin ∧ p.prog t = []) ∨
      (ParkedUnowed p.s log t ∧
        (isPred (p.s.curOp t) = true → p.s.flag = true → (obsGLog gh0 log).dirty = true) ∧
        (obsKLog gk0 log).k t < (obsKLog gk0 log).z t) := by
  have hlog : runLog step (init n f) log = some p.s := layer.run h
  have hw : WfOk p := runLog_wfOk (inv_init n f) (inv2_init n f) (wfOk_init n f prog hwf) h
  have hnoref : ∀ x, x < p.s.n → ¬ Refused p x := fun x hx ⟨hi, o, rest, hp, hr⟩ =>
    inv_accepted p.s x o rest hx hi (hp ▸ hw x) hr
  rcases final_of_run h hs ht with hf | hp | ⟨_, x, hux, _, hx⟩ | hr
  · exact .inl hf
  · exact .inr hp
  · have hxn := (inv_of_accepted hlog).uConv x hux
    rcases hx with hi | hf
    · exact absurd (refused_of_idle hs hxn hi) (hnoref x hxn)
    · -- a finished thread has no program left, and `wf` of the empty program says it does not own the lock
      have := hw x
      rw [finOk_of_run h x hf] at this
      simp [heldAfter, heldAt, hf, wf, hux] at this
  · exact absurd hr (hnoref t ((runLog_n hlog).symm ▸ ht))

end PikaVerif.C07t
