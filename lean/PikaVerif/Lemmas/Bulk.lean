import PikaVerif.Lemmas.BulkStep
/-! The counting invariant of the bulk protocol model: join counter, outcome, signal, exception latch. -/
namespace PikaVerif.Bulk

variable {p p' : St} {k q j : Nat}

theorem step_params {e : Ev} (hs : step p e = some p') : p'.w = p.w ∧ p'.L = p.L ∧ p'.a = p.a := by
  cases step_iff.1 hs <;> exact ⟨rfl, rfl, rfl⟩

def isDecd : Pc → Nat
  | .decd => 1
  | _ => 0

theorem all_of_sumTo_eq {n : Nat} {f : Nat → Nat} (hle : ∀ t, f t ≤ 1) (h : sumTo n f = n) :
    ∀ t, t < n → f t = 1 := by
  induction n with
  | zero => intro t ht; omega
  | succ k ih =>
    simp only [sumTo_succ] at h
    have hk := hle k
    have hs : sumTo k f ≤ k := by
      clear h ih
      induction k with
      | zero => simp
      | succ m ihm => simp only [sumTo_succ]; have := hle m; omega
    intro t ht
    by_cases htk : t = k
    · subst htk; omega
    · exact ih (by omega) t (by omega)

theorem isDecd_le (p : Pc) : isDecd p ≤ 1 := by cases p <;> simp [isDecd]

structure Inv (s : St) : Prop where
  wL : s.L < s.w
  cnt : s.remaining + sumTo s.w (fun k => isDecd (s.pc k)) = s.w
  outside : ∀ k, s.w ≤ k → s.pc k = .idle
  outc : ∀ e, s.outcome = some e → s.remaining = 0 ∧ e = s.excThrown
  outn : s.outcome = none → 0 < s.remaining ∧ s.signals = 0
  sig1 : s.signals ≤ 1
  thr : s.excThrown = true ↔ 0 < s.threw
  finT : ∀ k, s.pc k = .fin true → s.excThrown = true

theorem inv_init (w L : Nat) (a : Nat → Nat) (h : L < w) : Inv (init w L a) := by
  refine ⟨h, ?_, ?_, ?_, ?_, ?_, ?_, ?_⟩ <;> simp [init]
  · rw [sumTo_eq_zero]; intro t _; simp [isDecd]
  · omega

theorem no_active_when_done (s : St) (hi : Inv s) (h0 : s.remaining = 0) :
    ∀ k, k < s.w → s.pc k = .decd := by
  have hc := hi.cnt
  rw [h0, Nat.zero_add] at hc
  intro k hk
  have := all_of_sumTo_eq (fun t => isDecd_le (s.pc t)) hc k hk
  cases hp : s.pc k <;> simp [hp, isDecd] at this
  rfl

set_option hygiene false in
macro "bulk_step" t:term : tactic => `(tactic| (
  simp only [step] at h
  have hdone := no_active_when_done s hi
  obtain ⟨h1,h2,h3,h4,h5,h6,h7,h8⟩ := hi
  repeat' split at h
  all_goals first | (simp at h; done) | skip
  all_goals (
    simp only [Option.some.injEq] at h
    subst h
    have htn : $t < s.w := by grind
    have hle := le_sumTo (f := fun u => isDecd (s.pc u)) htn
    refine ⟨?_, ?_, ?_, ?_, ?_, ?_, ?_, ?_⟩ <;> dsimp only
  )
  all_goals first
    | assumption
    | (rw [sumTo_upd_eq _ _ _ _ _ htn]; grind)
    | (intro u; grind [upd])
    | grind [upd]))

variable {s s' : St}

theorem inv_pc (hi : Inv s) (hk : k < s.w) {x : Pc} (h0 : isDecd (s.pc k) = 0) (hx : isDecd x = 0)
    (hf : x ≠ .fin true) (nx : Nat) (sa : Bool) (qs : Nat → Nat × Nat) (pp : Nat → Nat) :
    Inv { s with pc := upd s.pc k x, next := nx, sawAll := sa, qs := qs, popped := pp } :=
  { hi with
    cnt := by have := sumTo_upd s.w isDecd s.pc k x hk; have := hi.cnt; dsimp only; omega
    outside := fun u hu => by
      dsimp only at hu ⊢
      rw [upd_other _ _ _ _ (show u ≠ k by omega)]; exact hi.outside u hu
    finT := fun u hu => by
      dsimp only at hu ⊢
      by_cases huk : u = k
      · subst huk; rw [upd_same] at hu; exact absurd hu hf
      · rw [upd_other _ _ _ _ huk] at hu; exact hi.finT u hu }

theorem isDecd_offOf {x : Pc} {off : Nat} (h : offOf x = some off) : isDecd x = 0 := by
  cases x <;> simp [offOf] at h <;> rfl

/-- the decrement, after `do_work` (`thr = s.threw`) or unwinding from a later exception -/
theorem inv_dec (hi : Inv s) (hk : k < s.w) (hrem : 1 ≤ s.remaining) (h0 : isDecd (s.pc k) = 0)
    {thr : Nat} (hthr : s.excThrown = true ↔ 0 < thr) :
    Inv { s with pc := upd s.pc k .decd, remaining := s.remaining - 1, threw := thr,
                 outcome := if decide (s.remaining = 1) then some s.excThrown else s.outcome } := by
  have hout : s.outcome = none := by
    cases ho : s.outcome with
    | none => rfl
    | some e => have := (hi.outc e ho).1; omega
  have hcnt := sumTo_upd s.w isDecd s.pc k .decd hk
  have := hi.cnt
  refine ⟨hi.wL, by have : isDecd .decd = 1 := rfl; dsimp only; omega, fun u hu => ?_, fun e he => ?_,
    fun hn => ?_, hi.sig1, hthr, fun u hu => ?_⟩ <;> dsimp only at *
  · rw [upd_other _ _ _ _ (show u ≠ k by omega)]; exact hi.outside u hu
  · rw [hout] at he
    split at he <;> cases he
    exact ⟨by simp_all <;> omega, rfl⟩
  · rw [hout] at hn
    split at hn <;> cases hn
    exact ⟨by simp_all <;> omega, (hi.outn hout).2⟩
  · by_cases huk : u = k
    · subst huk; rw [upd_same] at hu; cases hu
    · rw [upd_other _ _ _ _ huk] at hu; exact hi.finT u hu

theorem step_inv {e : Ev} (hi : Inv s) (h : step s e = some s') : Inv s' := by
  cases step_iff.1 h with
  | spawn hk _ hp => exact inv_pc (x := .spawned) hi hk (by rw [hp]; rfl) rfl nofun ..
  | skip hk _ hp => exact inv_pc (x := .fin false) hi hk (by rw [hp]; rfl) rfl nofun ..
  | task hk hp =>
    exact inv_pc (x := .run 0) hi hk (by rcases hp with ⟨_, _, hp⟩ | ⟨_, hp⟩ <;> rw [hp] <;> rfl) rfl
      nofun ..
  | @popNone _ _ off hk hoff =>
    exact inv_pc (x := afterEmpty s.w off) hi hk (isDecd_offOf hoff) (by unfold afterEmpty; split <;> rfl)
      (by unfold afterEmpty; split <;> nofun) ..
  | @popSome _ _ off j hk hoff => exact inv_pc (x := .work off j) hi hk (isDecd_offOf hoff) rfl nofun ..
  | chunk => exact hi
  | @exc k _ _ hk hex hp =>
    exact { hi with
      cnt := by
        have := sumTo_upd s.w isDecd s.pc k (.fin true) hk; have := hi.cnt
        have : isDecd (s.pc k) = 0 := by rw [hp]; rfl
        have : isDecd (.fin true) = 0 := rfl
        dsimp only; omega
      outside := fun u hu => by
        dsimp only at hu ⊢
        rw [upd_other _ _ _ _ (show u ≠ k by omega)]; exact hi.outside u hu
      outc := fun e he => by
        -- decided means everybody has decremented, but `k` is still at work
        have := no_active_when_done s hi (hi.outc e he).1 k hk; rw [hp] at this; cases this
      thr := by simp
      finT := fun _ _ => rfl }
  | decFin hk hr hp => exact inv_dec hi hk hr (by rw [hp]; rfl) hi.thr
  | decWork hk hr hp hx => exact inv_dec hi hk hr (by rw [hp]; rfl) (by simp [hx])
  | sig ho =>
    exact { hi with outn := fun hn => by rw [ho] at hn; cases hn
                    sig1 := Nat.le_refl 1 }

theorem inv_of_accepted {w L : Nat} {a : Nat → Nat} (hL : L < w) {log : List Ev} {s : St}
    (h : runLog step (init w L a) log = some s) : Inv s :=
  inv_of_runLog Inv (fun _ _ _ hi hs => step_inv hi hs) (inv_init w L a hL) h

end PikaVerif.Bulk
