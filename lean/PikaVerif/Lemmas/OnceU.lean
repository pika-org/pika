import PikaVerif.Lemmas.Once2
import PikaVerif.Core.CvQueue
/-!
# Termination measure of the event / call_once model (C09u)

No accepted event of `PikaVerif.Once.step` leaves the state unchanged (every event moves the
program counter of its thread), but the model has a *spin round*: a caller of `call_once` that
lost the CAS (`status = running`) and finds the event flag still `true` (left by the `set` of an
earlier failed attempt, the re-elected winner has not yet executed `event_.reset()`) goes
`cLoad → cCas → wWant (once) → cLoad` through the three events
`onceLoad t, onceLost t false, evLoad t true` and is back in exactly the same state.  The event
closing the round, the fast-path return `evLoad t true` of `event_.wait()` called from inside
`call_once`, is the only accepted event that does not decrease the measure `mu` below (it raises
it by 2 = the two other events of the round).

`mu` = Σ rank of the pcs + 14 · Σ wake-up tokens.  The rank of the four pcs of `event::wait` from
which the flag is still to be read under the lock (`wLockW wLocked wokeNL relk`) depends on the
current value of the flag: with the flag `true` such a waiter will leave the loop and (inside
`call_once`) go back to the status load, 7 higher.  A `stored true` raises at most `n` waiters by
7 each and is paid by the setter (`sWant → sLockW` drops by `7 n + 1`); `notify_all` creates at
most `n` tokens (`sLocked → sRel` drops by `14 n + 1`).  A caller of `call_once` carries the
price of its own possible `event_.set()` (`21 n + 6`) until it either wins or returns.
-/
namespace PikaVerif.Once

/-- offset of the pcs of `event::wait` by calling context -/
def cOff (n : Nat) : Ctx → Nat
  | .top => 0
  | .once _ => 21 * n + 1

/-- surcharge of a waiter that will read the flag under the lock, by the current flag -/
def hiF (f : Bool) : Nat := if f then 7 else 0

def rank (n : Nat) (f : Bool) : Pc → Nat
  | .fin => 0
  | .idle => 1
  | .retn _ => 2
  | .oWant => 2
  | .rWant => 3
  | .wWant c => cOff n c + 8
  | .wLockW c => cOff n c + 7 + hiF f
  | .wLocked c => cOff n c + 6 + hiF f
  | .wMustEnq c => cOff n c + 5
  | .enq c => cOff n c + 4
  | .unl c _ => cOff n c + 3
  | .susp c _ => cOff n c + 2
  | .wokeNL c _ => cOff n c + 8 + hiF f
  | .relk c _ => cOff n c + 7 + hiF f
  | .wPass c => cOff n c + 12
  | .sWant _ => 21 * n + 6
  | .sLockW _ => 14 * n + 5
  | .sLocked _ => 14 * n + 4
  | .sRel _ => 3
  | .cLoad _ => 21 * n + 11
  | .cCas _ => 21 * n + 10
  | .cReset _ => 21 * n + 9
  | .cBody _ => 21 * n + 8
  | .cRan _ => 21 * n + 7

def tokW (k : Nat) : Nat := 14 * k

def mu (s : St) : Nat :=
  sumTo s.n (fun t => rank s.n s.flag (s.pc t)) + sumTo s.n (fun t => tokW (s.tok t))

theorem rank_flag_le (n : Nat) (f f' : Bool) (p : Pc) : rank n f p ≤ rank n f' p + 7 := by
  cases p <;> cases f <;> cases f' <;> simp [rank, hiF]

theorem rank_false_le (n : Nat) (f : Bool) (p : Pc) : rank n false p ≤ rank n f p := by
  cases p <;> cases f <;> simp [rank, hiF]

theorem rank_sDone (n : Nat) (f : Bool) (c : Ctx) : rank n f (sDone c) = 2 := by
  cases c <;> rfl

theorem rank_wDone (n : Nat) (f : Bool) (c : Ctx) : rank n f (wDone c) ≤ cOff n c + 10 := by
  cases c <;> simp [wDone, rank, cOff]

set_option hygiene false in
macro "mu_step" t:term : tactic => `(tactic| (
  simp only [step] at h
  split at h
  case isFalse => simp at h
  rename_i hg
  have htn : $t < s.n := by grind
  have hle := le_sumTo (f := fun u => rank s.n s.flag (s.pc u)) htn
  have hle2 := le_sumTo (f := fun u => tokW (s.tok u)) htn
  repeat' split at h
  all_goals first | (simp at h; done) | skip
  all_goals (
    simp only [Option.some.injEq] at h
    subst h
    simp only [mu]
    try rw [sumTo_upd_eq _ (rank s.n s.flag) _ _ _ htn]
    try rw [sumTo_upd_eq _ tokW _ _ _ htn]
    grind)))

/-- `mu` under a step of thread `t` that writes neither the flag nor the tokens of the others:
    the thread's rank is exchanged. -/
theorem mu_move {s s' : St} {t : Nat} (htn : t < s.n) {p p' : Pc} (hpc : s.pc t = p) {k : Nat}
    (hn : s'.n = s.n) (hf : s'.flag = s.flag) (hk : s'.tok = upd s.tok t k) (hpc' : s'.pc = upd s.pc t p') :
    mu s' + rank s.n s.flag p + tokW (s.tok t) = mu s + rank s.n s.flag p' + tokW k := by
  have h1 := sumTo_upd s.n (rank s.n s.flag) s.pc t p' htn
  have h2 := sumTo_upd s.n tokW s.tok t k htn
  rw [hpc] at h1
  simp only [mu, hn, hf, hk, hpc']
  omega

/-- the fast-path read of `event::wait`: decreases `mu` except for a `true` read inside
    `call_once` (the loser goes back to the status load), which raises it by exactly 2 -/
theorem mu_evLoad {s s' : St} {t : Nat} {v : Bool} (h : step s (.evLoad t v) = some s') :
    (v = false ∨ s.pc t = .wWant .top → mu s' < mu s) ∧
    (v = true → ∀ thr, s.pc t = .wWant (.once thr) → mu s' = mu s + 2) := by
  cases Step.of h with
  | evLoadF _ c htn hpc hf =>
    exact ⟨fun _ => pot_lt_pc (rank s.n s.flag) tokW htn (by rw [hpc, hf]; simp [rank, hiF]), nofun⟩
  | evLoadT _ c htn hpc hf =>
    have := mu_move (s' := { s with pc := upd s.pc t (wDone c) }) htn hpc rfl rfl (upd_self _ _).symm rfl
    rw [hpc]
    cases c <;> simp [rank, wDone, cOff] at this ⊢ <;> omega

theorem mu_inv {s s' : St} {t : Nat} {o : Op} (h : step s (.inv t o) = some s') :
    mu s' + 1 = mu s + rank s.n false (entry o) := by
  cases Step.of h with
  | inv _ _ htn hpc =>
    have := mu_move (s' := { s with pc := upd s.pc t (entry o), curOp := upd s.curOp t o }) htn hpc rfl rfl
      (upd_self _ _).symm rfl
    cases o <;> simp [rank, entry, cOff] at this ⊢ <;> omega

/-- A store into the flag moves the surcharge `hiF` of every waiter that will read it under the
    lock: at most 7 each, paid by the setter. -/
theorem mu_stored {s s' : St} {t : Nat} {v : Bool} (h : step s (.stored t v) = some s') : mu s' < mu s := by
  have hT := sumTo_le_add (n := s.n) (fun u _ => rank_flag_le s.n true s.flag (s.pc u))
  have hF := sumTo_le_add (f := fun u => rank s.n false (s.pc u)) (g := fun u => rank s.n s.flag (s.pc u))
    (c := 0) (n := s.n) (fun u _ => rank_false_le s.n s.flag (s.pc u))
  cases Step.of h with
  | set _ c htn hpc =>
    have := sumTo_upd s.n (rank s.n true) s.pc t (.sLockW c) htn
    rw [hpc] at this
    have e1 : rank s.n true (.sWant c) = 21 * s.n + 6 := rfl
    have e2 : rank s.n true (.sLockW c) = 14 * s.n + 5 := rfl
    simp only [mu]
    omega
  | reset _ htn hpc =>
    have := sumTo_upd s.n (rank s.n false) s.pc t (.retn 0) htn
    rw [hpc] at this
    have e1 : rank s.n false .rWant = 3 := rfl
    have e2 : rank s.n false (.retn 0) = 2 := rfl
    simp only [mu]
    omega
  | onceReset _ thr htn hpc =>
    have := sumTo_upd s.n (rank s.n false) s.pc t (.cBody thr) htn
    rw [hpc] at this
    have e1 : rank s.n false (.cReset thr) = 21 * s.n + 9 := rfl
    have e2 : rank s.n false (.cBody thr) = 21 * s.n + 8 := rfl
    simp only [mu]
    omega

theorem sum_popd (n m : Nat) (f : Bool) (q : List Nat) (pc : Nat → Pc) :
    sumTo m (fun u => rank n f (if u ∈ q then popd (pc u) else pc u)) = sumTo m (fun u => rank n f (pc u)) := by
  apply sumTo_congr
  intro u _
  split
  · cases pc u <;> rfl
  · rfl

/-- `notify_all` hands out at most one token per thread; the notifier pays for all of them. -/
theorem mu_notifyAll {s s' : St} {t : Nat} {l : List Nat} (h : step s (.notifyAll t l) = some s') :
    mu s' < mu s := by
  cases Step.of h with
  | notifyAll _ c _ htn hpc =>
    have h1 := sumTo_upd s.n (rank s.n s.flag) (fun u => if u ∈ s.queue then popd (s.pc u) else s.pc u) t
      (.sRel c) htn
    have h2 := sumTo_le_add (f := fun u => tokW (if u ∈ s.queue then s.tok u + 1 else s.tok u))
      (g := fun u => tokW (s.tok u)) (c := 14) (n := s.n) (fun u _ => by split <;> simp only [tokW] <;> omega)
    have h3 : rank s.n s.flag (if t ∈ s.queue then popd (s.pc t) else s.pc t) = 14 * s.n + 4 := by
      rw [hpc]; split <;> rfl
    rw [sum_popd, h3] at h1
    simp only [mu, rank] at h1 ⊢
    omega

/-- **Every accepted event other than `inv` and the fast-path return `evLoad _ true` strictly
    decreases `mu`.** -/
theorem mu_step {s s' : St} {e : Ev} (hne : ∀ t o, e ≠ .inv t o) (hns : ∀ t, e ≠ .evLoad t true)
    (h : step s e = some s') : mu s' < mu s := by
  cases Step.of h with
  | inv => exact absurd rfl (hne _ _)
  | evLoadT => exact absurd rfl (hns _)
  | evLoadF => exact (mu_evLoad h).1 (.inl rfl)
  | set | reset | onceReset => exact mu_stored h
  | notifyAll => exact mu_notifyAll h
  | evLoadLT t c htn hpc hf | evLoadLF t c htn hpc hf =>
    exact pot_lt_pc (rank s.n s.flag) tokW htn (by rw [hpc, hf]; simp [rank, hiF])
  | relW t c htn hpc =>
    exact pot_lt_pc (rank s.n s.flag) tokW htn (Nat.lt_of_le_of_lt (rank_wDone s.n s.flag c) (by simp [hpc, rank]))
  | relS t c htn hpc => exact pot_lt_pc (rank s.n s.flag) tokW htn (by rw [rank_sDone, hpc]; simp [rank])
  | woke t c p htn hpc hk =>
    -- the rank rises by at most 13, the token spent was worth 14
    refine pot_lt (rank s.n s.flag) tokW htn ?_
    simp only [hpc, rank, tokW, hiF]
    split <;> omega
  | _ =>
    exact pot_lt_pc (rank s.n s.flag) tokW (by assumption) (by simp only [*, rank, cOff]; omega)

theorem mu_spin {s s' : St} {t : Nat} (h : step s (.evLoad t true) = some s') : mu s' ≤ mu s + 2 := by
  cases Step.of h with
  | evLoadT _ c _ hpc =>
    cases c with
    | top => exact Nat.le_of_lt (Nat.lt_add_right 2 ((mu_evLoad h).1 (.inr hpc)))
    | once thr => exact Nat.le_of_eq ((mu_evLoad h).2 rfl thr hpc)

end PikaVerif.Once
