import PikaVerif.Lemmas.SchedCo
/-! Log-level counters of the coroutine/body layer (functions of the log alone) and their relation to
    the ghost fields `entries` / `exits` of the model. -/
namespace PikaVerif.SchedCo
open PikaVerif.Sched

/-- effect of one event on "thread-function entries of object `o` since its last (re)initialisation" -/
def entF (o : Nat) (n : Nat) : Ev → Nat
  | .base (.new _ o' _) => if o = o' then 0 else n
  | .base (.rebind _ o' _) => if o = o' then 0 else n
  | .coEnter _ o' => if o = o' then n + 1 else n
  | _ => n

/-- … and on "returns of the thread function of `o` since its last (re)initialisation" -/
def exitF (o : Nat) (n : Nat) : Ev → Nat
  | .base (.new _ o' _) => if o = o' then 0 else n
  | .base (.rebind _ o' _) => if o = o' then 0 else n
  | .coReturn _ o' _ => if o = o' then n + 1 else n
  | _ => n

/-- number of `co.enter` of `o` after the last `task.new` / `task.rebind` of `o` in the log -/
def entriesSince (o : Nat) (log : List Ev) : Nat := log.foldl (entF o) 0
/-- number of `co.return` of `o` after the last `task.new` / `task.rebind` of `o` in the log -/
def returnsSince (o : Nat) (log : List Ev) : Nat := log.foldl (exitF o) 0

def isReinit (o : Nat) : Ev → Bool
  | .base (.new _ o' _) => o == o'
  | .base (.rebind _ o' _) => o == o'
  | _ => false

def isEnter (o : Nat) : Ev → Bool
  | .coEnter _ o' => o == o'
  | _ => false

theorem step_entries {s s' : St} {e : Ev} (h : step s e = some s') (o : Nat) :
    (s'.co o).entries = entF o (s.co o).entries e ∧ (s'.co o).exits = exitF o (s.co o).exits e := by
  have keep : ∀ {o' c'}, c'.entries = (s.co o').entries → c'.exits = (s.co o').exits →
      (upd s.co o' c' o).entries = (s.co o).entries ∧ (upd s.co o' c' o).exits = (s.co o).exits :=
    fun h1 h2 => ⟨apply_upd_of_eq Co.entries h1 o, apply_upd_of_eq Co.exits h2 o⟩
  cases e with
  | base e0 =>
    obtain ⟨_, hco⟩ := step_base h
    cases e0 with
    | new a o' w | rebind a o' w =>
      rw [← Option.some.inj hco]
      by_cases ho : o = o' <;> simp [entF, exitF, upd, ho]
    | phaseBegin a o' => rw [← Option.some.inj hco]; exact keep rfl rfl
    | phaseEnd a o' r => obtain ⟨_, hc⟩ := of_ite_some hco; rw [hc]; exact ⟨rfl, rfl⟩
    | bodyEnter a o' | bodyExit a o' => obtain ⟨_, hc⟩ := of_ite_some hco; rw [hc]; exact keep rfl rfl
    | _ => rw [← Option.some.inj hco]; exact ⟨rfl, rfl⟩
  | coEnter a o' =>
    obtain ⟨_, rfl⟩ := of_ite_some h
    by_cases ho : o = o' <;> simp [entF, exitF, upd, ho]
  | coResume a o' => obtain ⟨_, rfl⟩ := of_ite_some h; exact keep rfl rfl
  | coYield a o' r => obtain ⟨_, rfl⟩ := of_ite_some h; exact keep rfl rfl
  | coReturn a o' r =>
    obtain ⟨_, rfl⟩ := of_ite_some h
    by_cases ho : o = o' <;> simp [entF, exitF, upd, ho]

theorem log_entries {log : List Ev} {s s' : St} (h : runLog step s log = some s') (o : Nat) :
    (s'.co o).entries = log.foldl (entF o) (s.co o).entries ∧
    (s'.co o).exits = log.foldl (exitF o) (s.co o).exits := by
  induction log generalizing s with
  | nil => cases h; exact ⟨rfl, rfl⟩
  | cons e es ih =>
    obtain ⟨s1, hs, h1⟩ := runLog_cons_some h
    rw [List.foldl_cons, List.foldl_cons, ← (step_entries hs o).1, ← (step_entries hs o).2]
    exact ih h1 

theorem entF_of_not_reinit {o n : Nat} {e : Ev} (h : isReinit o e = false) :
    entF o n e = n + if isEnter o e = true then 1 else 0 := by
  cases e with
  | base e0 =>
    cases e0 with
    | new a o' w | rebind a o' w =>
      have : o ≠ o' := by simpa [isReinit] using h
      simp [entF, isEnter, this]
    | _ => rfl
  | coEnter a o' => by_cases ho : o = o' <;> simp [entF, isEnter, ho]
  | _ => rfl

theorem foldl_entF_noReinit (o : Nat) (seg : List Ev) : ∀ n, (seg.all (fun e => !isReinit o e)) = true →
    seg.foldl (entF o) n = n + (seg.filter (isEnter o)).length := by
  induction seg with
  | nil => intro n _; rfl
  | cons e es ih =>
    intro n h
    simp only [List.all_cons, Bool.and_eq_true, Bool.not_eq_eq_eq_not, Bool.not_true] at h
    rw [List.foldl_cons, ih _ h.2, entF_of_not_reinit h.1, List.filter_cons]
    split <;> simp <;> omega

end PikaVerif.SchedCo
