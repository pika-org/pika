import PikaVerif.Lemmas.Join
import PikaVerif.Lemmas.JoinStep
/-! The invariant `Inv` of the join model is preserved by every accepted event (`step_inv`).  A task outside
    `join` moves by `Inv.task_move`, which rests on one equation per joiner: its tokens plus its callbacks
    pending on that task are conserved (`Inv.phase_move` is the case where only the phase changes); a joiner
    inside `join` moves by `Inv.joiner_move`, which leaves that sum and what the joiner waits for alone; the sum
    changes, in step with the wait, only where the joiner registers its callback and where it consumes its token.
    Then what follows from `Inv` for any state that satisfies it: `Inv.join_after_body` and the progress theorem
    `join_returns_of_inv`. -/
namespace PikaVerif.Join
attribute [local grind] holdsB waitsB waitsAny wokeB refusedB tgtB namesB isOut started afterBody runCnt cbIs cntL

/-- A move of task `o`, outside `join`, along its life cycle: phase, callback list and `ran` flag change
    together, and its exit loop may turn a pending callback into a token of the joiner.  What every joiner `j`
    sees of `o` is kept: the sum of its tokens and of its callbacks pending on `o` (in the list, or taken out and
    not yet invoked) is the same (`hsum`); tokens only come, and only from an exit loop that has begun (`htok`). -/
theorem Inv.task_move {s : St} (hi : Inv s) {o : Nat} {p' : Phase} {F : List Cb} {R : Bool} {T : Nat → Nat}
    (hout : s.jpc o = .out)
    (hsum : ∀ j, T j + (cntL F j + runCnt p' j) = s.tok j + (cntL (s.funcs o) j + runCnt (s.phase o) j))
    (htok : ∀ j, T j = s.tok j ∨ s.tok j < T j ∧ started p' = true)
    (hst : started (s.phase o) = true → started p' = true)
    (hR : R = true ↔ (p' = .exitedL ∨ p' = .exited)) (hF : R = true → F = [])
    (hmono : s.ran o = true → R = true) (hne : s.phase o ≠ .exited) :
    Inv { s with phase := upd s.phase o p', funcs := upd s.funcs o F, ran := upd s.ran o R, tok := T } := by
  -- a joiner that does not wait for `o` has nothing pending there, so its tokens are unchanged
  have same : ∀ j, waitsB (s.jpc j) o = false → T j = s.tok j := fun j hw => by
    have : ¬ 1 ≤ cntL (s.funcs o) j + runCnt (s.phase o) j := fun h => by rw [hi.cbOwner j o h] at hw; cases hw
    have := hsum j; have := htok j; omega
  have other : ∀ j u, u ≠ o → waitsB (s.jpc j) u = true → T j = s.tok j := fun j u hu hw =>
    same j (Bool.eq_false_iff.mpr fun h => hu (waitsB_inj _ _ _ hw h))
  have at_o : ∀ {P : Nat → Phase → List Cb → Prop}, (∀ u, u ≠ o → P u (s.phase u) (s.funcs u)) → P o p' F →
      ∀ u, P u (upd s.phase o p' u) (upd s.funcs o F u) := fun {P} old new u => by
    by_cases hu : u = o
    · subst hu; rw [upd_same, upd_same]; exact new
    · rw [upd_other _ _ _ _ hu, upd_other _ _ _ _ hu]; exact old u hu
  exact { hi with
    termExited := by have := hi.termExited; grind [upd]
    ranPhase := by have := hi.ranPhase; grind [upd]
    phaseRan := by have := hi.phaseRan; grind [upd]
    ranEmpty := by have := hi.ranEmpty; grind [upd]
    cbOwner := fun j => at_o (P := fun u p f => 1 ≤ cntL f j + runCnt p j → waitsB (s.jpc j) u = true)
      (fun u _ => hi.cbOwner j u) fun h => hi.cbOwner j o (by have := hsum j; have := htok j; omega)
    tokWait := fun j h => by
      cases hw : waitsB (s.jpc j) o
      · exact hi.tokWait j (same j hw ▸ h)
      · exact waitsB_any _ _ hw
    balance := fun j => at_o (P := fun u p f => waitsB (s.jpc j) u = true → T j + (cntL f j + runCnt p j) = 1)
      (fun u hu hw => other j u hu hw ▸ hi.balance j u hw) fun hw => hsum j ▸ hi.balance j o hw
    tokStarted := fun j => at_o (P := fun u p _ => waitsB (s.jpc j) u = true → 1 ≤ T j → started p = true)
      (fun u hu hw ht => hi.tokStarted j u hw (other j u hu hw ▸ ht)) fun hw ht =>
        (htok j).elim (fun h => hst (hi.tokStarted j o hw (h ▸ ht))) And.right
    wokeStarted := by have := hi.wokeStarted; grind [upd]
    refusedDone := by have := hi.refusedDone; grind [upd]
    phaseOut := by have := hi.phaseOut; grind [upd]
    lastJoinOk := by have := hi.lastJoinOk; grind [upd]
    tokLe := fun j => by
      show T j ≤ 1
      cases hw : waitsB (s.jpc j) o
      · exact same j hw ▸ hi.tokLe j
      · have := hi.balance j o hw; have := hsum j; omega
    jpcBody := by have := hi.jpcBody; grind [upd] }

/-- A move of task `o` that changes its phase alone: no callback is taken out of the list or invoked. -/
theorem Inv.phase_move {s : St} (hi : Inv s) {o : Nat} {p' : Phase} (hout : s.jpc o = .out)
    (hrun : ∀ j, runCnt p' j = runCnt (s.phase o) j)
    (hst : started (s.phase o) = true → started p' = true)
    (hex : (p' = .exitedL ∨ p' = .exited) ↔ (s.phase o = .exitedL ∨ s.phase o = .exited))
    (hne : s.phase o ≠ .exited) : Inv { s with phase := upd s.phase o p' } := by
  have := hi.task_move (F := s.funcs o) (R := s.ran o) (T := s.tok) hout (fun j => by rw [hrun]) (fun _ => .inl rfl)
    hst ((Iff.intro (hi.ranPhase o) (hi.phaseRan o)).trans hex.symm) (hi.ranEmpty o) id hne
  simpa using this

theorem Inv.setThread {s : St} (hi : Inv s) {o : Nat} (h : s.isThread o = true ∨ s.term o = false) :
    Inv { s with isThread := upd s.isThread o true } :=
  { hi with
    tgtThread := fun x u => by have := hi.tgtThread x u; by_cases hu : u = o <;> simp_all [upd]
    jTarget := fun x u => by have := hi.jTarget x u; by_cases hu : u = o <;> simp_all [upd]
    termExited := fun u => by have := hi.termExited u; by_cases hu : u = o <;> simp_all [upd] <;> grind }

theorem Inv.setTerm {s : St} (hi : Inv s) {o : Nat}
    (h : (s.isThread o = false ∧ s.phase o = .fresh) ∨ s.phase o = .exited) :
    Inv { s with term := upd s.term o true } :=
  { hi with
    termExited := fun u => by have := hi.termExited u; by_cases hu : u = o <;> simp_all [upd] <;> grind
    refusedDone := fun j u => by have := hi.refusedDone j u; by_cases hu : u = o <;> simp_all [upd] }

/-- A move of joiner `j` inside `join` that leaves its tokens alone and does not change what it waits
    for; the handle locks, the handle ids and the record of the last join may change with it. -/
theorem Inv.joiner_move {s : St} (hi : Inv s) {j : Nat} {q' : JPc} {M : Nat → Option Nat}
    {L : Nat → Option (Nat × Nat)} {H : Nat → Option Nat}
    (hw : waitsB q' = waitsB (s.jpc j)) (hwa : waitsAny q' = waitsAny (s.jpc j))
    (hM : ∀ h u, u ≠ j → (M h = some u ↔ s.mtx h = some u))
    (hMj : ∀ h, M h = some j ↔ holdsB q' h = true)
    (htgt : ∀ o, tgtB q' o = true → s.isThread o = true)
    (hwoke : ∀ o, wokeB q' o = true → started (s.phase o) = true)
    (href : ∀ o, refusedB q' o = true → s.ran o = true ∨ s.term o = true)
    (hbody : isOut q' = false → s.phase j = .body)
    (hself : namesB q' j = false)
    (hlast : ∀ u h o, L u = some (h, o) → started (s.phase o) = true)
    (hhid : ∀ h o, H h = some o → s.isThread o = true) :
    Inv { s with jpc := upd s.jpc j q', lastJoin := L, hid := H, mtx := M } := by
  -- every clause speaks of one joiner `u`: for `u = j` it is a hypothesis, otherwise the old clause
  have at_j : ∀ {P : Nat → JPc → Prop}, (∀ u, u ≠ j → P u (s.jpc u)) → P j q' → ∀ u, P u (upd s.jpc j q' u) :=
    fun {P} old new u => by
      by_cases hu : u = j
      · subst hu; rw [upd_same]; exact new
      · rw [upd_other _ _ _ _ hu]; exact old u hu
  exact { hi with
    mtxHolder := fun h => at_j (P := fun u q => M h = some u → holdsB q h = true)
      (fun u hu hm => hi.mtxHolder h u ((hM h u hu).mp hm)) (hMj h).mp
    holdsMtx := fun u h => at_j (P := fun u q => holdsB q h = true → M h = some u)
      (fun u hu hh => (hM h u hu).mpr (hi.holdsMtx u h hh)) (hMj h).mpr u
    tgtThread := hhid
    jTarget := fun u o => at_j (P := fun _ q => tgtB q o = true → s.isThread o = true)
      (fun u _ => hi.jTarget u o) (htgt o) u
    cbOwner := fun u o => at_j (P := fun u q => 1 ≤ cntL (s.funcs o) u + runCnt (s.phase o) u → waitsB q o = true)
      (fun u _ => hi.cbOwner u o) (hw ▸ hi.cbOwner j o) u
    tokWait := at_j (P := fun u q => 1 ≤ s.tok u → waitsAny q = true) (fun u _ => hi.tokWait u) (hwa ▸ hi.tokWait j)
    balance := fun u o => at_j
      (P := fun u q => waitsB q o = true → s.tok u + (cntL (s.funcs o) u + runCnt (s.phase o) u) = 1)
      (fun u _ => hi.balance u o) (hw ▸ hi.balance j o) u
    tokStarted := fun u o => at_j (P := fun u q => waitsB q o = true → 1 ≤ s.tok u → started (s.phase o) = true)
      (fun u _ => hi.tokStarted u o) (hw ▸ hi.tokStarted j o) u
    wokeStarted := fun u o => at_j (P := fun _ q => wokeB q o = true → started (s.phase o) = true)
      (fun u _ => hi.wokeStarted u o) (hwoke o) u
    refusedDone := fun u o => at_j (P := fun _ q => refusedB q o = true → s.ran o = true ∨ s.term o = true)
      (fun u _ => hi.refusedDone u o) (href o) u
    phaseOut := at_j (P := fun u q => afterBody (s.phase u) = true → q = .out) (fun u _ => hi.phaseOut u)
      (fun ha => by
        cases hq : q' with
        | out => rfl
        | _ => rw [hbody (by rw [hq]; rfl)] at ha; cases ha)
    lastJoinOk := hlast
    jpcBody := at_j (P := fun u q => isOut q = false → s.phase u = .body) (fun u _ => hi.jpcBody u) hbody
    selfFree := at_j (P := fun u q => namesB q u = false) (fun u _ => hi.selfFree u) hself }

theorem step_inv (s s' : St) (e : Ev) (hi : Inv s) (h : step s e = some s') : Inv s' := by
  cases Step.of_step h with
  | bodyDoneAgain | joinable | ipRefuse | ipMiss | dtorOk | jtSkip => exact hi
  | ipEnable | ipReq | jtDtor | jtStop | jtJoined | mvTerm => exact { hi with }
  | detach | mvCtor | mvAssign | swap | dtorTerm =>
    exact { hi with tgtThread := fun x o hx => by have := hi.tgtThread; grind [upd] }
  | @jnLock x j hp | @jnErr x j _ hp | @jnUnlock x j _ hp | @jnDoneRefused x j _ hp | @jnDoneWoke x j _ hp =>
    exact { hi.joiner_move (j := j) (by rw [hp]; rfl) (by rw [hp]; rfl)
      (fun h u hu => by by_cases hh : h = x <;> simp_all [upd] <;> omega)
      (fun h => by have := hi.mtxHolder h j; have := hi.holdsMtx j h; by_cases hh : h = x <;> simp_all [upd] <;> grind)
      (fun o ho => by have := hi.jTarget j o; simp_all)
      (fun o ho => by simp at ho)
      (fun o ho => by simp at ho)
      (fun hq => by have := hi.jpcBody j; simp_all)
      (by have := hi.selfFree j; simp_all)
      (fun u h o hl => by
        have := hi.lastJoinOk u h o; have := hi.refusedStarted j o; have := hi.wokeStarted j o
        by_cases hu : u = j <;> simp_all [upd])
      (fun h o hh => by have := hi.tgtThread h o; by_cases hx : h = x <;> simp_all [upd]) with }
  | @jnChecked x j _ hp | @jnSusp x j _ hp | @uadd _ j _ hp | @ecAddJoinRefused _ j _ _ _ hp
  | @ecAddUserRefused _ j _ _ hp | @ipMissJoin j _ _ hp =>
    exact { hi.joiner_move (j := j) (by rw [hp]; rfl) (by rw [hp]; rfl)
      (fun _ _ _ => Iff.rfl)
      (fun h => by have := hi.mtxHolder h j; have := hi.holdsMtx j h; simp_all <;> grind)
      (fun o ho => by have := hi.jTarget j o; have := hi.tgtThread; simp_all <;> grind)
      (fun o ho => by simp at ho)
      (fun o ho => by simp_all)
      (fun hq => by have := hi.jpcBody j; simp_all)
      (by have := hi.selfFree j; simp_all)
      hi.lastJoinOk hi.tgtThread with }
  | body hp ht hout =>
    exact (hi.phase_move hout (by simp [hp]) (by simp [hp]) (by simp [hp]) (by simp [hp])).setThread (.inr ht)
  | bodyDone hout hp | interrupted hp hout | ipHit _ _ hp hout =>
    exact { hi.phase_move hout (by simp [hp]) (by simp [hp]) (by simp [hp]) (by simp [hp]) with }
  | @exited o hp | @ecBegin o _ hp | @ecNext o _ hp | @ucb o _ hp | @ipClear o hp =>
    -- past the thread function a task is outside `join`
    have hout := hi.phaseOut o (by simp [hp])
    exact { hi.phase_move hout (by simp [hp]) (by simp [hp]) (by simp [hp]) (by simp [hp]) with }
  | @start x o _ _ ht =>
    exact { hi.setThread (ht.imp_right And.right) with
      tgtThread := fun y u => by
        have := hi.tgtThread y u; by_cases hu : u = o <;> by_cases hy : y = x <;> simp_all [upd] }
  | @ipHitJoin o x _ _ _ hb hp hm =>
    -- the exception first leaves `join` (the lock is released, nothing was registered), then the task is `hit`
    have h1 := hi.joiner_move (j := o) (q' := .out) (M := upd s.mtx x none) (by rw [hp]; rfl) (by rw [hp]; rfl)
      (fun h u hu => by by_cases hh : h = x <;> simp_all [upd] <;> omega)
      (fun h => by have := hi.mtxHolder h o; by_cases hh : h = x <;> simp_all [upd] <;> grind)
      (fun o ho => by simp at ho) (fun o ho => by simp at ho) (fun o ho => by simp at ho)
      (fun hq => by simp at hq) (by simp) hi.lastJoinOk hi.tgtThread
    exact h1.phase_move (upd_same ..) (by simp [hb]) (by simp [hb]) (by simp [hb]) (by simp [hb])
  | term hg => exact hi.setTerm hg
  | @ecTake o _ c rest hp hf =>
    -- the callback leaves the list and is the one about to be invoked
    have := hi.task_move (p' := .run c) (F := rest) (R := s.ran o) (T := s.tok) (hi.phaseOut o (by simp [hp]))
      (fun j => by simp [hp, hf]; omega) (fun _ => .inl rfl) (fun _ => rfl)
      (by have := hi.ranPhase o; simp_all) (by have := hi.ranPhase o; simp_all) id (by simp [hp])
    simpa using this
  | @ecRan o hp hf =>
    have := hi.task_move (p' := .exitedL) (F := s.funcs o) (R := true) (T := s.tok) (hi.phaseOut o (by simp [hp]))
      (fun j => by simp [hp]) (fun _ => .inl rfl) (fun _ => rfl) (by simp) (fun _ => hf) (fun _ => rfl) (by simp [hp])
    simpa using this
  | @resume j r hp _ =>
    -- the callback invoked becomes the joiner's token
    have := hi.task_move (p' := .ranCb) (F := s.funcs r) (R := s.ran r) (T := upd s.tok j (s.tok j + 1))
      (hi.phaseOut r (by simp [hp])) (fun u => by by_cases hu : u = j <;> simp [hp, hu, upd] <;> omega)
      (fun u => by by_cases hu : u = j <;> simp [hu, upd]) (fun _ => rfl)
      (by have := hi.ranPhase r; simp_all) (hi.ranEmpty r) id (by simp [hp])
    simpa using this
  | ecAddJoin | ecAddUser | jnWoke =>
    -- the joiner's own step changes what is pending for it: its callback, or a user callback, is registered,
    -- its token is consumed; each clause from the old clauses named, by cases on which task is meant
    exact { hi with
      mtxHolder := by have := hi.mtxHolder; grind [upd]
      holdsMtx := by have := hi.holdsMtx; grind [upd]
      jTarget := by have := hi.jTarget; grind [upd]
      ranEmpty := by have := hi.ranEmpty; grind [upd]
      cbOwner := by have := hi.cbOwner; have := hi.balance; grind [upd]
      tokWait := by have := hi.tokWait; have := hi.tokLe; grind [upd]
      balance := by have := hi.balance; have := hi.cbOwner; have := hi.tokWait; grind [upd]
      tokStarted := by have := hi.tokStarted; have := hi.tokWait; grind [upd]
      wokeStarted := by have := hi.wokeStarted; have := hi.tokStarted; grind [upd]
      refusedDone := by have := hi.refusedDone; grind [upd]
      phaseOut := by have := hi.phaseOut; grind [upd]
      tokLe := by have := hi.tokLe; grind [upd]
      jpcBody := by have := hi.jpcBody; grind [upd]
      selfFree := by have := hi.selfFree; grind [upd] }

theorem inv_of_accepted {log : List Ev} {s : St} (h : runLog step init log = some s) : Inv s :=
  inv_of_runLog Inv (fun s e s' => step_inv s s' e) inv_init h

/-! Consequences of the invariant, for any state that satisfies it (reachable in this model or in an
    extension of it, such as `JoinCatch`). -/

/-- `join` completes only on a target whose exit callbacks have begun: on the suspended path the
    joiner was woken by the target's exit loop, on the refused path the target was already done. -/
theorem Inv.join_after_body {s s' : St} (hi : Inv s) {h j : Nat} (hs : step s (.jnDone h j) = some s') :
    ∃ o, (s.jpc j = .refused h o ∨ s.jpc j = .woke h o) ∧ started (s.phase o) = true ∧
      afterBody (s.phase o) = true ∧ s'.lastJoin j = some (h, o) := by
  cases Step.of_step hs with
  | @jnDoneRefused _ _ o hp =>
    have hst := hi.refusedStarted j o (by simp [hp])
    exact ⟨o, .inl hp, hst, started_afterBody _ hst, upd_same ..⟩
  | @jnDoneWoke _ _ o hp =>
    have hst := hi.wokeStarted j o (by simp [hp])
    exact ⟨o, .inr hp, hst, started_afterBody _ hst, upd_same ..⟩

/-- The events that continue an operation in progress; all others are the environment's choice (a task
    starting an operation, the thread function ending, `terminated` stored, interruption requests, handle
    operations).  `C13.External` (Props/C13.lean) lists the complement: an event added to the model goes into
    one of the two lists (`C13_join_returns` and `C13j_join_returns` check, by cases on the event, that they
    are complementary). -/
def Continues (s : St) : Ev → Prop
  | .interrupted _ | .exited _ | .jnErr _ _ _ | .jnChecked _ _ _ | .jnUnlock _ _ | .jnSusp _ _ | .jnWoke _ _
  | .jnDone _ _ | .ecAdd _ _ _ | .ecBegin _ _ | .ecTake _ _ | .ecNext _ _ | .ecRan _ | .resume _ _ | .ucb _ _ _
  | .ipClear _ => True
  | .ipHit o _ | .ipMiss o => s.jpc o ≠ .out
  | _ => False

/-- **Progress** (the statement of `C13_join_returns`, for any state satisfying the invariant: reachable in
    `Join` or in `JoinCatch`, where user code may have handled interruptions): if no continuing event is
    accepted, every task is outside `join` or suspended without a token on a target still in its thread
    function, and no task is in the middle of its exit or of an interruption. -/
theorem join_returns_of_inv (s : St) (hi : Inv s) (hs : ∀ e, Continues s e → step s e = none) :
    (∀ j, s.jpc j = .out ∨ ∃ h o, s.jpc j = .susp h o ∧ s.tok j = 0 ∧
        (s.phase o = .fresh ∨ s.phase o = .body)) ∧
    (∀ o, s.phase o = .fresh ∨ s.phase o = .body ∨ s.phase o = .exited) := by
  have en : ∀ {P : Prop} e, Continues s e → step s e ≠ none → P := fun e h1 h2 => (h2 (hs e h1)).elim
  have hph : ∀ o, s.phase o = .fresh ∨ s.phase o = .body ∨ s.phase o = .exited := by
    intro o
    cases hp : s.phase o
    case fresh | body | exited => simp
    case hit => exact en (.ipClear o) trivial (by simp [step, hp])
    case unwinding =>
      have := hi.phaseOut o (by simp [hp])
      exact en (.interrupted o) trivial (by simp [step, hp, this])
    case finished =>
      exact en (.ecBegin o (s.funcs o).length) trivial (by simp [step, hp])
    case loopHead =>
      cases hf : s.funcs o with
      | nil => exact en (.ecRan o) trivial (by simp [step, hp, hf])
      | cons c rest => exact en (.ecTake o rest.length) trivial (by simp [step, hp, hf])
    case run c =>
      cases c with
      | join j =>
        have hw := hi.cbOwner j o (by simp [hp])
        have hne : j ≠ o := by
          intro he; subst he
          have := hi.phaseOut j (by simp [hp]); rw [this] at hw; simp at hw
        exact en (.resume j o) trivial (by simp [step, hp, hne])
      | user k => exact en (.ucb o o k) trivial (by simp [step, hp])
    case ranCb => exact en (.ecNext o (s.funcs o).length) trivial (by simp [step, hp])
    case exitedL => exact en (.exited o) trivial (by simp [step, hp])
  refine ⟨?_, hph⟩
  intro j
  -- no handle lock is held in a stuck state
  have free : ∀ h, s.mtx h = none := by
    intro h
    cases hm : s.mtx h with
    | none => rfl
    | some r =>
      exfalso
      have hh := hi.mtxHolder h r hm
      cases hp : s.jpc r <;> simp [hp] at hh
      case locked h' =>
        subst hh
        cases hid : s.hid h' with
        | none => exact en (.jnErr h' r 1) trivial (by simp [step, hp, hm, hid])
        | some o =>
          by_cases ho : o = r
          · subst ho; exact en (.jnErr h' o 2) trivial (by simp [step, hp, hm, hid])
          · exact en (.jnChecked h' r o) trivial (by simp [step, hp, hm, hid, ho])
      case checked h' o =>
        subst hh
        by_cases hq : s.en r = true ∧ s.req r = true
        · have hb : s.phase r = .body := hi.jpcBody r (by simp [hp])
          exact en (.ipHit r true) (by simp [Continues, hp]) (by simp [step, hp, hm, hq, hb])
        · exact en (.ipMiss r) (by simp [Continues, hp]) (by simp [step, hp, hq])
      case pointed h' o =>
        subst hh
        have hne : o ≠ r := by
          have := hi.selfFree r; rw [hp] at this; simpa using this
        exact en (.ecAdd o r (if s.ran o then 0 else if s.term o then 2 else 1)) trivial
          (by simp only [step, hp]; simp [hne]; split <;> (try split) <;> simp)
      case added h' o =>
        subst hh
        exact en (.jnUnlock h' r) trivial (by simp [step, hp, hm])
      case refused h' o =>
        subst hh
        exact en (.jnDone h' r) trivial (by simp [step, hp, hm])
  have holding : ∀ {P : Prop} h, holdsB (s.jpc j) h = true → P := fun h hh => by
    have := hi.holdsMtx j h hh; rw [free h] at this; cases this
  cases hp : s.jpc j
  case out => exact Or.inl rfl
  case locked h | checked h _ | pointed h _ | added h _ | refused h _ => exact holding h (by simp [hp])
  case window h o => exact en (.jnSusp h j) trivial (by simp [step, hp])
  case woke h o => exact en (.jnDone h j) trivial (by simp [step, hp, free h])
  case uadd o k =>
    have hne : o ≠ j := by
      have := hi.selfFree j; rw [hp] at this; simpa using this
    exact en (.ecAdd o j (if s.ran o then 0 else if s.term o then 2 else 1)) trivial
      (by simp only [step, hp]; simp [hne]; split <;> (try split) <;> simp)
  case susp h o =>
    by_cases ht : 0 < s.tok j
    · exact en (.jnWoke h j) trivial (by simp [step, hp, ht])
    · refine Or.inr ⟨h, o, rfl, by omega, ?_⟩
      have hb := hi.balance j o (by simp [hp])
      rcases hph o with h1 | h1 | h1
      · exact Or.inl h1
      · exact Or.inr h1
      · exfalso
        have hr' := hi.phaseRan o (Or.inr h1)
        have he := hi.ranEmpty o hr'
        rw [he, h1] at hb
        simp at hb
        omega

end PikaVerif.Join
