import PikaVerif.Lemmas.Rw4
/-!
Termination measure of the async_rw_mutex model.

`mu s` = remaining work of the requested accesses (`accRank`) + one exchange per shared state whose
`done()` has not exchanged the head yet (`dnRank`) + the destruction of the mutex + the destruction
of the value.  Every accepted event `e` satisfies `mu s' + cost e ≤ mu s + gain e`
(`mu_step`): `gain` is positive only for the operations a program invokes that create work
(`req`, `copy`; `write`/`readv` pay for themselves), `cost` is 1 for every event except a *CAS
retry* (`cas` failing while the queue is still open), which leaves `mu` unchanged.  Summed over a log
(`runLog_mu`), and for a client layer whose steps pay for the work they create out of a budget
(`runLog_client`: the programs of `RwProg.lean` and `RwThreads.lean`).
-/
namespace PikaVerif.Rw

/-- remaining events of one access: start, load, CAS, continuation, one release per wrapper copy -/
def accRank : Acc → Nat
  | .none => 0
  | .sender => 5
  | .starting _ _ => 4
  | .loaded _ _ _ => 3
  | .queued _ => 2
  | .granted c => c + 1
  | .released => 0

/-- the exchange of `done()` is still to come -/
def dnRank : Dn → Nat
  | .idle => 1
  | .pend _ => 1
  | .drain _ _ => 0

def b2n (b : Bool) : Nat := if b then 1 else 0

def mu (s : St) : Nat :=
  sumTo s.na (fun a => accRank (s.acc a)) + sumTo s.ng (fun g => dnRank (s.dn g)) +
    b2n s.alive + b2n (!s.vfreed)

theorem mu_init : mu init = 2 := by simp [mu, init, b2n]

/-- a CAS that fails while the queue is open (the head moved, or the weak CAS failed spuriously):
    the loop of `add_op_state` goes round once more -/
def isRetry : Ev → Bool
  | .cas _ _ false cls _ _ => cls != 2
  | _ => false

/-- work created by an operation of the program, in events still to come, itself included: a request
    accounts for 7 (request, start, load, CAS, exchange of the group, continuation, release), a wrapper
    copy for 2 (copy, release), a read / modification of the value for itself -/
def gain : Ev → Nat
  | .req .. => 7
  | .copy .. => 2
  | .write .. => 1
  | .readv .. => 1
  | _ => 0

def cost (e : Ev) : Nat := if isRetry e then 0 else 1

theorem clsOf_ne_two (q : List Nat) : (clsOf q != 2) = true := by
  unfold clsOf; split <;> rfl

/-- `~shared_state` enters `done()` of the next group, which has not been called before -/
theorem dn_next_idle {s : St} (hi : Inv s) {g : Nat} (h1 : s.rc g = 1) (h2 : g + 1 < s.ng) :
    s.dn (g + 1) = .idle := by
  refine (hi.dnIdle (g + 1) h2).2 ⟨Nat.succ_pos g, ?_⟩
  cases hd : s.dead g with
  | false => exact hd
  | true => have := (hi.deadRc g (by omega)).1 hd; omega

/-- the frame `decRc` opens replaces one that was still to be opened -/
theorem decRc_dnRank (s : St) (t g : Nat)
    (h : s.rc g = 1 → g + 1 < s.ng → s.dn (g + 1) = .idle) (x : Nat) :
    dnRank ((decRc s t g).dn x) = dnRank (s.dn x) := by
  by_cases hx : x = g + 1
  · subst hx; unfold decRc; split
    · split
      · simp only [upd_same, h ‹_› ‹_›, dnRank]
      · rfl
    · rfl
  · rw [decRc_dn s t hx]

theorem mu_decRc (s : St) (t g : Nat) (h : s.rc g = 1 → g + 1 < s.ng → s.dn (g + 1) = .idle) :
    mu (decRc s t g) = mu s := by
  simp only [mu, decRc_fields, decRc_dnRank s t g h]

theorem mu_grant (s : St) (t a : Nat) (det : Bool) (ha : a < s.na)
    (h : s.rc (s.grp a) = 1 → s.grp a + 1 < s.ng → s.dn (s.grp a + 1) = .idle) :
    mu (grant s t a det) + accRank (s.acc a) ≤ mu s + 1 := by
  have := sumTo_upd s.na accRank s.acc a (if det then .released else .granted 0) ha
  cases det
  · simp only [mu, grant, accRank, Bool.false_eq_true, if_false] at this ⊢; omega
  · simp only [grant, if_true]
    rw [mu_decRc]
    · simp only [mu, accRank, if_true] at this ⊢; omega
    · exact h

theorem accRank_relAcc (c : Nat) : accRank (relAcc c) = c := by
  cases c <;> rfl

/-- **Every accepted event pays for itself**, except the operations of the program that create
    work (`gain`) and the CAS retry (`cost = 0`). -/
theorem mu_step (s s' : St) (e : Ev) (hi : Inv s) (h : step s e = some s') :
    mu s' + cost e ≤ mu s + gain e := by
  have new := sumTo_upd_ge s.na accRank s.acc s.na .sender (Nat.le_refl _)
  obtain h := Step.of_step h
  cases h <;> simp only [cost, isRetry, gain, clsOf_ne_two, bne_self_eq_false, Bool.false_eq_true,
    if_false, if_true]
  case reqFirst t w _ _ h0 =>
    have := sumTo_upd_ge s.ng dnRank s.dn s.ng (.pend t) (Nat.le_refl _)
    simp only [mu, newGroup, sumTo_succ, upd_same, h0, if_true, new] at this ⊢
    simp only [accRank, dnRank] at this ⊢; omega
  case reqNew t w _ _ h0 =>
    have h1 : ¬ s.ng = 0 := by omega
    have := sumTo_upd_ge s.ng dnRank s.dn s.ng .idle (Nat.le_refl _)
    rw [mu_decRc]
    · simp only [mu, newGroup, sumTo_succ, upd_same, h1, if_false, new] at this ⊢
      simp only [accRank, dnRank] at this ⊢; omega
    · intro _ _
      simp only [newGroup, Nat.sub_add_cancel h0, upd_same, h1, if_false]
  case reqSame =>
    simp only [mu, sumTo_succ, upd_same, new]; simp only [accRank]; omega
  case destroy hal _ =>
    rw [mu_decRc]
    · simp only [mu, hal, b2n, if_true, Bool.false_eq_true, if_false]; omega
    · exact dn_next_idle hi
  case destroyEmpty hal _ =>
    simp only [mu, hal, b2n, if_true, Bool.false_eq_true, if_false]; omega
  case start hx | loadOpen hx _ | casPush hx _ | casRetry hx _ | copy hx _ =>
    obtain ⟨l, e⟩ := sum_acc_upd hi accRank hx nofun
    simp only [mu, e]; simp only [accRank] at l ⊢; omega
  case loadDone t a det hx _ =>
    have := mu_grant s t a det (lt_of_acc hi (hx ▸ nofun)) (dn_next_idle hi)
    simp only [hx, accRank] at this; omega
  case casDone t a _ det hx _ =>
    have := mu_grant s t a det (lt_of_acc hi (hx ▸ nofun)) (dn_next_idle hi)
    simp only [hx, accRank] at this; omega
  case xchg t g q hd _ hg =>
    have := sumTo_upd s.ng dnRank s.dn g (.drain t q) hg
    simp only [mu, hd, dnRank] at this ⊢; omega
  case cont t g a rest det hd hx hga =>
    have hg : g < s.ng := hga ▸ hi.grpLt a (lt_of_acc hi (hx ▸ nofun))
    have h0 := sumTo_upd s.ng dnRank s.dn g (.drain t rest) hg
    have := mu_grant { s with dn := upd s.dn g (.drain t rest) } t a det (lt_of_acc hi (hx ▸ nofun))
      (fun h1 h2 => (upd_other _ _ _ _ (hga ▸ Nat.succ_ne_self _)).trans (dn_next_idle hi h1 h2))
    simp only [mu, hx, hd, accRank, dnRank] at this h0 ⊢; omega
  case rel t a c hx =>
    obtain ⟨l, e⟩ := sum_acc_upd hi accRank hx nofun
    rw [mu_decRc]
    · simp only [mu, e, accRank_relAcc]; simp only [accRank] at l ⊢; omega
    · exact dn_next_idle hi
  case write => simp only [mu]; omega
  case readv => omega
  case vfree hv =>
    simp only [mu, hv, b2n, Bool.not_false, Bool.not_true, if_true, Bool.false_eq_true, if_false]; omega

/-- what a CAS retry does: nothing but refresh the expected value of the retrying thread -/
theorem Step.retry {s s' : St} {e : Ev} (h : Step s e s') (hr : isRetry e = true) :
    ∃ t a det h0 q, e = .cas t a false (clsOf q) false false ∧ s.acc a = .loaded t det h0 ∧
      s.head (s.grp a) = some q ∧ s' = { s with acc := upd s.acc a (.loaded t det q.length) } := by
  cases h <;> first | exact ⟨_, _, _, _, _, rfl, ‹_›, ‹_›, rfl⟩ | cases hr

/-! ## Accounting over logs -/

def gains : List Ev → Nat
  | [] => 0
  | e :: es => gain e + gains es

def retries : List Ev → Nat
  | [] => 0
  | e :: es => (if isRetry e then 1 else 0) + retries es

theorem costs_retries (log : List Ev) : (log.map cost).sum + retries log = log.length := by
  induction log with
  | nil => rfl
  | cons e es ih =>
    simp only [List.map_cons, List.sum_cons, retries, cost, List.length_cons]
    split <;> omega

theorem runLog_mu {log : List Ev} {s s' : St} (hi : Inv s) (h : runLog step s log = some s') :
    mu s' + (log.map cost).sum ≤ mu s + gains log :=
  runLog_balance Inv mu (fun l => (l.map cost).sum) gains rfl rfl (fun s e s' => step_inv s s' e)
    (fun s e s' es hi hs => by
      have := mu_step s s' e hi hs
      simp only [List.map_cons, List.sum_cons, gains]; omega) hi h

/-- A client layer over the model - states `σ` that project to model states, every step a model
    step that pays for the work it creates out of a budget - has `mu + budget` as a potential. -/
theorem runLog_client {σ : Type} {cstep : σ → Ev → Option σ} (st : σ → St) (budget : σ → Nat)
    (hspec : ∀ p e p', cstep p e = some p' →
      step (st p) e = some (st p') ∧ budget p' + gain e = budget p)
    {p p' : σ} {log : List Ev} (hi : Inv (st p)) (h : runLog cstep p log = some p') :
    mu (st p') + budget p' + (log.map cost).sum ≤ mu (st p) + budget p :=
  runLog_measure (fun p => Inv (st p)) (fun p => mu (st p) + budget p) cost
    (fun p e p' hi h => step_inv _ _ e hi (hspec p e p' h).1)
    (fun p e p' hi h => by
      have := mu_step _ _ e hi (hspec p e p' h).1
      have := (hspec p e p' h).2
      omega) hi h

end PikaVerif.Rw
