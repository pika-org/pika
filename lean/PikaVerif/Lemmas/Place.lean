import PikaVerif.Model.Place
import PikaVerif.Core.Run
/-! Invariants of the placement model `Place` (C10).

Every invariant is a statement about one object (a task, an actor) read against the pools, actors
and operations of the state; a staged entry is read as the task it becomes (`Entry.task`).  An event
writes at most one object of each kind, and what the other objects read only grows (`Ext`), so
preservation is: the written objects satisfy their statement, the others keep theirs by `TaskInv.mono`. -/
namespace PikaVerif.Place

/-- the pool can neither steal nor redirect, and every worker has its own high priority queue -/
def PinnedP (P : Pool) : Prop :=
  P.known = true ∧ P.steal = false ∧ P.elastic = false ∧ P.opq = false ∧ (P.prioQ = true → P.nhp = P.n)

/-- the worker a creation hint names on pool `P` -/
def pinTarget (P : Pool) (hint : Option Int) : Option Nat :=
  match hint with
  | some v => (match hintNum v with | some m => some (m % P.n) | none => none)
  | none => none

/-! ## The placement function -/

theorem hintNum_nat (n : Nat) : hintNum (n : Int) = some n := by
  unfold hintNum
  have h1 : ¬ ((n : Int) = -1) := by omega
  have h2 : ¬ ((n : Int) < 0) := by omega
  simp [h1, h2]

theorem okIdx_spec {P : Pool} {mode : Nat} {v : Int} {idx : Nat} (h : okIdx P mode v idx = true) :
    idx < P.n ∧ (P.elastic = false → ∀ i, pickIdx P.n mode v = some i → idx = i) := by
  unfold okIdx at h
  simp only [Bool.and_eq_true, Bool.or_eq_true, decide_eq_true_eq] at h
  refine ⟨h.1, ?_⟩
  intro he i hp
  rcases h.2 with h2 | h2
  · simp [he] at h2
  · rw [hp] at h2; simpa using h2

theorem pin_none {P : Pool} {h : Nat} : pinTarget P none ≠ some h := by simp [pinTarget]

theorem pin_mod {P : Pool} {hint : Option Int} {h : Nat} (hp : pinTarget P hint = some h) : h % P.n = h := by
  unfold pinTarget at hp
  split at hp
  · split at hp
    · simp only [Option.some.injEq] at hp; subst hp; exact Nat.mod_mod _ _
    · simp at hp
  · simp at hp

theorem pick_nat (n w : Nat) : pickIdx n 1 (w : Int) = some (w % n) := by
  simp [pickIdx, hintNum_nat]

theorem pick_mode {n mode : Nat} {v : Int} {i : Nat} (h : pickIdx n mode v = some i) : mode = 1 := by
  unfold pickIdx at h
  split at h
  · assumption
  · simp at h

theorem pick_of_pin {P : Pool} {mode : Nat} {v : Int} {h : Nat}
    (hp : pinTarget P (if mode = 1 then some v else none) = some h) : pickIdx P.n mode v = some h := by
  by_cases hm : mode = 1
  · rw [if_pos hm] at hp
    unfold pinTarget at hp
    unfold pickIdx
    rw [if_pos hm]
    exact hp
  · rw [if_neg hm] at hp
    exact absurd hp pin_none

theorem pick_hint {P : Pool} {hint : Option Int} {h mode : Nat} {v : Int} (hp : pinTarget P hint = some h)
    (hm : mode = 1) (hv : v = (h : Int)) : pickIdx P.n mode v = some h := by
  rw [hm, hv, pick_nat, pin_mod hp]

theorem storedPrio_normal {q : Bool} {prio : Nat} (h : storedPrio q prio = pNormal) :
    q = true → prio = pNormal ∨ prio = pBoost := by
  intro hq
  unfold storedPrio at h
  split at h
  · rename_i hb; exact .inr hb.2
  · exact .inl h

/-- On a pinned pool a placement with a hint that picks worker `h`, at priority normal or boost,
    goes to a normal or high queue of index `h`. -/
theorem place_idx {P : Pool} (hP : PinnedP P) {prio mode : Nat} {v : Int} {idx h : Nat}
    (hok : okIdx P mode v idx = true) (hpick : pickIdx P.n mode v = some h)
    (hprio : P.prioQ = true → prio = pNormal ∨ prio = pBoost) :
    idxOf P (classOf P.prioQ prio) idx = h ∧ classOf P.prioQ prio ≠ cLow := by
  obtain ⟨_, _, hel, _, hnhp⟩ := hP
  have hi := (okIdx_spec hok).2 hel h hpick
  subst hi
  cases hq : P.prioQ with
  | false => simp [classOf, idxOf]
  | true =>
    have hm : idx % P.n = idx := Nat.mod_eq_of_lt (okIdx_spec hok).1
    rcases hprio hq with hp | hp <;> subst hp <;> simp [classOf, idxOf, isHighPrio, pNormal, pBoost, pHighRec, pHigh, pLow, cHigh, cLow, cNormal, hnhp hq, hm]

theorem place_new {P : Pool} (hP : PinnedP P) {prio mode : Nat} {v : Int} {idx h : Nat}
    (hok : okIdx P mode v idx = true) (hpr : storedPrio P.prioQ prio = pNormal)
    (hp : pinTarget P (if mode = 1 then some v else none) = some h) :
    idxOf P (classOf P.prioQ prio) idx = h ∧ classOf P.prioQ prio ≠ cLow :=
  place_idx hP hok (pick_of_pin hp) (storedPrio_normal hpr)

/-! ## What an event writes; `step` as `core` followed by `mark` -/

/-- `f'` is `f` except where a value satisfying `Q` was written -/
def Wrote {α : Type} (f f' : Nat → α) (Q : α → Prop) : Prop := ∀ u, f' u = f u ∨ Q (f' u)

theorem Wrote.none {α : Type} {f : Nat → α} {Q : α → Prop} : Wrote f f Q := fun _ => .inl rfl

theorem Wrote.one {α : Type} {f : Nat → α} {Q : α → Prop} {t : Nat} {v : α} (h : Q v) :
    Wrote f (upd f t v) Q := fun u => by
  by_cases hu : u = t
  · subst hu; rw [upd_same]; exact .inr h
  · exact .inl (upd_other _ _ _ _ hu)

theorem step_eq {s s' : St} {e : Ev} (h : step s e = some s') :
    ∃ s1, core s e = some s1 ∧ s' = mark s1 e.actor := by
  simp only [step] at h
  split at h
  · rename_i s1 hc; exact ⟨s1, hc, (Option.some.inj h).symm⟩
  · cases h

/-! ## The invariants -/

/-- the static-hint statement applies to task `T`, and names worker `h`: a normal-priority task with a
    worker hint on a pinned pool, never re-queued by `set_thread_state` with a hint that names no worker -/
def Pin (s : St) (T : Task) (h : Nat) : Prop :=
  PinnedP (s.pool T.sched) ∧ T.prio = pNormal ∧ T.strayed = false ∧ pinTarget (s.pool T.sched) T.hint = some h

/-- What holds of a live task `T`, read against the pools, actors and operations of `s`: what is
    known of it always, while it sits in a queue, while a worker holds it, and of its last workers. -/
structure TaskInv (s : St) (T : Task) : Prop where
  known : (s.pool T.sched).known = true
  /-- a task created by the start of operation `k` exists only after that start began, on `k`'s target pool -/
  pay : ∀ k, T.payload = some k → (s.op k).started = true ∧ T.sched = (s.op k).target
  /-- the queue belongs to the pool of the task's own scheduler; under `Pin` it is a queue of the hinted worker -/
  queued : T.loc.isSome = true → T.lpool = T.sched ∧ ∀ h, Pin s T h → T.lidx = h ∧ T.lcls ≠ cLow
  /-- the holder is a registered worker of that pool, has acted, is not inside the start that created
      the task, and under `Pin` is the hinted worker -/
  held : ∀ a, T.holder = some a →
    T.hpool = T.sched ∧ (s.act a).worker = some (T.sched, T.hidx) ∧ (s.act a).seen = true ∧
    (∀ k, T.payload = some k → (s.act a).starting ≠ some k) ∧ ∀ h, Pin s T h → T.hidx = h
  phaseHeld : T.inPhase = true → T.holder.isSome = true
  lw : ∀ h, Pin s T h → ∀ v ∈ T.lw, v = -1 ∨ v = (h : Int)

theorem strayed_spec {b : Bool} {mode : Nat} {v : Int} (h : (b || !(decide (mode = 1) && decide (v ≠ -1))) = false) :
    b = false ∧ mode = 1 ∧ v ≠ -1 := by simpa using h

theorem lw_init {h : Nat} : ∀ v ∈ [(-1 : Int)], v = -1 ∨ v = (h : Int) := fun _ hv => .inl (List.mem_singleton.1 hv)

/-- A staged task description, read as the task it becomes when the worker of its queue converts it. -/
def Entry.task (E : Entry) : Task :=
  { live := true, sched := E.sched, prio := E.prio, hint := E.hint, payload := E.payload,
    loc := some E.q, lpool := E.qpool, lcls := E.qcls, lidx := E.qidx }

/-- An actor is inside the start of begun operations only, and (**fresh actors**) an OS thread that
    has not produced any event is no pool worker and is not inside a start call; that it holds no
    task is `TaskInv.held`. -/
structure ActInv (s : St) (A : Actor) : Prop where
  starting : ∀ k, A.starting = some k → (s.op k).started = true
  fresh : A.seen = false → A.worker = none ∧ A.starting = none

structure Inv (s : St) : Prop where
  task : ∀ o, (s.task o).live = true → TaskInv s (s.task o)
  ent : ∀ e, (s.ent e).live = true → TaskInv s (s.ent e).task
  act : ∀ a, ActInv s (s.act a)

theorem inv_init : Inv init := ⟨nofun, nofun, fun _ => ⟨nofun, fun _ => ⟨rfl, rfl⟩⟩⟩

/-! ## Growth of what the invariants read -/

/-- actor record `A'` keeps what `A` said: its worker registration, that it has acted, and it is
    not newly inside the start of an operation that had begun in `s` -/
structure ActExt (s : St) (A A' : Actor) : Prop where
  worker : ∀ x, A.worker = some x → A'.worker = some x
  seen : A.seen = true → A'.seen = true
  starting : ∀ k, A'.starting = some k → (s.op k).started = true → A.starting = some k

structure Ext (s s' : St) : Prop where
  pool : ∀ p, (s.pool p).known = true → s'.pool p = s.pool p
  act : ∀ b, ActExt s (s.act b) (s'.act b)
  op : ∀ k, (s.op k).started = true → (s'.op k).started = true ∧ (s'.op k).target = (s.op k).target

theorem ActExt.rfl {s : St} {A : Actor} : ActExt s A A := ⟨fun _ h => h, id, fun _ h _ => h⟩

theorem actExt_upd {s : St} {a : Nat} {A' : Actor} (h : ActExt s (s.act a) A') :
    ∀ b, ActExt s (s.act b) (upd s.act a A' b) := fun b => by
  by_cases hb : b = a
  · subst hb; rw [upd_same]; exact h
  · rw [upd_other _ _ _ _ hb]; exact .rfl

theorem opExt_upd {op : Nat → Op} {k : Nat} {O' : Op}
    (h : (op k).started = true → O'.started = true ∧ O'.target = (op k).target) :
    ∀ k', (op k').started = true → (upd op k O' k').started = true ∧ (upd op k O' k').target = (op k').target :=
  fun k' hk' => by
  by_cases hk : k' = k
  · subst hk; rw [upd_same]; exact h hk'
  · rw [upd_other _ _ _ _ hk]; exact ⟨hk', rfl⟩

theorem Ext.mark {s s1 : St} {a : Nat} (hx : Ext s s1) : Ext s (Place.mark s1 a) where
  pool := hx.pool
  op := hx.op
  act b := by
    by_cases hb : b = a
    · subst hb
      simp only [Place.mark, upd_same]
      exact ⟨(hx.act b).worker, fun _ => rfl, (hx.act b).starting⟩
    · simp only [Place.mark, upd_other _ _ _ _ hb]
      exact hx.act b

theorem Ext.of_eq {s s1 : St} {a : Nat} (hp : s1.pool = s.pool) (ha : s1.act = s.act) (ho : s1.op = s.op) :
    Ext s (Place.mark s1 a) :=
  Ext.mark ⟨fun _ _ => by rw [hp], fun _ => by rw [ha]; exact .rfl, fun _ h => by rw [ho]; exact ⟨h, rfl⟩⟩

theorem TaskInv.mono {s s' : St} {T : Task} (hx : Ext s s') (h : TaskInv s T) : TaskInv s' T := by
  have hp : s'.pool T.sched = s.pool T.sched := hx.pool _ h.known
  have hP : ∀ n, Pin s' T n → Pin s T n := fun n => by unfold Pin; rw [hp]; exact id
  exact {
    known := by rw [hp]; exact h.known
    pay := fun k hk => ⟨(hx.op k (h.pay k hk).1).1, (h.pay k hk).2.trans (hx.op k (h.pay k hk).1).2.symm⟩
    queued := fun hl => ⟨(h.queued hl).1, fun n hn => (h.queued hl).2 n (hP n hn)⟩
    held := fun a ha => by
      obtain ⟨h1, h2, h3, h4, h5⟩ := h.held a ha
      exact ⟨h1, (hx.act a).worker _ h2, (hx.act a).seen h3,
        fun k hk hb => h4 k hk ((hx.act a).starting k hb (h.pay k hk).1), fun n hn => h5 n (hP n hn)⟩
    phaseHeld := h.phaseHeld
    lw := fun n hn => h.lw n (hP n hn) }

/-- A task, or a staged description, newly placed by `create_thread` on pool `p`. -/
theorem TaskInv.placed {s : St} {p prio mode idx q : Nat} {v : Int} {pl : Option Nat} (hk : (s.pool p).known = true)
    (hok : okIdx (s.pool p) mode v idx = true)
    (hpl : ∀ k, pl = some k → (s.op k).started = true ∧ p = (s.op k).target) :
    TaskInv s { live := true, sched := p, prio := storedPrio (s.pool p).prioQ prio,
                hint := (if mode = 1 then some v else none), payload := pl, loc := some q, lpool := p,
                lcls := classOf (s.pool p).prioQ prio, lidx := idxOf (s.pool p) (classOf (s.pool p).prioQ prio) idx } :=
  ⟨hk, hpl, fun _ => ⟨rfl, fun _ hp => place_new hp.1 hok hp.2.1 hp.2.2.2⟩, nofun, nofun, fun _ _ => lw_init⟩

/-- The shape of every step.  Let `core` yield `s1` and `mark s1 a` be the new state.  It suffices that
    what the invariants read has only grown (`hx`), that each task and entry is the old one or satisfies
    its invariant in the new state (`ht`, `he`), that only actor `a`'s record differs (`ha`), and that `a`,
    if it is inside a start, is inside the start of an operation that has begun (`hs`). -/
theorem Inv.next {s s1 : St} {a : Nat} (hi : Inv s) (hx : Ext s (mark s1 a))
    (ht : Wrote s.task s1.task fun T => T.live = true → TaskInv (mark s1 a) T)
    (he : Wrote s.ent s1.ent fun E => E.live = true → TaskInv (mark s1 a) E.task)
    (ha : ∀ b, b ≠ a → s1.act b = s.act b)
    (hs : ∀ k, (s1.act a).starting = some k → (s1.op k).started = true) : Inv (mark s1 a) where
  task o hl := by
    rcases ht o with heq | hT
    · change (s1.task o).live = true at hl
      change TaskInv _ (s1.task o)
      rw [heq] at hl ⊢
      exact (hi.task o hl).mono hx
    · exact hT hl
  ent e hl := by
    rcases he e with heq | hE
    · change (s1.ent e).live = true at hl
      change TaskInv _ (s1.ent e).task
      rw [heq] at hl ⊢
      exact (hi.ent e hl).mono hx
    · exact hE hl
  act b := by
    by_cases hb : b = a
    · subst hb
      simp only [Place.mark, upd_same]
      exact ⟨hs, nofun⟩
    · simp only [Place.mark, upd_other _ _ _ _ hb, ha b hb]
      exact ⟨fun k hk => (hx.op k ((hi.act b).starting k hk)).1, (hi.act b).fresh⟩

theorem Inv.next' {s s1 : St} {a : Nat} (hi : Inv s) (hx : Ext s (mark s1 a))
    (ht : Wrote s.task s1.task fun T => T.live = true → TaskInv (mark s1 a) T)
    (he : Wrote s.ent s1.ent fun E => E.live = true → TaskInv (mark s1 a) E.task)
    (ha : s1.act = s.act) : Inv (mark s1 a) :=
  hi.next hx ht he (fun _ _ => by rw [ha])
    fun k hk => (hx.op k ((hi.act a).starting k (by rw [← ha]; exact hk))).1

theorem step_inv {s s' : St} {e : Ev} (hi : Inv s) (h : step s e = some s') : Inv s' := by
  obtain ⟨s1, hc, rfl⟩ := step_eq h
  clear h
  cases e <;> simp only [Ev.actor, core] at hc ⊢
  case poolCfg a p n nhp pq st el oq =>
    obtain ⟨hg, rfl⟩ := of_ite_some hc
    refine hi.next' (.mark ⟨fun q hq => upd_other _ _ _ _ ?_, fun _ => .rfl, fun _ h => ⟨h, rfl⟩⟩) .none .none rfl
    rintro rfl
    rw [hg] at hq
    cases hq
  case queueReg a q p cls idx n nhp | obs a o p w =>
    obtain ⟨-, rfl⟩ := of_ite_some hc
    exact hi.next' (.of_eq rfl rfl rfl) .none .none rfl
  case worker a p w =>
    obtain ⟨⟨hw, -, -⟩, rfl⟩ := of_ite_some hc
    refine hi.next (Ext.mark ⟨fun _ _ => rfl, actExt_upd ⟨fun x hx => ?_, id, fun _ h _ => h⟩,
      fun _ h => ⟨h, rfl⟩⟩) .none .none (fun b hb => upd_other _ _ _ _ hb) fun k hk => ?_
    · rw [hw] at hx; cases hx
    · simp only [upd_same] at hk; exact (hi.act a).starting k hk
  case create a e p idx mode v prio q =>
    obtain ⟨⟨hk, -, -, hok, -⟩, hc⟩ := of_ite hc
    split at hc
    · obtain rfl := Option.some.inj hc
      exact hi.next' (.of_eq rfl rfl rfl) .none (.one fun _ => .placed hk hok nofun) rfl
    next k hst =>
      obtain ⟨⟨htg, -⟩, rfl⟩ := of_ite_some hc
      refine hi.next' (.mark ⟨fun _ _ => rfl, fun _ => .rfl, opExt_upd fun h => ⟨h, rfl⟩⟩) .none
        (.one fun _ => .placed hk hok ?_) rfl
      rintro _ ⟨⟩
      simp only [Place.mark, upd_same]
      exact ⟨(hi.act a).starting k hst, htg.symm⟩
  case createNow a o p idx mode v prio q bp bprio =>
    obtain ⟨⟨hk, -, -, hok, -, -, -⟩, hc⟩ := of_ite hc
    split at hc
    · obtain rfl := Option.some.inj hc
      exact hi.next' (.of_eq rfl rfl rfl) (.one fun _ => .placed hk hok nofun) .none rfl
    next k hst =>
      obtain ⟨⟨htg, -⟩, rfl⟩ := of_ite_some hc
      refine hi.next' (.mark ⟨fun _ _ => rfl, fun _ => .rfl, opExt_upd fun h => ⟨h, rfl⟩⟩)
        (.one fun _ => .placed hk hok ?_) .none rfl
      rintro _ ⟨⟩
      simp only [Place.mark, upd_same]
      exact ⟨(hi.act a).starting k hst, htg.symm⟩
  case convert a e o qd qs bp bprio =>
    split at hc
    · cases hc
    next p w hw =>
    obtain ⟨⟨hl, rfl, hqp, -, -, -, -⟩, hc⟩ := of_ite hc
    have hE := hi.ent e hl
    split at hc
    next hq =>
      -- the worker's own staged queue: the task the description stood for
      subst hq
      obtain ⟨-, rfl⟩ := of_ite_some hc
      exact hi.next' (.of_eq rfl rfl rfl) (.one fun _ => hE.mono (s := s) (.of_eq rfl rfl rfl)) (.one nofun) rfl
    · -- stolen from another worker's staged queue: not on a pinned pool
      obtain ⟨⟨hsteal, -, -⟩, rfl⟩ := of_ite_some hc
      have hps : p = (s.ent e).sched := hqp ▸ (hE.queued rfl).1
      exact hi.next' (.of_eq rfl rfl rfl) (.one fun _ => { hE.mono (.of_eq (a := a) rfl rfl rfl) with
        queued := fun _ => ⟨hps, fun _ hp => Bool.noConfusion ((hps ▸ hsteal).symm.trans hp.1.2.1)⟩ })
        (.one nofun) rfl
  case bindOnly a o bp bprio =>
    obtain ⟨⟨hk, -, -⟩, rfl⟩ := of_ite_some hc
    exact hi.next' (.of_eq rfl rfl rfl)
      (.one fun _ => ⟨hk, nofun, nofun, nofun, nofun, fun _ hp => absurd hp.2.2.2 pin_none⟩) .none rfl
  case sched a o p idx mode v prio allow q =>
    obtain ⟨⟨hl, -, hph, -, -, hok, -⟩, hc⟩ := of_ite hc
    have hT := hi.task o hl
    have hphase {P : Prop} (h : (s.task o).inPhase = true) : P := by rw [hph] at h; cases h
    split at hc
    · -- the scheduling loop re-queues the task it holds, with its own worker number as hint
      obtain ⟨⟨hh, -, hhp, hm, hv, hprio⟩, rfl⟩ := of_ite_some hc
      obtain ⟨h1, -, -, -, h5⟩ := hT.held a hh
      have hps : p = (s.task o).sched := hhp ▸ h1
      subst hps
      exact hi.next' (.of_eq rfl rfl rfl) (.one fun _ => { hT.mono (.of_eq (a := a) rfl rfl rfl) with
        queued := fun _ => ⟨rfl, fun h hp =>
          place_idx hp.1 hok (pick_hint hp.2.2.2 hm (hv.trans (congrArg _ (h5 h hp)))) fun _ => hprio⟩
        held := nofun
        phaseHeld := hphase }) .none rfl
    · -- `set_thread_state` re-queues with a hint read from `last_worker_thread_num_`
      obtain ⟨⟨hh, rfl, hprio, -, hlw⟩, rfl⟩ := of_ite_some hc
      refine hi.next ?hx (.one fun _ => { hT.mono ?hx with
          queued := fun _ => ⟨rfl, fun h hp => ?_⟩
          held := fun _ h => by rw [hh] at h; cases h
          phaseHeld := hphase
          lw := fun h hp => hT.lw h ⟨hp.1, hp.2.1, (strayed_spec hp.2.2.1).1, hp.2.2.2⟩ })
        .none (fun b hb => upd_other _ _ _ _ hb) fun k hk => ?_
      case hx => exact .mark ⟨fun _ _ => rfl, actExt_upd ⟨fun _ h => h, id, fun _ h _ => h⟩, fun _ h => ⟨h, rfl⟩⟩
      · -- the task is still under `Pin` only if the hint read named the hinted worker
        obtain ⟨hs0, hm, hvn⟩ := strayed_spec hp.2.2.1
        have h0 : Pin s (s.task o) h := ⟨hp.1, hp.2.1, hs0, hp.2.2.2⟩
        exact place_idx h0.1 hok (pick_hint h0.2.2.2 hm ((hT.lw h h0 v (hlw hm)).resolve_left hvn))
          fun hq => .inl ((hprio hq).trans h0.2.1)
      · simp only [upd_same] at hk; exact (hi.act a).starting k hk
  case pop a o q =>
    split at hc
    · cases hc
    next p w hw =>
    obtain ⟨⟨hl, hloc, -, hst, hlp, -, hwho⟩, rfl⟩ := of_ite_some hc
    have hT := hi.task o hl
    obtain ⟨hq1, hq2⟩ := hT.queued (by rw [hloc]; rfl)
    have hps : p = (s.task o).sched := hlp ▸ hq1
    -- on a pinned pool only the worker whose queue holds the task pops it
    have hwh : ∀ h, Pin s (s.task o) h → w = h := fun h hp => by
      obtain ⟨hidx, hcls⟩ := hq2 h hp
      rcases hwho with ⟨h', -⟩ | h' | ⟨h', -⟩
      · exact h' ▸ hidx
      · exact absurd h' hcls
      · rw [hps, hp.1.2.1] at h'; cases h'
    refine hi.next' (.of_eq rfl rfl rfl) (.one fun _ => { hT.mono (.of_eq (a := a) rfl rfl rfl) with
      queued := nofun
      held := ?_
      phaseHeld := fun _ => rfl
      lw := fun h hp v hv => ?_ }) .none rfl
    · rintro _ ⟨⟩
      simp only [Place.mark, upd_same]
      exact ⟨hps, hps ▸ hw, trivial, fun _ _ => by rw [hst]; nofun, hwh⟩
    · rcases List.mem_cons.1 hv with rfl | hv
      · exact .inr (by rw [hwh h hp])
      · exact hT.lw h hp v hv
  case phaseBegin a o w =>
    split at hc
    · cases hc
    next p w' hw =>
    obtain ⟨⟨hl, -, rfl, hst⟩, hc⟩ := of_ite hc
    have hT := hi.task o hl
    split at hc
    next hopq =>
      -- a pool whose queues are not modelled: the worker takes the task here; such a pool is not pinned
      obtain ⟨⟨hps, -, hloc⟩, rfl⟩ := of_ite_some hc
      have hno : ∀ h, ¬ Pin s (s.task o) h := fun h hp => by rw [← hps, hp.1.2.2.2.1] at hopq; cases hopq
      refine hi.next' (.of_eq rfl rfl rfl) (.one fun _ => { hT.mono (.of_eq (a := a) rfl rfl rfl) with
        held := ?_
        phaseHeld := fun _ => rfl
        lw := fun h hp => absurd hp (hno h) }) .none rfl
      rintro _ ⟨⟩
      simp only [Place.mark, upd_same]
      exact ⟨hps.symm, hps ▸ hw, trivial, fun _ _ => by rw [hst]; nofun, fun h hp => absurd hp (hno h)⟩
    · obtain ⟨hh, rfl⟩ := of_ite_some hc
      exact hi.next' (.of_eq rfl rfl rfl)
        (.one fun _ => { hT.mono (.of_eq rfl rfl rfl) with phaseHeld := fun _ => by rw [hh]; rfl }) .none rfl
  case phaseEnd a o r =>
    obtain ⟨⟨hl, -, -⟩, hc⟩ := of_ite hc
    have hT := hi.task o hl
    split at hc
    · obtain rfl := Option.some.inj hc
      exact hi.next' (.of_eq rfl rfl rfl) (.one fun _ => { hT.mono (.of_eq rfl rfl rfl) with phaseHeld := nofun })
        .none rfl
    · obtain rfl := Option.some.inj hc
      exact hi.next' (.of_eq rfl rfl rfl) (.one fun _ => { hT.mono (.of_eq (a := a) rfl rfl rfl) with
        held := nofun, phaseHeld := nofun }) .none rfl
  case lwStore a o v =>
    obtain ⟨⟨hl, -, hh, hv⟩, rfl⟩ := of_ite_some hc
    have hT := hi.task o hl
    refine hi.next' (.of_eq rfl rfl rfl) (.one fun _ => { hT.mono (.of_eq rfl rfl rfl) with
      lw := fun h hp v' hv' => ?_ }) .none rfl
    rcases List.mem_cons.1 hv' with rfl | hv'
    · exact .inr (hv.trans (congrArg _ ((hT.held a hh).2.2.2.2 h hp)))
    · exact hT.lw h hp v' hv'
  case stsHint a o mode v =>
    obtain ⟨-, rfl⟩ := of_ite_some hc
    refine hi.next (.mark ⟨fun _ _ => rfl, actExt_upd ⟨fun _ h => h, id, fun _ h _ => h⟩, fun _ h => ⟨h, rfl⟩⟩)
      .none .none (fun b hb => upd_other _ _ _ _ hb) fun k hk => ?_
    simp only [upd_same] at hk; exact (hi.act a).starting k hk
  case start a k p =>
    -- `k` had not begun: nothing refers to it yet
    obtain ⟨⟨hk, -⟩, rfl⟩ := of_ite_some hc
    have hn {P : Prop} (h : (s.op k).started = true) : P := by rw [hk] at h; cases h
    refine hi.next (.mark ⟨fun _ _ => rfl, actExt_upd ⟨fun _ h => h, id, fun k' hk' h => ?_⟩, opExt_upd hn⟩)
      .none .none (fun b hb => upd_other _ _ _ _ hb) fun k' hk' => ?_
    · cases hk'; exact hn h
    · simp only [upd_same] at hk'; cases hk'; simp only [upd_same]
  case started a k =>
    obtain ⟨-, rfl⟩ := of_ite_some hc
    refine hi.next (.mark ⟨fun _ _ => rfl, actExt_upd ⟨fun _ h => h, id, nofun⟩, fun _ h => ⟨h, rfl⟩⟩)
      .none .none (fun b hb => upd_other _ _ _ _ hb) fun k' hk' => ?_
    simp only [upd_same] at hk'; cases hk'
  case run a o k | runStd a k =>
    obtain ⟨-, rfl⟩ := of_ite_some hc
    exact hi.next' (.mark ⟨fun _ _ => rfl, fun _ => .rfl, opExt_upd fun h => ⟨h, rfl⟩⟩) .none .none rfl

/-- Who begins a phase is registered as the worker it reports, of the pool of the task's scheduler; where
    the queues of that pool are modelled it holds the task, as the worker the task records. -/
theorem phaseBegin_worker {s s1 : St} {a o w : Nat} (hi : Inv s) (h : core s (.phaseBegin a o w) = some s1) :
    (s.task o).live = true ∧ (s.act a).worker = some ((s.task o).sched, w) ∧
      ((s.pool (s.task o).sched).opq = false → (s.task o).holder = some a ∧ (s.task o).hidx = w) := by
  simp only [core] at h
  split at h
  · cases h
  next p w' hw =>
  obtain ⟨⟨hl, -, rfl, -⟩, h⟩ := of_ite h
  refine ⟨hl, ?_⟩
  split at h
  next hq =>
    obtain rfl := (of_ite_some h).1.1
    exact ⟨hw, fun hq' => by rw [hq] at hq'; cases hq'⟩
  next hq =>
    have hh := (of_ite_some h).1
    have h2 := ((hi.task o hl).held a hh).2.1
    rw [hw] at h2
    obtain ⟨rfl, rfl⟩ := Prod.mk.inj (Option.some.inj h2)
    exact ⟨hw, fun _ => ⟨hh, rfl⟩⟩

/-- Who signals the receiver of operation `k` does so inside a phase of a task it holds, as a worker of the
    operation's target pool; where the queues of that pool are modelled the task was created for `k`, and
    nobody still inside `start(k)` is the signalling actor. -/
theorem run_worker {s s1 : St} {a o k : Nat} (hi : Inv s) (h : core s (.run a o k) = some s1) :
    (s.task o).inPhase = true ∧ (s.task o).holder = some a ∧
      (s.act a).worker = some ((s.op k).target, (s.task o).hidx) ∧
      ((s.pool (s.op k).target).opq = false →
        (s.task o).payload = some k ∧ ∀ b, (s.act b).starting = some k → b ≠ a) := by
  simp only [core] at h
  obtain ⟨⟨hl, hp, hh, -, -, hopq, hpay⟩, -⟩ := of_ite_some h
  have hT := hi.task o hl
  refine ⟨hp, hh, ?_, fun hq => ⟨hpay hq, ?_⟩⟩
  · rw [(hT.held a hh).2.1]
    cases hq : (s.pool (s.op k).target).opq with
    | true => rw [hopq hq]
    | false => rw [(hT.pay k (hpay hq)).2]
  · rintro b hb rfl
    exact (hT.held b hh).2.2.2.1 k (hpay hq) hb

theorem inv_of_accepted {log : List Ev} {s : St} (h : runLog step init log = some s) : Inv s :=
  inv_of_runLog Inv (fun _ _ _ hi h => step_inv hi h) inv_init h

end PikaVerif.Place
