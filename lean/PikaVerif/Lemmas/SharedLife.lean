import PikaVerif.Lemmas.Shared3
import PikaVerif.Model.SharedLife
import PikaVerif.Core.Run
/-!
Lemmas for the ownership layer of the shared-state model (`Model/SharedLife.lean`).

Part 1 (namespace `Shared`): one more invariant of the protocol model (`XInv`: a consumer that has stored
its continuation and still holds the lock is queued) and the *coverage* relation `Cov` between the
protocol state and the set of live references, preserved by every protocol event.
Part 2 (namespace `SharedLife`): the invariant `LfInv` of the layered model and its preservation.
-/
namespace PikaVerif.Shared

/-- A consumer that has stored its continuation and still holds the lock is queued. -/
structure XInv (s : St) : Prop where
  pushedQ : ∀ t k, s.pc t = .pushed k → s.phase k = .queued

theorem xinv_init (kind : Kind) (ss : Bool) : XInv (init kind ss) := by
  constructor; simp [init]

theorem step_xinv (s s' : St) (e : Ev) (hf : Full s) (hx : XInv s) (h : step s e = some s') : XInv s' := by
  cases Step.of_step h with
  | rcvOwn t k r hpc =>
    -- consumer `k` is `active`, not `queued`
    have := hf.pinv.consPhase t k (hpc ▸ rfl)
    exact ⟨fun u j => by grind [upd, hx.pushedQ u j]⟩
  | rcvLoop t k rest r _ _ hst =>
    -- the predecessor's thread is past its critical section: no thread is at `pushed`
    exact ⟨fun u j hu => by
      have := hf.inv.pushedEarly u j hu; rw [hst] at this; simp [PStage.rank] at this⟩
  | seen1 t b k => cases b <;> exact ⟨fun u j => by grind [upd, hx.pushedQ u j]⟩
  | _ => exact ⟨fun u j => by grind [upd, hx.pushedQ u j]⟩

/-- Coverage of the threads inside the protocol by references: `O j` = consumer `j`'s operation state
    holds a reference, `R` = the predecessor's receiver holds one. -/
structure Cov (b : St) (O : Nat → Prop) (R : Prop) (sd rh : Bool) : Prop where
  consHold : ∀ t k, consOf (b.pc t) = some k → O k
  queuedHold : ∀ k, b.phase k = .queued → O k
  opsJust : ∀ k, O k → b.phase k = .active ∨ b.phase k = .queued ∨ (sd = false ∧ b.phase k = .got)
  rcvHold : rh = true → b.pst.rank < 6 → R
  rcvJust : R → b.pst = .none ∨ isProd (b.pc b.ptid) = true

/-- The operation states that hold a reference after a protocol event: `connect` in `invConsume`
    creates one, the completion of a self-deleting consumer destroys it. -/
def opsAfter (sd : Bool) (O : Nat → Prop) : Ev → Nat → Prop
  | .invConsume _ k => fun j => j = k ∨ O j
  | .rcv _ k _ => fun j => (sd = false ∨ j ≠ k) ∧ O j
  | _ => O

section
variable {s : St} {O : Nat → Prop} {R : Prop} {sd rh : Bool}

/-- Thread `t` moves to a point that works for the same consumer or for none; it leaves the
    producer points only when the receiver holds no reference. -/
theorem Cov.move (hc : Cov s O R sd rh) {t : Nat} {p' : Pc}
    (h1 : consOf p' = none ∨ consOf p' = consOf (s.pc t)) (h5 : isProd (s.pc t) = false ∨ ¬R)
    {ar st d ab : Bool} {pe v' sg : Option Compl} {l cl : Option Nat} {cs : List Nat}
    {ow g : Nat → Nat} {gs : Nat → Option RSig} :
    Cov { s with pc := upd s.pc t p', armed := ar, started := st, pending := pe, v := v', done := d,
                 lock := l, conts := cs, sig := sg, owner := ow, got := g, gotSig := gs, aborted := ab,
                 claimed := cl } O R sd rh :=
  ⟨fun u k => by grind [upd, hc.consHold u k, hc.consHold t k], hc.queuedHold, hc.opsJust, hc.rcvHold,
   by grind [upd, hc.rcvJust]⟩

/-- Every protocol event keeps the coverage, given that the predecessor's thread leaves the
    producer points (`ret`, `seen1`) only after the receiver's reference is gone. -/
theorem step_cov {s' : St} {e : Ev} (hc : Cov s O R sd rh) (hp : PInv s) (hq : CInv s)
    (hg : ∀ t, (e = .ret t ∨ ∃ b, e = .seen1 t b) → isProd (s.pc t) = true → ¬R)
    (h : step s e = some s') : Cov s' (opsAfter sd O e) R sd rh := by
  have h5 : ∀ t, (e = .ret t ∨ ∃ b, e = .seen1 t b) → isProd (s.pc t) = false ∨ ¬R := by grind
  cases Step.of_step h with
  | completeArmed t c hpc | completeEarly t c hpc | relPushed t k hpc | tdone t hpc =>
    exact hc.move (.inl rfl) (.inl (hpc ▸ rfl))
  | ret t => exact hc.move (.inl rfl) (h5 t (.inl rfl))
  | seen1 t b k hpc =>
    have h1 : consOf (s.pc t) = some k := hpc.elim (·.1 ▸ rfl) (·.1 ▸ rfl)
    cases b <;> exact hc.move (.inr (by exact h1.symm)) (h5 t (.inr ⟨_, rfl⟩))
  | acqCons t k hpc | seen2Done t k b hpc | relSeen t k hpc =>
    exact hc.move (.inr (by rw [hpc]; rfl)) (.inl (hpc ▸ rfl))
  | fireOwn t c hpc hst | fireInline t c k hpc hst =>
    show Cov _ O R sd rh
    exact ⟨fun u j => by grind [upd, consOf, hc.consHold u j, hc.consHold t j], hc.queuedHold,
      hc.opsJust, fun hr _ => hc.rcvHold hr (by rw [hst]; decide), by grind [upd, isProd]⟩
  | acqProd t | relProd t | flag t | run t =>
    exact ⟨hc.consHold, hc.queuedHold, hc.opsJust, fun hr _ => hc.rcvHold hr (by grind [PStage.rank]),
      by have := hc.rcvJust; grind⟩
  | abort t => exact ⟨hc.1, hc.2, hc.3, hc.4, hc.5⟩
  | consume t k | seen2Push t k | rcvOwn t k | rcvLoop t k =>
    -- a consumer's operation state is covered from `connect` on, as a queued one once its
    -- continuation is stored, until it has received; another thread works for another consumer
    have := hc.consHold t k; have := hp.consPhase t k; have := hq.contsQ k
    dsimp only [opsAfter]
    exact ⟨fun u j => by have := hp.consPhase u j; have := hc.consHold u j; grind [upd, consOf],
      fun j => by have := hc.queuedHold j; grind [upd, consOf], fun j => by have := hc.opsJust j; grind [upd],
      fun hr _ => hc.rcvHold hr (by grind [PStage.rank]), by have := hc.rcvJust; grind [upd, isProd]⟩
end

/-- Whoever reads or writes the shared state is covered by a reference: a thread working for a
    consumer by that consumer's operation state, the predecessor's thread by the receiver. -/
theorem touch_covered {s s' : St} {O : Nat → Prop} {R : Prop} {sd : Bool} (hc : Cov s O R sd true)
    (hx : XInv s) {e : Ev} (ht : SharedLife.touches e = true) (hnc : ∀ t k, e ≠ .invConsume t k)
    (h : step s e = some s') : (∃ j, O j) ∨ R := by
  have hcons : ∀ {t k p}, s.pc t = p → consOf p = some k → (∃ j, O j) ∨ R :=
    fun hp h' => .inl ⟨_, hc.consHold _ _ (hp ▸ h')⟩
  have hprod : ∀ {q}, s.pst = q → q.rank < 6 → (∃ j, O j) ∨ R :=
    fun hq h' => .inr (hc.rcvHold rfl (hq ▸ h'))
  cases Step.of_step h with
  | completeArmed | completeEarly | ret | tdone => cases ht
  | consume t k => exact absurd rfl (hnc t k)
  | seen1 t b k hpc => exact hpc.elim (hcons ·.1 rfl) (hcons ·.1 rfl)
  | acqCons t k hpc | seen2Done t k b hpc | seen2Push t k b hpc | relSeen t k hpc | rcvOwn t k r hpc =>
    exact hcons hpc rfl
  | relPushed t k hpc => exact .inl ⟨k, hc.queuedHold k (hx.pushedQ t k hpc)⟩
  | fireOwn t c _ hst | fireInline t c k _ hst | acqProd t _ _ hst | relProd t _ _ hst
  | flag t i _ hst | run t n _ hst | rcvLoop t k rest r _ _ hst =>
    exact hprod hst (by decide)
  | abort t hwho =>
    obtain ⟨k, hpc⟩ | ⟨-, hst⟩ := hwho
    · exact hcons hpc rfl
    · exact hprod hst (by decide)

theorem Cov.congr {b : St} {O O' : Nat → Prop} {R R' : Prop} {sd rh : Bool} (h : Cov b O R sd rh)
    (hO : ∀ j, O j ↔ O' j) (hR : R ↔ R') : Cov b O' R' sd rh := by
  have e1 : O = O' := funext fun j => propext (hO j)
  have e2 : R = R' := propext hR
  subst e1; subst e2; exact h

end PikaVerif.Shared

namespace PikaVerif.SharedLife
open PikaVerif.Shared


theorem baseStep_some {s s' : St} {e : Shared.Ev} {H : List Ref} (h : baseStep s e H = some s') :
    ∃ b', Shared.step s.b e = some b' ∧
      s' = { s with b := b', holders := H, uaf := s.uaf || (s.freed && touches e) } := by
  unfold baseStep at h
  split at h
  · next b' hb => exact ⟨b', hb, (Option.some.inj h).symm⟩
  · cases h

theorem release_some {s s' : St} {r : Ref} {n : Nat} {fr : Bool} (h : release s r n fr = some s') :
    r ∈ s.holders ∧ n + 1 = s.holders.length ∧ fr = decide (n = 0) ∧
    s' = { s with holders := s.holders.erase r, freed := s.freed || fr,
                  nfree := s.nfree + (if fr then 1 else 0), uaf := s.uaf || s.freed } := by
  obtain ⟨⟨h1, h2, h3⟩, h⟩ := Option.ite_none_right_eq_some.mp h
  exact ⟨h1, h2, h3, (Option.some.inj h).symm⟩

/-- The protocol events underneath an ownership event are accepted by the protocol model, and no
    event changes whether the predecessor's receiver holds a reference. -/
theorem step_proj {s s' : St} {e : Ev} (h : step s e = some s') :
    runLog Shared.step s.b e.proj = some s'.b ∧ s'.rcvHolds = s.rcvHolds := by
  cases e with
  | base e | consumeCopy t k n =>
    obtain ⟨b', hb, rfl⟩ := baseStep_some (Option.ite_none_right_eq_some.mp h).2
    exact ⟨by simp only [Ev.proj, runLog, hb], rfl⟩
  | rcvDel t k r n fr =>
    have h := (Option.ite_none_right_eq_some.mp h).2
    split at h
    · next s1 hs1 =>
      obtain ⟨b', hb, rfl⟩ := baseStep_some hs1
      obtain ⟨-, -, -, rfl⟩ := release_some h
      exact ⟨by simp only [Ev.proj, runLog, hb], rfl⟩
    · cases h
  | discard t k n fr | unrefR t n fr =>
    obtain ⟨-, -, -, rfl⟩ := release_some (Option.ite_none_right_eq_some.mp h).2
    exact ⟨rfl, rfl⟩

theorem runLog_proj (s s' : St) (log : List Ev) (h : runLog step s log = some s') :
    runLog Shared.step s.b (log.flatMap Ev.proj) = some s'.b := by
  induction log generalizing s with
  | nil => cases h; rfl
  | cons e es ih =>
    obtain ⟨s1, h1, h2⟩ := runLog_cons_some h
    rw [List.flatMap_cons, runLog_append, (step_proj h1).1]
    exact ih s1 h2


/-- Invariant of the layered model, part 1: the protocol invariants of the layer below, the list of
    references, the `freed` flag and counter, no touch after release. -/
structure LfCore (s : St) : Prop where
  full : Full s.b
  xinv : XInv s.b
  nodup : s.holders.Nodup
  freedIff : s.freed = true ↔ s.holders = []
  nfreeEq : s.nfree = if s.freed = true then 1 else 0
  noUaf : s.rcvHolds = true → s.uaf = false

/-- Invariant of the layered model: part 1 and the coverage of the threads inside the protocol. -/
structure LfInv (s : St) : Prop where
  core : LfCore s
  cov : Cov s.b (fun j => Ref.ops j ∈ s.holders) (Ref.rcv ∈ s.holders) s.selfdel s.rcvHolds

theorem nodup_dedup (l : List Nat) : (dedup l).Nodup := by
  induction l with
  | nil => simp [dedup]
  | cons a l ih =>
    simp only [dedup]; split
    · exact ih
    · exact List.nodup_cons.mpr ⟨by assumption, ih⟩

theorem nodup_initHolders (c : Cfg) : (initHolders c).Nodup := by
  have h1 : ((dedup c.snds).map Ref.snd).Nodup :=
    (nodup_dedup c.snds).map _ fun a b hab e => hab (Ref.snd.inj e)
  unfold initHolders
  split <;> split <;> simp [h1]

theorem ops_not_init (c : Cfg) (j : Nat) : Ref.ops j ∉ initHolders c := by
  unfold initHolders
  split <;> split <;> simp

theorem lfinv_init (c : Cfg) (h : c.rcvHolds = true) : LfInv (init c) := by
  refine ⟨⟨full_init _ _, xinv_init _ _, nodup_initHolders c, ?_, ?_, ?_⟩, ?_⟩
  · simp [init, initHolders, h]
  · simp [init]
  · intro _; simp [init]
  · refine ⟨?_, ?_, ?_, ?_, ?_⟩
    · intro t k; simp [init, Shared.init, consOf]
    · intro k; simp [init, Shared.init]
    · intro k hk; exact absurd hk (ops_not_init c k)
    · intro _ _; simp [init, initHolders, h]
    · intro _; left; simp [init, Shared.init]

theorem not_freed_of_mem {s : St} (hi : LfCore s) {r : Ref} (h : r ∈ s.holders) : s.freed = false := by
  cases hf : s.freed with
  | false => rfl
  | true => have := hi.freedIff.mp hf; rw [this] at h; cases h

/-- A release keeps the invariant, provided the coverage relation survives the loss of that reference. -/
theorem release_inv {s s' : St} {r : Ref} {n : Nat} {fr : Bool} (hi : LfCore s)
    (h : release s r n fr = some s')
    (hcov : r ∈ s.holders → Cov s.b (fun j => Ref.ops j ∈ s.holders.erase r) (Ref.rcv ∈ s.holders.erase r)
      s.selfdel s.rcvHolds) : LfInv s' := by
  obtain ⟨hm, hn, hfr, rfl⟩ := release_some h
  have hnf := not_freed_of_mem hi hm
  have hlen := List.length_erase_of_mem hm
  -- freed by this release iff the logged count is zero iff no reference is left
  exact ⟨⟨hi.full, hi.xinv, hi.nodup.erase r, by grind [List.eq_nil_iff_length_eq_zero],
    by grind [hi.nfreeEq], by grind [hi.noUaf]⟩, hcov hm⟩

theorem inProd_eq (p : Pc) : inProd p = isProd p := by cases p <;> rfl

theorem base_core {s : St} {e : Shared.Ev} {b' : Shared.St} {H : List Ref} (hi : LfCore s)
    (hb : Shared.step s.b e = some b') (hnd : H.Nodup) (hne : s.freed = true ↔ H = [])
    (hsafe : s.rcvHolds = true → touches e = true → s.freed = false) :
    LfCore { s with b := b', holders := H, uaf := s.uaf || (s.freed && touches e) } := by
  exact ⟨step_full _ _ e hi.full hb, step_xinv _ _ e hi.full hi.xinv hb, hnd, hne, hi.nfreeEq,
    by grind [hi.noUaf]⟩

/-- A thread inside the protocol is covered by a live reference: the state is not freed. -/
theorem touch_safe {s : St} (hi : LfInv s) (hr : s.rcvHolds = true) {e : Shared.Ev} {b' : Shared.St}
    (hb : Shared.step s.b e = some b') (ht : touches e = true) (hnc : ∀ t k, e ≠ .invConsume t k) :
    s.freed = false := by
  have hc := hi.cov
  rw [hr] at hc
  rcases touch_covered hc hi.core.xinv ht hnc hb with ⟨j, hj⟩ | hR
  · exact not_freed_of_mem hi.core hj
  · exact not_freed_of_mem hi.core hR

/-- Protocol events other than `invConsume`: the set of references does not change. -/
theorem base_same {s : St} {e : Shared.Ev} {b' : Shared.St} (hi : LfInv s)
    (hb : Shared.step s.b e = some b')
    (hcov : Cov b' (fun j => Ref.ops j ∈ s.holders) (Ref.rcv ∈ s.holders) s.selfdel s.rcvHolds)
    (hnc : ∀ t k, e ≠ .invConsume t k) :
    LfInv { s with b := b', holders := s.holders, uaf := s.uaf || (s.freed && touches e) } :=
  ⟨base_core hi.core hb hi.core.nodup hi.core.freedIff fun hr ht => touch_safe hi hr hb ht hnc, hcov⟩

/-- `connect`: consumer `k`'s operation state takes a reference (moved from its sender or copied
    from the handle); no reference was held in its name, the consumer being `unused`. -/
theorem connect_inv {s : St} {b' : Shared.St} {t k : Nat} {H : List Ref} (hi : LfInv s)
    (hb : Shared.step s.b (.invConsume t k) = some b') (hnf : s.freed = false) (hnd : H.Nodup)
    (hH : ∀ r, r ≠ Ref.snd k → (r ∈ H ↔ r ∈ s.holders)) :
    LfInv { s with b := b', holders := Ref.ops k :: H,
                   uaf := s.uaf || (s.freed && touches (.invConsume t k)) } := by
  have hno : Ref.ops k ∉ s.holders := fun ho => by
    cases Step.of_step hb with
    | consume _ _ _ hun =>
      rcases hi.cov.opsJust k ho with h1 | h1 | ⟨_, h1⟩ <;> rw [hun] at h1 <;> cases h1
  refine ⟨base_core hi.core hb (List.nodup_cons.mpr ⟨fun h => hno ((hH (Ref.ops k) nofun).mp h), hnd⟩)
      (by simp [hnf]) (fun _ _ => hnf),
    (step_cov hi.cov hi.core.full.pinv hi.core.full.cinv
      (fun t he => by rcases he with h | ⟨b, h⟩ <;> cases h) hb).congr (fun j => ?_) ?_⟩
  · show (j = k ∨ Ref.ops j ∈ s.holders) ↔ Ref.ops j ∈ Ref.ops k :: H
    rw [List.mem_cons, hH (Ref.ops j) nofun, Ref.ops.injEq]
  · show Ref.rcv ∈ s.holders ↔ Ref.rcv ∈ Ref.ops k :: H
    rw [List.mem_cons, hH Ref.rcv nofun]; simp

theorem step_lfinv (s s' : St) (e : Ev) (hi : LfInv s) (h : step s e = some s') : LfInv s' := by
  have hp := hi.core.full.pinv
  have hq := hi.core.full.cinv
  cases e with
  | base e =>
    obtain ⟨hg, h⟩ := Option.ite_none_right_eq_some.mp h
    obtain ⟨b', hb, rfl⟩ := baseStep_some h
    -- `guard`: the receiver's reference is gone when its thread leaves the producer points
    have hcov := step_cov hi.cov hp hq (fun t he hpr hR => by
      rcases he with rfl | ⟨b, rfl⟩ <;> simp [guard, inProd_eq, hpr, hR] at hg) hb
    cases e with
    | invConsume t k =>
      have hm : Ref.snd k ∈ s.holders := by simpa [guard] using hg
      exact connect_inv hi hb (not_freed_of_mem hi.core hm) (hi.core.nodup.erase _)
        fun r hr => List.mem_erase_of_ne hr
    | rcv t k r =>
      have hsd : s.selfdel = false := by simpa [guard] using hg
      exact base_same hi hb (hcov.congr (fun j => by simp [opsAfter, hsd]) .rfl) nofun
    | _ => exact base_same hi hb hcov nofun
  | consumeCopy t k n =>
    obtain ⟨⟨hh, -, -⟩, h⟩ := Option.ite_none_right_eq_some.mp h
    obtain ⟨b', hb, rfl⟩ := baseStep_some h
    exact connect_inv hi hb (not_freed_of_mem hi.core hh) hi.core.nodup fun _ _ => .rfl
  | rcvDel t k r n fr =>
    obtain ⟨hsd, h⟩ := Option.ite_none_right_eq_some.mp h
    split at h
    · next s1 hs1 =>
      obtain ⟨b', hb, rfl⟩ := baseStep_some hs1
      refine release_inv (base_core hi.core hb hi.core.nodup hi.core.freedIff
        fun hr ht => touch_safe hi hr hb ht nofun) h fun _ => ?_
      refine (step_cov hi.cov hp hq (fun t he => by rcases he with h | ⟨b, h⟩ <;> cases h) hb).congr
        (fun j => ?_) (List.mem_erase_of_ne (by nofun)).symm
      show (s.selfdel = false ∨ j ≠ k) ∧ Ref.ops j ∈ s.holders ↔ Ref.ops j ∈ s.holders.erase (Ref.ops k)
      rw [hi.core.nodup.mem_erase_iff]; simp [hsd]
    · cases h
  | discard t k n fr =>
    refine release_inv hi.core (Option.ite_none_right_eq_some.mp h).2 fun _ => hi.cov.congr
      (fun j => (List.mem_erase_of_ne (by nofun)).symm) (List.mem_erase_of_ne (by nofun)).symm
  | unrefR t n fr =>
    -- the receiver call has finished: its reference is justified no longer, and needed no longer
    obtain ⟨⟨-, -, hfin, -⟩, h⟩ := Option.ite_none_right_eq_some.mp h
    refine release_inv hi.core h fun _ => ?_
    obtain ⟨v1, v2, v3, v4, v5⟩ := hi.cov
    exact ⟨fun u j hj => (List.mem_erase_of_ne (by nofun)).mpr (v1 u j hj),
      fun j hj => (List.mem_erase_of_ne (by nofun)).mpr (v2 j hj),
      fun j hj => v3 j ((List.mem_erase_of_ne (by nofun)).mp hj),
      fun _ hlt => by rw [hfin] at hlt; simp [PStage.rank] at hlt,
      fun hm => absurd rfl (hi.core.nodup.mem_erase_iff.mp hm).1⟩

theorem lfinv_of_accepted {c : Cfg} (hc : c.rcvHolds = true) {log : List Ev} {s : St}
    (h : runLog step (init c) log = some s) : LfInv s :=
  inv_of_runLog LfInv (fun s e s' => step_lfinv s s' e) (lfinv_init c hc) h

end PikaVerif.SharedLife
