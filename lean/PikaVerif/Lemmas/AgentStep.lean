import PikaVerif.Model.Agent
/-! What each event of the `default_agent` hand-shake model does (either variant): the program counter
    it is accepted at, its guards, and the state it yields. -/
namespace PikaVerif.Agent

variable {v : Variant} {s s' : St} {t : Nat}

theorem step_yield_some (h : step v s (.yield t) = some s') : t = s.owner ∧ s.pc t = .idle ∧ s' = s := by
  simp only [step] at h
  grind

theorem step_sleepB_some (h : step v s (.sleepB t) = some s') :
    t = s.owner ∧ s.pc t = .idle ∧ s' = { s with pc := upd s.pc t .sleeping } := by
  simp only [step] at h
  grind

theorem step_sleepE_some (h : step v s (.sleepE t) = some s') :
    s.pc t = .sleeping ∧ s' = { s with pc := upd s.pc t .idle } := by
  simp only [step] at h
  grind

theorem step_sCall_some (h : step v s (.sCall t) = some s') :
    t = s.owner ∧ s.pc t = .idle ∧ s' = { s with pc := upd s.pc t .sLock } := by
  simp only [step] at h
  grind

theorem step_sAcq_some (h : step v s (.sAcq t) = some s') :
    s.pc t = .sLock ∧ s.mtx = none ∧ s' = { s with pc := upd s.pc t .sHold, mtx := some t } := by
  simp only [step] at h
  grind

theorem step_sPark_some (h : step v s (.sPark t) = some s') :
    s.pc t = .sHold ∧
    s' = { s with running := false, mtx := none, parks := s.parks + 1,
                  pc := upd (wakeResumers s.pc) t (.sWait false) } := by
  simp only [step] at h
  grind

theorem step_sWake_some {r : Bool} (h : step v s (.sWake t r) = some s') :
    s.pc t = .sWait true ∧ s.mtx = none ∧ r = s.running ∧
    s' = if r then { s with pc := upd s.pc t .sHold2, mtx := some t }
         else { s with pc := upd s.pc t (.sWait false) } := by
  simp only [step] at h
  grind

theorem step_sRet_some {ab : Bool} (h : step v s (.sRet t ab) = some s') :
    s.pc t = .sHold2 ∧ ab = s.aborted ∧
    s' = { s with pc := upd s.pc t .idle, mtx := none, sRets := s.sRets + 1 } := by
  simp only [step] at h
  grind

theorem step_rCall_some {ab : Bool} (h : step v s (.rCall t ab) = some s') :
    t ≠ s.owner ∧ s.pc t = .idle ∧ s' = { s with pc := upd s.pc t (.rLock ab) } := by
  simp only [step] at h
  grind

theorem step_rAcq_some (h : step v s (.rAcq t) = some s') :
    ∃ ab, s.pc t = .rLock ab ∧ s.mtx = none ∧ s' = { s with pc := upd s.pc t (.rHold ab), mtx := some t } := by
  simp only [step] at h
  grind

theorem step_rChk_some {r : Bool} (h : step v s (.rChk t r) = some s') :
    ∃ ab, s.pc t = .rHold ab ∧ r = s.running ∧
    s' = if r = true ∧ v = .code then { s with pc := upd s.pc t (.rWait ab false), mtx := none }
         else { s with pc := upd s.pc t (.rSet ab) } := by
  simp only [step] at h
  grind

theorem step_rWake_some (h : step v s (.rWake t) = some s') :
    ∃ ab, s.pc t = .rWait ab true ∧ s.mtx = none ∧
      s' = { s with pc := upd s.pc t (.rHold ab), mtx := some t } := by
  simp only [step] at h
  grind

theorem step_rGo_some (h : step v s (.rGo t) = some s') :
    ∃ ab, s.pc t = .rSet ab ∧
      s' = { s with running := true, aborted := s.aborted || ab, gos := s.gos + 1,
                    pc := upd (wakeOwner s.pc s.owner) t (.rDone ab) } := by
  simp only [step] at h
  grind

theorem step_rRel_some (h : step v s (.rRel t) = some s') :
    ∃ ab, s.pc t = .rDone ab ∧
      s' = { s with pc := upd s.pc t .idle, mtx := none, rRets := s.rRets + 1 } := by
  simp only [step] at h
  grind

theorem step_spur_some (h : step v s (.spur t) = some s') :
    (s.pc t = .sWait false ∧ s' = { s with pc := upd s.pc t (.sWait true) }) ∨
    ∃ ab, s.pc t = .rWait ab false ∧ s' = { s with pc := upd s.pc t (.rWait ab true) } := by
  simp only [step] at h
  grind

/-- What no event undoes and what each event counts: the four history counters move by one at their own
    event and at no other, and `aborted_` is never cleared. -/
theorem step_frame {e : Ev} (h : step v s e = some s') :
    s'.parks = s.parks + (match e with | .sPark _ => 1 | _ => 0) ∧
    s'.gos = s.gos + (match e with | .rGo _ => 1 | _ => 0) ∧
    s'.sRets = s.sRets + (match e with | .sRet .. => 1 | _ => 0) ∧
    s'.rRets = s.rRets + (match e with | .rRel _ => 1 | _ => 0) ∧
    (s.aborted = true → s'.aborted = true) := by
  cases e <;> simp only [step] at h <;> (repeat' split at h) <;>
    first | (simp at h; done) | (simp only [Option.some.injEq] at h; subst h; simp <;> exact .inl)

end PikaVerif.Agent
