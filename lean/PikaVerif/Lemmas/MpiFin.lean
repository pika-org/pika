import PikaVerif.Lemmas.MpiT
/-!
# Final states of maximal runs of the MPI request model (C20t)

* `pika e`: the events that are pika's own obligatory steps (everything that moves an operation
  except MPI's four reports and the optional release of owned arguments).
* `Maximal s`: no such event is accepted in `s`, nor in the state a poller reaches by taking the
  poll lock.
* `final_op`: in a reachable maximal state every operation is either finished (`done`, registry
  entry never created or completely gone) or waits for MPI's report.
-/
namespace PikaVerif.Mpi

/-- pika's own obligatory steps: every event that moves an operation except MPI's reports
    (`eager`, `ydone`, `ready`, `testany`) and the release of owned arguments (`rel`) -/
def pika : Ev → Bool
  | .sig .. | .reg .. | .gacInc .. | .ifInc .. | .enq .. | .addv .. | .q2v .. | .deq .. | .ifDec ..
  | .call .. | .cb .. | .ret .. | .gacDec .. | .woke .. => true
  | _ => false

theorem pika_moves (e : Ev) (h : pika e = true) : moves e = true := by
  cases e <;> simp [pika] at h <;> rfl

/-- nothing left to do for pika: no obligatory step is accepted, neither now nor after a poller
    has taken the poll lock (the lock / unlock rounds that find nothing are the model's stutter) -/
def Maximal (s : St) : Prop :=
  ∀ e, pika e = true → step s e = none ∧ ∀ a s1, step s (.lock a) = some s1 → step s1 e = none

/-- the operation waits for MPI: either its own poll (early poll / `yield_while` loop — or nobody
    has installed the polling function the registration needs) or the pollers' `MPI_Test*` on the
    vector entry -/
def AwaitsMpi (s : St) (o : Op) : Prop :=
  o.okPost = true ∧ o.mpiDone = false ∧ o.sigs = 0 ∧ o.cbs = 0 ∧
  ((o.pc = .posted ∧ o.rs = .none ∧ (o.mode = mYield ∨ s.installed = false)) ∨ (o.pc = .waiting ∧ o.rs = .vec))

/-- the operation is over: receiver signalled once; never registered (no callback) or registered,
    callback invoked once and returned, entry gone -/
def Finished (o : Op) : Prop :=
  o.pc = .done ∧ o.sigs = 1 ∧ ((o.rs = .none ∧ o.cbs = 0) ∨ (o.rs = .gone ∧ o.cbs = 1)) ∧
  (o.okPost = true → o.mpiDone = true)

theorem final_op (s : St) (hj : Inv s) (hi : Inv2 s) (hm : Maximal s) (x : Nat) (hx : x < s.n) :
    Finished (s.op x) ∨ AwaitsMpi s (s.op x) := by
  have j := hj.ops x
  have i := hi.ops x
  have hni := hi.notIdle x hx
  have hsig := (hm (.sig 0 x) rfl).1
  cases hpc : (s.op x).pc
  case idle => exact absurd hpc hni
  case errDone => exact absurd hpc j.noErrDone
  case reg0 => have := (hm (.gacInc 0 x) rfl).1; simp [step, hx, hpc] at this
  case reg1 => have := (hm (.ifInc 0 x (s.inFlight + 1)) rfl).1; simp [step, hx, hpc] at this
  case reg2 =>
    have h1 := (hm (.enq 0 x) rfl).1
    have h2 := (hm (.addv 0 x) rfl).1
    cases hs : s.stm <;> simp [step, hx, hpc, hs] at h1 h2
  case completed => have := (hm (.woke 0 x) rfl).1; simp [step, hx, hpc] at this
  case posted =>
    right
    have hrs := j.preNone (by rw [hpc]; rfl)
    have hok := i.pendOk (by rw [hpc]; rfl)
    have hnm := i.unrepNot (by simp [unrep, hpc])
    have hs := j.sigs
    have hc := j.cbs
    refine ⟨hok, hnm, by rw [hs, hpc]; rfl, by rw [hc, hrs]; rfl, Or.inl ⟨hpc, hrs, ?_⟩⟩
    have := (hm (.reg 0 x) rfl).1
    simp only [step, hx, hpc, true_and] at this
    by_cases hmode : (s.op x).mode = mYield
    · exact Or.inl hmode
    · right
      cases hinst : s.installed
      · rfl
      · simp [hmode, hinst] at this
  case waiting =>
    have hok := i.pendOk (by rw [hpc]; rfl)
    have hs := j.sigs
    have hc := j.cbs
    cases hrs : (s.op x).rs with
    | none => exact absurd hpc (i.rsNonePc hrs)
    | vec =>
      right
      have hnm := i.unrepNot (by simp [unrep, hrs])
      exact ⟨hok, hnm, by rw [hs, hpc]; rfl, by rw [hc, hrs]; rfl, Or.inr ⟨hpc, hrs⟩⟩
    | queued =>
      exfalso
      cases hl : s.lock with
      | some b =>
        have := (hm (.q2v b x) rfl).1
        simp [step, hx, hrs, hl] at this
      | none =>
        have := (hm (.q2v 0 x) rfl).2 0 { s with lock := some 0 } (by simp [step, hl])
        simp [step, hx, hrs] at this
    | ready e => have := (hm (.deq 0 x e) rfl).1; simp [step, hx, hrs] at this
    | taken a e =>
      exfalso
      have hpos := inFlight_pos s hj x hx (by rw [hrs]; rfl)
      have := (hm (.ifDec a x (s.inFlight - 1)) rfl).1
      have h1 : s.inFlight - 1 + 1 = s.inFlight := by omega
      simp [step, hx, hrs, h1] at this
    | decd a e => have := (hm (.call a x) rfl).1; simp [step, hx, hrs] at this
    | calling a e => have := (hm (.cb a x e) rfl).1; simp [step, hx, hrs, hpc] at this
    | _ => rcases j.waitEarly hpc with h | h <;> simp [hrs, early5, isCalling] at h
  case done =>
    left
    have hs := j.sigs
    have hc := j.cbs
    have hdm := j.doneMpi hpc
    refine ⟨hpc, by rw [hs, hpc]; rfl, ?_, hdm⟩
    cases hrs : (s.op x).rs with
    | none => exact Or.inl ⟨rfl, by rw [hc, hrs]; rfl⟩
    | gone => exact Or.inr ⟨rfl, by rw [hc, hrs]; rfl⟩
    | calling a e => have := (hm (.ret a x) rfl).1; simp [step, hx, hrs, hpc] at this
    | returned a => have := (hm (.gacDec a x) rfl).1; simp [step, hx, hrs] at this
    | _ => rcases j.doneRs hpc with h | h <;> simp [hrs, late] at h
  -- `failed`, `eagerOk`, `yDone`, `cbRun`, `woken`: the signal `sig` would be accepted
  all_goals simp [step, hx, hpc] at hsig

/-- weights of operations that are finished or wait for MPI (posted, or in the vector): only a waiting one
    counts, in `all_in_flight_` and in the activity count alike -/
theorem ifW_final (s : St) (o : Op) (h : Finished o ∨ AwaitsMpi s o) :
    ifW o = b2n (o.pc == .waiting) ∧ gacW o = b2n (o.pc == .waiting) := by
  rcases h with ⟨h1, _, h3, _⟩ | ⟨_, _, _, _, h5⟩
  · rcases h3 with ⟨h3, _⟩ | ⟨h3, _⟩ <;> simp [ifW, gacW, h1, h3, rsIF, rsGac, b2n]
  · rcases h5 with ⟨h5, h6, _⟩ | ⟨h5, h6⟩ <;> simp [ifW, gacW, h5, h6, rsIF, rsGac, b2n]

/-- a state of measure 0 is maximal (every obligatory step would decrease the measure) -/
theorem maximal_of_mu_zero (s : St) (h0 : mu s = 0) : Maximal s := by
  intro e he
  have hmv := pika_moves e he
  refine ⟨?_, ?_⟩
  · cases hs : step s e with
    | none => rfl
    | some s1 => have := mu_moves s s1 e hmv hs; omega
  · intro a s1 hl
    have hmu := mu_neutral s s1 (.lock a) rfl hl
    cases hs : step s1 e with
    | none => rfl
    | some s2 => have := mu_moves s1 s2 e hmv hs; omega

/-- from any state pika's own steps (plus lock acquisitions) lead to a maximal state within
    `2 * mu s` events: a state that is not maximal accepts a step of pika, at once or after a `lock`,
    and that step lowers `mu` -/
theorem exists_maximal (s : St) :
    ∃ ext s', runLog step s ext = some s' ∧ Maximal s' ∧ ext.length ≤ 2 * mu s ∧
      (∀ e, e ∈ ext → pika e = true ∨ ∃ a, e = .lock a) := by
  -- `exists_maximal_run` carries an invariant along the run; none is needed here, hence `True`
  suffices hext : ∀ s : St, True → ¬ Maximal s → ∃ evs s', runLog step s evs = some s' ∧ True ∧
      (∀ e, e ∈ evs → pika e = true ∨ ∃ a, e = .lock a) ∧ mu s' < mu s ∧ evs.length + 2 * mu s' ≤ 2 * mu s by
    obtain ⟨ext, s', hrun, -, hmax, hall, hlen⟩ := exists_maximal_run (fun _ => True) Maximal mu _ 2 nofun
      (fun a b ha hb e he => (List.mem_append.1 he).elim (ha e) (hb e)) hext s trivial
    exact ⟨ext, s', hrun, hmax, by omega, hall⟩
  intro s _ hmax
  · obtain ⟨e, he⟩ := Classical.not_forall.mp hmax
    obtain ⟨hp, hne⟩ := Classical.not_imp.mp he
    have hmv := pika_moves e hp
    cases hs : step s e with
    | some s2 =>
      have hlt := mu_moves s s2 e hmv hs
      refine ⟨[e], s2, by simp [runLog, hs], trivial, fun e' he' => .inl ?_, hlt, by simp only [List.length_singleton]; omega⟩
      rw [List.mem_singleton.1 he']; exact hp
    | none =>
      obtain ⟨a, h2⟩ := Classical.not_forall.mp fun hh => hne ⟨hs, hh⟩
      obtain ⟨s1, h2⟩ := Classical.not_forall.mp h2
      obtain ⟨hl, h3⟩ := Classical.not_imp.mp h2
      have hmu := mu_neutral s s1 (.lock a) rfl hl
      cases hs2 : step s1 e with
      | none => exact absurd hs2 h3
      | some s2 =>
        have hlt := mu_moves s1 s2 e hmv hs2
        refine ⟨[.lock a, e], s2, by simp [runLog, hl, hs2], trivial, fun e' he' => ?_, by omega,
          by simp only [List.length_cons, List.length_nil]; omega⟩
        rcases List.mem_cons.1 he' with rfl | he'
        · exact .inr ⟨a, rfl⟩
        · rw [List.mem_singleton.1 he']; exact .inl hp

-- One event of `no_pika_step`: expects `h : ∀ x, x < s.n → Finished (s.op x) ∨ AwaitsMpi s (s.op x)`; the guard of
-- the event on `x` fails in each of the shapes `Finished` and `AwaitsMpi` allow.
set_option hygiene false in
macro "nopika" x:term : tactic => `(tactic| (
  simp only [step]
  by_cases hx : $x < s.n
  · rcases h $x hx with ⟨h1, _, h3, _⟩ | ⟨_, _, _, _, h5⟩
    · rcases h3 with ⟨h3, _⟩ | ⟨h3, _⟩ <;> simp [h1, h3, hx]
    · rcases h5 with ⟨h5, h6, h7⟩ | ⟨h5, h6⟩
      · rcases h7 with h7 | h7 <;> simp [h5, h6, h7, hx]
      · simp [h5, h6, hx]
  · simp [hx]))

theorem no_pika_step (s : St) (h : ∀ x, x < s.n → Finished (s.op x) ∨ AwaitsMpi s (s.op x))
    (e : Ev) (he : pika e = true) : step s e = none := by
  cases e with
  | sig a x | reg a x | gacInc a x | ifInc a x v | enq a x | addv a x | q2v a x | deq a x e | ifDec a x v | call a x
  | cb a x e | ret a x | gacDec a x | woke a x => nopika x
  | _ => simp [pika] at he

/-- converse of `final_op`: a state all of whose operations are finished or wait for MPI is maximal -/
theorem maximal_of_final (s : St) (h : ∀ x, x < s.n → Finished (s.op x) ∨ AwaitsMpi s (s.op x)) :
    Maximal s := by
  intro e he
  refine ⟨no_pika_step s h e he, ?_⟩
  intro a s1 hl
  -- taking the poll lock changes nothing that `Finished` or `AwaitsMpi` read
  cases Step.of_step hl with
  | op _ ho => cases ho
  | lock => exact no_pika_step { s with lock := some a } h e he

end PikaVerif.Mpi
