import PikaVerif.Model.Stop
import PikaVerif.Core.Run
/-! What `Stop.step` does, stated twice.  First by event: what each event requires of the state it is accepted
    in (its guards and the program counter of the acting activity) and the state it leads to; one lemma per
    event, an event with several outcomes gives a disjunction, in the order of the branches of `step`.  Then as
    control flow (`Move`, `Frame`, `step_frame`): which event takes its actor from which point to which, that
    nobody else moves, and which event writes which field.  Facts of the kind "an activity at `p` stays there
    until event `e`", "only these events leave `p`", "`p'` is only entered from …" are one `cases` on `Move`. -/
namespace PikaVerif.Stop

theorem step_inv {s s' : St} {a : Nat} {k : Kind} (h : step s (.inv a k) = some s') :
    a < s.n ∧ s.pc a = .idle ∧ (a < s.K ∨ isBody (s.pc (a - s.K)) = true) ∧
    ((k = .rs ∧ s' = { s with pc := upd s.pc a (.ld .rs) }) ∨
     (∃ c, k = .reg c ∧ s.life c = .new ∧
        s' = { s with pc := upd s.pc a (.ld (.reg c)), life := upd s.life c .ctor,
                      owner := upd s.owner c a, ctorBy := upd s.ctorBy c a,
                      reqAtReg := upd s.reqAtReg c s.req }) ∨
     (∃ c, k = .unreg c ∧ s.life c = .live ∧
        s' = { s with life := upd s.life c .dying, dtorBy := upd s.dtorBy c a,
                      pc := upd s.pc a (if s.fixCtor ∧ s.kept c = false then .retn (.unreg c) false
                                        else .ld (.unreg c)) })) := by
  cases k <;> simp only [step] at h <;> split at h <;> try contradiction
  all_goals rename_i hg; refine ⟨hg.1, hg.2.1, hg.2.2, ?_⟩
  · exact .inl ⟨rfl, (Option.some.inj h).symm⟩
  · refine .inr (.inl ⟨_, rfl, ?_⟩)
    split at h
    · next hl => exact ⟨hl, (Option.some.inj h).symm⟩
    · contradiction
  · refine .inr (.inr ⟨_, rfl, ?_⟩)
    split at h
    · next hl => exact ⟨hl, (Option.some.inj h).symm⟩
    · contradiction

theorem step_ret {s s' : St} {a : Nat} {r : Bool} (h : step s (.ret a r) = some s') :
    a < s.n ∧
    ((s.pc a = .retn .rs r ∧ s' = { s with pc := upd s.pc a .idle, rsTrue := s.rsTrue + b2n r }) ∨
     (∃ c b, s.pc a = .retn (.reg c) b ∧
        s' = { s with pc := upd s.pc a .idle, life := upd s.life c .live, kept := upd s.kept c b }) ∨
     (∃ c b, s.pc a = .retn (.unreg c) b ∧
        s' = { s with pc := upd s.pc a .idle, life := upd s.life c .dead })) := by
  obtain ⟨hg, h⟩ := of_ite h
  refine ⟨hg, ?_⟩
  split at h
  · next b hpc =>
    obtain ⟨rfl, h'⟩ := of_ite h
    exact .inl ⟨hpc, (Option.some.inj h').symm⟩
  · next c b hpc => exact .inr (.inl ⟨c, b, hpc, (Option.some.inj h).symm⟩)
  · next c b hpc => exact .inr (.inr ⟨c, b, hpc, (Option.some.inj h).symm⟩)
  · cases h

theorem step_load {s s' : St} {a : Nat} {lk rq : Bool} {src : Nat}
    (h : step s (.load a lk rq src) = some s') :
    ∃ k, a < s.n ∧ lk = s.lock.isSome ∧ rq = s.req ∧ src = s.srcs ∧ s.pc a = .ld k ∧
      s' = { s with pc := upd s.pc a (checked k false rq src) } := by
  obtain ⟨⟨h1, h2, h3, h4⟩, h⟩ := of_ite h
  split at h
  · next k hpc => exact ⟨k, h1, h2, h3, h4, hpc, (Option.some.inj h).symm⟩
  · cases h

theorem step_casFail {s s' : St} {a : Nat} {lk rq : Bool} {src : Nat}
    (h : step s (.casFail a lk rq src) = some s') :
    ∃ k sreq, a < s.n ∧ lk = s.lock.isSome ∧ rq = s.req ∧ src = s.srcs ∧ s.pc a = .cas k sreq ∧
      s' = { s with pc := upd s.pc a (if s.fixCas then checked k lk rq src
                                      else if lk then .spin k else .cas k rq) } := by
  obtain ⟨⟨h1, h2, h3, h4⟩, h⟩ := of_ite h
  split at h
  · next k sreq hpc => exact ⟨k, sreq, h1, h2, h3, h4, hpc, (Option.some.inj h).symm⟩
  · cases h

theorem step_reload {s s' : St} {a : Nat} {lk rq : Bool} {src : Nat}
    (h : step s (.reload a lk rq src) = some s') :
    ∃ k, a < s.n ∧ lk = s.lock.isSome ∧ rq = s.req ∧ src = s.srcs ∧ s.pc a = .spin k ∧
      s' = { s with pc := upd s.pc a (checked k lk rq src) } := by
  obtain ⟨⟨h1, h2, h3, h4⟩, h⟩ := of_ite h
  split at h
  · next k hpc => exact ⟨k, h1, h2, h3, h4, hpc, (Option.some.inj h).symm⟩
  · cases h

theorem step_acq {s s' : St} {a : Nat} (h : step s (.acq a) = some s') :
    a < s.n ∧ s.lock = none ∧
    ((s.pc a = .cas .rs s.req ∧
        s' = { s with lock := some a, req := true, sig := s.ident a, winner := some a,
                      pc := upd s.pc a (.locked .rs) }) ∨
     (∃ k, k ≠ .rs ∧ s.pc a = .cas k s.req ∧
        s' = { s with lock := some a, pc := upd s.pc a (.locked k) })) := by
  obtain ⟨⟨h1, h2⟩, h⟩ := of_ite h
  refine ⟨h1, h2, ?_⟩
  split at h
  · next hpc =>
    obtain ⟨rfl, h'⟩ := of_ite h
    exact .inl ⟨hpc, (Option.some.inj h').symm⟩
  · next hpc =>
    obtain ⟨rfl, h'⟩ := of_ite h
    exact .inr ⟨.reg _, nofun, hpc, (Option.some.inj h').symm⟩
  · next hpc =>
    obtain ⟨rfl, h'⟩ := of_ite h
    exact .inr ⟨.unreg _, nofun, hpc, (Option.some.inj h').symm⟩
  · next hpc =>
    obtain ⟨rfl, h'⟩ := of_ite h
    exact .inr ⟨.relock, nofun, hpc, (Option.some.inj h').symm⟩
  · cases h

theorem step_deq {s s' : St} {a c : Nat} {more : Bool} (h : step s (.deq a c more) = some s') :
    ∃ rest, a < s.n ∧ s.lock = some a ∧ (s.pc a = .locked .rs ∨ s.pc a = .locked .relock) ∧
      s.list = c :: rest ∧ more = decide (rest ≠ []) ∧
      s' = { s with list := rest, lock := none, deqd := upd s.deqd c true,
                    owner := upd s.owner c a, pc := upd s.pc a (.pre c) } := by
  obtain ⟨⟨h1, h2, h3⟩, h⟩ := of_ite h
  split at h
  · next hd rest hl =>
    obtain ⟨⟨rfl, hm⟩, h'⟩ := of_ite h
    exact ⟨rest, h1, h2, h3, hl, hm, (Option.some.inj h').symm⟩
  · cases h

theorem step_rsDone {s s' : St} {a : Nat} (h : step s (.rsDone a) = some s') :
    a < s.n ∧ s.lock = some a ∧ (s.pc a = .locked .rs ∨ s.pc a = .locked .relock) ∧ s.list = [] ∧
      s' = { s with lock := none, pc := upd s.pc a (.retn .rs true) } :=
  let ⟨⟨h1, h2, h3, h4⟩, h⟩ := of_ite h
  ⟨h1, h2, h3, h4, (Option.some.inj h).symm⟩

theorem step_preExec {s s' : St} {a c : Nat} (h : step s (.preExec a c) = some s') :
    a < s.n ∧ s.pc a = .pre c ∧
      s' = { s with remPtr := upd s.remPtr c (some a), remFlag := upd s.remFlag a false,
                    pc := upd s.pc a (.exec c false) } :=
  let ⟨⟨h1, h2⟩, h⟩ := of_ite h
  ⟨h1, h2, (Option.some.inj h).symm⟩

theorem step_cbBegin {s s' : St} {a c : Nat} (h : step s (.cbBegin a c) = some s') :
    ∃ inl, a < s.n ∧ s.pc a = .exec c inl ∧
      s' = { s with runs := upd s.runs c (s.runs c + 1), running := upd s.running c true,
                    pc := upd s.pc a (.body c inl) } := by
  obtain ⟨h1, h⟩ := of_ite h
  split at h
  · next c' inl hpc =>
    obtain ⟨rfl, h'⟩ := of_ite h
    exact ⟨inl, h1, hpc, (Option.some.inj h').symm⟩
  · cases h

/-- The callback body ends only when the nested activity of the same thread is idle again. -/
theorem step_cbEnd {s s' : St} {a c : Nat} (h : step s (.cbEnd a c) = some s') :
    ∃ inl, a < s.n ∧ s.pc (a + s.K) = .idle ∧ s.pc a = .body c inl ∧
      s' = { s with running := upd s.running c false, pc := upd s.pc a (.post c inl) } := by
  obtain ⟨⟨h1, h2⟩, h⟩ := of_ite h
  split at h
  · next c' inl hpc =>
    obtain ⟨rfl, h'⟩ := of_ite h
    exact ⟨inl, h1, h2, hpc, (Option.some.inj h').symm⟩
  · cases h

/-- The finished store is skipped when the callback's destructor, run from inside the callback, has
    set the local `is_removed`. -/
theorem step_finStore {s s' : St} {a c : Nat} {removed : Bool}
    (h : step s (.finStore a c removed) = some s') :
    a < s.n ∧ s.pc a = .post c false ∧ removed = s.remFlag a ∧
    ((removed = true ∧ s' = { s with pc := upd s.pc a (.ld .relock) }) ∨
     (removed = false ∧
        s' = { s with remPtr := upd s.remPtr c none, fin := upd s.fin c true,
                      pc := upd s.pc a (.ld .relock) })) := by
  obtain ⟨⟨h1, h2, h3⟩, h⟩ := of_ite h
  refine ⟨h1, h2, h3, ?_⟩
  split at h
  · next hr => exact .inl ⟨hr, (Option.some.inj h).symm⟩
  · next hr => exact .inr ⟨Bool.eq_false_iff.mpr hr, (Option.some.inj h).symm⟩

theorem step_inFin {s s' : St} {a c : Nat} (h : step s (.inFin a c) = some s') :
    a < s.n ∧ s.pc a = .post c true ∧
      s' = { s with fin := upd s.fin c true, ranInl := upd s.ranInl c true,
                    pc := upd s.pc a (.retn (.reg c) false) } :=
  let ⟨⟨h1, h2⟩, h⟩ := of_ite h
  ⟨h1, h2, (Option.some.inj h).symm⟩

theorem step_push {s s' : St} {a c : Nat} {hadNext : Bool} (h : step s (.push a c hadNext) = some s') :
    a < s.n ∧ s.lock = some a ∧ s.pc a = .locked (.reg c) ∧ hadNext = decide (s.list ≠ []) ∧
      s' = { s with list := c :: s.list, lock := none, pushed := upd s.pushed c true,
                    pc := upd s.pc a (.retn (.reg c) true) } :=
  let ⟨⟨h1, h2, h3, h4⟩, h⟩ := of_ite h
  ⟨h1, h2, h3, h4, (Option.some.inj h).symm⟩

theorem step_unlink {s s' : St} {a c : Nat} {r : Bool} (h : step s (.unlink a c r) = some s') :
    a < s.n ∧ s.lock = some a ∧ s.pc a = .locked (.unreg c) ∧
    ((r = true ∧ c ∈ s.list ∧
        s' = { s with list := s.list.erase c, lock := none, pc := upd s.pc a (.retn (.unreg c) true) }) ∨
     (r = false ∧ c ∉ s.list ∧ s' = { s with lock := none, pc := upd s.pc a (.chk c) })) := by
  obtain ⟨⟨h1, h2, h3, hr⟩, h⟩ := of_ite h
  refine ⟨h1, h2, h3, ?_⟩
  split at h
  · next ht => exact .inl ⟨ht, by simpa [ht] using hr, (Option.some.inj h).symm⟩
  · next hf =>
    have hf := Bool.eq_false_iff.mpr hf
    exact .inr ⟨hf, by simpa [hf] using hr, (Option.some.inj h).symm⟩

/-- The comparison with `signalling_thread_`: on the signalling thread the destructor sets the
    signaller's `is_removed` if the callback is executing (`is_removed_` non-null) and returns; on
    any other thread it goes on to wait. -/
theorem step_selfChk {s s' : St} {a c : Nat} {eq hadPtr : Bool}
    (h : step s (.selfChk a c eq hadPtr) = some s') :
    a < s.n ∧ s.pc a = .chk c ∧ eq = decide (s.sig = s.ident a) ∧
    ((∃ w, eq = true ∧ hadPtr = true ∧ s.remPtr c = some w ∧
        s' = { s with remFlag := upd s.remFlag w true, pc := upd s.pc a (.retn (.unreg c) false) }) ∨
     (eq = true ∧ hadPtr = false ∧ s.remPtr c = none ∧
        s' = { s with pc := upd s.pc a (.retn (.unreg c) false) }) ∨
     (eq = false ∧ hadPtr = false ∧ s' = { s with pc := upd s.pc a (.wait c) })) := by
  obtain ⟨⟨h1, h2, h3⟩, h⟩ := of_ite h
  refine ⟨h1, h2, h3, ?_⟩
  split at h
  · next he =>
    split at h
    · next w hw =>
      obtain ⟨hp, h⟩ := of_ite h
      exact .inl ⟨w, he, hp, hw, (Option.some.inj h).symm⟩
    · next hw =>
      split at h
      · cases h
      · next hp => exact .inr (.inl ⟨he, Bool.eq_false_iff.mpr hp, hw, (Option.some.inj h).symm⟩)
  · next he =>
    split at h
    · cases h
    · next hp =>
      exact .inr (.inr ⟨Bool.eq_false_iff.mpr he, Bool.eq_false_iff.mpr hp, (Option.some.inj h).symm⟩)

theorem step_waited {s s' : St} {a c : Nat} (h : step s (.waited a c) = some s') :
    a < s.n ∧ s.pc a = .wait c ∧ s.fin c = true ∧
      s' = { s with pc := upd s.pc a (.retn (.unreg c) false) } :=
  let ⟨⟨h1, h2, h3⟩, h⟩ := of_ite h
  ⟨h1, h2, h3, (Option.some.inj h).symm⟩

theorem step_srcInc {s s' : St} {a : Nat} (h : step s (.srcInc a) = some s') :
    a < s.n ∧ 0 < s.srcs ∧ s' = { s with srcs := s.srcs + 1 } :=
  let ⟨⟨h1, h2⟩, h⟩ := of_ite h
  ⟨h1, h2, (Option.some.inj h).symm⟩

theorem step_srcDec {s s' : St} {a : Nat} (h : step s (.srcDec a) = some s') :
    a < s.n ∧ 0 < s.srcs ∧ s' = { s with srcs := s.srcs - 1 } :=
  let ⟨⟨h1, h2⟩, h⟩ := of_ite h
  ⟨h1, h2, (Option.some.inj h).symm⟩

theorem step_query {s s' : St} {a : Nat} {rq poss : Bool} (h : step s (.query a rq poss) = some s') :
    a < s.n ∧ rq = s.req ∧ poss = (s.req || decide (0 < s.srcs)) ∧ s' = s :=
  let ⟨⟨h1, h2, h3⟩, h⟩ := of_ite h
  ⟨h1, h2, h3, (Option.some.inj h).symm⟩

theorem step_done {s s' : St} {a : Nat} (h : step s (.done a) = some s') :
    a < s.n ∧ a < s.K ∧ s.pc a = .idle ∧ s' = { s with pc := upd s.pc a .fin } :=
  let ⟨⟨h1, h2, h3⟩, h⟩ := of_ite h
  ⟨h1, h2, h3, (Option.some.inj h).symm⟩

/-! ## Control flow and frame conditions -/

/-- the two lock loops of `request_stop` (the first lock and the re-lock after a callback) -/
def isLoopKind : Kind → Bool
  | .rs | .relock => true
  | _ => false

/-- the activity that performs an event -/
def actor : Ev → Nat
  | .inv a _ | .ret a _ | .load a _ _ _ | .casFail a _ _ _ | .reload a _ _ _ | .acq a | .deq a _ _
  | .rsDone a | .preExec a _ | .cbBegin a _ | .cbEnd a _ | .finStore a _ _ | .inFin a _ | .push a _ _
  | .unlink a _ _ | .selfChk a _ _ _ | .waited a _ | .srcInc a | .srcDec a | .query a _ _ | .done a => a

/-- events that move an operation forward: everything except the environment's choices
    (invoking a new operation, finishing a thread, copying / dropping a source, a query) and
    futile spins (a failed CAS or a re-load that observed the lock bit held by somebody) -/
def productive : Ev → Bool
  | .inv _ _ | .done _ | .srcInc _ | .srcDec _ | .query _ _ _ => false
  | .casFail _ lk _ _ | .reload _ lk _ _ => !lk
  | _ => true

def lockLoop : Pc → Bool
  | .cas _ _ | .spin _ => true
  | _ => false

/-- the model accepts `e` in `s` -/
def enabled (s : St) (e : Ev) : Bool := (step s e).isSome

/-- `Move s e p p'`: when `e` is accepted in `s` its actor is at `p` and goes to `p'` (the state says which variant of
    the lock loops runs). -/
inductive Move (s : St) : Ev → Pc → Pc → Prop
  | inv (a k) : k ≠ .relock → Move s (.inv a k) .idle (.ld k)
  | invSkip (a c) : Move s (.inv a (.unreg c)) .idle (.retn (.unreg c) false)
  | ret (a r k b) : Move s (.ret a r) (.retn k b) .idle
  | load (a lk rq src k) : Move s (.load a lk rq src) (.ld k) (checked k false rq src)
  | casFail (a lk rq src k b) : Move s (.casFail a lk rq src) (.cas k b)
      (if s.fixCas then checked k lk rq src else if lk then .spin k else .cas k rq)
  | reload (a lk rq src k) : Move s (.reload a lk rq src) (.spin k) (checked k lk rq src)
  | acq (a k b) : Move s (.acq a) (.cas k b) (.locked k)
  | deq (a c m k) : isLoopKind k = true → Move s (.deq a c m) (.locked k) (.pre c)
  | rsDone (a k) : isLoopKind k = true → Move s (.rsDone a) (.locked k) (.retn .rs true)
  | preExec (a c) : Move s (.preExec a c) (.pre c) (.exec c false)
  | cbBegin (a c inl) : Move s (.cbBegin a c) (.exec c inl) (.body c inl)
  | cbEnd (a c inl) : Move s (.cbEnd a c) (.body c inl) (.post c inl)
  | finStore (a c r) : Move s (.finStore a c r) (.post c false) (.ld .relock)
  | inFin (a c) : Move s (.inFin a c) (.post c true) (.retn (.reg c) false)
  | push (a c b) : Move s (.push a c b) (.locked (.reg c)) (.retn (.reg c) true)
  | unlinked (a c) : Move s (.unlink a c true) (.locked (.unreg c)) (.retn (.unreg c) true)
  | unlinkNone (a c) : Move s (.unlink a c false) (.locked (.unreg c)) (.chk c)
  | selfRet (a c p) : Move s (.selfChk a c true p) (.chk c) (.retn (.unreg c) false)
  | selfWait (a c) : Move s (.selfChk a c false false) (.chk c) (.wait c)
  | waited (a c) : Move s (.waited a c) (.wait c) (.retn (.unreg c) false)
  | srcInc (a p) : Move s (.srcInc a) p p
  | srcDec (a p) : Move s (.srcDec a) p p
  | query (a x y p) : Move s (.query a x y) p p
  | done (a) : Move s (.done a) .idle .fin

/-- the events that write the lock bit (a successful `lock_and_request_stop` also the stop bit) or
    the callback list -/
def flips : Ev → Bool
  | .acq _ | .deq _ _ _ | .rsDone _ | .push _ _ _ | .unlink _ _ _ => true
  | _ => false

/-- Frame conditions: which event writes which field.  No event writes a constant of the run.  The history
    flags `deqd`, `ranInl` and the stop-requested bit are only ever set; `runs` is written by `cb.begin`,
    `rsTrue` by the `true` return of request_stop, `life` by invocations and returns, `winner` and `sig` by the
    successful CAS. -/
structure Hist (s : St) (e : Ev) (s' : St) : Prop where
  consts : s'.n = s.n ∧ s'.K = s.K ∧ s'.ident = s.ident ∧ s'.fixCas = s.fixCas ∧ s'.fixCtor = s.fixCtor := by
    exact ⟨rfl, rfl, rfl, rfl, rfl⟩
  deqd : ∀ c, s.deqd c = true → s'.deqd c = true := by exact fun _ => id
  ranInl : ∀ c, s.ranInl c = true → s'.ranInl c = true := by exact fun _ => id
  runs : s'.runs = s.runs ∨
    ∃ a c inl, e = .cbBegin a c ∧ s.pc a = .exec c inl ∧ s'.runs = upd s.runs c (s.runs c + 1) := by exact .inl rfl
  req : s.req = true → s'.req = true := by exact id
  rsTrue : s'.rsTrue = s.rsTrue ∨ ∃ a, e = .ret a true ∧ s.pc a = .retn .rs true ∧ s'.rsTrue = s.rsTrue + 1 := by
    exact .inl rfl
  life : s'.life = s.life ∨ (∃ a k, e = .inv a k) ∨ ∃ a r, e = .ret a r := by exact .inl rfl
  word : flips e = false → s'.lock = s.lock ∧ s'.req = s.req ∧ s'.list = s.list := by
    first | exact fun _ => ⟨rfl, rfl, rfl⟩ | exact nofun
  win : (∀ a, e ≠ .acq a) → s'.winner = s.winner ∧ s'.sig = s.sig := by
    first | exact fun _ => ⟨rfl, rfl⟩ | exact fun h => absurd rfl (h _)

structure Frame (s : St) (e : Ev) (s' : St) : Prop extends Hist s e s' where
  lt : actor e < s.n
  move : ∃ p', s'.pc = upd s.pc (actor e) p' ∧ Move s e (s.pc (actor e)) p'

/-- How `step_frame` is put together for one outcome of one event. -/
theorem frame_of {s s' : St} {e : Ev} {p p' : Pc} (ha : actor e < s.n) (hp : s.pc (actor e) = p)
    (hm : Move s e p p') (hist : Hist s e s' := by exact {}) (hpc : s'.pc = upd s.pc (actor e) p' := by rfl) :
    Frame s e s' :=
  { hist with lt := ha, move := ⟨p', hpc, hp ▸ hm⟩ }

theorem step_frame {s s' : St} {e : Ev} (h : step s e = some s') : Frame s e s' := by
  cases e with
  | inv a k =>
    obtain ⟨ha, hp, -, ⟨rfl, rfl⟩ | ⟨c, rfl, -, rfl⟩ | ⟨c, rfl, -, rfl⟩⟩ := step_inv h
    · exact frame_of ha hp (.inv _ _ nofun)
    · exact frame_of ha hp (.inv _ _ nofun) { life := .inr (.inl ⟨a, _, rfl⟩) }
    · refine frame_of ha hp (p' := if _ then _ else _) ?_ { life := .inr (.inl ⟨a, _, rfl⟩) }
      split
      · exact .invSkip ..
      · exact .inv _ _ nofun
  | ret a r =>
    obtain ⟨ha, ⟨hp, rfl⟩ | ⟨c, b, hp, rfl⟩ | ⟨c, b, hp, rfl⟩⟩ := step_ret h
    · refine frame_of ha hp (.ret ..) { rsTrue := ?_ }
      cases r
      · exact .inl rfl
      · exact .inr ⟨a, rfl, hp, rfl⟩
    · exact frame_of ha hp (.ret ..) { life := .inr (.inr ⟨a, r, rfl⟩) }
    · exact frame_of ha hp (.ret ..) { life := .inr (.inr ⟨a, r, rfl⟩) }
  | load a lk rq src =>
    obtain ⟨k, ha, -, -, -, hp, rfl⟩ := step_load h; exact frame_of ha hp (.load ..)
  | casFail a lk rq src =>
    obtain ⟨k, b, ha, -, -, -, hp, rfl⟩ := step_casFail h; exact frame_of ha hp (.casFail ..)
  | reload a lk rq src =>
    obtain ⟨k, ha, -, -, -, hp, rfl⟩ := step_reload h; exact frame_of ha hp (.reload ..)
  | acq a =>
    obtain ⟨ha, -, ⟨hp, rfl⟩ | ⟨k, -, hp, rfl⟩⟩ := step_acq h
    · exact frame_of ha hp (.acq ..) { req := fun _ => rfl }
    · exact frame_of ha hp (.acq ..)
  | deq a c m =>
    obtain ⟨rest, ha, -, hp | hp, -, -, rfl⟩ := step_deq h <;>
      exact frame_of ha hp (.deq _ _ _ _ rfl) { deqd := fun c' hc' => by simp [upd, hc'] }
  | rsDone a =>
    obtain ⟨ha, -, hp | hp, -, rfl⟩ := step_rsDone h <;> exact frame_of ha hp (.rsDone _ _ rfl)
  | preExec a c => obtain ⟨ha, hp, rfl⟩ := step_preExec h; exact frame_of ha hp (.preExec ..)
  | cbBegin a c =>
    obtain ⟨inl, ha, hp, rfl⟩ := step_cbBegin h
    exact frame_of ha hp (.cbBegin ..) { runs := .inr ⟨a, c, inl, rfl, hp, rfl⟩ }
  | cbEnd a c => obtain ⟨inl, ha, -, hp, rfl⟩ := step_cbEnd h; exact frame_of ha hp (.cbEnd ..)
  | finStore a c r =>
    obtain ⟨ha, hp, -, ⟨-, rfl⟩ | ⟨-, rfl⟩⟩ := step_finStore h <;> exact frame_of ha hp (.finStore ..)
  | inFin a c =>
    obtain ⟨ha, hp, rfl⟩ := step_inFin h
    exact frame_of ha hp (.inFin ..) { ranInl := fun c' hc' => by simp [upd, hc'] }
  | push a c b => obtain ⟨ha, -, hp, -, rfl⟩ := step_push h; exact frame_of ha hp (.push ..)
  | unlink a c r =>
    obtain ⟨ha, -, hp, ⟨rfl, -, rfl⟩ | ⟨rfl, -, rfl⟩⟩ := step_unlink h
    · exact frame_of ha hp (.unlinked ..)
    · exact frame_of ha hp (.unlinkNone ..)
  | selfChk a c eq p =>
    obtain ⟨ha, hp, -, ⟨w, rfl, -, -, rfl⟩ | ⟨rfl, -, -, rfl⟩ | ⟨rfl, rfl, rfl⟩⟩ := step_selfChk h
    · exact frame_of ha hp (.selfRet ..)
    · exact frame_of ha hp (.selfRet ..)
    · exact frame_of ha hp (.selfWait ..)
  | waited a c => obtain ⟨ha, hp, -, rfl⟩ := step_waited h; exact frame_of ha hp (.waited ..)
  | srcInc a => obtain ⟨ha, -, rfl⟩ := step_srcInc h; exact frame_of ha rfl (.srcInc ..) {} (upd_self ..).symm
  | srcDec a => obtain ⟨ha, -, rfl⟩ := step_srcDec h; exact frame_of ha rfl (.srcDec ..) {} (upd_self ..).symm
  | query a x y => obtain ⟨ha, -, -, rfl⟩ := step_query h; exact frame_of ha rfl (.query ..) {} (upd_self ..).symm
  | done a => obtain ⟨ha, -, hp, rfl⟩ := step_done h; exact frame_of ha hp (.done a)

theorem step_pc_other {s s' : St} {e : Ev} (h : step s e = some s') {u : Nat} (hu : u ≠ actor e) :
    s'.pc u = s.pc u := by
  obtain ⟨p', hpc, -⟩ := (step_frame h).move
  rw [hpc, upd_other _ _ _ _ hu]

end PikaVerif.Stop
