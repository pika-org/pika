import PikaVerif.Lemmas.Fifo
/-! Two-queue move loop (`Fifo.Move`): both queues keep their invariant, and the global value balance. -/
namespace PikaVerif.Fifo.Move
open PikaVerif.Fifo

theorem step_ghost {s s' : St} {e : Ev} (h : step s e = some s') :
    s'.handed = s.handed ++ inOf e ∧ s'.returned = s.returned ++ outOf s e ∧ s'.n = s.n := by
  obtain ⟨t, _, tr⟩ := Tr.of_step h
  cases tr with
  | inc v hpc => exact ⟨rfl, (List.append_nil _).symm, rfl⟩
  | dec hpc => exact ⟨(List.append_nil _).symm, by simp [outOf, hpc], rfl⟩
  | _ => exact ⟨(List.append_nil _).symm, (List.append_nil _).symm, rfl⟩

/-- occurrences of `x` in a `trd` local (the indicator `Fifo.fl` for `Option Nat`) -/
def hw (x : Nat) : Option Nat → Nat
  | some v => if v = x then 1 else 0
  | none => 0

/-- the values in the `trd` locals of threads `0 … k-1`, as `Fifo.inflightTo` lists the in-flight ones -/
def heldTo (hold : Nat → Option Nat) : Nat → List Nat
  | 0 => []
  | k + 1 => heldTo hold k ++ (match hold k with | some v => [v] | none => [])

/-- values sitting in a `trd` local -/
def St2.held (s : St2) : List Nat := heldTo s.hold s.src.n

theorem count_heldTo (x : Nat) (hold : Nat → Option Nat) (n : Nat) :
    (heldTo hold n).count x = sumTo n (fun t => hw x (hold t)) := by
  induction n with
  | zero => simp [heldTo]
  | succ k ih =>
    simp only [heldTo, sumTo_succ, List.count_append, ih]
    cases hold k <;> simp [hw, List.count_singleton] <;> split <;> simp_all

/-- both queues keep `Fifo.Inv`, over the same threads; no `trd` outside `[0, n)`; and the balance between
    the two queues' ghost lists, the outside world and the `trd` locals -/
structure Inv2 (s : St2) : Prop where
  isrc : Inv s.src
  idst : Inv s.dst
  sameN : s.dst.n = s.src.n
  holdOut : ∀ t, s.src.n ≤ t → s.hold t = none
  bal : ∀ x, s.src.returned.count x + s.dst.returned.count x + s.extIn.count x =
    s.src.handed.count x + s.dst.handed.count x + s.extOut.count x + sumTo s.src.n (fun t => hw x (s.hold t))

theorem inv2_init (n : Nat) : Inv2 (init2 n) := by
  refine ⟨inv_init n, inv_init n, rfl, fun _ _ => rfl, ?_⟩
  intro x
  simp [init2, init, hw, sumTo_eq_zero]

theorem step2_inv (s : St2) (e : Ev2) (s' : St2) (hi : Inv2 s) (h : step2 s e = some s') : Inv2 s' := by
  obtain ⟨h1, h2, h3, h4, h5⟩ := hi
  cases e with
  | src e =>
    obtain ⟨a, ha, rfl⟩ := Option.map_eq_some_iff.1 h
    obtain ⟨g1, g2, g3⟩ := step_ghost ha
    exact ⟨step_inv h1 ha, h2, h3.trans g3.symm, fun u hu => h4 u (g3 ▸ hu), fun x => by
      have := h5 x; simp only [g1, g2, g3, List.count_append]; omega⟩
  | dst e =>
    obtain ⟨b, hb, rfl⟩ := Option.map_eq_some_iff.1 h
    obtain ⟨g1, g2, g3⟩ := step_ghost hb
    exact ⟨h1, step_inv h2 hb, g3.trans h3, h4, fun x => by
      have := h5 x; simp only [g1, g2, List.count_append]; omega⟩
  | mdec t =>
    simp only [step2] at h
    split at h
    case h_2 => cases h
    rename_i v hpc hh
    obtain ⟨a, ha, rfl⟩ := Option.map_eq_some_iff.1 h
    obtain ⟨g1, g2, g3⟩ := step_ghost ha
    have htn : t < s.src.n := by obtain ⟨_, ht, tr⟩ := Tr.of_step ha; cases tr; exact ht
    refine ⟨step_inv h1 ha, h2, h3.trans g3.symm, fun u hu => ?_, fun x => ?_⟩
    · have := h4 u (g3 ▸ hu); grind [upd]
    · have := h5 x
      have hs := sumTo_upd s.src.n (hw x) s.hold t (some v) htn
      rw [hh] at hs
      change _ + 0 = _ + (if v = x then 1 else 0) at hs
      have hout : outOf s.src (.dec t) = [v] := by simp [outOf, hpc]
      simp only [g1, g2, g3, List.count_append, hout, inOf, List.count_nil, count_singleton_fl, fl]
      omega
  | minc t =>
    simp only [step2] at h
    split at h
    case h_2 => cases h
    rename_i v hh
    obtain ⟨b, hb, rfl⟩ := Option.map_eq_some_iff.1 h
    obtain ⟨g1, g2, g3⟩ := step_ghost hb
    have htn : t < s.src.n := by obtain ⟨_, ht, tr⟩ := Tr.of_step hb; cases tr; exact h3 ▸ ht
    refine ⟨h1, step_inv h2 hb, g3.trans h3, fun u hu => ?_, fun x => ?_⟩
    · have := h4 u hu; grind [upd]
    · have := h5 x
      have hs := sumTo_upd s.src.n (hw x) s.hold t none htn
      rw [hh] at hs
      change _ + (if v = x then 1 else 0) = _ + 0 at hs
      simp only [g1, g2, List.count_append, outOf, inOf, List.count_nil, count_singleton_fl, fl]
      omega

theorem inv2_of_accepted {n : Nat} {log : List Ev2} {s : St2} (h : runLog step2 (init2 n) log = some s) : Inv2 s :=
  inv_of_runLog Inv2 step2_inv (inv2_init n) h

theorem Inv2.perm {s : St2} (hi : Inv2 s) :
    s.extIn.Perm (s.extOut ++ (s.src.values ++ s.dst.values) ++ (s.src.inflight ++ s.dst.inflight) ++ s.held) := by
  rw [List.perm_iff_count]
  intro x
  have h1 := hi.isrc.cons x
  have h2 := hi.idst.cons x
  have h3 := hi.bal x
  simp only [List.count_append, St.inflight, St2.held, count_inflightTo, count_heldTo]
  omega

end PikaVerif.Fifo.Move
