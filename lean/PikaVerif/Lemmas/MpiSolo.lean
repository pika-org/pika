import PikaVerif.Lemmas.MpiFin
/-!
# Solo step bounds: from MPI's report to the receiver's signal (C20t)

`sigDist o` is the exact number of pika's own steps that separate operation `o` from the signal to
its receiver once MPI has reported (or the MPI call has failed); `nextEv` is the step itself.  Run
alone — the poller that dequeued the entry and the continuing task, nobody else moves — these steps
are always accepted (`solo_step`) and after exactly `sigDist` of them the receiver has been
signalled exactly once (`solo_run`).
-/
namespace PikaVerif.Mpi

/-- one more step (the wake-up of the suspended task) in `suspend_resume` mode -/
def susp (o : Op) : Nat := if o.mode = mSuspend then 1 else 0

/-- number of pika's own steps from `o` to the signal to its receiver, once MPI has reported (or the call
    has failed); `0` where the operation has signalled or still waits for MPI -/
def sigDist (o : Op) : Nat :=
  match o.pc with
  | .failed | .eagerOk | .yDone | .cbRun | .woken => 1
  | .completed => 2
  | .waiting =>
    match o.rs with
    | .ready _ => 5 + susp o
    | .taken _ _ => 4 + susp o
    | .decd _ _ => 3 + susp o
    | .calling _ _ => 2 + susp o
    | _ => 0
  | _ => 0

/-- the next step towards the signal; `a` is the thread that acts where the model leaves the
    actor open (the poller that dequeues, the task that signals / wakes up) -/
def nextEv (s : St) (x a : Nat) : Option Ev :=
  match (s.op x).pc with
  | .failed | .eagerOk | .yDone | .cbRun | .woken => some (.sig a x)
  | .completed => some (.woke a x)
  | .waiting =>
    match (s.op x).rs with
    | .ready e => some (.deq a x e)
    | .taken b _ => some (.ifDec b x (s.inFlight - 1))
    | .decd b _ => some (.call b x)
    | .calling b e => some (.cb b x e)
    | _ => none
  | _ => none

theorem nextEv_pika (s : St) (x a : Nat) (e : Ev) (h : nextEv s x a = some e) : pika e = true := by
  simp only [nextEv] at h
  repeat' split at h
  all_goals first | (simp at h; done) | (injection h with h; subst h; rfl)

def evOp : Ev → Option Nat
  | .post _ x _ _ | .eager _ x | .ydone _ x | .sig _ x | .reg _ x | .gacInc _ x | .ifInc _ x _
  | .enq _ x | .addv _ x | .q2v _ x | .ready _ x _ | .deq _ x _ | .testany _ x _ | .ifDec _ x _
  | .call _ x | .cb _ x _ | .ret _ x | .gacDec _ x | .woke _ x | .rel _ x => some x
  | _ => none

theorem nextEv_evOp (s : St) (x a : Nat) (e : Ev) (h : nextEv s x a = some e) : evOp e = some x := by
  simp only [nextEv] at h
  repeat' split at h
  all_goals first | (simp at h; done) | (injection h with h; subst h; rfl)

theorem sigDist_le (o : Op) : sigDist o ≤ 6 := by
  simp only [sigDist, susp]
  repeat' split
  all_goals omega

/-- At positive distance the next step `nextEv` is accepted, lowers the distance by exactly one and leaves
    `mpiDone`, `okPost` of the operation and the number of operations as they are. -/
theorem solo_step (s : St) (hj : Inv s) (x a : Nat) (hx : x < s.n) (hd : 0 < sigDist (s.op x)) :
    ∃ e, nextEv s x a = some e ∧ ∃ s', step s e = some s' ∧
      sigDist (s'.op x) + 1 = sigDist (s.op x) ∧ (s'.op x).mpiDone = (s.op x).mpiDone ∧
      (s'.op x).okPost = (s.op x).okPost ∧ s'.n = s.n := by
  have hb := hj.nobug
  cases hpc : (s.op x).pc with
  | failed | eagerOk | yDone | cbRun | woken =>
    exact ⟨.sig a x, by simp [nextEv, hpc], by simp [step, hx, hpc, hb, setOp, sigDist]⟩
  | completed => exact ⟨.woke a x, by simp [nextEv, hpc], by simp [step, hx, hpc, setOp, sigDist]⟩
  | waiting =>
    cases hrs : (s.op x).rs
    case ready e =>
      exact ⟨.deq a x e, by simp [nextEv, hpc, hrs], by simp [step, hx, hpc, hrs, setOp, sigDist, susp]; omega⟩
    case taken b e =>
      have hpos := inFlight_pos s hj x hx (by rw [hrs]; rfl)
      have h1 : s.inFlight - 1 + 1 = s.inFlight := by omega
      exact ⟨.ifDec b x (s.inFlight - 1), by simp [nextEv, hpc, hrs],
        by simp [step, hx, hpc, hrs, h1, setOp, sigDist, susp]; omega⟩
    case decd b e =>
      exact ⟨.call b x, by simp [nextEv, hpc, hrs], by simp [step, hx, hpc, hrs, setOp, sigDist, susp]; omega⟩
    case calling b e =>
      refine ⟨.cb b x e, by simp [nextEv, hpc, hrs], ?_⟩
      by_cases hm : (s.op x).mode = mSuspend <;> simp [step, hx, hpc, hrs, setOp, sigDist, susp, hm]
    all_goals (simp [sigDist, hpc, hrs] at hd)
  | _ => simp [sigDist, hpc] at hd

/-- an operation whose request MPI has reported (or whose MPI call failed) and which is at distance
    0 has signalled -/
theorem done_of_dist_zero (s : St) (hj : Inv s) (hi : Inv2 s) (x : Nat) (hx : x < s.n)
    (hrep : (s.op x).okPost = true → (s.op x).mpiDone = true) (hd : sigDist (s.op x) = 0) :
    (s.op x).pc = .done := by
  have j := hj.ops x
  have i := hi.ops x
  have hni := hi.notIdle x hx
  have hcontra : ∀ (_ : pend (s.op x).pc = true) (_ : unrep (s.op x) = true), False := by
    intro h1 h2
    have := hrep (i.pendOk h1)
    rw [i.unrepNot h2] at this
    exact absurd this (by decide)
  cases hpc : (s.op x).pc with
  | done => rfl
  | idle => exact absurd hpc hni
  | errDone => exact absurd hpc j.noErrDone
  | posted | reg0 | reg1 | reg2 => exact (hcontra (by rw [hpc]; rfl) (by simp [unrep, hpc])).elim
  | waiting =>
    exfalso
    cases hrs : (s.op x).rs with
    | none => exact absurd hpc (i.rsNonePc hrs)
    | queued | vec => exact hcontra (by rw [hpc]; rfl) (by simp [unrep, hrs])
    | returned _ | gone => rcases j.waitEarly hpc with h | h <;> simp [hrs, early5, isCalling] at h
    | _ => simp [sigDist, hpc, hrs, susp] at hd
  | _ => simp [sigDist, hpc] at hd

theorem solo_run (a : Nat) (k : Nat) : ∀ (s : St), Inv s → Inv2 s → ∀ (x : Nat), x < s.n →
    ((s.op x).okPost = true → (s.op x).mpiDone = true) → sigDist (s.op x) = k →
    ∃ log s', log.length = k ∧ runLog step s log = some s' ∧ (∀ e, e ∈ log → pika e = true ∧ evOp e = some x) ∧
      (s'.op x).pc = .done ∧ (s'.op x).sigs = 1 := by
  induction k with
  | zero =>
    intro s hj hi x hx hrep hd
    have hdone := done_of_dist_zero s hj hi x hx hrep hd
    refine ⟨[], s, rfl, rfl, by simp, hdone, ?_⟩
    rw [(hj.ops x).sigs, hdone]; rfl
  | succ k ih =>
    intro s hj hi x hx hrep hd
    obtain ⟨e, hne, s1, hs, hdist, hm, ho, hn⟩ := solo_step s hj x a hx (by omega)
    obtain ⟨hj1, hi1⟩ := step_inv12 s s1 e ⟨hj, hi⟩ hs
    obtain ⟨log, s', hlen, hrun, hall, hdone, hsig⟩ := ih s1 hj1 hi1 x (by omega) (by rw [hm, ho]; exact hrep) (by omega)
    refine ⟨e :: log, s', by simp [hlen], by simp [runLog, hs, hrun], ?_, hdone, hsig⟩
    intro e' he'
    simp only [List.mem_cons] at he'
    rcases he' with rfl | he'
    · exact ⟨nextEv_pika s x a _ hne, nextEv_evOp s x a _ hne⟩
    · exact hall e' he'

end PikaVerif.Mpi
