import PikaVerif.Lemmas.JoinStep
/-! Ownership invariant of the join model (C13m): the ghost map `owner` (task ↦ handle) is
    the exact inverse of `hid` (handle ↦ task), across `start`, `join`, `detach`, move construction,
    move assignment, `swap` and destruction.  Independent of the invariant in `Lemmas/Join.lean`
    (it only mentions `hid` and `owner`). -/
namespace PikaVerif.Join

@[simp, grind =] theorem setOwn_apply (ow : Nat → Option Nat) (x v : Option Nat) (t : Nat) :
    setOwn ow x v t = if x = some t then v else ow t := rfl

structure OwnInv (s : St) : Prop where
  ownHid : ∀ h o, s.hid h = some o → s.owner o = some h
  hidOwn : ∀ o h, s.owner o = some h → s.hid h = some o

theorem own_init : OwnInv init := by
  refine ⟨?_, ?_⟩ <;> simp [init]

theorem step_own (s s' : St) (e : Ev) (hi : OwnInv s) (h : step s e = some s') : OwnInv s' := by
  obtain ⟨h1, h2⟩ := hi
  cases Step.of_step h with
  | start | jnDoneRefused | jnDoneWoke | detach | mvCtor | mvAssign | swap | dtorTerm =>
    constructor <;> intro a b <;> grind [upd]
  | _ => exact ⟨h1, h2⟩

theorem own_of_accepted {log : List Ev} {s : St} (h : runLog step init log = some s) : OwnInv s :=
  inv_of_runLog OwnInv (fun s e s' => step_own s s' e) own_init h

/-- the events by which handle `h` gives up the thread it refers to -/
def Releases (h : Nat) : Ev → Prop
  | .jnDone h' _ | .detach h' _ _ | .dtorTerm h' _ => h' = h
  | _ => False

theorem owner_kept (s s' : St) (e : Ev) (hi : OwnInv s) (hs : step s e = some s') (h o : Nat)
    (ho : s.owner o = some h) : (s'.owner o).isSome = true ∨ Releases h e := by
  obtain ⟨h1, h2⟩ := hi
  cases Step.of_step hs with
  | start | jnDoneRefused | jnDoneWoke | detach | mvCtor | mvAssign | swap | dtorTerm =>
    simp only [Releases]; grind [upd]
  | _ => exact .inl (by simp [ho])

end PikaVerif.Join
