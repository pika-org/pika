import PikaVerif.Lemmas.DequeInv
/-!
# When is a stabilisation link-CAS of the deque stale?  (C17s)

`stale` (Model/Deque.lean) is set when the link CAS of `stabilize_left/right` succeeds although the
anchor it was computed for has changed.  This file characterises that event in terms of node
recycling, for both tagging disciplines of `stepG`:

* the **recycling monitor** `Mon` runs beside the model (`stepM`): a thread that passed its second
  `anchor_ != lrs` re-check holds a *link snapshot* `(prev, prevnext)`; `dirty t` records that the
  node `prev` was handed to `pool_.deallocate` (event `free`) while thread `t` held that snapshot;
  `aba` records that a link CAS **succeeded** with a dirty snapshot.
* `TagInv` — the link-tag invariant: the value a snapshot holds is either still the value of the
  link or the link's tag has grown since; and once the anchor has moved on, the tag *has* grown.
  It holds for the pinned tree as long as `aba = false`, and unconditionally for the repaired code
  (`fx = true`, where tags survive recycling).
* consequence (`stale_false_of_aba_false`, `stale_false_fixed`): no stale link CAS.
* converse (`aba_false_of_stale_false`): a thread whose snapshot is still current (`anchor = lrs`) has its
  node `prev` in the chain, and chain nodes are not passed to `deallocate`: so a current snapshot is clean
  (first clause of `TagOk` at `stLink`), and a link CAS that succeeds while current does not raise `aba`.
  Together: `stale = false ⟺ aba = false` for every accepted log of the pinned tree's model; both
  directions are read off one run invariant (`FlagsDown`).
-/
namespace PikaVerif.Deque

/-- state of the recycling monitor: per thread, whether its snapshot's node was freed under it; and
    whether a link CAS has succeeded on such a snapshot -/
structure Mon where
  dirty : Nat → Bool
  aba : Bool

def mon0 : Mon := ⟨fun _ => false, false⟩

/-- the node whose link the thread is about to CAS (it passed the second re-check) -/
def snapNode : Pc → Nat
  | .stLink _ _ _ prev _ => prev.ptr
  | _ => 0

/-- One step of the monitor (uses the state *before* the event).
    `free n`: every thread holding a link snapshot of node `n` becomes dirty;
    `chk`: a (new) snapshot window of the thread starts clean;
    `lcas ok`: a successful link CAS with a dirty snapshot is the ABA event. -/
def monStep (s : St) (m : Mon) : Ev → Mon
  | .free _ n => { m with dirty := fun T => m.dirty T || decide (snapNode (s.pc T) = n) }
  | .chk t _ => { m with dirty := upd m.dirty t false }
  | .lcas t ok => { m with aba := m.aba || (ok && m.dirty t) }
  | _ => m

/-- model and monitor side by side -/
def stepM (fx : Bool) (x : St × Mon) (e : Ev) : Option (St × Mon) :=
  (stepG fx x.1 e).map (fun s' => (s', monStep x.1 x.2 e))

theorem runM_fst {fx : Bool} {log : List Ev} {x y : St × Mon}
    (h : runLog (stepM fx) x log = some y) : runLog (stepG fx) x.1 log = some y.1 := by
  have := runLog_map (step' := stepG fx) Prod.fst id (fun x e y hs => by
    obtain ⟨s', h1, rfl⟩ := Option.map_eq_some_iff.1 hs; exact h1) h
  rwa [List.map_id] at this

theorem runM_exists {fx : Bool} {log : List Ev} {s s' : St} (m : Mon)
    (h : runLog (stepG fx) s log = some s') : ∃ m', runLog (stepM fx) (s, m) log = some (s', m') := by
  obtain ⟨⟨_, m'⟩, hr, rfl⟩ := runLog_lift (step' := stepM fx) (p := (s, m)) Prod.fst
    (fun p e s' hs => ⟨(s', monStep p.1 p.2 e), by simp [stepM, hs], rfl⟩) h
  exact ⟨m', hr⟩

/-! ## The link-tag invariant -/

/-- the snapshot value `pn` is still current, or the link has been written (tag grew) since -/
def Fresh (pn cur : Link) : Prop := cur = pn ∨ pn.tag < cur.tag

/-- link words only move forward -/
theorem Fresh.trans {pn l l' : Link} (h : Fresh pn l) (hm : Fresh l l') : Fresh pn l' := by
  rcases hm with rfl | hm
  · exact h
  · rcases h with rfl | h
    · exact Or.inr hm
    · exact Or.inr (Nat.lt_trans h hm)

theorem Fresh.le {pn l : Link} (h : Fresh pn l) : pn.tag ≤ l.tag := by
  rcases h with h | h
  · rw [h]; exact Nat.le_refl _
  · omega

/-- node a *push* owns (a node in `popFree` is owned too, but is on its way to the freelist) -/
def pushOwned : Pc → Nat
  | .popFree _ _ => 0
  | p => owned p

/-- the thread holds a link snapshot `(prev, prevnext)`: it has loaded `prev`'s outward link and has not
    yet attempted the link CAS -/
def isSnap : Pc → Bool
  | .stChk2 _ _ _ _ _ | .stLink _ _ _ _ _ => true
  | _ => false

/-- What the link-tag discipline guarantees to a thread holding a link snapshot.  Before the second
    re-check (`stChk2`) only a current snapshot is spoken of, so nothing depends on `dirty`.  After it
    (`stLink`): a current snapshot is clean; and for a clean snapshot (or with surviving tags) the link still
    has the snapshot's value or a larger tag; once the anchor has moved on the tag has grown; and, where tags
    restart on recycling, the node `prev` is still allocated and is nobody's private push node, i.e. nothing
    can have reset its tag. -/
def TagOk (fx : Bool) (s : St) (dirty : Bool) : Pc → Prop
  | .stChk2 _ d a prev pn =>
    s.anchor = a → pn.ptr ≠ a.endp d ∧ Fresh pn (outward d (s.nodes prev.ptr))
  | .stLink _ d a prev pn =>
    (s.anchor = a → dirty = false) ∧ ((fx = true ∨ dirty = false) →
      pn.ptr ≠ a.endp d ∧ Fresh pn (outward d (s.nodes prev.ptr)) ∧
      (s.anchor ≠ a → pn.tag < (outward d (s.nodes prev.ptr)).tag) ∧
      (fx = false → prev.ptr ≠ 0 ∧ s.used prev.ptr = true ∧ ∀ u, pushOwned (s.pc u) ≠ prev.ptr))
  | _ => True

def TagInv (fx : Bool) (s : St) (dirty : Nat → Bool) : Prop :=
  ∀ T, TagOk fx s (dirty T) (s.pc T)

variable {fx : Bool} {s s' : St} {m : Mon} {t : Nat} {p : Pc} {dirty dirty' : Nat → Bool}
  {A' : Anchor} {N' : Nat → Node} {U' : Nat → Bool} {C' pu po : List Nat} {st' : Bool} {p' : Pc}

theorem tagOk_of_not_snap {b : Bool} (h : isSnap p = false) :
    TagOk fx s b p := by
  cases p <;> first | trivial | cases h

theorem not_owned_of_mem (hi : Inv s) {p : Nat} (hp : p ∈ s.chain) (u : Nat) :
    pushOwned (s.pc u) ≠ p := by
  have := hi.owned_ne_of_mem hp u; have := (hi.glob.mem p hp).1
  unfold pushOwned
  split <;> omega

/-- **Frame lemma**: `TagInv` survives a step of thread `t` that keeps the anchor, moves link words
    only forward (on the nodes a clean snapshot can refer to), frees no node a clean snapshot refers to,
    dirties no snapshot of a chain node and starts to own only a node that was free.  The hypotheses default to "nothing of the kind
    happens"; a caller names the ones its event touches. -/
theorem tagInv_frame (hi : Inv s) (hj : TagInv fx s dirty) (hpc : s.pc t = p)
    (hd : ∀ T, T ≠ t → dirty' T = false → dirty T = false := by exact fun _ _ h => h)
    (hk : ∀ T, T ≠ t → dirty T = false → snapNode (s.pc T) ∈ s.chain → dirty' T = false := by
      exact fun _ _ h _ => h)
    (hU : ∀ T, T ≠ t → dirty' T = false → s.used (snapNode (s.pc T)) = true →
      U' (snapNode (s.pc T)) = true := by exact fun _ _ _ h => h)
    (hN : ∀ x d, (fx = true ∨ (s.used x = true ∧ ∀ u, pushOwned (s.pc u) ≠ x)) →
      Fresh (outward d (s.nodes x)) (outward d (N' x)) := by exact fun _ _ _ => Or.inl rfl)
    (ho : pushOwned p' = 0 ∨ pushOwned p' = pushOwned p ∨ s.used (pushOwned p') = false := by
      exact Or.inr (Or.inl rfl))
    (ht : TagOk fx ⟨s.n, s.anchor, N', U', upd s.pc t p', C', pu, po, st'⟩ (dirty' t) p' := by
      exact trivial) :
    TagInv fx ⟨s.n, s.anchor, N', U', upd s.pc t p', C', pu, po, st'⟩ dirty' := by
  intro T
  dsimp only
  by_cases hT : T = t
  · rw [hT, upd_same]; exact ht
  rw [upd_other _ _ _ _ hT]
  have hTo := hj T
  have hlT := hi.loc T
  cases hp : s.pc T <;> rw [hp] at hTo hlT <;> try trivial
  case stChk2 k d a prev pn =>
    intro hA'
    obtain ⟨h1, h2⟩ := hTo hA'
    have hm := (nbr_mem (hlT.2.2 hA')).2
    refine ⟨h1, h2.trans (hN _ _ ?_)⟩
    cases fx
    · exact Or.inr ⟨(hi.glob.mem _ hm).2, fun u => not_owned_of_mem hi hm u⟩
    · exact Or.inl rfl
  case stLink k d a prev pn =>
    refine ⟨fun hA => ?_, fun hl => ?_⟩
    · have := hk T hT (hTo.1 hA); rw [hp] at this; exact this (nbr_mem (hlT.2.2 hA)).2
    obtain ⟨h1, h2, h3, h4⟩ := hTo.2 (hl.imp_right (hd T hT))
    have safe : fx = true ∨ (s.used prev.ptr = true ∧ ∀ u, pushOwned (s.pc u) ≠ prev.ptr) := by
      cases fx
      · exact Or.inr (h4 rfl).2
      · exact Or.inl rfl
    refine ⟨h1, h2.trans (hN _ _ safe), fun hne => (hN _ _ safe).elim (fun h => h ▸ h3 hne) (Nat.lt_trans (h3 hne)), fun hfx => ?_⟩
    obtain ⟨g1, g2, g3⟩ := h4 hfx
    have hdT : dirty' T = false := hl.resolve_left (by rw [hfx]; exact Bool.noConfusion)
    refine ⟨g1, ?_, fun u => ?_⟩
    · have := hU T hT hdT; rw [hp] at this; exact this g2
    · have := g3 t; have := g3 u
      grind [upd]

theorem tagInv_pc (hi : Inv s) (hj : TagInv fx s dirty) (hpc : s.pc t = p)
    (hd : ∀ T, T ≠ t → dirty' T = dirty T := by exact fun _ _ => rfl) (hs : isSnap p' = false := by rfl)
    (ho : pushOwned p' = 0 ∨ pushOwned p' = pushOwned p := by first | exact Or.inr rfl | exact Or.inl rfl) :
    TagInv fx { s with pc := upd s.pc t p' } dirty' :=
  tagInv_frame hi hj hpc (hd := fun T hT h => hd T hT ▸ h) (hk := fun T hT h _ => (hd T hT).trans h)
    (ho := ho.imp_right Or.inl)
    (ht := tagOk_of_not_snap hs)

theorem fresh_setOutward (d d' : Bool) (nd : Node) (x tg : Nat) (h : (outward d nd).tag < tg) :
    Fresh (outward d' nd) (outward d' (setOutward d nd ⟨x, tg⟩)) := by
  cases d <;> cases d' <;> first | exact Or.inl rfl | exact Or.inr h

theorem isSnap_kont (k : Kont) : isSnap (kont k) = false := by cases k <;> rfl
theorem pushOwned_kont (k : Kont) : pushOwned (kont k) = ownedK k := by cases k <;> rfl

/-- side goals about `isSnap` / `pushOwned` of the new program counter -/
macro "po" hpc:ident : tactic => `(tactic| (
  (try simp only [pushOwned_kont, isSnap_kont, Bool.false_eq_true, ↓reduceIte])
  (try simp [pushOwned, owned, ownedK, isSnap, $hpc:ident])))

/-- events that only move a program counter between non-snapshot pcs -/
macro "tag_pc_only" hi:ident hj:ident h:ident : tactic => `(tactic| (
  simp only [stepG] at $h:ident
  (repeat' split at $h:ident) <;> first
    | (simp at $h:ident; done)
    | (simp only [Option.some.injEq] at $h:ident; subst $h:ident
       refine ⟨rfl, tagInv_pc $hi $hj (fun _ _ => rfl) ?_ ?_⟩
       · first | rfl | (repeat' split) <;> rfl
       · simp [pushOwned, owned, ownedK, *])))

theorem tagInv_cas (hi : Inv s) (hj : TagInv fx s dirty) (hpc : s.pc t = p)
    (hkey : s.anchor.st = 0 ∨ ∀ d q, Nbr d s.chain (s.anchor.endp d) q → s.anchor.st = pushSt d →
        (outward d (s.nodes q)).ptr = s.anchor.endp d)
    (hs : isSnap p' = false := by rfl)
    (ho : pushOwned p' = 0 ∨ pushOwned p' = pushOwned p := by exact Or.inl rfl)
    (hA : s.anchor.tag < A'.tag := by
      first | exact Nat.lt_succ_self _ | (split <;> exact Nat.lt_succ_self _)) :
    TagInv fx { s with anchor := A', chain := C', pushed := pu, popped := po,
                       pc := upd s.pc t p' } dirty := by
  intro T
  dsimp only
  by_cases hT : T = t
  · rw [hT, upd_same]; exact tagOk_of_not_snap hs
  rw [upd_other _ _ _ _ hT]
  have hTo := hj T
  have hlT := hi.loc T
  have htT := hi.tags T
  cases hp : s.pc T <;> rw [hp] at hTo hlT htT <;> try trivial
  case stChk2 k d a prev pn =>
    intro hA'; subst hA'; exact absurd htT (Nat.not_le_of_lt hA)
  case stLink k d a prev pn =>
    refine ⟨fun hA' => by subst hA'; exact absurd htT (Nat.not_le_of_lt hA), fun hl => ?_⟩
    obtain ⟨h1, h2, h3, h4⟩ := hTo.2 hl
    refine ⟨h1, h2, fun _ => ?_, fun hfx => ?_⟩
    · by_cases hsa : s.anchor = a
      · -- the link had to be repaired before the anchor could leave the unstable state
        subst hsa
        exact h2.resolve_left fun h2 => h1 (h2 ▸
          hkey.resolve_left (hlT.2.1 ▸ pushSt_ne_zero d) d _ (hlT.2.2 rfl) hlT.2.1)
      · exact h3 hsa
    · obtain ⟨g1, g2, g3⟩ := h4 hfx
      refine ⟨g1, g2, fun u => ?_⟩
      have := g3 t; have := g3 u
      grind [upd]

theorem Tr.tag {e : Ev} (tr : Tr fx s t e s') (hi : Inv s) (hj : TagInv fx s m.dirty)
    (hm : fx = true ∨ (monStep s m e).aba = false) :
    s'.stale = s.stale ∧ TagInv fx s' (monStep s m e).dirty := by
  have hd : ∀ T, T ≠ t → upd m.dirty t false T = m.dirty T := fun T hT => upd_other _ _ _ _ hT
  cases tr with
  | inv push d v hpc =>
    cases push <;> exact ⟨rfl, tagInv_pc hi hj hpc⟩
  | @alloc d v n hn hu hpc =>
    refine ⟨rfl, tagInv_frame hi hj hpc (hU := fun T _ _ h => ?_) (hN := fun x d' hs => ?_)
      (ho := Or.inr (Or.inr hu))⟩
    · grind [upd]
    · cases d' <;> grind [upd, Fresh, outward, newTag]
  | ldPush hpc =>
    split <;> (try split) <;> exact ⟨rfl, tagInv_pc hi hj hpc⟩
  | ldPop hpc =>
    split <;> (try split) <;> (try split) <;> exact ⟨rfl, tagInv_pc hi hj hpc⟩
  | chkPop same hpc hs => cases same <;> exact ⟨rfl, tagInv_pc hi hj hpc hd⟩
  | @chk1 k d a prev same hpc hs =>
    cases same
    · exact ⟨rfl, tagInv_pc hi hj hpc hd (isSnap_kont k) (Or.inr (pushOwned_kont k))⟩
    · exact ⟨rfl, tagInv_pc hi hj hpc hd⟩
  | @chk2 k d a prev pn same hpc hs =>
    cases same
    · exact ⟨rfl, tagInv_pc hi hj hpc hd (isSnap_kont k) (Or.inr (pushOwned_kont k))⟩
    · -- the snapshot is taken: the anchor is current, so `prev` is a chain node
      have hA : s.anchor = a := of_decide_eq_true hs.symm
      obtain ⟨h1, h2⟩ := (hpc ▸ hj t : TagOk fx s (m.dirty t) (.stChk2 k d a prev pn)) hA
      have hmem := (nbr_mem ((hi.loc_at hpc).2.2 hA)).2
      refine ⟨rfl, tagInv_frame hi hj hpc (hd := fun T hT h => (hd T hT).symm.trans h)
        (hk := fun T hT h _ => (hd T hT).trans h)
        (ht := ⟨fun _ => upd_same _ _ _, fun _ => ⟨h1, h2, fun hne => absurd hA hne,
          fun _ => ⟨(hi.glob.mem _ hmem).1, (hi.glob.mem _ hmem).2, fun u => ?_⟩⟩⟩)⟩
      have := not_owned_of_mem hi hmem t; have := not_owned_of_mem hi hmem u
      grind [upd, pushOwned, owned]
  | rdPop lk hpc hg | rd1 lk hpc hg => exact ⟨rfl, tagInv_pc hi hj hpc⟩
  | @rd2 k d a prev lk hpc hg =>
    split
    · refine ⟨rfl, tagInv_frame hi hj hpc (ht := fun hA => ⟨‹_›, Or.inl ?_⟩)⟩
      -- under the current anchor `prev` is a chain node, hence allocated: the load saw the link
      have hu := (hi.glob.mem _ (nbr_mem ((hi.loc_at hpc).2.2 hA)).2).2
      rcases hg with ⟨hg, _⟩ | hg
      · simp [unknownLeft, hu] at hg
      · exact hg.symm
    · exact ⟨rfl, tagInv_pc hi hj hpc⟩
  | @link d n a hpc =>
    refine ⟨rfl, tagInv_frame hi hj hpc (hN := fun x d' hs => ?_)⟩
    by_cases hx : x = n
    · subst hx
      rcases hs with rfl | hs
      · rw [upd_same]
        cases d <;> cases d' <;> first | exact Or.inl rfl | exact Or.inr (Nat.lt_succ_self _)
      · exact absurd (by rw [hpc]; rfl) (hs.2 t)
    · rw [upd_other _ _ _ _ hx]; exact Or.inl rfl
  | @lcasOk k d a prev pn hpc hg =>
    have hlive : fx = true ∨ m.dirty t = false :=
      hm.imp_right fun h => by simpa using (Bool.or_eq_false_iff.1 h).2
    obtain ⟨h1, h2, h3, h4⟩ := (hpc ▸ hj t : TagOk fx s (m.dirty t) (.stLink k d a prev pn)).2 hlive
    -- the CAS succeeded, so the link still has the snapshot's tag: it was not written since
    have htag : (outward d (s.nodes prev.ptr)).tag = pn.tag := by
      rcases hg with ⟨hu, hfx⟩ | hg
      · cases fx
        · simp [unknownLeft, (h4 rfl).2.1] at hu
        · exact hfx rfl
      · rw [hg]
    have hA : s.anchor = a := Decidable.byContradiction fun hne => by have := h3 hne; omega
    refine ⟨by simp [hA], tagInv_frame hi hj hpc (hN := fun x d' _ => ?_)⟩
    by_cases hx : x = prev.ptr
    · rw [hx, upd_same]; exact fresh_setOutward d d' _ _ _ (htag ▸ Nat.lt_succ_self _)
    · rw [upd_other _ _ _ _ hx]; exact Or.inl rfl
  | @pushEmpty d n hpc =>
    exact ⟨rfl, tagInv_cas hi hj hpc
      (Or.inl (hi.glob.st_zero (by rw [hi.glob.nil_of_end d (hi.loc_at hpc).2]; decide)))⟩
  | push hpc => exact ⟨rfl, tagInv_cas hi hj hpc (Or.inl (hi.loc_at hpc).2.2.1)⟩
  | popSingle hpc =>
    exact ⟨rfl, tagInv_cas hi hj hpc
      (Or.inl (Decidable.byContradiction fun h => hi.glob.ends_ne_of_st h (hi.loc_at hpc).1))⟩
  | pop hpc => exact ⟨rfl, tagInv_cas hi hj hpc (Or.inl (hi.loc_at hpc).2.1)⟩
  | @stab k d hpc =>
    refine ⟨rfl, tagInv_cas hi hj hpc (hs := isSnap_kont k) (ho := Or.inr (pushOwned_kont k))
      (Or.inr fun d' q hn hst => ?_)⟩
    obtain ⟨_, hst', hlinks⟩ := hi.loc_at hpc
    obtain rfl := pushSt_inj (hst.symm.trans hst')
    exact hlinks rfl _ hn
  | lcasFail hpc | stabFail hpc =>
    exact ⟨rfl, tagInv_pc hi hj hpc (hs := isSnap_kont _) (ho := Or.inr (pushOwned_kont _))⟩
  | pushEmptyFail hpc | pushFail hpc | popSingleFail hpc | popFail hpc =>
    exact ⟨rfl, tagInv_pc hi hj hpc⟩
  | @free n v hpc =>
    -- a chain node is not the one being freed
    have hn := (hi.own_at hpc (hi.loc_at hpc)).2
    refine ⟨rfl, tagInv_frame hi hj hpc (hd := fun T _ h => (Bool.or_eq_false_iff.1 h).1)
      (hk := fun T _ h hm => by simp [monStep, h, show snapNode (s.pc T) ≠ n from fun he => hn (he ▸ hm)])
      (hU := fun T _ h hu => ?_) (ho := Or.inl rfl)⟩
    rw [upd_other _ _ _ _ (of_decide_eq_false (Bool.or_eq_false_iff.1 h).2)]; exact hu
  | ret hpc | done hpc => exact ⟨rfl, tagInv_pc hi hj hpc⟩

theorem aba_mono (s : St) (m : Mon) (e : Ev) (h : (monStep s m e).aba = false) : m.aba = false := by
  cases e <;> first | exact h | exact (Bool.or_eq_false_iff.1 h).1

/-- a link CAS that succeeds on the current anchor has a clean snapshot (`TagOk`): `aba` stays -/
theorem Tr.aba_eq {e : Ev} (tr : Tr fx s t e s') (hj : TagInv fx s m.dirty) (hs : s'.stale = false) :
    (monStep s m e).aba = m.aba := by
  cases tr with
  | @lcasOk k d a prev pn hpc hg =>
    have hA := (Tr.lcasOk (fx := fx) hpc hg).current hs rfl hpc
    simp [monStep, (hpc ▸ hj t : TagOk fx s (m.dirty t) (.stLink k d a prev pn)).1 hA]
  | lcasFail hpc => exact Bool.or_false _
  | _ => rfl

/-- The run invariant of model + monitor: for the repaired code, or as long as either flag is still down,
    both flags are down and the invariants hold. -/
def FlagsDown (fx : Bool) (x : St × Mon) : Prop :=
  (fx = true ∨ x.1.stale = false ∨ x.2.aba = false) →
    x.1.stale = false ∧ x.2.aba = false ∧ Inv x.1 ∧ TagInv fx x.1 x.2.dirty

theorem flagsDown_step {x y : St × Mon} {e : Ev} (hg : FlagsDown fx x) (h : stepM fx x e = some y) :
    FlagsDown fx y := by
  obtain ⟨s1, he, rfl⟩ := Option.map_eq_some_iff.1 h
  intro hy
  obtain ⟨h1, h2, h3, h4⟩ := hg (hy.imp_right (Or.imp (stale_mono he) (aba_mono x.1 x.2 e)))
  obtain ⟨_, _, tr⟩ := Tr.of_step he
  -- a step that is not stale leaves `aba` alone (`Tr.aba_eq`); a step that leaves `aba` down is not stale (`Tr.tag`)
  have ha : fx = true ∨ (monStep x.1 x.2 e).aba = false :=
    hy.imp_right fun h => h.elim (fun hs => (tr.aba_eq h4 hs).trans h2) id
  obtain ⟨k1, k2⟩ := tr.tag h3 h4 ha
  exact ⟨k1.trans h1, (tr.aba_eq h4 (k1.trans h1)).trans h2, step_inv h3 he (k1.trans h1), k2⟩

theorem flagsDown_of_run {n : Nat} {log : List Ev} {y : St × Mon}
    (h : runLog (stepM fx) (init n, mon0) log = some y) : FlagsDown fx y :=
  inv_of_runLog (FlagsDown fx) (fun _ _ _ hg hs => flagsDown_step hg hs)
    (show FlagsDown fx (init n, mon0) from fun _ => ⟨rfl, rfl, inv_init n, fun _ => trivial⟩) h

/-- **Pinned tree**: if no link CAS succeeded on a node that was freed while the thread held its
    link snapshot, then no link CAS was stale, and the invariant of `Lemmas/DequeInv` holds. -/
theorem stale_false_of_aba_false {n : Nat} {log : List Ev}
    (h : runLog (stepM false) (init n, mon0) log = some (s, m)) (hm : m.aba = false) :
    s.stale = false ∧ Inv s :=
  have := flagsDown_of_run h (Or.inr (Or.inr hm))
  ⟨this.1, this.2.2.1⟩

/-- **Repaired code**: no link CAS is ever stale. -/
theorem stale_false_fixed {n : Nat} {log : List Ev}
    (h : runLog (stepG true) (init n) log = some s) : s.stale = false ∧ Inv s := by
  obtain ⟨m', hm'⟩ := runM_exists mon0 h
  have := flagsDown_of_run hm' (Or.inl rfl)
  exact ⟨this.1, this.2.2.1⟩

/-- **Converse**: a run of model + monitor that ends with `stale = false` ends with `aba = false`. -/
theorem aba_false_of_stale_false {n : Nat} {log : List Ev}
    (h : runLog (stepM fx) (init n, mon0) log = some (s, m)) (hs : s.stale = false) : m.aba = false :=
  (flagsDown_of_run h (Or.inr (Or.inl hs))).2.1

/-- events that neither touch the anchor nor the monitor and do not enter `stLink` -/
macro "clean_simple" t:ident hc:ident h:ident : tactic => `(tactic| (
  simp only [stepG] at $h:ident
  (repeat' split at $h:ident) <;> first
    | (simp at $h:ident; done)
    | (simp only [Option.some.injEq] at $h:ident; subst $h:ident
       refine ⟨clean_frame $t $hc (fun T hT => by simp [upd, hT]) rfl
         (fun _ _ _ _ _ _ _ _ _ => rfl) (fun k d a prev pn hp => ?_), rfl⟩
       exfalso
       simp only [upd, if_true] at hp
       (repeat' split at hp) <;> simp [kont_ne_stLink] at hp)))

end PikaVerif.Deque
