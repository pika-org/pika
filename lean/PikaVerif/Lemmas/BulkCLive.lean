import PikaVerif.Lemmas.BulkCProg
import PikaVerif.Lemmas.IndexQueue
/-!
No stuck state in the composed bulk model `PikaVerif.BulkC` (C11).

* `popTry_word`: the generated per-iteration functions on the words the model holds;
* `en_pop`: the next step of a `pop_*` is enabled (by `step_iff`, from right to left), `en_worker`: a worker
  inside `do_work` can always move;
* `running_progress`: in the running phase, while the receiver has not been completed, some
  non-stutter event is enabled.
-/
namespace PikaVerif.BulkC
open PikaVerif.BulkArith PikaVerif.Partition PikaVerif.C11

theorem popOff_work (off j : Nat) : popOff (.work off j) = some off := rfl

theorem popOff_eq_offOf (p : Bulk.Pc) : popOff p = Bulk.offOf p := by cases p <;> rfl

def En (s : St) (e : Ev) : Prop := ∃ s', step s e = some s'

/-- the worker task an event belongs to (`none`: the thread running `set_value` / its spawner
    loop, and the receiver's completion) -/
def evActor : Ev → Option Nat
  | .task k => some k
  | .load k _ _ _ => some k
  | .cas k _ _ _ _ => some k
  | .chunk k _ => some k
  | .call k _ _ => some k
  | .ret k => some k
  | .throw k => some k
  | .exc k => some k
  | .dec k _ => some k
  | .decide k _ => some k
  | _ => none

theorem popTry_word (off : Nat) (r : Nat × Nat) (hl : r.2 < 4294967296) (hfl : r.1 ≤ r.2) :
    popTry off (r.1 : Int) (r.2 : Int) =
      if r.1 < r.2 then some (((Bulk.popEnd off r).1 : Int), word (Bulk.popEnd off r).2) else none := by
  have e := IQ.popTry_exact (r.1 : Int) (r.2 : Int) (by omega) (by omega) (by omega) (by omega)
  unfold popTry Bulk.popEnd word
  by_cases h0 : off = 0 <;> by_cases hlt : r.1 < r.2 <;>
    simp only [h0, hlt, if_true, if_false, e.1, e.2, Int.ofNat_lt] <;> simp <;> omega

theorem word_bounds (s : St) (hi : CInv s) (q : Nat) (hq : q < s.w) :
    (s.p.qs q).1 ≤ (s.p.qs q).2 ∧ (s.p.qs q).2 < 4294967296 := by
  have := hi.qs_le hq
  have := hi.safe.2.2.2.2.2.2.2.1
  omega

/-- A worker in the `while ((index = queue.pop_*()))` test can move.  With the word of its queue empty:
    `nullopt`, at the load or at the compare-exchange that fails on a word it loaded earlier.  Otherwise: the
    load, the compare-exchange that succeeds on the current word, or the one that fails on a stale word and
    leaves the worker with the current one. -/
theorem en_pop (s : St) (hi : CInv s) (hph : s.ph = 1) (k off : Nat) (hk : k < s.w)
    (hoff : Bulk.offOf (s.p.pc k) = some off) (hr : popReady (s.lp k) = true) :
    ∃ e, evActor e = some k ∧ isStutter e = false ∧ En s e := by
  have hw : s.p.w = s.w := hi.pw
  have hpo : popOff (s.p.pc k) = some off := by rw [popOff_eq_offOf]; exact hoff
  obtain ⟨q, hqq⟩ : ∃ q, q = (k + off) % s.w := ⟨_, rfl⟩
  have hqp : q = (k + off) % s.p.w := by rw [hw]; exact hqq
  obtain ⟨b1, b2⟩ := word_bounds s hi q (by rw [hqq]; exact Nat.mod_lt _ (by omega))
  have hpt := popTry_word off (s.p.qs q) b2 b1
  -- what the worker holds, if anything, is a word on which the generated iteration goes on
  have held : ∀ x, s.ex k = some x → popTry off x.1 x.2 ≠ none := fun x hex => by
    obtain ⟨_, off', ho', h⟩ := (hi.wk k).2.2.1 x hex
    rw [hpo] at ho'; cases ho'; exact h
  by_cases hlt : (s.p.qs q).1 < (s.p.qs q).2
  · rw [if_pos hlt] at hpt
    have hsome : popTry off ((s.p.qs q).1 : Int) ((s.p.qs q).2 : Int) ≠ none := by rw [hpt]; nofun
    cases hex : s.ex k with
    | none => exact ⟨_, rfl, rfl, _, step_iff.2 (.run hph (.loadSome hk hex hr rfl hpo hqq hsome))⟩
    | some x =>
      by_cases hx : x = word (s.p.qs q)
      · subst hx
        exact ⟨_, rfl, rfl, _, step_iff.2 (.run hph (.casOk hk hr hex hpo hqq hpt rfl (Int.natCast_nonneg _)
          (.popSome (by omega) hoff hqp ((Bulk.qEmpty_false_iff _).2 hlt) (Int.toNat_natCast _))
          (congrArg word (upd_same ..))))⟩
      · exact ⟨_, rfl, rfl, _, step_iff.2 (.run hph (.casSome hk hr hex hpo hqq (held x hex) hx rfl hsome))⟩
  · rw [if_neg hlt] at hpt
    have hb : Bulk.Step s.p (.pop k q none) _ :=
      .popNone (by omega) hoff hqp ((Bulk.qEmpty_iff _).2 (by omega))
    cases hex : s.ex k with
    | none => exact ⟨_, rfl, rfl, _, step_iff.2 (.run hph (.loadNone hk hex hr rfl hpo hqq hpt hb))⟩
    | some x =>
      have hx : x ≠ word (s.p.qs q) := fun e => held x hex (by rw [e]; exact hpt)
      exact ⟨_, rfl, rfl, _, step_iff.2 (.run hph (.casNone hk hr hex hpo hqq (held x hex) hx rfl hpt hb))⟩

/-- **A worker inside `do_work` can always move**: it enters the chunk it popped, makes the next
    call, returns from the call it is in, stores / drops the exception it is unwinding with, or
    makes the next step of a `pop_*` (load, compare-exchange that succeeds, compare-exchange that
    fails because another worker changed the word, `nullopt`). -/
theorem en_worker (s : St) (hi : CInv s) (hph : s.ph = 1) (k off : Nat) (hk : k < s.w)
    (hoff : Bulk.offOf (s.p.pc k) = some off) (ho : s.p.outcome = none) :
    ∃ e, evActor e = some k ∧ isStutter e = false ∧ En s e := by
  have hw : s.p.w = s.w := hi.pw
  have hrem := (hi.pinv.outn ho).1
  cases hlp : s.lp k with
  | out => exact en_pop s hi hph k off hk hoff (by rw [hlp]; rfl)
  | got j =>
    obtain ⟨off', hpc⟩ := (hi.wk k).2.2.2 j hlp
    have hj : j < nchunks s.c s.n := by have := hi.lpOK k; rwa [hlp] at this
    have hub := (chunkRange_ideal s.S s.w s.n s.c k j hi.safe hk hj).2
    exact ⟨.chunk k j, rfl, rfl, _, step_iff.2 (.run hph (.chunk hk hlp hub (.chunk (by omega) hpc)))⟩
  | «at» cur ie =>
    by_cases hlt : cur < ie
    · exact ⟨.call k cur s.v, rfl, rfl, _, step_iff.2 (.run hph (.call hk hlp hlt hi.tsv))⟩
    · exact en_pop s hi hph k off hk hoff (by rw [hlp]; simp only [popReady, decide_eq_true_eq]; omega)
  | incall cur ie => exact ⟨.ret k, rfl, rfl, _, step_iff.2 (.run hph (.ret hk hlp))⟩
  | threw i =>
    have hwk := (hi.wk k).isWork (by rw [hlp]; nofun)
    cases hpc : s.p.pc k with
    | work off' j =>
      cases hx : s.p.excThrown with
      | false => exact ⟨.exc k, rfl, rfl, _, step_iff.2 (.run hph (.exc hk hlp (.exc (by omega) hx hpc)))⟩
      | true =>
        exact ⟨_, rfl, rfl, _, step_iff.2 (.run hph (.decThrew hk hlp hwk (.decWork (by omega) hrem hpc hx)))⟩
    | _ => rw [hpc] at hwk; simp [isWork] at hwk

theorem en_fin (s : St) (hi : CInv s) (hph : s.ph = 1) (k : Nat) (t : Bool) (hk : k < s.w)
    (hpc : s.p.pc k = .fin t) (ho : s.p.outcome = none) :
    ∃ e, evActor e = some k ∧ isStutter e = false ∧ En s e :=
  ⟨_, rfl, rfl, _, step_iff.2 (.run hph (.decOut hk ((hi.wk k).1 (by rw [hpc]; rfl)) (by rw [hpc]; rfl)
    (.decFin (by rw [hi.pw]; exact hk) (hi.pinv.outn ho).1 hpc)))⟩

/-- **No stuck state in the running phase, and who moves.**  While the receiver has not been
    completed: (a) the outcome is decided and the completion is enabled, or (b) the spawner loop
    can handle its next worker, or (c) the spawner loop is finished and the local worker can
    start, or (d) some worker `k < w` that has not yet decremented the join counter has an
    enabled non-stutter event of its own. -/
theorem running_progress (s : St) (hi : CInv s) (hph : s.ph = 1) (hd : s.done = []) :
    (∃ err tok, s.p.outcome = some err ∧ En s (.sig err tok)) ∨
    (Bulk.cur s.p < s.w ∧ (En s (.spawn (Bulk.cur s.p)) ∨ En s (.skip (Bulk.cur s.p)))) ∨
    (s.w ≤ Bulk.cur s.p ∧ En s (.task s.p.L)) ∨
    (∃ k e, k < s.w ∧ s.p.pc k ≠ .decd ∧ evActor e = some k ∧ isStutter e = false ∧ En s e) := by
  have hw : s.p.w = s.w := hi.pw
  have hs0 : s.p.signals = 0 := by rw [← hi.doneLen, hd]; rfl
  cases ho : s.p.outcome with
  | some err =>
    refine Or.inl ?_
    cases err with
    | false => exact ⟨false, s.v, rfl, _, step_iff.2 (.run hph (.sig hi.tsv (.sig ho hs0)))⟩
    | true =>
      have hx : s.p.excThrown = true := ((hi.pinv.outc true ho).2).symm
      cases hexc : s.exception with
      | none => exact absurd hexc (hi.excSome hx)
      | some tok => exact ⟨true, tok, rfl, _, step_iff.2 (.run hph (.sig hexc (.sig ho hs0)))⟩
  | none =>
    refine Or.inr ?_
    rcases Bulk.actor s.p hi.pinv hi.pq ho with ⟨hc, hidle⟩ | ⟨hc, hidle⟩ | ⟨k, hk, hkL, hpc⟩ |
        ⟨k, off, hk, hoff⟩ | ⟨k, t, hk, hpc⟩
    · refine Or.inl ⟨by omega, ?_⟩
      cases hq : Bulk.qEmpty (s.p.qs (Bulk.cur s.p)) with
      | false => exact Or.inl ⟨_, step_iff.2 (.run hph (.spawn (.spawn hc rfl hidle hq)))⟩
      | true => exact Or.inr ⟨_, step_iff.2 (.run hph (.skip (.skip hc rfl hidle hq)))⟩
    · exact Or.inr (Or.inl ⟨by omega,
        _, step_iff.2 (.run hph (.task (.task hi.pinv.wL (.inl ⟨rfl, hc, hidle⟩))))⟩)
    · exact Or.inr (Or.inr ⟨k, .task k, by omega, by rw [hpc]; simp, rfl, rfl,
        _, step_iff.2 (.run hph (.task (.task hk (.inr ⟨hkL, hpc⟩))))⟩)
    · obtain ⟨e, h1, h2, h3⟩ := en_worker s hi hph k off (by omega) hoff ho
      refine Or.inr (Or.inr ⟨k, e, by omega, ?_, h1, h2, h3⟩)
      intro hdd; rw [hdd] at hoff; simp [Bulk.offOf] at hoff
    · obtain ⟨e, h1, h2, h3⟩ := en_fin s hi hph k t (by omega) hpc ho
      exact Or.inr (Or.inr ⟨k, e, by omega, by rw [hpc]; simp, h1, h2, h3⟩)

end PikaVerif.BulkC
