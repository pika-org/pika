import PikaVerif.Lemmas.SchedStep
import PikaVerif.Core.Run
/-! The per-object invariant of the scheduler protocol model (`ObjInv`: owner, phase and token
    discipline) and its preservation (`step_inv`).  Before that: what `pendingish` and `tokens`
    compute, and the token facts the later files read off `ObjInv`
    (`no_token`, `sole_pusher`, `sole_holder`, `of_owner`, `no_owner`, `token_cases`) with the three
    object updates that several events share (`reinit`, `unboost`, `wake`). -/
namespace PikaVerif.Sched

variable {s s' : St} {e : Ev}

def b2n (b : Bool) : Nat := if b then 1 else 0

/-- scheduling tokens of an object: queue entries + a holder + a pusher -/
def tokens (x : Obj) : Nat := x.q + b2n x.holder.isSome + b2n x.pusher.isSome

structure ObjInv (x : Obj) : Prop where
  ownerActive : x.live = true → (x.owner.isSome = true ↔ x.w.st = sActive)
  phaseOwner : x.inPhase = true → x.owner.isSome = true
  tokPending : x.live = true → x.fresh = false → pendingish x.w = true → tokens x = 1
  tokNone : x.live = true → pendingish x.w = false → tokens x = 0
  -- a constructed object that was never queued: pending, untouched, its first token still to come
  tokFresh : x.live = true → x.fresh = true → tokens x = 0 ∧ x.w.st = sPending ∧ x.owner = none ∧ x.inPhase = false
  -- the word a holder loaded after the pop is still the current one (its exchange cannot fail)
  hold : ∀ a, x.holder = some a → x.hexp = x.w
  helpersActive : ∀ h ∈ x.helpers, h.1.st = sActive
  resNotActive : x.ranPhase = true → x.result ≠ sActive
  -- `pending_boost` exists only between the store after the phase and the loop's `set_state`
  boostPusher : x.live = true → x.w.st = sBoost → x.pusher.isSome = true

def Inv (s : St) : Prop := ∀ o, ObjInv (s.obj o)

theorem inv_init : Inv init := by
  intro o
  refine ⟨?_, ?_, ?_, ?_, ?_, ?_, ?_, ?_, ?_⟩ <;> simp [init]

theorem tokens_eq_zero {x : Obj} : tokens x = 0 ↔ x.q = 0 ∧ x.holder = none ∧ x.pusher = none := by
  cases hh : x.holder <;> cases hp : x.pusher <;> simp [tokens, b2n, hh, hp]

theorem pendingish_iff {w : W} : pendingish w = true ↔ w.st = sPending ∨ w.st = sBoost := by
  simp [pendingish]

theorem pendingish_of_pending {w : W} (h : w.st = sPending) : pendingish w = true :=
  pendingish_iff.2 (.inl h)

theorem not_pendingish {w : W} (h : w.st ≠ sPending) (h' : w.st ≠ sBoost) : pendingish w = false := by
  simp [pendingish, h, h']

theorem not_pendingish_of_active {w : W} (h : w.st = sActive) : pendingish w = false :=
  not_pendingish (by rw [h]; decide) (by rw [h]; decide)

namespace ObjInv
variable {x : Obj} {a : Nat}

theorem no_token (hi : ObjInv x) (hl : x.live = true) (h : pendingish x.w = false ∨ x.fresh = true) :
    x.q = 0 ∧ x.holder = none ∧ x.pusher = none :=
  tokens_eq_zero.1 (h.elim (hi.tokNone hl) fun hf => (hi.tokFresh hl hf).1)

theorem sole_pusher (hi : ObjInv x) (hl : x.live = true) (hp : x.pusher = some a) :
    x.fresh = false ∧ pendingish x.w = true ∧ x.q = 0 ∧ x.holder = none := by
  have := hi.no_token hl; have := hi.tokPending hl
  cases hh : x.holder <;> grind [tokens, b2n]

theorem sole_holder (hi : ObjInv x) (hl : x.live = true) (hh : x.holder = some a) :
    x.fresh = false ∧ pendingish x.w = true ∧ x.q = 0 ∧ x.pusher = none := by
  have := hi.no_token hl; have := hi.tokPending hl
  cases hp : x.pusher <;> grind [tokens, b2n]

theorem of_owner (hi : ObjInv x) (hl : x.live = true) (ho : x.owner = some a) :
    x.w.st = sActive ∧ x.fresh = false ∧ x.q = 0 ∧ x.holder = none ∧ x.pusher = none := by
  have := hi.ownerActive hl; have := hi.no_token hl; have := hi.tokFresh hl
  grind [pendingish]

theorem no_owner (hi : ObjInv x) (hl : x.live = true) (h : x.w.st ≠ sActive) : x.owner = none := by
  cases ho : x.owner
  · rfl
  · exact absurd ((hi.ownerActive hl).1 (by rw [ho]; rfl)) h

/-- where the one token of a constructed pending object is: with nobody yet (it has never been
    queued), with a pusher, with a holder, or in the queue -/
theorem token_cases (hi : ObjInv x) (hl : x.live = true) (hp : pendingish x.w = true) :
    (x.fresh = true ∧ x.w.st = sPending ∧ x.q = 0 ∧ x.holder = none) ∨
    (∃ p, x.pusher = some p ∧ x.holder = none) ∨
    (x.w.st = sPending ∧ x.pusher = none ∧
      ((∃ a, x.holder = some a ∧ x.hexp = x.w) ∨ (x.holder = none ∧ 0 < x.q))) := by
  have := hi.no_token hl; have := hi.tokPending hl; have := hi.tokFresh hl; have := hi.boostPusher hl
  have := hi.hold
  cases hpu : x.pusher <;> cases hh : x.holder <;> grind [tokens, b2n, pendingish]

theorem reinit (hi : ObjInv x) {w : W} (hw : w.st = sPending) :
    ObjInv { live := true, w := w, helpers := x.helpers, epoch := x.epoch + 1 } := by
  have := hi.helpersActive
  constructor <;> grind [tokens, b2n, pendingish]

/-- `pending_boost → pending`: the token stays with the pusher that `pending_boost` implies -/
theorem unboost (hi : ObjInv x) (hl : x.live = true) (hst : x.w.st = sBoost) {af : W}
    (haf : af.st = sPending) : ObjInv { x with w := af } := by
  obtain ⟨p, hp⟩ := Option.isSome_iff_exists.1 (hi.boostPusher hl hst)
  obtain ⟨hf, hpd, _, hh⟩ := hi.sole_pusher hl hp
  have := hi.ownerActive hl
  exact { hi with
    ownerActive := by grind, tokPending := fun _ _ _ => hi.tokPending hl hf hpd
    tokNone := by grind [pendingish], tokFresh := by grind, hold := by grind, boostPusher := by grind }

/-- `suspended → pending` by actor `a`, which becomes the pusher: the first token -/
theorem wake (hi : ObjInv x) (hl : x.live = true) (hst : x.w.st = sSuspended) {af : W}
    (haf : af.st = sPending) : ObjInv { x with w := af, pusher := some a, epoch := x.epoch + 1 } := by
  have := hi.no_token hl; have := hi.ownerActive hl; have := hi.tokFresh hl
  exact { hi with
    ownerActive := by grind, tokPending := by grind [tokens, b2n, pendingish], tokNone := by grind [pendingish]
    tokFresh := by grind, hold := by grind [pendingish], boostPusher := by grind }

end ObjInv

/-- Each event updates one object; the fields of `ObjInv` that the update does not touch carry over
    (`{ hi o with … }`), and the others hold by the event's guard and the token count. -/
theorem step_inv (hi : Inv s) (h : step s e = some s') : Inv s' := by
  have upd_inv : ∀ {o x'}, ObjInv x' → ∀ u, ObjInv (upd s.obj o x' u) :=
    fun hx => forall_upd (P := fun _ x => ObjInv x) hi hx
  cases e with
  | new a o w => obtain ⟨hg, rfl⟩ := of_ite_some h; exact upd_inv ((hi o).reinit hg.2.2)
  | rebind a o w => obtain ⟨hg, rfl⟩ := of_ite_some h; exact upd_inv ((hi o).reinit hg.2.2.2)
  | push a o =>
    obtain ⟨⟨hl, hst, hg⟩, rfl⟩ := of_ite_some h
    -- the new queue entry is the only token: there was none, or the pusher's
    have ht : (s.obj o).q = 0 ∧ (s.obj o).holder = none := hg.elim
      (fun h => ⟨h.2, ((hi o).no_token hl (.inr h.1)).2.1⟩) (fun h => ((hi o).sole_pusher hl h).2.2)
    exact upd_inv { hi o with
      tokPending := fun _ _ _ => by simp [tokens, ht, b2n]
      tokNone := fun _ hn => by rw [pendingish_of_pending hst] at hn; cases hn
      tokFresh := fun _ hf => by cases hf
      boostPusher := fun _ hb => by rw [hst] at hb; cases hb }
  | got a o w f =>
    obtain ⟨hl, rfl, hh, ⟨_, hp, hst, rfl⟩ | ⟨_, hq, rfl⟩⟩ := step_got h
    · obtain ⟨hf, _, hq, _⟩ := (hi o).sole_pusher hl hp
      exact upd_inv { hi o with
        tokPending := fun _ _ _ => by simp [tokens, hq, b2n]
        tokNone := fun _ hn => by rw [pendingish_of_pending hst] at hn; cases hn
        tokFresh := fun _ h => by rw [hf] at h; cases h
        hold := fun _ _ => rfl
        boostPusher := fun _ hb => by rw [hst] at hb; cases hb }
    · exact upd_inv { hi o with
        tokPending := by have := (hi o).tokPending; grind [tokens, b2n]
        tokNone := fun hl hn => by have := ((hi o).no_token hl (.inl hn)).1; omega
        tokFresh := fun hl hf => by have := ((hi o).no_token hl (.inr hf)).1; omega
        hold := fun _ _ => rfl }
  | tagged a o b af =>
    obtain ⟨⟨hl, hh, _, _, _, rfl⟩, rfl⟩ := of_ite_some h
    obtain ⟨hf, _, hq, hp⟩ := (hi o).sole_holder hl hh
    exact upd_inv { hi o with
      ownerActive := fun _ => by simp
      phaseOwner := fun _ => rfl
      tokPending := fun _ _ h => by cases h
      tokNone := fun _ _ => by simp [tokens, hq, hp, b2n]
      tokFresh := fun _ h => by rw [hf] at h; cases h
      hold := fun _ h => by cases h
      resNotActive := fun h => by cases h
      boostPusher := fun _ h => by cases h }
  | phaseBegin a o =>
    obtain ⟨⟨hl, ho, _⟩, rfl⟩ := of_ite_some h
    exact upd_inv { hi o with
      phaseOwner := fun _ => by rw [ho]; rfl
      tokFresh := fun _ h => by rw [((hi o).of_owner hl ho).2.1] at h; cases h }
  | setex a o b af =>
    -- fetched by the owner: nobody holds a popped entry whose expected word this would invalidate
    obtain ⟨⟨hl, ho, _, _, rfl⟩, rfl⟩ := of_ite_some h
    exact upd_inv { hi o with hold := fun _ h => by rw [((hi o).of_owner hl ho).2.2.2.1] at h; cases h }
  | phaseEnd a o r =>
    obtain ⟨hg, rfl⟩ := of_ite_some h
    exact upd_inv { hi o with
      phaseOwner := fun h => by cases h
      tokFresh := fun hl hf => have h := (hi o).tokFresh hl hf; ⟨h.1, h.2.1, h.2.2.1, rfl⟩
      resNotActive := fun _ => hg.2.2.2 }
  | restore1 a o b af =>
    -- the owner leaves; a `pending` / `pending_boost` result makes it the pusher, the one token
    obtain ⟨⟨hl, ho, hr, hph, _, rfl⟩, rfl⟩ := of_ite_some h
    have hph := Bool.not_eq_true' _ ▸ hph
    obtain ⟨_, hf, hq, hh, _⟩ := (hi o).of_owner hl ho
    exact upd_inv { hi o with
      ownerActive := fun _ => by simp [(hi o).resNotActive hr]
      phaseOwner := fun h => by rw [hph] at h; cases h
      tokPending := by grind [tokens, b2n, pendingish]
      tokNone := by grind [tokens, b2n, pendingish]
      tokFresh := fun _ h => by rw [hf] at h; cases h
      hold := fun _ h => by rw [hh] at h; cases h
      boostPusher := fun _ h => by
        have : (s.obj o).result = sBoost := h
        simp [this] }
  | set a o b af =>
    obtain ⟨hl, ⟨hst, rfl, rfl⟩ | ⟨_, rfl⟩ | ⟨hst, haf, rfl⟩⟩ := step_set h
    · exact upd_inv ((hi o).unboost hl hst rfl)
    · exact hi
    · exact upd_inv ((hi o).wake hl hst haf)
  | restore2 a o b af =>
    obtain ⟨lw, le, _, hl, ⟨_, rfl⟩ | ⟨hw, haf, ⟨hst, rfl⟩ | ⟨hst, rfl⟩⟩⟩ := step_restore2 h
    · exact hi
    · exact upd_inv ((hi o).unboost hl (hw ▸ hst) haf)
    · exact upd_inv ((hi o).wake hl (hw ▸ hst) haf)
  | stsHelper a o =>
    obtain ⟨o, lw, le, _, ⟨rfl, hlw⟩, rfl⟩ := of_loaded h
    exact upd_inv { hi o with helpersActive := fun h' hm =>
      (List.mem_cons.1 hm).elim (fun e => e ▸ hlw) ((hi o).helpersActive h') }
  | sasLoad a o c p =>
    obtain ⟨_, _, _, hp, _, rfl⟩ := step_sasLoad h
    exact upd_inv { hi o with
      helpersActive := fun h' hm => (hi o).helpersActive h' (List.mem_of_mem_erase hm) }
  | destroy a o w => obtain ⟨_, rfl⟩ := of_ite_some h; exact hi
  | stsEnter a o ns => obtain ⟨_, rfl⟩ := of_ite_some h; exact hi
  | stsLoad a o w => obtain ⟨_, _, _, rfl⟩ := step_stsLoad h; exact hi
  | stsNoop a o => obtain ⟨_, _, _, _, _, rfl⟩ := of_loaded h; exact hi
  | stsDone a o => obtain ⟨_, _, _, _, _, rfl⟩ := of_loaded h; exact hi
  | sasAbort a o => obtain ⟨_, _, _, _, _, _, _, rfl⟩ := of_sas h; exact hi
  | sasRetry a o => obtain ⟨_, _, _, _, _, _, _, rfl⟩ := of_sas h; exact hi
  | bodyEnter a o => obtain ⟨_, rfl⟩ := of_ite_some h; exact hi
  | bodyExit a o => obtain ⟨_, rfl⟩ := of_ite_some h; exact hi

theorem inv_of_accepted {log : List Ev} (h : runLog step init log = some s) : Inv s :=
  inv_of_runLog Inv (fun _ _ _ => step_inv) inv_init h

end PikaVerif.Sched
