import PikaVerif.Lemmas.SSemProg
/-!
# Covered programs over the sliding semaphore (C08t, sliding clause)

Bookkeeping, in terms of the model's own fields only (no ghost state), that ties the `lower` limit
to the program:
* `unguarded`: the signal values of a thread's program that are not sequenced behind a `wait` of
  the same thread (a signal behind a `wait` may never run, because that `wait` may block);
* `pendU`: the unguarded signal values a thread has still to deliver (empty while the thread is
  inside a `wait`);
* invariant `UCover`: every unguarded signal value of the original program is either already
  `≤ lower` or still pending; `maxDiff` is constant, `lower` never drops below its initial value,
  and every `wait(u)` in progress or still to run stems from the original program.
-/
namespace PikaVerif.SSem

/-- signal values not sequenced behind a `wait` of the same thread -/
def unguarded : List Op → List Int
  | [] => []
  | .wait _ :: _ => []
  | .signal l :: r => l :: unguarded r
  | .tryw _ :: r => unguarded r

/-- upper limits of the (untimed) `wait` operations of a program -/
def waitVals : List Op → List Int
  | [] => []
  | .wait u :: r => u :: waitVals r
  | .tryw _ :: r => waitVals r
  | .signal _ :: r => waitVals r

/-- inside an untimed `wait(u)` whose condition has not been seen satisfied yet -/
def inWait : Pc → Bool
  | .want (.wait _) => true
  | .locked _ false _ => true
  | .enq _ | .unl _ _ | .susp _ _ | .wokeNL _ _ | .relk _ _ => true
  | _ => false

/-- the value of a `signal` in progress that has not yet raised `lower` -/
def curSig : Pc → List Int
  | .want (.signal l) => [l]
  | .lockedSig l => [l]
  | _ => []

/-- the upper limit of the untimed `wait` in progress -/
def curWait : Pc → List Int
  | .want (.wait u) => [u]
  | .locked u false _ => [u]
  | .enq u | .unl u _ | .susp u _ | .wokeNL u _ | .relk u _ => [u]
  | _ => []

/-- unguarded signal values thread `t` has still to deliver -/
def pendU (p : PSt) (t : Nat) : List Int :=
  if inWait (p.s.pc t) = true then [] else curSig (p.s.pc t) ++ unguarded (p.prog t)

theorem setPopped_cover {q q' : Pc} (h : setPopped q = some q') :
    inWait q' = inWait q ∧ curSig q' = curSig q ∧ curWait q' = curWait q := by
  unfold setPopped at h
  split at h <;> simp at h <;> subst h <;> simp [inWait, curSig, curWait]

/-- what one accepted non-`inv` event does to the bookkeeping of every thread -/
def USigStep (s s' : St) : Prop :=
  s.lower ≤ s'.lower ∧ s'.maxDiff = s.maxDiff ∧
  ∀ u, (inWait (s'.pc u) = true → inWait (s.pc u) = true) ∧
       (∀ x, x ∈ curSig (s.pc u) → x ≤ s'.lower ∨ x ∈ curSig (s'.pc u)) ∧
       (∀ w, w ∈ curWait (s'.pc u) → w ∈ curWait (s.pc u))

/-- Thread `t` moves to `p'` (the lower limit may rise): it does not enter a `wait`, a pending signal
    value is delivered or still pending, and no new wait value appears. -/
theorem usig_move {s s' : St} {t : Nat} {p' : Pc} (hpc : s'.pc = upd s.pc t p')
    (hl : s.lower ≤ s'.lower) (hd : s'.maxDiff = s.maxDiff)
    (h1 : inWait p' = true → inWait (s.pc t) = true)
    (h2 : ∀ x, x ∈ curSig (s.pc t) → x ≤ s'.lower ∨ x ∈ curSig p')
    (h3 : ∀ w, w ∈ curWait p' → w ∈ curWait (s.pc t)) : USigStep s s' := by
  refine ⟨hl, hd, fun u => ?_⟩
  rw [hpc]
  by_cases hu : u = t
  · subst hu; rw [upd_same]; exact ⟨h1, h2, h3⟩
  · rw [upd_other _ _ _ _ hu]; exact ⟨id, fun x hx => .inr hx, fun w hw => hw⟩

theorem USigStep.trans {s s1 s2 : St} (h1 : USigStep s s1) (h2 : USigStep s1 s2) : USigStep s s2 := by
  obtain ⟨a1, a2, a3⟩ := h1
  obtain ⟨b1, b2, b3⟩ := h2
  refine ⟨Int.le_trans a1 b1, b2.trans a2, fun u => ⟨fun h => (a3 u).1 ((b3 u).1 h), fun x hx => ?_,
    fun w hw => (a3 u).2.2 w ((b3 u).2.2 w hw)⟩⟩
  rcases (a3 u).2.1 x hx with h | h
  · exact .inl (Int.le_trans h b1)
  · exact (b3 u).2.1 x h

theorem usig_step (s s' : St) (e : Ev) (hne : ∀ t o, e ≠ .inv t o) (h : step s e = some s') :
    USigStep s s' := by
  have le := Int.le_refl s.lower
  cases step_iff.1 h with
  | inv => exact absurd rfl (hne _ _)
  | @sig t l htn _ hp =>
    -- the value being signalled is delivered: it is at most the new lower limit
    refine usig_move rfl (Int.le_max_right _ _) rfl (by split <;> nofun) ?_ (by split <;> simp [curWait])
    intro x hx; left
    have : x = l := by simpa [hp, curSig] using hx
    subst this; exact Int.le_max_left _ _
  | acqLoop _ _ hp | relRes _ _ hp =>
    exact usig_move rfl le rfl (by split <;> nofun) (by simp [hp, curSig]) (by split <;> simp [curWait])
  | @pop t i n g rest p' _ _ hp _ hp' =>
    -- marking the target changes none of its classifications; then the notifier moves on
    obtain ⟨e1, e2, e3⟩ := setPopped_cover hp'
    have hgt : t ≠ g := fun he => by rw [← he, hp] at hp'; cases hp'
    have h1 : USigStep s { s with pc := upd s.pc g p' } :=
      usig_move rfl le rfl (by rw [e1]; exact id) (by rw [e2]; exact fun x hx => .inr hx) (by rw [e3]; exact fun w hw => hw)
    refine h1.trans (usig_move (s := { s with pc := upd s.pc g p' }) rfl le rfl nofun ?_ (by simp [curWait]))
    show ∀ x, x ∈ curSig (upd s.pc g p' t) → _
    simp [upd_other _ _ _ _ hgt, hp, curSig]
  | ret _ hp | done _ hp | cvNone _ _ hp _ | pass _ _ hp _ | suspend _ hp | woke _ hp _ | cvEnq _ _ hp _
  | wokePopped _ _ hp | wokeSpurious _ _ hp | acqWait _ _ hp | acqTry _ _ hp | acqSig _ _ hp
  | acqWoke _ _ hp | relEnq _ _ hp | relPassed _ _ hp | relRefused _ _ hp | relTry _ _ hp _
  | relFin _ _ hp =>
    exact usig_move rfl le rfl (by simp [hp, inWait]) (by simp [hp, curSig]) (by simp [hp, curWait])

theorem usig_inv (s s' : St) (t : Nat) (o : Op) (h : step s (.inv t o) = some s') :
    s'.lower = s.lower ∧ s'.maxDiff = s.maxDiff ∧ s.pc t = .idle ∧ s'.pc = upd s.pc t (.want o) := by
  cases step_iff.1 h with | inv _ hp => exact ⟨rfl, rfl, hp, rfl⟩

/-- the covering invariant of a run of `prog0` started with distance `d` and lower limit `l` -/
def UCover (d l : Int) (prog0 : Nat → List Op) (p : PSt) : Prop :=
  p.s.maxDiff = d ∧ l ≤ p.s.lower ∧
  (∀ t x, x ∈ unguarded (prog0 t) → x ≤ p.s.lower ∨ x ∈ pendU p t) ∧
  (∀ t u, u ∈ curWait (p.s.pc t) ∨ u ∈ waitVals (p.prog t) → u ∈ waitVals (prog0 t))

theorem ucover_pinit (n : Nat) (d l : Int) (prog : Nat → List Op) : UCover d l prog (pinit n d l prog) := by
  refine ⟨rfl, Int.le_refl _, ?_, ?_⟩
  · intro t x hx
    right
    simpa [pendU, pinit, init, inWait, curSig] using hx
  · intro t u hu
    simpa [pinit, init, curWait] using hu

theorem ucover_step (d l : Int) (prog0 : Nat → List Op) (p p' : PSt) (e : Ev)
    (hc : UCover d l prog0 p) (h : pstep p e = some p') : UCover d l prog0 p' := by
  obtain ⟨c1, c2, c3, c4⟩ := hc
  obtain ⟨hs, ⟨t, o, rest, rfl, hp, hp'⟩ | ⟨hne, hp, -⟩⟩ := layer.sound h
  · obtain ⟨a1, a2, a3, a4⟩ := usig_inv _ _ _ _ hs
    refine ⟨by omega, by omega, ?_, ?_⟩
    · intro u x hx
      have := c3 u x hx
      simp only [pendU, a1, a4, hp', upd_apply] at this ⊢
      cases o <;> grind [unguarded, inWait, curSig]
    · intro u w hw
      have := c4 u w
      simp only [a4, hp', upd_apply] at hw
      cases o <;> grind [waitVals, curWait]
  · obtain ⟨b1, b2, b3⟩ := usig_step _ _ _ hne hs
    refine ⟨by omega, by omega, ?_, ?_⟩
    · intro u x hx
      obtain ⟨d1, d2, d3⟩ := b3 u
      have := c3 u x hx
      simp only [pendU, hp] at this ⊢
      grind
    · intro u w hw
      have := c4 u w
      have := (b3 u).2.2 w
      grind

theorem ucover_log (d l : Int) (prog0 : Nat → List Op) {p p' : PSt} {log : List Ev}
    (hc : UCover d l prog0 p) (h : runLog pstep p log = some p') : UCover d l prog0 p' :=
  inv_of_runLog (UCover d l prog0) (fun a e b ha hs => ucover_step d l prog0 a b e ha hs) hc h

end PikaVerif.SSem
