import PikaVerif.Lemmas.SemT
import PikaVerif.Core.Prog
/-!
# Finite programs over the semaphore model (C08t)

A *program* gives every thread a finite list of operations.  `pstep` is the model's `step`
restricted to the logs of that program: `inv t o` must be the next operation of thread `t`
(which is consumed), `done t` needs the thread's list to be empty, every other event is passed
to `step` unchanged.  `phi` = `mu` + the potential of the operations not yet started decreases
with **every** accepted event, so an accepted log of a program is at most `bound` long.
-/
namespace PikaVerif.Sem

structure PSt where
  s : St
  prog : Nat → List Op

def pstep (p : PSt) : Ev → Option PSt
  | .inv t o =>
    match p.prog t with
    | o' :: rest =>
      if o' = o then (step p.s (.inv t o)).map (fun s' => ⟨s', upd p.prog t rest⟩) else none
    | [] => none
  | .done t => if p.prog t = [] then (step p.s (.done t)).map (fun s' => ⟨s', p.prog⟩) else none
  | .ret t r => (step p.s (.ret t r)).map (fun s' => ⟨s', p.prog⟩)
  | .slAcq t => (step p.s (.slAcq t)).map (fun s' => ⟨s', p.prog⟩)
  | .slRel t => (step p.s (.slRel t)).map (fun s' => ⟨s', p.prog⟩)
  | .cvEnq t z b => (step p.s (.cvEnq t z b)).map (fun s' => ⟨s', p.prog⟩)
  | .popResume t z g d => (step p.s (.popResume t z g d)).map (fun s' => ⟨s', p.prog⟩)
  | .cvNone t => (step p.s (.cvNone t)).map (fun s' => ⟨s', p.prog⟩)
  | .cvWoke t a b => (step p.s (.cvWoke t a b)).map (fun s' => ⟨s', p.prog⟩)
  | .take t v => (step p.s (.take t v)).map (fun s' => ⟨s', p.prog⟩)
  | .add t v c => (step p.s (.add t v c)).map (fun s' => ⟨s', p.prog⟩)
  | .suspend t => (step p.s (.suspend t)).map (fun s' => ⟨s', p.prog⟩)
  | .woke t => (step p.s (.woke t)).map (fun s' => ⟨s', p.prog⟩)
  | .sleep t => (step p.s (.sleep t)).map (fun s' => ⟨s', p.prog⟩)
  | .timeout t => (step p.s (.timeout t)).map (fun s' => ⟨s', p.prog⟩)

def pinit (n : Nat) (v : Int) (prog : Nat → List Op) : PSt := ⟨init n v, prog⟩

theorem layer : ProgLayer step pstep PSt.s PSt.prog .inv .done := by
  refine ⟨fun {p e p'} h => ?_, nofun⟩
  cases e
  case inv t o =>
    simp only [pstep] at h
    split at h
    · rename_i o' rest hp
      split at h
      · rename_i ho; subst ho
        obtain ⟨s₁, hs, rfl⟩ := Option.map_eq_some_iff.1 h
        exact ⟨hs, .inl ⟨t, o', rest, rfl, hp, rfl⟩⟩
      · cases h
    · cases h
  case done t =>
    simp only [pstep] at h
    split at h
    · rename_i hp
      obtain ⟨s₁, hs, rfl⟩ := Option.map_eq_some_iff.1 h
      exact ⟨hs, .inr ⟨fun _ _ => nofun, rfl, fun _ he => by cases he; exact hp⟩⟩
    · cases h
  all_goals
    obtain ⟨s₁, hs, rfl⟩ := Option.map_eq_some_iff.1 h
    exact ⟨hs, .inr ⟨fun _ _ => nofun, rfl, fun _ => nofun⟩⟩

/-- potential of the operations a thread has not started yet -/
def progCost : List Op → Nat
  | [] => 0
  | o :: l => opRank o + 1 + progCost l

def phi (p : PSt) : Nat := mu p.s + sumTo p.s.n (fun t => progCost (p.prog t))

theorem complete : ProgComplete step pstep PSt.s PSt.prog .inv .done :=
  ⟨fun {p e} h1 h2 h => by
    cases e <;> first | exact absurd rfl (h1 _ _) | exact absurd rfl (h2 _) | simpa [pstep] using h,
   fun hp h => by simpa [pstep, hp] using h, fun hp h => by simpa [pstep, hp] using h⟩

theorem inv_lt {s s' : St} {t : Nat} {o : Op} (h : step s (.inv t o) = some s') : t < s.n := by
  cases step_iff.1 h with | inv htn _ => exact htn

theorem potential : Potential pstep .inv (RelOk ·.s) (·.s.n) (mu ·.s) fun _ => progCost :=
  ⟨fun hr h => have hs := (layer.sound h).1; ⟨relOk_step _ _ _ hr hs, step_n _ _ _ hs⟩,
   fun _ h => have hs := (layer.sound h).1; ⟨inv_lt hs, fun l => by
    have := mu_inv _ _ _ _ hs
    simp only [progCost, rank] at this ⊢; omega⟩,
   fun hr hne h => mu_step _ _ _ hr hne (layer.sound h).1⟩

/-- explicit bound on the number of events of a program with `n` threads:
    1 per thread (`done`), 11 per acquire / try_acquire / timed acquire, `15 k + 9` per `release(k)` -/
def bound (n : Nat) (prog : Nat → List Op) : Nat := n + sumTo n (fun t => progCost (prog t))

theorem phi_pinit (n : Nat) (v : Int) (prog : Nat → List Op) : phi (pinit n v prog) = bound n prog := by
  simp only [phi, pinit, mu, init, bound]
  have h1 : sumTo n (fun _ => rank Pc.idle) = n := by
    induction n with
    | zero => rfl
    | succ k ih => simp only [sumTo_succ, ih]; rfl
  have h2 : sumTo n (fun _ => tokW 0) = 0 := sumTo_eq_zero (fun _ _ => rfl)
  rw [h1, h2]; omega

/-- no event at all is accepted: the run is maximal -/
def PStuck (p : PSt) : Prop := ∀ e, pstep p e = none

def FinOk (p : PSt) : Prop := ∀ t, p.s.pc t = .fin → p.prog t = []

theorem setPopped_not_fin {q q' : Pc} (h : setPopped q = some q') : q' ≠ .fin := by
  unfold setPopped at h
  split at h <;> cases h <;> nofun

theorem step_fin {s s' : St} {e : Ev} {u : Nat} (hs : step s e = some s') :
    s'.pc u = .fin → s.pc u = .fin ∨ e = .done u := by
  have mv : ∀ {f : Nat → Pc} {t : Nat} {p' : Pc}, p' ≠ .fin → upd f t p' u = .fin → f u = .fin :=
    fun {f t p'} hp' => by
      by_cases hu : u = t
      · subst hu; rw [upd_same]; exact fun h => absurd h hp'
      · rw [upd_other _ _ _ _ hu]; exact id
  cases step_iff.1 hs with
  | @done t =>
    by_cases hu : u = t
    · exact fun _ => .inr (hu ▸ rfl)
    · simp only [upd_other _ _ _ _ hu]; exact .inl
  | add | acqLoop | relRes => exact fun h => .inl (mv (by split <;> nofun) h)
  | pop _ _ _ _ hp' => exact fun hu => .inl (mv (setPopped_not_fin hp') (mv (by nofun) hu))
  | _ => exact fun h => .inl (mv (by nofun) h)

theorem finOk_of_run {n : Nat} {v : Int} {prog : Nat → List Op} {log : List Ev} {p : PSt}
    (h : runLog pstep (pinit n v prog) log = some p) : FinOk p :=
  inv_of_runLog FinOk (fun _ _ _ => layer.finished_step (fin := fun s t => s.pc t = .fin) step_fin)
    (fun t ht => by simp [pinit, init] at ht) h

/-- a state in which the lock is free and every thread is finished or parked without a token
    accepts no event: it ends a maximal run -/
theorem pstuck_of_rest (p : PSt) (hl : p.s.lock = none)
    (h : ∀ t, t < p.s.n → p.s.pc t = .fin ∨ (p.s.pc t = .susp false ∧ p.s.tok t = 0)) : PStuck p := by
  intro e
  cases hpe : pstep p e with
  | none => rfl
  | some p' =>
    -- every event needs the lock held, or its thread at a pc other than `fin` and `susp`, or a token
    exfalso
    have hs := (layer.sound hpe).1
    generalize p'.s = s1 at hs
    have no : ∀ {t : Nat} {q : Pc}, t < p.s.n → p.s.pc t = q → q ≠ .fin → (q = .susp false → 0 < p.s.tok t) →
        False := fun {t q} htn hq h1 h2 => by
      rcases h t htn with hf | ⟨hsu, htok⟩
      · exact h1 (hq ▸ hf)
      · have := h2 (hq ▸ hsu); omega
    cases step_iff.1 hs with
    | inv htn hp | done htn hp | ret htn hp | suspend htn hp | sleep htn hp | timeout htn hp
    | acqWant htn _ hp | acqWoke htn _ hp | acqLoop htn _ hp => exact no htn hp nofun nofun
    | woke htn hp htok => exact no htn hp nofun (fun _ => htok)
    | _ => exact absurd (hl.symm.trans ‹p.s.lock = some _›) nofun

end PikaVerif.Sem
