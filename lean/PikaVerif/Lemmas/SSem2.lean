import PikaVerif.Lemmas.SSem
/-! Sliding semaphore: the coverage invariant `Cover` (a satisfiable waiter is always within reach of
    the notifications still to be issued), and `Inv1`, `Cover` and `LockConv` together along accepted logs
    (`inv_of_accepted`). -/
namespace PikaVerif.SSem

theorem mem_drop_le {α : Type} (x : α) (m : List α) (j k : Nat) (h : j ≤ k) : x ∈ m.drop k → x ∈ m.drop j := by
  intro hx
  rw [show k = j + (k - j) by omega, ← List.drop_drop] at hx
  exact List.mem_of_mem_drop hx

theorem mem_drop_erase {α : Type} [DecidableEq α] (l : List α) (a x : α) (k : Nat) :
    x ∈ (l.erase a).drop k → x ∈ l.drop k :=
  fun h => (List.erase_sublist.drop k).subset h

/-- Every queued waiter beyond the first `budget` positions is not satisfiable. -/
def Cover (s : St) : Prop :=
  ∀ t, t ∈ s.queue.drop (budget s) → ∀ u, ubound (s.pc t) = some u → sat s u = false

theorem cover_init (n : Nat) (d l : Int) : Cover (init n d l) := by
  intro t ht; simp [init] at ht

/-- budget after a single-thread pc update -/
theorem budget_upd (s : St) (t : Nat) (v : Pc) (h : t < s.n) (pc' : Nat → Pc) (hp : pc' = upd s.pc t v) :
    sumTo s.n (fun u => weight (pc' u)) = budget s - weight (s.pc t) + weight v := by
  subst hp; exact sumTo_upd_eq s.n weight s.pc t v h

set_option hygiene false in
macro "cov_frame" t:term : tactic => `(tactic| (
  simp only [step] at h
  obtain ⟨h1,h2,h3,h4,h5,h6,h7⟩ := hi
  split at h
  case isFalse => simp at h
  rename_i hg
  have htn : $t < s.n := by grind
  have hle := le_sumTo (f := fun u => weight (s.pc u)) htn
  repeat' split at h
  all_goals first | (simp at h; done) | skip
  all_goals (
    simp only [Option.some.injEq] at h
    subst h
    refine cover_frame s _ ?hq ?hl ?hd ?hb ?hu hc
    case hq => rfl
    case hl => rfl
    case hd => rfl
    case hb => (simp only [budget]; rw [sumTo_upd_eq _ _ _ _ _ htn]; grind)
    case hu => (intro x hx; have := (h3 x).1 hx; grind [upd]))))

/-- Thread `t` moves to `p'` without touching the queue or the limits: coverage is kept if the move
    does not lower the thread's weight (or nobody is queued) and a queued thread keeps its bound. -/
theorem cover_move {s : St} (hi : Inv1 s) (hc : Cover s) {t : Nat} (htn : t < s.n) {p' : Pc}
    {L : Option Nat} {T : Nat → Nat} (hw : weight (s.pc t) ≤ weight p' ∨ s.queue = [])
    (hu : inQ (s.pc t) = true → ubound p' = ubound (s.pc t)) :
    Cover { s with lock := L, tok := T, pc := upd s.pc t p' } := by
  intro x hx v hub
  have hx : x ∈ s.queue.drop (sumTo s.n fun u => weight (upd s.pc t p' u)) := hx
  have hub : ubound (upd s.pc t p' x) = some v := hub
  rcases hw with hw | hq
  · -- the budget has not shrunk, so `x` was beyond it before the move
    have := sumTo_upd s.n weight s.pc t p' htn
    have hx' := mem_drop_le x s.queue (budget s) _ (by simp only [budget]; omega) hx
    refine hc x hx' v ?_
    by_cases hxt : x = t
    · subst hxt; rwa [upd_same, hu ((hi.qIff x).1 (List.mem_of_mem_drop hx'))] at hub
    · rwa [upd_other _ _ _ _ hxt] at hub
  · simp [hq] at hx

/-- Thread `t` changes the queue by an `enq` or an `erase` at unchanged weight: the others neither
    move towards the back nor change their bound, and `t` itself is not satisfiable if it is queued. -/
theorem cover_queue {s : St} (hc : Cover s) {t : Nat} (htn : t < s.n) {p' : Pc} {Q : List Nat}
    (hw : weight p' = weight (s.pc t))
    (hQ : ∀ x, x ≠ t → x ∈ Q.drop (budget s) → x ∈ s.queue.drop (budget s))
    (ht : ∀ v, ubound p' = some v → sat s v = false) :
    Cover { s with queue := Q, pc := upd s.pc t p' } := by
  have hbud : sumTo s.n (fun x => weight (upd s.pc t p' x)) = budget s := by
    have := sumTo_upd s.n weight s.pc t p' htn
    simp only [budget]; omega
  intro x hx v hub
  have hx : x ∈ Q.drop (budget s) := hbud ▸ hx
  have hub : ubound (upd s.pc t p' x) = some v := hub
  by_cases hxt : x = t
  · subst hxt; rw [upd_same] at hub; exact ht v hub
  · rw [upd_other _ _ _ _ hxt] at hub; exact hc x (hQ x hxt hx) v hub

theorem step_cover (s s' : St) (e : Ev) (hi : Inv1 s) (hc : Cover s) (h : step s e = some s') : Cover s' := by
  cases step_iff.1 h with
  | inv htn hp | ret htn hp | done htn hp | suspend htn hp | woke htn hp _ | pass htn _ hp _
  | acqWait htn _ hp | acqTry htn _ hp | acqSig htn _ hp | acqWoke htn _ hp | relEnq htn _ hp
  | relPassed htn _ hp | relRefused htn _ hp | relTry htn _ hp _ | relFin htn _ hp | wokePopped htn _ hp =>
    exact cover_move hi hc htn (.inl (by simp [hp, weight])) (by simp [hp, inQ, ubound])
  | cvNone htn _ hp hq => exact cover_move hi hc htn (.inr hq) (by simp [hp, inQ])
  | acqLoop htn _ hp =>
    refine cover_move hi hc htn (.inl ?_) (by simp [hp, inQ])
    rw [hp]; split <;> simp only [weight] <;> omega
  | @relRes t i n more htn _ hp =>
    -- `notify_one` returned false only on an empty queue
    refine cover_move hi hc htn ?_ (by simp [hp, inQ])
    cases more
    · exact .inr (hi.noneEmpty t i n hp)
    · exact .inl (by simp [hp, weight]; omega)
  | @cvEnq t u c htn _ hp hsat =>
    -- the new last entry is unsatisfiable, the others keep their position
    refine cover_queue hc htn (by rw [hp]; rfl) (fun x hxt hx => ?_) (fun v h => by cases h; exact hsat)
    rw [List.drop_append] at hx
    exact (List.mem_append.1 hx).elim id fun hm => absurd (List.mem_singleton.1 (List.mem_of_mem_drop hm)) hxt
  | @wokeSpurious t u htn _ hp =>
    -- spurious wake-up: the entry is erased, nobody moves towards the back
    exact cover_queue hc htn (by rw [hp]; rfl) (fun x _ hx => mem_drop_erase s.queue t x _ hx) nofun
  | @sig t l htn _ hp =>
    -- the signaller's budget now covers the whole queue
    intro x hx
    have hx : x ∈ s.queue.drop (sumTo s.n fun y =>
        weight (upd s.pc t (if 0 < s.queue.length then .sigL 0 s.queue.length else .sigFin) y)) := hx
    rw [sumTo_upd_eq _ _ _ _ _ htn, List.drop_eq_nil_of_le] at hx
    · cases hx
    · split <;> simp only [weight] <;> omega
  | @pop t i n g rest p' htn hl hp hq hp' =>
    -- one notification spent, one entry gone from the front
    obtain ⟨-, -, -, -, hw, hw', -, -⟩ := setPopped_inv hp'
    obtain ⟨-, -, hgt, hgn⟩ := hi.core.front rfl hl (by rw [hp]; rfl) hq
    have hnd : g ∉ rest := by have := hi.qNodup; rw [hq] at this; exact (List.nodup_cons.1 this).1
    have hin := hi.sigLt t i n hp
    have hbud : sumTo s.n (fun y => weight (upd (upd s.pc g p') t (.sigRes i n (decide (rest ≠ []))) y)) + 1
        = budget s := by
      have h1 := sumTo_upd s.n weight s.pc g p' hgn
      have h2 := sumTo_upd s.n weight (upd s.pc g p') t (.sigRes i n (decide (rest ≠ []))) htn
      have h3 := le_sumTo (f := fun y => weight (s.pc y)) htn
      have e1 : weight (.sigL i n) = n - i := rfl
      have e2 : weight (.sigRes i n (decide (rest ≠ []))) = n - i - 1 := rfl
      rw [upd_other _ _ _ _ (Ne.symm hgt), hp, e1, e2] at h2
      rw [hw, hw'] at h1
      simp only [hp, e1] at h3
      simp only [budget]; omega
    intro x hx v hub
    have hx : x ∈ rest.drop (budget s - 1) := by rw [← hbud]; exact hx
    have hxr : x ∈ rest := List.mem_of_mem_drop hx
    have hxg : x ≠ g := fun h => hnd (h ▸ hxr)
    have hxt : x ≠ t := fun h => by
      have := (hi.qIff x).1 (by rw [hq]; exact List.mem_cons_of_mem _ hxr); rw [h, hp] at this; cases this
    have hub : ubound (upd (upd s.pc g p') t (.sigRes i n (decide (rest ≠ []))) x) = some v := hub
    rw [upd_other _ _ _ _ hxt, upd_other _ _ _ _ hxg] at hub
    refine hc x ?_ v hub
    rw [hq, show budget s = (budget s - 1) + 1 by omega, List.drop_succ_cons]; exact hx

theorem lockconv_init (n : Nat) (d l : Int) : LockConv (init n d l) := by
  intro r h; simp [init] at h

theorem inv_of_accepted {n : Nat} {d l : Int} {log : List Ev} {s : St}
    (h : runLog step (init n d l) log = some s) : Inv1 s ∧ Cover s ∧ LockConv s :=
  inv_of_runLog (fun s => Inv1 s ∧ Cover s ∧ LockConv s)
    (fun s e s' hi hs => ⟨hi.1.step hs, step_cover s s' e hi.1 hi.2.1 hs, (hi.1.core.step (step_iff.1 hs)).2 hi.2.2⟩)
    ⟨inv1_init n d l, cover_init n d l, lockconv_init n d l⟩ h

end PikaVerif.SSem
