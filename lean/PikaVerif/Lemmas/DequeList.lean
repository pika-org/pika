/-! List toolkit for the deque proofs: adjacency in a duplicate-free list and the two ends. -/
namespace PikaVerif.Deque

/-- `a` is immediately followed by `b` in the list -/
def Adj : List Nat → Nat → Nat → Prop
  | x :: y :: l, a, b => (x = a ∧ y = b) ∨ Adj (y :: l) a b
  | _, _, _ => False

@[simp] theorem adj_nil (a b : Nat) : Adj [] a b = False := rfl
@[simp] theorem adj_single (x a b : Nat) : Adj [x] a b = False := rfl
theorem adj_cons_cons (x y : Nat) (l : List Nat) (a b : Nat) :
    Adj (x :: y :: l) a b ↔ (x = a ∧ y = b) ∨ Adj (y :: l) a b := Iff.rfl

theorem adj_induction {P : List Nat → Prop} (h0 : P []) (h1 : ∀ x, P [x])
    (h2 : ∀ x y l, P (y :: l) → P (x :: y :: l)) : ∀ l, P l
  | [] => h0
  | [x] => h1 x
  | x :: y :: l => h2 x y l (adj_induction h0 h1 h2 (y :: l))

variable {l : List Nat} {a b : Nat}

theorem adj_cons (x : Nat) (l : List Nat) (a b : Nat) :
    Adj (x :: l) a b ↔ (x = a ∧ l.head? = some b) ∨ Adj l a b := by
  cases l with
  | nil => simp
  | cons y l => simp [adj_cons_cons]

theorem adj_mem (h : Adj l a b) : a ∈ l ∧ b ∈ l := by
  induction l using adj_induction with
  | h2 x y l ih => rw [adj_cons_cons] at h; grind
  | _ => exact h.elim

theorem adj_snoc (l : List Nat) (n a b : Nat) :
    Adj (l ++ [n]) a b ↔ Adj l a b ∨ (l.getLast? = some a ∧ b = n) := by
  induction l using adj_induction with
  | h0 => simp
  | h1 x => simp [adj_cons_cons, eq_comm]
  | h2 x y l ih =>
    rw [List.cons_append, List.cons_append, adj_cons_cons, adj_cons_cons, ← List.cons_append, ih,
      List.getLast?_cons_cons, or_assoc]

theorem adj_tail (h : Adj l.tail a b) : Adj l a b := by
  cases l with
  | nil => exact h
  | cons x l => exact (adj_cons x l a b).2 (Or.inr h)

theorem adj_dropLast (h : Adj l.dropLast a b) : Adj l a b := by
  induction l using adj_induction with
  | h0 => exact h
  | h1 x => exact h.elim
  | h2 x y l ih =>
    cases l with
    | nil => exact h.elim
    | cons z l => exact h.imp id ih

theorem adj_right_unique (hn : l.Nodup) {a b b' : Nat} (h : Adj l a b)
    (h' : Adj l a b') : b = b' := by
  induction l using adj_induction with
  | h2 x y l ih =>
    rw [adj_cons_cons] at h h'
    have := fun c => @adj_mem (y :: l) a c
    grind
  | _ => exact h.elim

theorem adj_not_head (hn : l.Nodup) (h : Adj l a b) :
    l.head? ≠ some b := by
  cases l with
  | nil => exact h.elim
  | cons x l =>
    rw [adj_cons] at h
    have := @adj_mem l a b
    grind [List.mem_of_head?]

theorem adj_left_unique (hn : l.Nodup) {a a' b : Nat} (h : Adj l a b)
    (h' : Adj l a' b) : a = a' := by
  induction l using adj_induction with
  | h2 x y l ih =>
    rw [adj_cons_cons] at h h'
    have := fun c => @adj_not_head (y :: l) c y (List.nodup_cons.1 hn).2
    grind
  | _ => exact h.elim

theorem adj_not_last (hn : l.Nodup) (h : Adj l a b) :
    l.getLast? ≠ some a := by
  induction l using adj_induction with
  | h2 x y l ih => rw [adj_cons_cons] at h; rw [List.getLast?_cons_cons]; grind [List.mem_of_getLast?]
  | _ => exact h.elim

theorem adj_head_exists {x : Nat} (hh : l.head? = some x) (hl : 2 ≤ l.length) :
    ∃ y, Adj l x y ∧ l.tail.head? = some y := by
  match l, hh, hl with
  | _ :: b :: l, hh, _ => cases hh; exact ⟨b, Or.inl ⟨rfl, rfl⟩, rfl⟩

theorem adj_last_exists {x : Nat} (hh : l.getLast? = some x) (hl : 2 ≤ l.length) :
    ∃ y, Adj l y x ∧ l.dropLast.getLast? = some y := by
  induction l using adj_induction with
  | h0 => cases hh
  | h1 a => exact absurd hl (Nat.not_succ_le_self 1)
  | h2 a b l ih =>
    cases l with
    | nil => cases hh; exact ⟨a, Or.inl ⟨rfl, rfl⟩, rfl⟩
    | cons c l =>
      rw [List.getLast?_cons_cons] at hh
      obtain ⟨y, h1, h2⟩ := ih hh (Nat.le_add_left 2 _)
      exact ⟨y, Or.inr h1, by simpa only [List.dropLast_cons_cons, List.getLast?_cons_cons] using h2⟩

theorem dropLast_split (l : List Nat) (a : Nat) (h : l.getLast? = some a) : l = l.dropLast ++ [a] := by
  obtain ⟨ys, rfl⟩ := List.getLast?_eq_some_iff.1 h
  rw [List.dropLast_concat]

end PikaVerif.Deque
