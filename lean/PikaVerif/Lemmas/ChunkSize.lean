import PikaVerif.Lemmas.BulkArith
/-!
# `get_chunk_size`: termination and result under explicit bounds; divergence otherwise

The only facts used about the constants of the generated loop (`8`, `*= 2`) are in this file;
the partition theorems of `Props/C11.lean` are parametric in the chunk size.  `C11.Safe`: bounds on `w`, `n`
under which the loop ends with a chunk size satisfying the no-wrap guard `SafeC` (`chunkSize_safe`).
-/
namespace PikaVerif.ChunkSize
open PikaVerif.Gen.BulkArith PikaVerif.BulkArith

theorem gcsCond_exact (S : CTy) (w n c : Nat) (hcw : 8 * (c * w) < 4294967296) (hc : 1 ≤ c)
    (hw : 1 ≤ w) (hn : n < 4294967296) :
    gcsCond S w n c = decide (8 * (c * w) < n) := by
  have hc32 : c < 4294967296 := by
    have : c ≤ c * w := Nat.le_mul_of_pos_right _ (by omega)
    omega
  have hw32 : w < 4294967296 := by
    have : w ≤ c * w := Nat.le_mul_of_pos_left _ (by omega)
    omega
  have e : ((c * w : Nat) : Int) = (c : Int) * w := Int.natCast_mul _ _
  unfold gcsCond
  rw [u32_wrap c (by omega) (by omega), u32_wrap w (by omega) (by omega), ← e]
  simp (disch := omega) only [u32_wrap]
  congr 1
  apply propext
  omega

theorem gcsStep_exact (c : Nat) (hc : 2 * c < 4294967296) : gcsStep c = ((2 * c : Nat) : Int) := by
  unfold gcsStep
  simp (disch := omega) only [u32_wrap]
  omega

/-- Loop invariant: `c = 1`, or the previous value `c/2` still satisfied the loop condition;
    `n ≤ c · 2^f` makes the fuel `f + 1` suffice. -/
theorem gcsLoop_spec (S : CTy) (w n : Nat) (hw : 1 ≤ w) (hw8 : 8 * w < 4294967296)
    (hn : n ≤ 2147483648) :
    ∀ (f c : Nat), 1 ≤ c → (c = 1 ∨ 4 * (c * w) < n) → n ≤ c * 2 ^ f →
      ∃ r : Nat, gcsLoop S w n (f + 1) c = some (r : Int) ∧ 1 ≤ r ∧ n ≤ 8 * (r * w) ∧
        (r = 1 ∨ 4 * (r * w) < n) := by
  intro f
  induction f with
  | zero =>
    intro c hc hinv hfuel
    have hcw : c ≤ c * w := Nat.le_mul_of_pos_right _ (by omega)
    have hb : 8 * (c * w) < 4294967296 := by
      rcases hinv with rfl | h
      · omega
      · omega
    refine ⟨c, ?_, hc, by omega, hinv⟩
    simp only [gcsLoop]
    rw [gcsCond_exact S w n c hb hc hw (by omega)]
    have : ¬ (8 * (c * w) < n) := by omega
    simp [this]
  | succ f ih =>
    intro c hc hinv hfuel
    have hcw : c ≤ c * w := Nat.le_mul_of_pos_right _ (by omega)
    have hb : 8 * (c * w) < 4294967296 := by
      rcases hinv with rfl | h
      · omega
      · omega
    rw [gcsLoop, gcsCond_exact S w n c hb hc hw (by omega)]
    by_cases hcond : 8 * (c * w) < n
    · simp only [hcond, decide_true, if_true]
      rw [gcsStep_exact c (by omega)]
      have e : 2 * c * w = 2 * (c * w) := Nat.mul_assoc 2 c w
      apply ih (2 * c) (by omega) (Or.inr (by rw [e]; omega))
      rw [Nat.pow_succ] at hfuel
      have : 2 * c * 2 ^ f = c * (2 ^ f * 2) := by
        rw [Nat.mul_comm 2 c, Nat.mul_assoc, Nat.mul_comm 2 (2 ^ f)]
      omega
    · refine ⟨c, ?_, hc, by omega, hinv⟩
      simp [hcond]

/-- `get_chunk_size` terminates for `n ≤ 2^31`, `w < 2^29` and returns some `r ≥ 1` with
    `n ≤ 8·r·w` and (`r = 1` or `4·r·w < n`). -/
theorem getChunkSize_spec (S : CTy) (w n : Nat) (hw : 1 ≤ w) (hw8 : 8 * w < 4294967296)
    (hn : n ≤ 2147483648) :
    ∃ r : Nat, getChunkSize S 64 w n = some (r : Int) ∧ 1 ≤ r ∧ n ≤ 8 * (r * w) ∧
      (r = 1 ∨ 4 * (r * w) < n) := by
  have h := gcsLoop_spec S w n hw hw8 hn 63 1 (by omega) (Or.inl rfl)
    (by have : (2:Nat) ^ 63 = 9223372036854775808 := by decide
        omega)
  unfold getChunkSize gcsInit
  rw [u32_wrap 1 (by omega) (by omega)]
  exact h

theorem gcsLoop_zero_diverges (S : CTy) (w n : Int) (h : gcsCond S w n 0 = true) :
    ∀ f, gcsLoop S w n f 0 = none := by
  intro f
  induction f with
  | zero => rfl
  | succ f ih =>
    rw [gcsLoop, h]
    have : gcsStep 0 = 0 := by decide
    simp only [if_true, this]
    exact ih

/-- `k` iterations from `c`, all with a true loop condition. -/
def runs (S : CTy) (w n : Int) : Nat → Int → Bool
  | 0, _ => true
  | k + 1, c => gcsCond S w n c && runs S w n k (gcsStep c)

def iter : Nat → Int → Int
  | 0, c => c
  | k + 1, c => iter k (gcsStep c)

theorem gcsLoop_runs (S : CTy) (w n : Int) : ∀ (k f : Nat) (c : Int), runs S w n k c = true →
    gcsLoop S w n (k + f) c = gcsLoop S w n f (iter k c) := by
  intro k
  induction k with
  | zero => intro f c _; simp [iter]
  | succ k ih =>
    intro f c h
    simp only [runs, Bool.and_eq_true] at h
    have : k + 1 + f = (k + f) + 1 := by omega
    rw [this, gcsLoop, h.1]
    simp only [if_true, iter]
    exact ih f _ h.2

theorem gcsLoop_none_of_le (S : CTy) (w n : Int) : ∀ (f g : Nat) (c : Int), g ≤ f →
    gcsLoop S w n f c = none → gcsLoop S w n g c = none := by
  intro f
  induction f with
  | zero => intro g c hg h; have : g = 0 := by omega
            subst this; exact h
  | succ f ih =>
    intro g c hg h
    cases g with
    | zero => rfl
    | succ g =>
      rw [gcsLoop] at h ⊢
      split at h
      · rename_i hc; simp only [hc, if_true]; exact ih g _ (by omega) h
      · simp at h

/-- If the loop condition held for the first 32 iterations and still holds for `chunk_size = 0`
    (which `chunk_size` has become by then), the loop never exits. -/
theorem diverges_of_runs (S : CTy) (w n : Int) (h1 : runs S w n 32 gcsInit = true)
    (h2 : iter 32 gcsInit = 0) (h3 : gcsCond S w n 0 = true) :
    ∀ f, getChunkSize S f w n = none := by
  intro f
  unfold getChunkSize
  apply gcsLoop_none_of_le S w n (32 + f) f _ (by omega)
  rw [gcsLoop_runs S w n 32 f _ h1, h2]
  exact gcsLoop_zero_diverges S w n h3 f

end PikaVerif.ChunkSize

namespace PikaVerif.C11
open PikaVerif.Gen.BulkArith PikaVerif.BulkPlan PikaVerif.BulkArith PikaVerif.Partition PikaVerif.ChunkSize

/-- Explicit bounds under which the pinned arithmetic is exact: at most 2^14 workers, at most
    2^31 indices, and `n + n/4` representable in the shape type (no overflow in
    `(index + 1) * chunk_size` for the last chunk). -/
def Safe (S : CTy) (w n : Nat) : Prop :=
  IsShape S ∧ 1 ≤ w ∧ w ≤ 16384 ∧ n ≤ 2147483648 ∧ S.fits ((n + n / 4 : Nat) : Int) = true

instance (S : CTy) (w n : Nat) : Decidable (Safe S w n) := by unfold Safe; infer_instance

theorem chunkSize_safe (S : CTy) (w n : Nat) (h : Safe S w n) :
    ∃ c : Nat, chunkSizeOf S fuel w n = some (c : Int) ∧ SafeC S w n c := by
  obtain ⟨hS, hw, hw2, hn, hfit⟩ := h
  have hnf : S.fits (n : Int) = true := fits_mono S hS (by omega) (by omega) hfit
  obtain ⟨r, hr, hr1, hr2, hr3⟩ := getChunkSize_spec S w n hw (by omega) hn
  refine ⟨r, ?_, ?_⟩
  · unfold chunkSizeOf fuel
    rw [u32_wrap w (by omega) (by omega),
      CTy.wrap_of_fits (by rcases hS with rfl | rfl | rfl | rfl <;> decide) hnf]
    exact hr
  · have hrw : r ≤ r * w := Nat.le_mul_of_pos_right _ (by omega)
    have hr4 : r = 1 ∨ 4 * r < n := by
      rcases hr3 with h | h
      · exact Or.inl h
      · exact Or.inr (by omega)
    have hnc : nchunks r n ≤ 8 * w := by
      unfold nchunks
      have : n + r - 1 < (8 * w + 1) * r := by
        have : (8 * w + 1) * r = 8 * (r * w) + r := by
          rw [Nat.add_mul, Nat.one_mul, Nat.mul_assoc, Nat.mul_comm w r]
        omega
      have := (Nat.div_lt_iff_lt_mul (by omega : 0 < r)).2 this
      omega
    have hwnc : w * nchunks r n ≤ 2147483648 := by
      have h1 : w * nchunks r n ≤ w * (8 * w) := Nat.mul_le_mul_left _ hnc
      have h2 : w * w ≤ 16384 * 16384 := Nat.mul_le_mul hw2 hw2
      have h3 : w * (8 * w) = 8 * (w * w) := by
        rw [← Nat.mul_assoc, Nat.mul_comm w 8, Nat.mul_assoc]
      omega
    have hmul : nchunks r n * r ≤ n + n / 4 := by
      unfold nchunks
      have := Nat.div_mul_le_self (n + r - 1) r
      rcases hr4 with h | h
      · subst h; omega
      · omega
    refine ⟨hS, hr1, by omega, hw, by omega, hnf, ?_, by omega, by omega, ?_⟩
    · have hsum : (n : Int) + r < 4294967296 := by
        rcases hr4 with h | h <;> omega
      rcases hS with rfl | rfl | rfl | rfl <;> simp only [cm_i32_u32, cm_u32_u32, cm_i64_u32,
        cm_u64_u32, u32_fits, u64_fits, i64_fits] <;> omega
    · exact fits_mono S hS (by omega) (by omega) hfit

end PikaVerif.C11
