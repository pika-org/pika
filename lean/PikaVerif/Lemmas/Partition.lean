/-!
# Partitions of a range by a monotone sequence of cut points

`a 0 ≤ a 1 ≤ … ≤ a m`: every `j` of `[a 0, a m)` lies in exactly one cell `[a k, a (k+1))`, `k < m`.
Used twice for C11: worker → chunk ranges (`a k = k * nc / w`) and chunk → index ranges
(`a j = min (j * c) n`).
-/
namespace PikaVerif.Partition

theorem mono_le (a : Nat → Nat) (m : Nat) (hmono : ∀ k, k < m → a k ≤ a (k + 1)) :
    ∀ k k', k ≤ k' → k' ≤ m → a k ≤ a k' := by
  intro k k' hkk
  induction k' with
  | zero => intro _; have : k = 0 := by omega
            subst this; exact Nat.le_refl _
  | succ i ih =>
    intro hm
    by_cases h : k = i + 1
    · subst h; exact Nat.le_refl _
    · exact Nat.le_trans (ih (by omega) (by omega)) (hmono i (by omega))

theorem exists_cell (a : Nat → Nat) (m : Nat) (hmono : ∀ k, k < m → a k ≤ a (k + 1))
    (j : Nat) (h0 : a 0 ≤ j) (hj : j < a m) : ∃ k, k < m ∧ a k ≤ j ∧ j < a (k + 1) := by
  induction m with
  | zero => omega
  | succ i ih =>
    by_cases h : j < a i
    · obtain ⟨k, hk, h1, h2⟩ := ih (fun k hk => hmono k (by omega)) h
      exact ⟨k, by omega, h1, h2⟩
    · exact ⟨i, by omega, by omega, hj⟩

theorem cell_unique (a : Nat → Nat) (m : Nat) (hmono : ∀ k, k < m → a k ≤ a (k + 1))
    {j k k' : Nat} (hk : k < m) (hk' : k' < m)
    (h1 : a k ≤ j) (h2 : j < a (k + 1)) (h1' : a k' ≤ j) (h2' : j < a (k' + 1)) : k = k' := by
  by_cases hlt : k < k'
  · have := mono_le a m hmono (k + 1) k' (by omega) (by omega); omega
  · by_cases hgt : k' < k
    · have := mono_le a m hmono (k' + 1) k (by omega) (by omega); omega
    · omega

/-- Integer ranges `R k = [a k, a (k+1))`, `k < m`: every `j` of `[a 0, a m)` lies in exactly one. -/
theorem owner (a : Nat → Nat) (m : Nat) (hmono : ∀ k, k < m → a k ≤ a (k + 1)) (R : Nat → Int × Int)
    (hR : ∀ k, k < m → R k = ((a k : Int), (a (k + 1) : Int))) (j : Nat) (h0 : a 0 ≤ j) (hj : j < a m) :
    ∃ k, k < m ∧ (R k).1 ≤ j ∧ (j : Int) < (R k).2 ∧
      ∀ k', k' < m → (R k').1 ≤ j → (j : Int) < (R k').2 → k' = k := by
  obtain ⟨k, hk, h1, h2⟩ := exists_cell a m hmono j h0 hj
  refine ⟨k, hk, by rw [hR k hk]; exact Int.ofNat_le.2 h1, by rw [hR k hk]; exact Int.ofNat_lt.2 h2,
    fun k' hk' a1 a2 => ?_⟩
  rw [hR k' hk'] at a1 a2
  exact cell_unique a m hmono hk' hk (Int.ofNat_le.1 a1) (Int.ofNat_lt.1 a2) h1 h2

/-- The cut points `k * nc / w` of `init_queue`. -/
def part (w nc k : Nat) : Nat := k * nc / w

theorem part_mono (w nc k : Nat) : part w nc k ≤ part w nc (k + 1) := by
  unfold part
  apply Nat.div_le_div_right
  exact Nat.mul_le_mul_right nc (by omega)

theorem part_zero (w nc : Nat) : part w nc 0 = 0 := by simp [part]

theorem part_last (w nc : Nat) (hw : 0 < w) : part w nc w = nc := by
  unfold part; exact Nat.mul_div_cancel_left nc hw

/-- The cut points `min (j * c) n` of `do_work_chunk`. -/
def cut (c n j : Nat) : Nat := min (j * c) n

theorem cut_mono (c n j : Nat) : cut c n j ≤ cut c n (j + 1) := by
  unfold cut
  have : j * c ≤ (j + 1) * c := Nat.mul_le_mul_right c (by omega)
  omega

theorem cut_zero (c n : Nat) : cut c n 0 = 0 := by simp [cut]

/-- Number of chunks `⌈n / c⌉` as the code computes it. -/
def nchunks (c n : Nat) : Nat := (n + c - 1) / c

theorem nchunks_mul_ge (c n : Nat) (hc : 0 < c) : n ≤ nchunks c n * c := by
  unfold nchunks
  have h := Nat.div_add_mod (n + c - 1) c
  have h2 := Nat.mod_lt (n + c - 1) hc
  rw [Nat.mul_comm] at h
  omega

theorem lt_of_lt_nchunks (c n j : Nat) (hc : 0 < c) (hj : j < nchunks c n) : j * c < n := by
  unfold nchunks at hj
  have h1 : (j + 1) ≤ (n + c - 1) / c := hj
  have h2 := (Nat.le_div_iff_mul_le hc).1 h1
  have : (j + 1) * c = j * c + c := by rw [Nat.add_mul]; simp
  omega

theorem cut_last (c n : Nat) (hc : 0 < c) : cut c n (nchunks c n) = n := by
  unfold cut; have := nchunks_mul_ge c n hc; omega

theorem cut_of_lt (c n j : Nat) (hc : 0 < c) (hj : j < nchunks c n) : cut c n j = j * c := by
  unfold cut; have := lt_of_lt_nchunks c n j hc hj; omega

end PikaVerif.Partition
