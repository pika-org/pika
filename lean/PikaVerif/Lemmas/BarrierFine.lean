import PikaVerif.Model.BarrierT
import PikaVerif.Lemmas.BarrierProgress
/-! The fine barrier model (`Model/BarrierT.lean`) refines the coarse one: what its `step` does; the invariant
    `J` of the completion step in three steps; every accepted fine event is a coarse step, or a coarse stutter,
    on the abstraction (`sim`), hence every accepted fine log projects to an accepted coarse log whose final
    state is the abstraction of the fine final state (`refines`).  The proof needs the coarse invariants (a last
    arriver excludes every other arriving thread) exactly at the point where the coarse model has one atomic
    step: a `fetch_sub` of `arrive_and_drop` cannot fall between `expected_adjustment.load()` and `.store(0)`.
    Last, what the `C09T_…` theorems need besides: a waiter's token and the published phases are stable under
    every fine step. -/
namespace PikaVerif.BarrierT
open PikaVerif.Barrier

/-! What `step` does: 14 of its 18 kinds of event it passes on to the coarse model under a guard on its own
    flags (`step_pass_iff`); the other four are its own. -/

/-- the guard of the fine model on an event that it passes on to the coarse model -/
def passes (s : St) : Ev → Prop
  | .c (.poll t tok seen) => s.blk t = true ∨ (s.timed t = true ∧ seen = tok)
  | .c (.publish t _ _) => s.wx t = .none
  | .c (.compl _) => False
  | .invT _ o => o = .wait ∨ o = .aw
  | .spinok t tok seen => s.timed t = true ∧ s.blk t = false ∧ seen ≠ tok
  | _ => True

/-- `timed` and `blk` after a passed event: an invocation sets them for its thread -/
def flags (s : St) : Ev → (Nat → Bool) × (Nat → Bool)
  | .c (.inv t _) => (upd s.timed t false, upd s.blk t false)
  | .invT t _ => (upd s.timed t true, upd s.blk t false)
  | _ => (s.timed, s.blk)

/-- the coarse event that the fine model passes an event on as; its own `compl` is not passed on -/
def pass : Ev → Option Barrier.Ev
  | .c e => some e
  | .invT t o => some (.inv t o)
  | .spinok t a b => some (.poll t a b)
  | _ => none

theorem proj_of_pass {e : Ev} {e0 : Barrier.Ev} (h : pass e = some e0) : proj e = some e0 := by
  cases e <;> first | exact h | cases h

theorem step_pass_iff {s s' : St} {e : Ev} {e0 : Barrier.Ev} (hp : pass e = some e0) :
    step s e = some s' ↔ passes s e ∧ ∃ c', Barrier.step s.c e0 = some c' ∧
      s' = { s with c := c', timed := (flags s e).1, blk := (flags s e).2 } := by
  have map : ∀ {x : Option Barrier.St} {tm bl : Nat → Bool},
      x.map (fun c' => ({ s with c := c', timed := tm, blk := bl } : St)) = some s' ↔
        ∃ c', x = some c' ∧ s' = { s with c := c', timed := tm, blk := bl } := by
    intro x tm bl; cases x <;> simp [eq_comm]
  cases e
  case block | adjLoad | adjStore | compl => cases hp
  case c e =>
    cases Option.some.inj hp
    cases e0 <;> simp only [step, passes, flags, true_and, false_and, reduceCtorEq]
    case poll | publish => split <;> simp_all
    all_goals exact map
  case invT t o =>
    cases Option.some.inj hp
    cases o <;> simp [step, passes, flags, map]
  case spinok t a b =>
    cases Option.some.inj hp
    simp only [step, passes, flags]
    split <;> simp_all

/-- the phase store is passed on only when its thread has left the completion step -/
theorem passes_publish {s : St} {e : Ev} {t a b : Nat} (hp : pass e = some (.publish t a b)) (h : passes s e) :
    s.wx t = .none := by
  cases e <;> first | (cases Option.some.inj hp; exact h) | cases Option.some.inj hp | cases hp

/-! The four events of the fine model itself. -/

theorem step_block_iff {s s' : St} {t : Nat} {b : Bool} : step s (.block t b) = some s' ↔
    t < s.c.n ∧ s.c.pc t = .polling ∧ s.blk t = false ∧ b = s.timed t ∧
      s' = { s with blk := upd s.blk t true } := by
  simp only [step]
  constructor
  · intro h; obtain ⟨⟨h1, h2, h3, h4⟩, rfl⟩ := of_ite_some h; exact ⟨h1, h2, h3, h4, rfl⟩
  · rintro ⟨h1, h2, h3, h4, rfl⟩; exact if_pos ⟨h1, h2, h3, h4⟩

theorem step_compl_iff {s s' : St} {t : Nat} : step s (.compl t) = some s' ↔
    ∃ u r, t < s.c.n ∧ s.c.pc t = .won u r ∧
      s' = { s with c := { s.c with compls := s.c.compls + 1, pc := upd s.c.pc t (.pub u r) },
                    wx := upd s.wx t .cdone } := by
  simp only [step]
  constructor
  · intro h
    obtain ⟨ht, h⟩ := of_ite h
    split at h
    · next u r hpc => exact ⟨u, r, ht, hpc, (Option.some.inj h).symm⟩
    · cases h
  · rintro ⟨u, r, ht, hpc, rfl⟩; rw [if_pos ht, hpc]

theorem step_adjLoad_iff {s s' : St} {t a e : Nat} : step s (.adjLoad t a e) = some s' ↔
    t < s.c.n ∧ s.wx t = .cdone ∧ a = s.c.adj ∧ e = s.c.expected - a ∧
      s' = { s with c := { s.c with expected := e }, wx := upd s.wx t (.adjd a) } := by
  simp only [step]
  constructor
  · intro h; obtain ⟨⟨h1, h2, h3, h4⟩, rfl⟩ := of_ite_some h; exact ⟨h1, h2, h3, h4, rfl⟩
  · rintro ⟨h1, h2, h3, h4, rfl⟩; exact if_pos ⟨h1, h2, h3, h4⟩

theorem step_adjStore_iff {s s' : St} {t : Nat} : step s (.adjStore t) = some s' ↔
    ∃ a, t < s.c.n ∧ s.wx t = .adjd a ∧
      s' = { s with c := { s.c with adj := 0 }, wx := upd s.wx t .none, lost := s.lost + (s.c.adj - a) } := by
  simp only [step]
  constructor
  · intro h
    obtain ⟨ht, h⟩ := of_ite h
    split at h
    · next a hx => exact ⟨a, ht, hx, (Option.some.inj h).symm⟩
    · cases h
  · rintro ⟨a, ht, hx, rfl⟩; rw [if_pos ht, hx]

/-- Coarse events that neither read nor write `expected`, `adj`, `win`. -/
def framed : Barrier.Ev → Bool
  | .inv _ _ | .cas _ _ _ _ | .cas2 _ _ _ _ | .poll _ _ _ | .ret _ | .done _ => true
  | _ => false

/-- What the sub-states of the completion step (`wx`) mean for the real variables. -/
structure J (s : St) : Prop where
  /-- only a thread at coarse pc `.pub` is inside the completion step -/
  wxPub : ∀ t, s.wx t ≠ .none → isPub (s.c.pc t) = true
  /-- between load and store the adjustment still holds the loaded value: no `fetch_sub` got in -/
  adjdEq : ∀ t a, s.wx t = .adjd a → s.c.adj = a
  /-- no drop was ever overwritten by the store of `0` -/
  lost0 : s.lost = 0
  /-- before the load: `expected` and the adjustment are those of the phase -/
  cdoneEq : ∀ t, s.wx t = .cdone → s.c.expected = s.c.e0 ∧ s.c.adj = s.c.drops
  /-- after the load: the phase's drops were loaded and applied to `expected` -/
  adjdVal : ∀ t a, s.wx t = .adjd a → a = s.c.drops ∧ s.c.expected = s.c.e0 - s.c.drops

structure FInv (s : St) : Prop where
  a : InvA (abs s)
  b : InvB (abs s)
  j : J s

@[simp] theorem abs_pc (s : St) : (abs s).pc = s.c.pc := rfl
@[simp] theorem abs_win (s : St) : (abs s).win = s.c.win := rfl
@[simp] theorem abs_n (s : St) : (abs s).n = s.c.n := rfl
@[simp] theorem abs_count (s : St) : (abs s).count = s.c.count := rfl
@[simp] theorem abs_e0 (s : St) : (abs s).e0 = s.c.e0 := rfl
@[simp] theorem abs_ph (s : St) : (abs s).ph = s.c.ph := rfl
@[simp] theorem abs_phase (s : St) : (abs s).phase = s.c.phase := rfl
@[simp] theorem abs_tok (s : St) : (abs s).tok = s.c.tok := rfl
@[simp] theorem abs_tokIdx (s : St) : (abs s).tokIdx = s.c.tokIdx := rfl
@[simp] theorem abs_compls (s : St) : (abs s).compls = s.c.compls := rfl
@[simp] theorem abs_drops (s : St) : (abs s).drops = s.c.drops := rfl
@[simp] theorem abs_tk (s : St) : (abs s).tk = s.c.tk := rfl

/-- The abstraction is the coarse component, except inside the completion step. -/
theorem abs_eq {s : St} (h : ∀ w, s.c.win = some w → s.wx w = .none) : abs s = s.c := by
  have h1 : aexp s = s.c.expected := by
    unfold aexp; cases hw : s.c.win with
    | none => rfl
    | some w => simp [h w hw]
  have h2 : aadj s = s.c.adj := by
    unfold aadj; cases hw : s.c.win with
    | none => rfl
    | some w => simp [h w hw]
  unfold abs; rw [h1, h2]

theorem abs_eq_of_none {s : St} (h : s.c.win = none) : abs s = s.c :=
  abs_eq (by intro w hw; rw [h] at hw; cases hw)

/-- The fine state changed only in fields the abstraction does not look at, or in coarse fields
    other than `win`, `expected`, `adj`. -/
theorem abs_of_keeps (s : St) (c' : Barrier.St) (tm bl : Nat → Bool)
    (h1 : c'.win = s.c.win) (h2 : c'.expected = s.c.expected) (h3 : c'.adj = s.c.adj) :
    abs { s with c := c', timed := tm, blk := bl } = { c' with expected := aexp s, adj := aadj s } := by
  unfold abs aexp aadj; simp only [h1, h2, h3]

theorem win_of_wx {s : St} (hi : FInv s) {t : Nat} (h : s.wx t ≠ .none) : s.c.win = some t := by
  have hp := hi.j.wxPub t h
  have := hi.b.winOk t (by simp [isWin, hp])
  simpa using this

theorem wx_none_of_win_none {s : St} (hi : FInv s) (h : s.c.win = none) (t : Nat) : s.wx t = .none := by
  by_cases hx : s.wx t = .none
  · exact hx
  · have := win_of_wx hi hx; rw [h] at this; cases this

/-- A framed coarse event neither reads nor writes `expected` and `adj`, leaves `win`, `e0`, `drops`
    alone, and is not a move of a thread inside the completion step (coarse pc `.pub`). -/
theorem framed_step {c c' : Barrier.St} {e : Barrier.Ev} (hf : framed e = true)
    (h : Barrier.step c e = some c') :
    (∀ x y, Barrier.step { c with expected := x, adj := y } e = some { c' with expected := x, adj := y }) ∧
    c'.win = c.win ∧ c'.expected = c.expected ∧ c'.adj = c.adj ∧ c'.e0 = c.e0 ∧ c'.drops = c.drops ∧
    ∀ t, isPub (c.pc t) = true → c'.pc t = c.pc t := by
  have stays : ∀ {t' : Nat} {q : Pc}, isPub (c.pc t') = false → ∀ t, isPub (c.pc t) = true →
      upd c.pc t' q t = c.pc t :=
    fun hq t hp => upd_other _ _ _ _ (fun ht => by subst ht; rw [hq] at hp; cases hp)
  -- the same constructor, with the same guards, accepts the event on the modified state
  cases step_iff.mp h <;> first
    | exact ⟨fun _ _ => step_iff.mpr (by constructor <;> assumption), rfl, rfl, rfl, rfl, rfl,
        stays (by rw [‹c.pc _ = _›]; rfl)⟩
    | cases hf

def SimStep (s s' : St) (e : Ev) : Prop :=
  match proj e with
  | some e' => Barrier.step (abs s) e' = some (abs s')
  | none => abs s' = abs s

theorem J_of_none {s : St} (hl : s.lost = 0) (h : ∀ t, s.wx t = .none) : J s :=
  ⟨fun t hx => absurd (h t) hx, fun t a hx => (by rw [h t] at hx; cases hx), hl,
   fun t hx => (by rw [h t] at hx; cases hx), fun t a hx => (by rw [h t] at hx; cases hx)⟩

theorem J_of_one {s : St} {t : Nat} (hl : s.lost = 0) (hoth : ∀ t', t' ≠ t → s.wx t' = .none)
    (hp : s.wx t ≠ .none → isPub (s.c.pc t) = true)
    (hc : s.wx t = .cdone → s.c.expected = s.c.e0 ∧ s.c.adj = s.c.drops)
    (ha : ∀ a, s.wx t = .adjd a → s.c.adj = a ∧ a = s.c.drops ∧ s.c.expected = s.c.e0 - s.c.drops) :
    J s := by
  have one : ∀ t', s.wx t' ≠ .none → t' = t := fun t' hx =>
    Classical.not_not.mp fun hne => hx (hoth t' hne)
  refine ⟨fun t' hx => ?_, fun t' a hx => ?_, hl, fun t' hx => ?_, fun t' a hx => ?_⟩
  · cases one t' hx; exact hp hx
  · cases one t' (by rw [hx]; exact W.noConfusion); exact (ha a hx).1
  · cases one t' (by rw [hx]; exact W.noConfusion); exact hc hx
  · cases one t' (by rw [hx]; exact W.noConfusion); exact (ha a hx).2

theorem wx_others {s : St} (hi : FInv s) {t : Nat} (hw : s.c.win = some t) :
    ∀ t', t' ≠ t → s.wx t' = .none := fun _ hne =>
  Classical.not_not.mp fun hx => hne (Option.some.inj ((win_of_wx hi hx).symm.trans hw))

/-- framed coarse events (also used for `invT`, `spinok`) -/
theorem sim_framed (s : St) (hi : FInv s) (e : Barrier.Ev) (hf : framed e = true) (c' : Barrier.St)
    (tm bl : Nat → Bool) (h : Barrier.step s.c e = some c') :
    Barrier.step (abs s) e = some (abs { s with c := c', timed := tm, blk := bl }) ∧
    J { s with c := c', timed := tm, blk := bl } := by
  obtain ⟨hfr, h1, h2, h3, h4, h5, hpub⟩ := framed_step hf h
  constructor
  · rw [abs_of_keeps s c' tm bl h1 h2 h3]
    exact hfr _ _
  · refine ⟨?_, ?_, hi.j.lost0, ?_, ?_⟩
    · intro t hx
      have hp := hi.j.wxPub t hx
      show isPub (c'.pc t) = true
      rw [hpub t hp]; exact hp
    · intro t a hx
      show c'.adj = a
      rw [h3]; exact hi.j.adjdEq t a hx
    · intro t hx
      show c'.expected = c'.e0 ∧ c'.adj = c'.drops
      rw [h2, h3, h4, h5]; exact hi.j.cdoneEq t hx
    · intro t a hx
      show a = c'.drops ∧ c'.expected = c'.e0 - c'.drops
      rw [h2, h4, h5]; exact hi.j.adjdVal t a hx

/-- `sim` for the events passed on, by the *state*: while no thread is inside the completion step the
    abstraction is the coarse component and nothing is to show; while one is, every other thread is outside the
    arriving code, so the event is one of those that do not touch what the abstraction changes (`framed`). -/
theorem sim_pass (s s' : St) (e : Ev) (e0 : Barrier.Ev) (hi : FInv s) (hpr : pass e = some e0)
    (h : step s e = some s') : Barrier.step (abs s) e0 = some (abs s') ∧ J s' := by
  obtain ⟨hg, c', hc, rfl⟩ := (step_pass_iff hpr).mp h
  by_cases hopen : ∃ w, s.wx w ≠ .none
  · obtain ⟨w, hx⟩ := hopen
    refine sim_framed s hi e0 ?_ c' _ _ hc
    have hpub := hi.j.wxPub w hx
    have hq := others_quiet hi.a hi.b (t1 := w) (win_of_wx hi hx)
    -- an event that is not framed is one of a thread inside the arriving code, which only `w` is: at `pub`,
    -- where the one event is the phase store, and that waits for `wx w = none`
    have only : ∀ {t p}, s.c.pc t = p → arriving p = true → t = w := fun {t p} hpc ha =>
      Classical.not_not.mp fun htw => by
        have := hq t htw; rw [show (abs s).pc t = p from hpc, ha] at this; cases this
    cases step_iff.mp hc <;> first | rfl | skip
    case publish t u r ht hpc => cases only hpc rfl; exact absurd (passes_publish hpr hg) hx
    all_goals cases only ‹_› rfl; rw [‹s.c.pc _ = _›] at hpub; cases hpub
  · have hall : ∀ t, s.wx t = .none := fun t => Classical.not_not.mp fun hx => hopen ⟨t, hx⟩
    refine ⟨?_, J_of_none hi.j.lost0 hall⟩
    rw [abs_eq fun w _ => hall w, hc]
    exact congrArg some (abs_eq (s := { s with c := c', timed := (flags s e).1, blk := (flags s e).2 })
      fun w _ => hall w).symm

/-- **One accepted fine step is one coarse step (or a coarse stutter) on the abstraction.** -/
theorem sim (s s' : St) (e : Ev) (hi : FInv s) (h : step s e = some s') : SimStep s s' e ∧ J s' := by
  cases hpr : pass e with
  | some e0 => unfold SimStep; rw [proj_of_pass hpr]; exact sim_pass s s' e e0 hi hpr h
  | none =>
  cases e <;> first | (cases hpr; done) | skip
  case compl t =>
    show Barrier.step (abs s) (.compl t) = some (abs s') ∧ J s'
    obtain ⟨u, r, ht, hpc, rfl⟩ := step_compl_iff.mp h
    obtain ⟨-, -, hwin, hwf⟩ := hi.b.known ht hpc
    have hwin : s.c.win = some t := hwin
    have hxt : s.wx t = .none := Classical.not_not.mp fun hx => by
      have := hi.j.wxPub t hx; rw [hpc] at this; cases this
    have hcl : ∀ w, s.c.win = some w → s.wx w = .none := fun w hw => by
      cases Option.some.inj (hwin.symm.trans hw); exact hxt
    rw [abs_eq hcl] at hwf ⊢
    refine ⟨(step_iff.mpr (.compl t u r ht hpc)).trans (congrArg some ?_), J_of_one (t := t) hi.j.lost0
      (fun t' hne => (upd_other _ _ _ _ hne).trans (wx_others hi hwin t' hne))
      (fun _ => by dsimp only; rw [upd_same]; rfl) (fun _ => ⟨hwf.1, hwf.2.1⟩)
      (fun a hx => by dsimp only at hx; rw [upd_same] at hx; cases hx)⟩
    simp [abs, aexp, aadj, hwin]
  case adjLoad t a e =>
    show abs s' = abs s ∧ J s'
    obtain ⟨ht, hx, ha, he, rfl⟩ := step_adjLoad_iff.mp h
    have hwin : s.c.win = some t := win_of_wx hi (by rw [hx]; exact W.noConfusion)
    obtain ⟨h1, h2⟩ := hi.j.cdoneEq t hx
    refine ⟨by simp [abs, aexp, aadj, hwin, hx, ha, he], J_of_one (t := t) hi.j.lost0
      (fun t' hne => (upd_other _ _ _ _ hne).trans (wx_others hi hwin t' hne))
      (fun _ => hi.j.wxPub t (by rw [hx]; exact W.noConfusion))
      (fun hc => by dsimp only at hc; rw [upd_same] at hc; cases hc)
      (fun a' hx' => by
        dsimp only at hx' ⊢; rw [upd_same] at hx'; cases hx'
        exact ⟨ha.symm, ha.trans h2, by rw [he, ha, h1, h2]⟩)⟩
  case adjStore t =>
    show abs s' = abs s ∧ J s'
    obtain ⟨a, ht, hx, rfl⟩ := step_adjStore_iff.mp h
    have hwin : s.c.win = some t := win_of_wx hi (by rw [hx]; exact W.noConfusion)
    have hadj := hi.j.adjdEq t a hx
    have hl := hi.j.lost0
    refine ⟨by simp [abs, aexp, aadj, hwin, hx], J_of_none (by dsimp only; omega) (fun t' => ?_)⟩
    by_cases he : t' = t
    · subst he; exact upd_same ..
    · exact (upd_other _ _ _ _ he).trans (wx_others hi hwin t' he)
  case block t b =>
    obtain ⟨-, -, -, -, rfl⟩ := step_block_iff.mp h
    exact ⟨rfl, ⟨hi.j.wxPub, hi.j.adjdEq, hi.j.lost0, hi.j.cdoneEq, hi.j.adjdVal⟩⟩

theorem finv_init (n N : Nat) : FInv (init n N) := by
  have he : abs (init n N) = Barrier.init n N := abs_eq_of_none rfl
  refine ⟨?_, ?_, ?_⟩
  · rw [he]; exact invA_init n N
  · rw [he]; exact invB_init n N
  · exact ⟨(by intro t h; exact absurd rfl h), (by intro t a h; cases h), rfl, (by intro t h; cases h), (by intro t a h; cases h)⟩

/-- the invariants of the abstraction follow the simulated coarse step -/
theorem finv_of_sim {s s' : St} {e : Ev} (hi : FInv s) (hs : SimStep s s' e) (hj : J s') : FInv s' := by
  unfold SimStep at hs
  cases hp : proj e with
  | none =>
    rw [hp] at hs; dsimp only at hs
    exact ⟨hs ▸ hi.a, hs ▸ hi.b, hj⟩
  | some e' =>
    rw [hp] at hs; dsimp only at hs
    exact ⟨stepA _ _ e' hi.a hs, stepB _ _ e' hi.a hi.b hs, hj⟩

theorem finv_step (s s' : St) (e : Ev) (hi : FInv s) (h : step s e = some s') : FInv s' :=
  finv_of_sim hi (sim s s' e hi h).1 (sim s s' e hi h).2

theorem refines_from (log : List Ev) : ∀ (s s' : St), FInv s → runLog step s log = some s' →
    runLog Barrier.step (abs s) (projLog log) = some (abs s') ∧ FInv s' := by
  induction log with
  | nil => intro s s' hi h; simp at h; subst h; exact ⟨rfl, hi⟩
  | cons e es ih =>
    intro s s' hi h
    obtain ⟨s1, hs, h⟩ := runLog_cons_some h
    obtain ⟨hsim, hj⟩ := sim s s1 e hi hs
    obtain ⟨h1, h2⟩ := ih s1 s' (finv_of_sim hi hsim hj) h
    refine ⟨?_, h2⟩
    unfold SimStep at hsim
    cases hp : proj e with
    | none =>
      rw [hp] at hsim; dsimp only at hsim
      simp only [projLog, hp]; rw [← hsim]; exact h1
    | some e' =>
      rw [hp] at hsim; dsimp only at hsim
      simp only [projLog, hp, runLog, hsim]; exact h1

/-- **Refinement.**  Every log accepted by the fine model projects (event by event, dropping the
    stutter steps) to a log accepted by the coarse model, and the coarse run ends in the
    abstraction of the fine final state. -/
theorem refines {n N : Nat} {log : List Ev} {s : St} (h : runLog step (init n N) log = some s) :
    runLog Barrier.step (Barrier.init n N) (projLog log) = some (abs s) ∧ FInv s := by
  have := refines_from log (init n N) s (finv_init n N) h
  rwa [abs_eq_of_none (s := init n N) rfl] at this

/-- While a thread polls in `wait`, no coarse step of anybody changes its token or the phase index
    of its token, and the number of published phases never decreases. -/
theorem core_flip_stable {c c' : Barrier.St} {e : Barrier.Ev} (h : Barrier.step c e = some c')
    (t : Nat) (hp : c.pc t = .polling) :
    c'.tokIdx t = c.tokIdx t ∧ c'.tok t = c.tok t ∧ c.ph ≤ c'.ph := by
  obtain ⟨-, -, -, -, hph, htok, -⟩ := step_frame h
  by_cases ht : t = thr e
  · -- the only event of a polling thread is `poll`, which writes no token
    subst ht
    cases step_iff.mp h <;> first
      | exact ⟨rfl, rfl, hph⟩
      | exact Pc.noConfusion (hp.symm.trans ‹c.pc _ = Pc.want _›)
  · exact ⟨(htok t ht).2, (htok t ht).1, hph⟩

/-- The same for every accepted fine step: its coarse part is one coarse step, or stays. -/
theorem fine_flip_stable {s s' : St} {e : Ev} (h : step s e = some s') (t : Nat)
    (hp : s.c.pc t = .polling) :
    s'.c.tokIdx t = s.c.tokIdx t ∧ s'.c.tok t = s.c.tok t ∧ s.c.ph ≤ s'.c.ph := by
  cases hpr : pass e with
  | some e0 =>
    obtain ⟨-, c', hc, rfl⟩ := (step_pass_iff hpr).mp h
    exact core_flip_stable hc t hp
  | none =>
  -- the four events of the fine model itself write neither tokens nor `ph`
  cases e <;> first | (cases hpr; done) | skip
  case block => obtain ⟨-, -, -, -, rfl⟩ := step_block_iff.mp h; exact ⟨rfl, rfl, Nat.le_refl _⟩
  case compl => obtain ⟨_, _, -, -, rfl⟩ := step_compl_iff.mp h; exact ⟨rfl, rfl, Nat.le_refl _⟩
  case adjLoad => obtain ⟨-, -, -, -, rfl⟩ := step_adjLoad_iff.mp h; exact ⟨rfl, rfl, Nat.le_refl _⟩
  case adjStore => obtain ⟨_, -, -, rfl⟩ := step_adjStore_iff.mp h; exact ⟨rfl, rfl, Nat.le_refl _⟩

/-- fine events with which a waiter may leave `wait` project to the coarse poll -/
theorem poll_abs {s s' : St} (hi : FInv s) {t a b : Nat}
    (h : step s (.c (.poll t a b)) = some s' ∨ step s (.spinok t a b) = some s') :
    Barrier.step (abs s) (.poll t a b) = some (abs s') := by
  rcases h with h | h
  · exact (sim s s' _ hi h).1
  · exact (sim s s' _ hi h).1

end PikaVerif.BarrierT
