import PikaVerif.Lemmas.StopPhase
/-!
# Termination measure for the stop_state model

`mu s` is a natural number that strictly decreases with every accepted event of the model
`PikaVerif.Stop` that is neither a move of the environment (`envEv`: a new operation is invoked,
a thread finishes, a stop_source is copied / dropped, a query) nor a *stutter* (`stutter s e`:
the accepted event leaves the state unchanged — a spin re-load that sees the lock bit, a
spurious CAS failure).  It holds for every state (reachable or not) and both code variants.

The rank of a program counter depends on the lock bit and on the stop-requested bit: while the
lock is held `cas` ranks above `spin` (a failed CAS goes to the spin loop), while it is free
`spin` ranks above `cas` (the re-load goes back to the CAS).  Taking or releasing the lock (and
setting the stop bit) therefore moves the rank of every *other* activity by at most 2; the
acting activity pays for that with `W = 2 n + 1`.  A list element carries the cost `L` of one
round of the request_stop loop (dequeue, `is_removed_` store, callback, finished store, re-lock).

Run-level consequences:
* `mu_step`: one accepted event: stutter ⇒ state unchanged; environment ⇒ `mu` grows by at most
  `invCost` (only `inv` adds anything); every other event ⇒ `mu` strictly decreases.
* `run_bound`: along every accepted log: moving events + final `mu` ≤ initial `mu` +
  `invCost` · (number of invoked operations).
* `stutter_reload`, `stutter_casFail`: what the stutters are.
* `not_maximal_moves`: a state with an enabled productive event has an enabled productive event
  that is not a stutter.
* `wait_released`: an activity leaves `wait c` only by its own `stop.waited`.
-/
namespace PikaVerif.Stop

/-- rank of the lock loop of `k` *after* the lock was taken: what is still to do
    while holding the lock and afterwards -/
def lockedK (W L : Nat) : Kind → Nat
  | .rs => W + 3
  | .relock => W + 3
  | .reg _ => L + W + 3
  | .unreg _ => W + 5

def rk (W L : Nat) (held req : Bool) : Pc → Nat
  | .fin => 0
  | .idle => 1
  | .retn _ _ => 2
  | .wait _ => 3
  | .chk _ => 4
  | .post _ _ => 2 * W + 8
  | .body _ _ => 2 * W + 9
  | .exec _ _ => 2 * W + 10
  | .pre _ => 2 * W + 11
  | .locked k => lockedK W L k
  | .cas k b => lockedK W L k + W + (if held then 2 else 1) + (if b = req then 0 else 1)
  | .spin k => lockedK W L k + W + (if held then 1 else 2)
  | .ld k => lockedK W L k + W + 4

def muW (s : St) : Nat := 2 * s.n + 1

def muL (s : St) : Nat := 3 * (2 * s.n + 1) + 10

def mu (s : St) : Nat :=
  muL s * s.list.length + sumTo s.n (fun a => rk (muW s) (muL s) s.lock.isSome s.req (s.pc a))

/-- what a newly invoked operation adds at most -/
def invCost (s : St) : Nat := muL s + 2 * muW s + 6

/-- moves of the environment (the program): invoke an operation, finish a thread, copy / drop a
    stop_source, query -/
def envEv : Ev → Bool
  | .inv _ _ | .done _ | .srcInc _ | .srcDec _ | .query _ _ _ => true
  | _ => false

def isInv : Ev → Bool
  | .inv _ _ => true
  | _ => false

/-- **the stutter**: a failed CAS / a spin re-load after which the activity is exactly where it
    was (the whole state is unchanged: `mu_respin`) -/
def stutter (s : St) : Ev → Bool
  | .casFail a lk rq src =>
    match s.pc a with
    | .cas k b => decide ((if s.fixCas then checked k lk rq src else if lk then .spin k else .cas k rq) = .cas k b)
    | _ => false
  | .reload a lk rq src =>
    match s.pc a with
    | .spin k => decide (checked k lk rq src = .spin k)
    | _ => false
  | _ => false

theorem rk_other (W L : Nat) (h r h' r' : Bool) (p : Pc) : rk W L h' r' p ≤ rk W L h r p + 2 := by
  cases p <;> simp only [rk] <;> (repeat' split) <;> omega

theorem sumTo_flip (n a : Nat) (f f' : Nat → Nat) (ha : a < n)
    (h : ∀ b, b < n → b ≠ a → f' b ≤ f b + 2) :
    sumTo n f' + f a ≤ sumTo n f + f' a + 2 * (n - 1) := by
  induction n with
  | zero => exact absurd ha (Nat.not_lt_zero _)
  | succ k ih =>
    simp only [sumTo_succ]
    by_cases hk : a = k
    · subst hk
      have := sumTo_le_add (n := a) (c := 2) (f := f') (g := f) (fun b hb => h b (Nat.lt_succ_of_lt hb) (by omega))
      simp only [Nat.add_sub_cancel]
      omega
    · have hlt : a < k := by omega
      have := ih hlt (fun b hb hne => h b (Nat.lt_succ_of_lt hb) hne)
      have := h k (Nat.lt_succ_self k) (fun e => hk e.symm)
      omega

/-- an event that flips the lock bit / sets the stop bit: the acting activity pays `W` -/
theorem mu_lt_flip {n W L : Nat} {pc : Nat → Pc} {h r h' r' : Bool} {len len' a : Nat} {v : Pc}
    (ha : a < n) (hW : W = 2 * n + 1)
    (hd : rk W L h' r' v + L * len' + W ≤ rk W L h r (pc a) + L * len + 2) :
    L * len' + sumTo n (fun b => rk W L h' r' (upd pc a v b)) <
      L * len + sumTo n (fun b => rk W L h r (pc b)) := by
  have := sumTo_flip n a (fun b => rk W L h r (pc b)) (fun b => rk W L h' r' (upd pc a v b)) ha
    (fun b _ hne => by simp only [upd_other _ _ _ _ hne]; exact rk_other W L h r h' r' (pc b))
  simp only [upd_same] at this
  omega

theorem mu_lt_same {n W L : Nat} {pc : Nat → Pc} {h r : Bool} {len len' a : Nat} {v : Pc}
    (ha : a < n)
    (hd : rk W L h r v + L * len' < rk W L h r (pc a) + L * len) :
    L * len' + sumTo n (fun b => rk W L h r (upd pc a v b)) <
      L * len + sumTo n (fun b => rk W L h r (pc b)) := by
  have := sumTo_upd n (rk W L h r) pc a v ha
  omega

theorem rk_checked_ld (W L : Nat) (hL : 10 ≤ L) (k : Kind) (h r : Bool) (src : Nat) :
    rk W L h r (checked k false r src) < rk W L h r (.ld k) := by
  cases k <;> cases r <;> cases h <;> (by_cases hs : src = 0) <;> simp [checked, rk, lockedK, hs] <;> omega

theorem rk_checked_spin (W L : Nat) (hL : 10 ≤ L) (k : Kind) (h r : Bool) (src : Nat) :
    checked k h r src = .spin k ∨ rk W L h r (checked k h r src) < rk W L h r (.spin k) := by
  cases k <;> cases r <;> cases h <;> (by_cases hs : src = 0) <;> simp [checked, rk, lockedK, hs] <;> omega

theorem rk_checked_cas (W L : Nat) (hL : 10 ≤ L) (k : Kind) (b h r : Bool) (src : Nat) :
    checked k h r src = .cas k b ∨ rk W L h r (checked k h r src) < rk W L h r (.cas k b) := by
  cases k <;> cases r <;> cases h <;> cases b <;> (by_cases hs : src = 0) <;> simp [checked, rk, lockedK, hs] <;> omega

theorem rk_pinned_cas (W L : Nat) (k : Kind) (b h r : Bool) :
    (if h then Pc.spin k else .cas k r) = .cas k b ∨
      rk W L h r (if h then Pc.spin k else .cas k r) < rk W L h r (.cas k b) := by
  cases r <;> cases h <;> cases b <;> simp [rk] <;> omega

/-- a spin re-load or a failed CAS goes to `p'`: either that is where the activity was (nothing
    changes), or `p'` ranks lower -/
theorem mu_respin {s : St} {a : Nat} {p p' : Pc} (ha : a < s.n) (hp : s.pc a = p)
    (hr : p' = p ∨ rk (muW s) (muL s) s.lock.isSome s.req p' < rk (muW s) (muL s) s.lock.isSome s.req p) :
    (p' = p → { s with pc := upd s.pc a p' } = s) ∧
    (p' ≠ p → mu { s with pc := upd s.pc a p' } < mu s) := by
  refine ⟨fun he => ?_, fun hne => ?_⟩
  · rw [he, ← hp, upd_self]
  · simp only [mu, muW, muL] at hr ⊢
    apply mu_lt_same ha
    rw [hp]
    have := hr.resolve_left hne
    omega

macro "mu_same" h:ident : tactic => `(tactic|
  (repeat' split at $h:ident
   all_goals first
    | (exfalso; simp at $h:ident; done)
    | (simp only [Option.some.injEq] at $h:ident; subst $h:ident
       simp only [mu, muW, muL]
       apply mu_lt_same
       · first | assumption | exact (by assumption : _ ∧ _).1
       · simp [rk, lockedK, checked, *] <;> (repeat' split) <;> (try simp [rk, lockedK]) <;> omega)))

macro "mu_flip" h:ident : tactic => `(tactic|
  (repeat' split at $h:ident
   all_goals first
    | (exfalso; simp at $h:ident; done)
    | (simp only [Option.some.injEq] at $h:ident; subst $h:ident
       simp only [mu, muW, muL]
       apply mu_lt_flip
       · first | assumption | exact (by assumption : _ ∧ _).1
       · rfl
       · simp [rk, lockedK, Nat.mul_add, *] <;> omega)))

theorem mu_init (n K : Nat) (ident : Nat → Nat) (f1 f2 : Bool) (srcs : Nat) :
    mu (init n K ident f1 f2 srcs) = n := by
  simp only [mu, init, List.length_nil, Nat.mul_zero, Nat.zero_add, rk, sumTo_const, Nat.mul_one]

/-! ## Runs -/

def moving (s : St) (e : Ev) : Bool := !envEv e && !stutter s e

theorem envEv_of_isInv {e : Ev} (h : isInv e = true) : envEv e = true := by
  cases e <;> first | rfl | cases h

theorem not_envEv_of_productive {e : Ev} (h : productive e = true) : envEv e = false := by
  cases e <;> first | rfl | cases h

theorem not_stutter_of_envEv {s : St} {e : Ev} (h : envEv e = true) : stutter s e = false := by
  cases e <;> first | rfl | cases h

theorem envEv_of_idle {s s' : St} {e : Ev} (h : step s e = some s')
    (hi : s.pc (actor e) = .idle ∨ s.pc (actor e) = .fin) : envEv e = true := by
  obtain ⟨p', -, hm⟩ := (step_frame h).move
  rcases hi with hi | hi <;> rw [hi] at hm <;> cases hm <;> rfl

theorem stutter_of_not_moving {s : St} {e : Ev} (hm : moving s e = false) (he : envEv e = false) :
    stutter s e = true := by
  simpa [moving, he] using hm

/-- one accepted event: `n` is constant; a stutter leaves the state unchanged; a moving event lowers `mu`;
    an environment event raises it by at most `invCost` (only `inv` by anything); `done` lowers it -/
theorem mu_step (s s' : St) (e : Ev) (h : step s e = some s') :
    s'.n = s.n ∧
    (stutter s e = true → s' = s) ∧
    (moving s e = true → mu s' < mu s) ∧
    (envEv e = true → mu s' ≤ mu s + (if isInv e then invCost s else 0)) ∧
    (∀ a, e = .done a → mu s' < mu s) := by
  have hist := step_frame h
  have ha := hist.lt
  obtain ⟨p', hpc, hm⟩ := hist.move
  have hn := hist.consts.1
  refine ⟨hn, ?_⟩
  -- an event that leaves the lock bit, the stop bit and the list alone changes `mu` by the rank of
  -- its actor
  have same : flips e = false → mu s' + rk (muW s) (muL s) s.lock.isSome s.req (s.pc (actor e)) =
      mu s + rk (muW s) (muL s) s.lock.isSome s.req p' := fun hf => by
    obtain ⟨h1, h2, h3⟩ := hist.word hf
    have := sumTo_upd s.n (rk (muW s) (muL s) s.lock.isSome s.req) s.pc (actor e) p' ha
    simp only [mu, muW, muL, hn, h1, h2, h3, hpc] at this ⊢
    omega
  generalize s.pc (actor e) = p at hm same
  cases hm with
  | ret | preExec | cbBegin | cbEnd | finStore | inFin | selfRet | selfWait | waited =>
    have := same rfl
    simp only [rk, lockedK] at this
    exact ⟨nofun, fun _ => by omega, nofun, nofun⟩
  | done =>
    have := same rfl
    simp only [rk] at this
    exact ⟨nofun, nofun, fun _ => by omega, fun _ _ => by omega⟩
  | srcInc | srcDec | query => exact ⟨nofun, nofun, fun _ => by have := same rfl; omega, nofun⟩
  | inv a k _ =>
    have := same rfl
    refine ⟨nofun, nofun, fun _ => ?_, nofun⟩
    cases k <;> simp only [rk, lockedK, invCost, isInv, if_true, muL, muW] at this ⊢ <;> omega
  | invSkip =>
    have := same rfl
    simp only [rk, invCost, isInv, if_true, muL, muW] at this ⊢
    exact ⟨nofun, nofun, fun _ => by omega, nofun⟩
  | load a lk rq src k =>
    obtain ⟨_, -, -, hrq, -⟩ := step_load h
    have := same rfl
    have := rk_checked_ld (muW s) (muL s) (by simp only [muL]; omega) k s.lock.isSome s.req src
    rw [hrq] at *
    exact ⟨nofun, fun _ => by omega, nofun, nofun⟩
  | casFail a lk rq src k b =>
    obtain ⟨_, _, -, hlk, hrq, -, hp, rfl⟩ := step_casFail h
    subst hlk hrq
    have := mu_respin ha hp (p' := if s.fixCas then checked _ s.lock.isSome s.req src
        else if s.lock.isSome then .spin _ else .cas _ s.req) (by
      cases s.fixCas
      · exact rk_pinned_cas ..
      · exact rk_checked_cas _ _ (by simp only [muL]; omega) ..)
    simp only [stutter, moving, envEv, hp, decide_eq_true_eq, Bool.not_false, Bool.true_and,
      Bool.not_eq_true', decide_eq_false_iff_not]
    exact ⟨this.1, this.2, nofun, nofun⟩
  | reload a lk rq src k =>
    obtain ⟨_, -, hlk, hrq, -, hp, rfl⟩ := step_reload h
    subst hlk hrq
    have := mu_respin ha hp (rk_checked_spin _ _ (by simp only [muL]; omega) _ _ _ src)
    simp only [stutter, moving, envEv, hp, decide_eq_true_eq, Bool.not_false, Bool.true_and,
      Bool.not_eq_true', decide_eq_false_iff_not]
    exact ⟨this.1, this.2, nofun, nofun⟩
  | acq a =>
    obtain ⟨-, hl, ⟨hp, rfl⟩ | ⟨k, -, hp, rfl⟩⟩ := step_acq h <;>
      exact ⟨nofun, fun _ => mu_lt_flip ha rfl (by rw [hp, hl]; simp [rk]; omega), nofun, nofun⟩
  | deq a c m =>
    obtain ⟨rest, -, hl, hp, hlist, -, rfl⟩ := step_deq h
    exact ⟨nofun, fun _ => mu_lt_flip ha rfl (by
      rcases hp with hp | hp <;> rw [hp, hl, hlist] <;> simp [rk, lockedK, muL, muW, Nat.mul_add] <;> omega), nofun, nofun⟩
  | rsDone a =>
    obtain ⟨-, hl, hp, -, rfl⟩ := step_rsDone h
    exact ⟨nofun, fun _ => mu_lt_flip ha rfl (by
      rcases hp with hp | hp <;> rw [hp, hl] <;> simp [rk, lockedK, muL, muW] <;> omega), nofun, nofun⟩
  | push a c b =>
    obtain ⟨-, hl, hp, -, rfl⟩ := step_push h
    exact ⟨nofun, fun _ => mu_lt_flip ha rfl (by
      rw [hp, hl]; simp [rk, lockedK, muL, muW, Nat.mul_add]; omega), nofun, nofun⟩
  | unlinked a c | unlinkNone a c =>
    have hl := Nat.mul_le_mul_left (muL s) (List.length_erase_le (a := c) (l := s.list))
    obtain ⟨-, hlk, hp, ⟨-, -, rfl⟩ | ⟨-, -, rfl⟩⟩ := step_unlink h <;>
      exact ⟨nofun, fun _ => mu_lt_flip ha rfl (by rw [hp, hlk]; simp [rk, lockedK, muL, muW] at hl ⊢; omega), nofun, nofun⟩

/-- number of moving events along the run of `l` from `s` -/
def nMoves : St → List Ev → Nat
  | _, [] => 0
  | s, e :: l =>
    match step s e with
    | none => 0
    | some s' => (if moving s e then 1 else 0) + nMoves s' l

def nInv : List Ev → Nat
  | [] => 0
  | e :: l => (if isInv e then 1 else 0) + nInv l

theorem invCost_eq (s s' : St) (h : s'.n = s.n) : invCost s' = invCost s := by
  simp [invCost, muL, muW, h]

theorem run_n (s s' : St) (l : List Ev) (h : runLog step s l = some s') : s'.n = s.n :=
  inv_of_runLog (fun x => x.n = s.n) (fun _ _ _ hx hs => (step_frame hs).consts.1.trans hx) rfl h

theorem run_bound (s s' : St) (l : List Ev) (h : runLog step s l = some s') :
    nMoves s l + mu s' ≤ mu s + invCost s * nInv l := by
  induction l generalizing s with
  | nil => simp at h; subst h; simp [nMoves, nInv]
  | cons e es ih =>
    obtain ⟨s1, hs, h⟩ := runLog_cons_some h
    have h1 := ih s1 h
    obtain ⟨hn, hst, hmv, henv, _⟩ := mu_step s s1 e hs
    rw [invCost_eq s s1 hn] at h1
    simp only [nMoves, hs, nInv, Nat.mul_add]
    -- an invocation is a move of the environment, and those are not moving events
    cases hi : isInv e
    · cases hm : moving s e
      · cases he : envEv e
        · have := hst (stutter_of_not_moving hm he); subst this
          simp; omega
        · have := henv he; simp [hi] at this ⊢; omega
      · have := hmv hm; simp; omega
    · have he := envEv_of_isInv hi
      have hm : moving s e = false := by simp [moving, he]
      have := henv he
      simp [hi, hm] at this ⊢; omega

/-- a re-load is a stutter only when it saw the lock bit: somebody holds the lock -/
theorem stutter_reload (s s' : St) (a : Nat) (lk rq : Bool) (src : Nat)
    (h : step s (.reload a lk rq src) = some s') (hs : stutter s (.reload a lk rq src) = true) :
    lk = true ∧ s.lock.isSome = true ∧ ∃ k, s.pc a = .spin k := by
  obtain ⟨k, -, hlk, -, -, hk, -⟩ := step_reload h
  simp only [stutter, hk, decide_eq_true_eq] at hs
  have := checked_spin hs
  exact ⟨this, by rw [← hlk, this], k, hk⟩

/-- a failed CAS is a stutter only when it is spurious: the word is unlocked and its stop bit is
    the expected one (weak CAS, or only the source count changed) -/
theorem stutter_casFail (s s' : St) (a : Nat) (lk rq : Bool) (src : Nat)
    (h : step s (.casFail a lk rq src) = some s') (hs : stutter s (.casFail a lk rq src) = true) :
    lk = false ∧ s.lock = none ∧ ∃ k, s.pc a = .cas k s.req := by
  obtain ⟨k, b, -, hlk, hrq, -, hk, -⟩ := step_casFail h
  simp only [stutter, hk, decide_eq_true_eq] at hs
  have h2 : lk = false ∧ b = rq := by
    split at hs
    · exact checked_cas hs
    · split at hs <;> cases hs
      exact ⟨Bool.eq_false_iff.mpr ‹_›, rfl⟩
  refine ⟨h2.1, ?_, k, by rw [hk, h2.2, hrq]⟩
  rw [h2.1] at hlk
  cases hl : s.lock
  · rfl
  · rw [hl] at hlk; cases hlk

/-- the stuttering CAS could have succeeded: `stop.acq` is accepted in the same state -/
theorem acq_enabled_of_cas (s : St) (a : Nat) (k : Kind) (ha : a < s.n) (hl : s.lock = none)
    (hk : s.pc a = .cas k s.req) : (step s (.acq a)).isSome = true := by
  cases k <;> simp [step, ha, hl, hk]

theorem not_maximal_moves (s : St) (e : Ev) (hp : productive e = true) (he : enabled s e = true) :
    ∃ e', productive e' = true ∧ enabled s e' = true ∧ moving s e' = true := by
  cases hm : moving s e
  · have hst := stutter_of_not_moving hm (not_envEv_of_productive hp)
    simp only [enabled, Option.isSome_iff_exists] at he
    obtain ⟨s', hs'⟩ := he
    cases e with
    | casFail a lk rq src =>
      obtain ⟨_, hl, k, hk⟩ := stutter_casFail s s' a lk rq src hs' hst
      obtain ⟨_, _, ha, -⟩ := step_casFail hs'
      exact ⟨.acq a, rfl, acq_enabled_of_cas s a k ha hl hk, rfl⟩
    | reload a lk rq src =>
      obtain ⟨h1, _⟩ := stutter_reload s s' a lk rq src hs' hst
      rw [h1] at hp; cases hp
    | _ => cases hst
  · exact ⟨e, hp, he, hm⟩

theorem wait_step {s s' : St} {e : Ev} {a c : Nat} (h : step s e = some s') (hw : s.pc a = .wait c) :
    s'.pc a = .wait c ∨ e = .waited a c := by
  by_cases ha : a = actor e
  · subst ha
    obtain ⟨p', hpc, hm⟩ := (step_frame h).move
    rw [hw] at hm
    rw [hpc, upd_same]
    cases hm with
    | waited => exact .inr rfl
    | _ => exact .inl rfl
  · exact .inl ((step_pc_other h ha).trans hw)

theorem wait_released (s s' : St) (l : List Ev) (a c : Nat) (h : runLog step s l = some s')
    (hw : s.pc a = .wait c) (hn : s'.pc a ≠ .wait c) : Ev.waited a c ∈ l := by
  rcases runLog_until (fun _ => True) (fun s => s.pc a = .wait c) (· = .waited a c) (fun _ _ _ _ _ => trivial)
    (fun _ _ _ _ hp hs => (wait_step hs hp).symm) trivial hw h with ⟨e, hm, rfl⟩ | ⟨-, hp⟩
  · exact hm
  · exact absurd hp hn

end PikaVerif.Stop
