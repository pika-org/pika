import PikaVerif.Model.Bulk
import PikaVerif.Core.Run
/-! What `Bulk.step` accepts and does, as a relation: `step_iff`.  Invariants are proved by cases on
    `Step`; that an event is enabled is a constructor read from right to left. -/
namespace PikaVerif.Bulk

/-- offset of the queue a task pops from next -/
def offOf : Pc → Option Nat
  | .run off => some off
  | .work off _ => some off
  | _ => none

/-- chunk returned and range left by a pop at steal offset `off` (`0`: own queue, from the left) -/
def popEnd (off : Nat) (r : Nat × Nat) : Nat × (Nat × Nat) :=
  (if off = 0 then r.1 else r.2 - 1, if off = 0 then (r.1 + 1, r.2) else (r.1, r.2 - 1))

/-- the range left is the old one without the chunk returned, which was one of its ends -/
theorem popEnd_spec (off : Nat) {r : Nat × Nat} (h : r.1 < r.2) :
    (r.1 ≤ (popEnd off r).1 ∧ (popEnd off r).1 < r.2) ∧
    (r.1 ≤ (popEnd off r).2.1 ∧ (popEnd off r).2.1 ≤ (popEnd off r).2.2 ∧ (popEnd off r).2.2 ≤ r.2) ∧
    r.2 - r.1 = (popEnd off r).2.2 - (popEnd off r).2.1 + 1 ∧
    ∀ x, (if r.1 ≤ x ∧ x < r.2 then 1 else 0) =
      (if x = (popEnd off r).1 then 1 else 0) +
        (if (popEnd off r).2.1 ≤ x ∧ x < (popEnd off r).2.2 then 1 else 0) := by
  unfold popEnd
  by_cases h0 : off = 0 <;> simp only [h0, if_true, if_false] <;>
    refine ⟨?_, ?_, ?_, fun x => ?_⟩ <;> (repeat' split) <;> omega

inductive Step (p : St) : Ev → St → Prop
  | spawn {k : Nat} (hk : k < p.w) (hc : k = cur p) (hp : p.pc k = .idle)
      (hq : qEmpty (p.qs k) = false) :
      Step p (.spawn k) { p with pc := upd p.pc k .spawned, next := k + 1 }
  | skip {k : Nat} (hk : k < p.w) (hc : k = cur p) (hp : p.pc k = .idle)
      (hq : qEmpty (p.qs k) = true) :
      Step p (.skip k) { p with pc := upd p.pc k (.fin false), next := k + 1 }
  | task {k : Nat} (hk : k < p.w)
      (hp : k = p.L ∧ p.w ≤ cur p ∧ p.pc k = .idle ∨ k ≠ p.L ∧ p.pc k = .spawned) :
      Step p (.task k) { p with pc := upd p.pc k (.run 0) }
  | popNone {k q off : Nat} (hk : k < p.w) (hoff : offOf (p.pc k) = some off)
      (hq : q = (k + off) % p.w) (he : qEmpty (p.qs q) = true) :
      Step p (.pop k q none) { p with pc := upd p.pc k (afterEmpty p.w off),
                                      sawAll := p.sawAll || decide (p.w ≤ off + 1) }
  | popSome {k q off j : Nat} (hk : k < p.w) (hoff : offOf (p.pc k) = some off)
      (hq : q = (k + off) % p.w) (hne : qEmpty (p.qs q) = false)
      (hj : j = (popEnd off (p.qs q)).1) :
      Step p (.pop k q (some j))
        { p with qs := upd p.qs q (popEnd off (p.qs q)).2,
                 popped := upd p.popped j (p.popped j + 1),
                 pc := upd p.pc k (.work off j) }
  | chunk {k j off : Nat} (hk : k < p.w) (hp : p.pc k = .work off j) : Step p (.chunk k j) p
  | exc {k off j : Nat} (hk : k < p.w) (hx : p.excThrown = false) (hp : p.pc k = .work off j) :
      Step p (.exc k) { p with pc := upd p.pc k (.fin true), excThrown := true, threw := p.threw + 1 }
  | decFin {k : Nat} {t : Bool} (hk : k < p.w) (hr : 1 ≤ p.remaining) (hp : p.pc k = .fin t) :
      Step p (.dec k (decide (p.remaining = 1)))
        { p with pc := upd p.pc k .decd, remaining := p.remaining - 1,
                 outcome := if decide (p.remaining = 1) then some p.excThrown else p.outcome }
  /-- an exception that was not the first one: no `exc` between the throw and the decrement -/
  | decWork {k off j : Nat} (hk : k < p.w) (hr : 1 ≤ p.remaining) (hp : p.pc k = .work off j)
      (hx : p.excThrown = true) :
      Step p (.dec k (decide (p.remaining = 1)))
        { p with pc := upd p.pc k .decd, remaining := p.remaining - 1, threw := p.threw + 1,
                 outcome := if decide (p.remaining = 1) then some p.excThrown else p.outcome }
  | sig {e : Bool} (ho : p.outcome = some e) (h0 : p.signals = 0) :
      Step p (.sig e) { p with signals := 1 }

theorem step_iff {p p' : St} {e : Ev} : step p e = some p' ↔ Step p e p' := by
  constructor
  · intro h
    cases e with
    | spawn k => obtain ⟨⟨hk, hc, hp, hq⟩, rfl⟩ := of_ite_some h; exact .spawn hk hc hp hq
    | skip k => obtain ⟨⟨hk, hc, hp, hq⟩, rfl⟩ := of_ite_some h; exact .skip hk hc hp hq
    | sig e => obtain ⟨⟨ho, h0⟩, rfl⟩ := of_ite_some h; exact .sig ho h0
    | task k =>
      obtain ⟨hk, h⟩ := of_ite h
      split at h <;> rename_i hL <;> obtain ⟨hg, rfl⟩ := of_ite_some h
      · exact .task hk (.inl ⟨hL, hg⟩)
      · exact .task hk (.inr ⟨hL, hg⟩)
    | pop k q r =>
      obtain ⟨hk, h⟩ := of_ite h
      split at h
      all_goals first | cases h | skip
      all_goals
        obtain ⟨hq, h⟩ := of_ite h
        have hoff := congrArg offOf ‹p.pc k = _›
        cases r with
        | none => obtain ⟨he, rfl⟩ := of_ite_some h; exact .popNone hk hoff hq he
        | some j => obtain ⟨⟨hne, hj⟩, rfl⟩ := of_ite_some h; exact .popSome hk hoff hq hne hj
    | chunk k j =>
      obtain ⟨hk, h⟩ := of_ite h
      split at h
      · rename_i hpc; obtain ⟨rfl, rfl⟩ := of_ite_some h; exact .chunk hk hpc
      · cases h
    | exc k =>
      obtain ⟨⟨hk, hx⟩, h⟩ := of_ite h
      split at h <;> cases h
      rename_i hpc; exact .exc hk hx hpc
    | dec k l =>
      obtain ⟨⟨hk, hr, rfl⟩, h⟩ := of_ite h
      split at h
      · rename_i hpc; cases h; exact .decFin hk hr hpc
      · rename_i hpc; obtain ⟨hx, rfl⟩ := of_ite_some h; exact .decWork hk hr hpc hx
      · cases h
  · intro h
    cases h with
    | task hk hp =>
      rcases hp with ⟨hL, hc, hp⟩ | ⟨hL, hp⟩
      · subst hL; simp [step, hk, hc, hp]
      · simp [step, hk, hL, hp]
    | @popNone k _ _ hk hoff hq he =>
      cases hp : p.pc k <;> simp [offOf, hp] at hoff <;> subst hoff <;> simp [step, hk, hp, ← hq, he]
    | @popSome k _ _ _ hk hoff hq hne hj =>
      cases hp : p.pc k <;> simp [offOf, hp] at hoff <;> subst hoff <;>
        simp [step, hk, hp, ← hq, hne] <;> exact ⟨hj, rfl⟩
    | _ => simp_all [step]

/-- the three events by which a worker task comes to run -/
theorem Step.start {p p' : St} {e : Ev} {k : Nat} (he : e = .spawn k ∨ e = .skip k ∨ e = .task k)
    (h : Step p e p') :
    k < p.w ∧ ∃ x nx, p' = { p with pc := upd p.pc k x, next := nx } ∧
      (p.pc k = .idle ∧ (x = .spawned ∨ x = .fin false ∨ x = .run 0) ∨
       p.pc k = .spawned ∧ x = .run 0) := by
  rcases he with rfl | rfl | rfl <;> cases h
  · rename_i hk _ hp _; exact ⟨hk, _, _, rfl, .inl ⟨hp, .inl rfl⟩⟩
  · rename_i hk _ hp _; exact ⟨hk, _, _, rfl, .inl ⟨hp, .inr (.inl rfl)⟩⟩
  · rename_i hk hp
    exact ⟨hk, _, p.next, rfl, by rcases hp with ⟨_, _, hp⟩ | ⟨_, hp⟩ <;> simp [hp]⟩

end PikaVerif.Bulk
