import PikaVerif.Lemmas.ElasticT
/-! Counter conservation of the `Elastic` model (C19t): queue length = placements − takes. -/
namespace PikaVerif.Elastic

def isIncOn (w : Nat) : Ev → Bool
  | .inc _ u => u == w
  | _ => false

def isDecOn (w : Nat) : Ev → Bool
  | .dec _ u => u == w
  | _ => false

def isIncLow : Ev → Bool
  | .incLow _ => true
  | _ => false

def isDecLow : Ev → Bool
  | .decLow _ => true
  | _ => false

def cntP (p : Ev → Bool) : List Ev → Nat
  | [] => 0
  | e :: es => b2n (p e) + cntP p es

theorem q_step {s s' : St} {e : Ev} (w : Nat) (h : step s e = some s') :
    (s'.wk w).q + b2n (isDecOn w e) = (s.wk w).q + b2n (isIncOn w e) ∧
    s'.lowq + b2n (isDecLow e) = s.lowq + b2n (isIncLow e) := by
  cases Step.of_step h with
  | wk hw => cases hw <;> simp [isDecOn, isIncOn, isDecLow, isIncLow, b2n, upd_apply] <;> grind
  | _ => simp [isDecOn, isIncOn, isDecLow, isIncLow, b2n] <;> omega

theorem q_runLog (log : List Ev) (w : Nat) : ∀ (s s' : St), runLog step s log = some s' →
    (s'.wk w).q + cntP (isDecOn w) log = (s.wk w).q + cntP (isIncOn w) log ∧
    s'.lowq + cntP isDecLow log = s.lowq + cntP isIncLow log := by
  induction log with
  | nil => intro s s' h; simp at h; subst h; simp [cntP]
  | cons e es ih =>
    intro s s' h
    obtain ⟨s1, hs, h⟩ := runLog_cons_some h
    have h1 := q_step w hs
    have h2 := ih s1 s' h
    simp only [cntP]
    omega

end PikaVerif.Elastic
