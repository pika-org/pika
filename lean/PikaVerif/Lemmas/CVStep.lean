import PikaVerif.Model.CV
import PikaVerif.Core.Run
/-! What each event of the condition-variable model does, said once and in both directions (`step_iff`):
    `Step s e s'` reads `step` as the text a thread runs (`Loc`: one line per accepted branch, from the program
    counter the event is accepted at to the next), the guards on the shared data (`Guard`) and what the event
    writes besides the program counter of its thread (`write`).  Before that, the two fixed helpers of `step`
    (`setPopped_some`, `popCore_some`); after it, what an event leaves alone: the per-thread maps of every
    thread but its own and the target of a pop (`step_other`, `step_target`, `step_own`), and `n`. -/
namespace PikaVerif.CV

section
variable {s s' : St} {t : Nat}

theorem setPopped_some {p p' : Pc} (h : setPopped p = some p') :
    (∃ tm, p = .unl tm false ∧ p' = .unl tm true) ∨ (p = .susp false ∧ p' = .susp true) ∨
    (p = .slp false ∧ p' = .slp true) ∨ (∃ tm, p = .wokeNL tm false ∧ p' = .wokeNL tm true) := by
  unfold setPopped at h
  split at h
  · exact .inl ⟨_, rfl, (Option.some.inj h).symm⟩
  · exact .inr (.inl ⟨rfl, (Option.some.inj h).symm⟩)
  · exact .inr (.inr (.inl ⟨rfl, (Option.some.inj h).symm⟩))
  · exact .inr (.inr (.inr ⟨_, rfl, (Option.some.inj h).symm⟩))
  · nomatch h

theorem popCore_some {size tgt : Nat} {dropped : Bool} {pcT : Pc}
    (h : popCore s t size tgt dropped pcT = some s') :
    ∃ rest p', s.queue = tgt :: rest ∧ size = rest.length ∧ setPopped (s.pc tgt) = some p' ∧
      dropped = decide (s.pc tgt = .slp false) ∧
      s' = { s with queue := rest,
                    tok := if dropped then s.tok else upd s.tok tgt (s.tok tgt + 1),
                    pc := upd (upd s.pc tgt p') t pcT,
                    waiting := upd s.waiting tgt false,
                    poppedOp := upd s.poppedOp tgt true,
                    pops := upd s.pops tgt (s.pops tgt + 1) } := by
  unfold popCore at h
  split at h
  next g rest hq =>
    split at h
    next hg =>
      obtain ⟨hsz, rfl⟩ := hg
      split at h
      next p' hp' =>
        split at h
        next hd => exact ⟨rest, p', hq, hsz, hp', hd, (Option.some.inj h).symm⟩
        next => nomatch h
      next => nomatch h
    next => nomatch h
  next => nomatch h

def entryPc : Op → Pc
  | .lock => .wantU
  | .unlock => .unlocking
  | .set v => .setting v
  | .notify _ => .nWant
  | .wait _ pr => if pr then .predChk false else .want
  | .swait _ => .sChk0
  | .stop => .rsWant

/-! ## Which thread an event belongs to -/

/-- the thread that produces an event -/
def actor : Ev → Nat
  | .inv t _ | .ret t _ | .ulAcq t | .ulRel t | .setFlag t _ | .pred t _ | .slAcq t | .slRel t
  | .cvEnq t _ _ | .popResume t _ _ _ | .cvNone t | .cvAll t _ | .popAll t _ _ _ | .cvWoke t _ _
  | .suspend t | .woke t | .sleep t | .timeout t | .done t | .stop0 t _ | .stop1 t _ | .stop2 t _
  | .stSeen t | .stAcq t _ | .stPush t _ | .stDeq t _ _ | .stFin t _ _ | .stInFin t | .stUnlink t _
  | .stSelf t _ | .stWaited t | .stRsDone t => t

def popTarget : Ev → Option Nat
  | .popResume _ _ g _ | .popAll _ _ g _ => some g
  | _ => none

/-- `s'` has at thread `u` what `s` has, in every per-thread map but `cbFin` (nine equalities).  The
    last component is not about `u`: the stop bit, once set, stays set. -/
def SameAt (s s' : St) (u : Nat) : Prop :=
  s'.pc u = s.pc u ∧ s'.curOp u = s.curOp u ∧ s'.waiting u = s.waiting u ∧ s'.tok u = s.tok u ∧
  s'.poppedOp u = s.poppedOp u ∧ s'.enqs u = s.enqs u ∧ s'.pops u = s.pops u ∧ s'.kept u = s.kept u ∧
  s'.sstop u = s.sstop u ∧ (s.stopReq = true → s'.stopReq = true)

end

/-! ## The model as thread text

`Step s e s'` says in one place what `step` accepts: the acting thread is at a line `Loc s e p p'` of its
text, the guards `Guard s e` hold, and the new state is `write s p e` with that thread moved on to `p'`. -/

/-- The text each thread runs: its event `e`, produced at `p`, takes it to `p'`.  The operation and the
    locals of the thread are read in `s`; a hypothesis is the condition under which the line is taken. -/
inductive Loc (s : St) : Ev → Pc → Pc → Prop
  | inv {t o} : Loc s (.inv t o) .idle (entryPc o)
  | ret {t r} : Loc s (.ret t r) (.retn r) .idle
  | retN {t} : Loc s (.ret t 0) .nRet .idle
  | retRs {t b} : Loc s (.ret t (b2n b)) (.rsRet b) .idle
  | retLost {t} : s.stopReq = true → Loc s (.ret t 0) .rsWant .idle
  | done {t} : Loc s (.done t) .idle .fin
  | ulAcq {t} : Loc s (.ulAcq t) .wantU .idle
  | ulAcqW {t still} : Loc s (.ulAcq t) (.relockU still)
      (if isPred (s.curOp t)
       then .predChk (if isStop (s.curOp t) && isTimed (s.curOp t) then s.sstop t else isTimed (s.curOp t) && still)
       else .retn (b2n (isTimed (s.curOp t) && still)))
  | ulRel {t} : Loc s (.ulRel t) .unlocking .idle
  | ulRelW {t} : Loc s (.ulRel t) .locked .released
  | setFlag {t v} : Loc s (.setFlag t v) (.setting v) .idle
  | pred {t v final} : Loc s (.pred t v) (.predChk final)
      (if final then exitPc s t (b2n v) else if v then exitPc s t 1 else .want)
  | acqW {t} : Loc s (.slAcq t) .want (if isStop (s.curOp t) then .sChk1 else .locked)
  | acqC {t k} : Loc s (.slAcq t) (.cWant k) (.cLocked k)
  | acqK {t tm p} : Loc s (.slAcq t) (.wokeNL tm p) (.relk tm p)
  | acqN {t} : Loc s (.slAcq t) .nWant .nLocked
  | relE {t tm} : Loc s (.slRel t) (.enq tm) (.unl tm false)
  | relP {t still} : (isStop (s.curOp t) && isTimed (s.curOp t)) = false →
      Loc s (.slRel t) (.post still) (.relockU still)
  | relS {t still} : Loc s (.slRel t) (.postS still) (.relockU still)
  | relD {t} : Loc s (.slRel t) .nDone .nRet
  | relN {t} : s.queue = [] → Loc s (.slRel t) .nAll .nRet
  | relC {t k} : s.queue = [] → Loc s (.slRel t) (.cAll k) (.cRet k)
  | relX {t} : Loc s (.slRel t) .sStopped (exitPc s t 0)
  | enq {t z tm} : Loc s (.cvEnq t z tm) .released (.enq tm)
  | pop1 {t z g d} : Loc s (.popResume t z g d) .nLocked .nDone
  | none {t} : Loc s (.cvNone t) .nLocked .nDone
  | all {t z} : s.curOp t = .notify true → Loc s (.cvAll t z) .nLocked .nAll
  | allC {t z k} : Loc s (.cvAll t z) (.cLocked k) (.cAll k)
  | popA {t z g d} : Loc s (.popAll t z g d) .nAll .nAll
  | popC {t z g d k} : Loc s (.popAll t z g d) (.cAll k) (.cAll k)
  | wokeK {t still tm} : Loc s (.cvWoke t still tm) (.relk tm (!still)) (.post still)
  | susp {t p} : Loc s (.suspend t) (.unl false p) (.susp p)
  | woke {t p} : Loc s (.woke t) (.susp p) (.wokeNL false p)
  | sleep {t p} : Loc s (.sleep t) (.unl true p) (.slp p)
  | timeout {t p} : Loc s (.timeout t) (.slp p) (.wokeNL true p)
  | stop0 {t v} : Loc s (.stop0 t v) .sChk0 (if v then .predChk true else .sReg)
  | stop1 {t v} : Loc s (.stop1 t v) .sChk1 (if v then .sStopped else .locked)
  | stop2 {t still} : Loc s (.stop2 t (still || s.stopReq)) (.post still) (.postS still)
  | seen {t} : Loc s (.stSeen t) .sReg (.cWant true)
  | sAcqG {t} : s.stopReq = false → Loc s (.stAcq t 2) .sReg .sRegLk
  | sAcqQ {t} : s.stopReq = false → Loc s (.stAcq t 1) .rsWant .rsLocked
  | sAcqL {t} : Loc s (.stAcq t 0) .rsRelock .rsLocked
  | sAcqD {t r} : Loc s (.stAcq t 0) (.sDtor r) (.sRm r)
  | push {t b} : Loc s (.stPush t b) .sRegLk (.predChk false)
  | deq {t c b} : Loc s (.stDeq t c b) .rsLocked (.cWant false)
  | fin {t c b} : Loc s (.stFin t c b) (.cRet false) .rsRelock
  | inFin {t} : Loc s (.stInFin t) (.cRet true) (.predChk false)
  | unlink {t r} : Loc s (.stUnlink t true) (.sRm r) (.retn r)
  | unlinkG {t r} : Loc s (.stUnlink t false) (.sRm r) (.sRmChk r)
  | self {t b r} : Loc s (.stSelf t b) (.sRmChk r) (.sRmWait r)
  | waited {t r} : Loc s (.stWaited t) (.sRmWait r) (.retn r)
  | rsDone {t} : Loc s (.stRsDone t) .rsLocked (.rsRet true)

/-- The program counters after the entry of `g` was popped (`ctx_` reset). -/
def popped (pc : Nat → Pc) (g : Nat) : Nat → Pc := upd pc g ((setPopped (pc g)).getD (pc g))

/-- `ctx.resume()` aimed at `g`: a token, unless the agent drops the call. -/
def tokTo (s : St) (g : Nat) (d : Bool) : Nat → Nat := if d then s.tok else upd s.tok g (s.tok g + 1)

theorem popped_same {pc : Nat → Pc} {g : Nat} {p' : Pc} (h : setPopped (pc g) = some p') : popped pc g g = p' := by
  rw [popped, upd_same, h]; rfl

theorem popped_other {pc : Nat → Pc} {g u : Nat} (h : u ≠ g) : popped pc g u = pc u := upd_other _ _ _ _ h

theorem tokTo_same (s : St) (g : Nat) (d : Bool) : tokTo s g d g = if d then s.tok g else s.tok g + 1 := by
  unfold tokTo; split
  · rfl
  · exact upd_same ..

theorem tokTo_other (s : St) {g u : Nat} (d : Bool) (h : u ≠ g) : tokTo s g d u = s.tok u := by
  unfold tokTo; split
  · rfl
  · exact upd_other _ _ _ _ h

/-- What an event of a thread at `p` writes besides the program counter of that thread. -/
def write (s : St) (p : Pc) : Ev → St
  | .inv t o => { s with curOp := upd s.curOp t o,
                         poppedOp := if isWait o then upd s.poppedOp t false else s.poppedOp,
                         kept := if isStop o then upd s.kept t false else s.kept }
  | .ulAcq t => { s with ulock := some t }
  | .ulRel t => { s with ulock := none, waiting := if p = .locked then upd s.waiting t true else s.waiting }
  | .setFlag _ v => { s with flag := v }
  | .slAcq t => { s with lock := some t, poppedOp := if p = .want then upd s.poppedOp t false else s.poppedOp }
  | .slRel _ => { s with lock := none }
  | .cvEnq t _ tm => { s with queue := s.queue ++ [t], enqs := upd s.enqs t (s.enqs t + 1),
                              everTimed := s.everTimed || tm }
  | .popResume _ _ g d | .popAll _ _ g d =>
    { s with queue := s.queue.tail, tok := tokTo s g d, pc := popped s.pc g, waiting := upd s.waiting g false,
             poppedOp := upd s.poppedOp g true, pops := upd s.pops g (s.pops g + 1) }
  | .cvWoke t true _ => { s with queue := s.queue.erase t, waiting := upd s.waiting t false }
  | .woke t => { s with tok := upd s.tok t (s.tok t - 1) }
  | .sleep t => { s with tok := upd s.tok t 0 }
  | .stop2 t ss => { s with sstop := upd s.sstop t ss }
  | .stAcq t m => { s with sLock := some t, stopReq := if m = 1 then true else s.stopReq,
                           reqT := if m = 1 then t else s.reqT }
  | .stPush t _ => { s with cbs := t :: s.cbs, sLock := none, kept := upd s.kept t true,
                            cbFin := upd s.cbFin t false }
  | .stDeq _ c _ => { s with cbs := s.cbs.tail, sLock := none, cur := some c }
  | .stFin _ c _ => { s with cbFin := upd s.cbFin c true, cur := none }
  | .stInFin t => { s with cbFin := upd s.cbFin t true }
  | .stUnlink t true => { s with cbs := s.cbs.erase t, sLock := none, kept := upd s.kept t false }
  | .stUnlink _ false => { s with sLock := none }
  | .stWaited t => { s with kept := upd s.kept t false }
  | .stRsDone _ => { s with sLock := none, stopDone := true }
  | _ => s

/-- The guards of an event on the shared data and on what the hook line reports. -/
def Guard (s : St) : Ev → Prop
  | .inv t o => match o with
    | .lock => s.ulock ≠ some t
    | .notify _ | .stop => True
    | _ => s.ulock = some t
  | .ulAcq _ => s.ulock = none
  | .ulRel t => s.ulock = some t
  | .pred _ v => v = s.flag
  | .slAcq _ => s.lock = none
  | .slRel t | .cvWoke t _ _ => s.lock = some t
  | .cvEnq t z tm => s.lock = some t ∧ z = s.queue.length + 1 ∧ tm = isTimed (s.curOp t)
  | .popResume t z g d => s.lock = some t ∧ s.curOp t = .notify false ∧ s.queue.head? = some g ∧
      z = s.queue.tail.length ∧ (setPopped (s.pc g)).isSome = true ∧ d = decide (s.pc g = .slp false)
  | .popAll t z g d => s.lock = some t ∧ s.queue.head? = some g ∧
      z = s.queue.tail.length ∧ (setPopped (s.pc g)).isSome = true ∧ d = decide (s.pc g = .slp false)
  | .cvNone t => s.lock = some t ∧ s.queue = [] ∧ s.curOp t = .notify false
  | .cvAll t z => s.lock = some t ∧ z = s.queue.length
  | .woke t => 0 < s.tok t
  | .stop0 _ v => v = s.stopReq
  | .stop1 t v => s.lock = some t ∧ v = s.stopReq
  | .stop2 t _ => s.lock = some t ∧ s.curOp t = .swait true
  | .stSeen _ => s.stopReq = true
  | .stAcq _ _ => s.sLock = none
  | .stPush t b => s.sLock = some t ∧ b = decide (s.cbs ≠ [])
  | .stDeq t c b => s.sLock = some t ∧ s.cbs.head? = some c ∧ b = decide (s.cbs.tail ≠ [])
  | .stFin _ c b => s.cur = some c ∧ b = false
  | .stUnlink t r => s.sLock = some t ∧ r = decide (t ∈ s.cbs)
  | .stSelf _ b => b = false
  | .stWaited t => s.cbFin t = true
  | .stRsDone t => s.sLock = some t ∧ s.cbs = []
  | _ => True

/-- An accepted event: its thread is at a point `p` of its text where it produces the event, the guards
    hold, and the new state is what the event writes, with the thread moved on to `p'`. -/
def Step (s : St) (e : Ev) (s' : St) : Prop :=
  ∃ p p', actor e < s.n ∧ s.pc (actor e) = p ∧ Loc s e p p' ∧ Guard s e ∧
    s' = { write s p e with pc := upd (write s p e).pc (actor e) p' }

section
variable {s s' : St} {e : Ev}

/-- `popCore_some` in the words of `write` and `Guard`. -/
theorem popCore_write {t z g : Nat} {d : Bool} {pcT : Pc} (h : popCore s t z g d pcT = some s') :
    (s.queue.head? = some g ∧ z = s.queue.tail.length ∧ (setPopped (s.pc g)).isSome = true ∧
      d = decide (s.pc g = .slp false)) ∧
    s' = { s with queue := s.queue.tail, tok := tokTo s g d, pc := upd (popped s.pc g) t pcT,
                  waiting := upd s.waiting g false, poppedOp := upd s.poppedOp g true,
                  pops := upd s.pops g (s.pops g + 1) } := by
  obtain ⟨rest, p', hq, hz, hsp, hd, rfl⟩ := popCore_some h
  have hp : popped s.pc g = upd s.pc g p' := by rw [popped, hsp]; rfl
  refine ⟨⟨by rw [hq]; rfl, by rw [hq]; exact hz, by rw [hsp]; rfl, hd⟩, ?_⟩
  rw [hp, hq]; rfl

theorem Step.of_step (h : step s e = some s') : Step s e s' := by
  cases e
  -- events whose new program counter or whose writes are conditional: split the guard and the program
  -- counter only
  case ulAcq t =>
    simp only [step] at h
    split at h
    next hg =>
      split at h
      next hp => cases h; exact ⟨_, _, hg.1, hp, .ulAcq, hg.2, rfl⟩
      next hp => cases h; exact ⟨_, _, hg.1, hp, .ulAcqW, hg.2, rfl⟩
      next => cases h
    next => cases h
  case pred t v =>
    simp only [step] at h
    split at h
    next hg =>
      split at h
      next hp => cases h; exact ⟨_, _, hg.1, hp, .pred, hg.2, rfl⟩
      next => cases h
    next => cases h
  case slAcq t =>
    simp only [step] at h
    split at h
    next hg =>
      split at h
      next hp => cases h; exact ⟨_, _, hg.1, hp, .acqW, hg.2, rfl⟩
      next hp => cases h; exact ⟨_, _, hg.1, hp, .acqC, hg.2, rfl⟩
      next hp => cases h; exact ⟨_, _, hg.1, hp, .acqK, hg.2, rfl⟩
      next hp => cases h; exact ⟨_, _, hg.1, hp, .acqN, hg.2, rfl⟩
      next => cases h
    next => cases h
  case stop0 t v =>
    simp only [step] at h
    split at h
    next hg =>
      split at h
      next hp => cases h; exact ⟨_, _, hg.1, hp, .stop0, hg.2, rfl⟩
      next => cases h
    next => cases h
  case stop1 t v =>
    simp only [step] at h
    split at h
    next hg =>
      split at h
      next hp => cases h; exact ⟨_, _, hg.1, hp, .stop1, hg.2, rfl⟩
      next => cases h
    next => cases h
  case popResume t z g d =>
    simp only [step] at h
    split at h
    next hg =>
      split at h
      next hp =>
        obtain ⟨hq, rfl⟩ := popCore_write h
        exact ⟨_, _, hg.1, hp, .pop1, ⟨hg.2.1, hg.2.2, hq⟩, rfl⟩
      next => cases h
    next => cases h
  case popAll t z g d =>
    simp only [step] at h
    split at h
    next hg =>
      split at h
      next hp => obtain ⟨hq, rfl⟩ := popCore_write h; exact ⟨_, _, hg.1, hp, .popA, ⟨hg.2, hq⟩, rfl⟩
      next hp => obtain ⟨hq, rfl⟩ := popCore_write h; exact ⟨_, _, hg.1, hp, .popC, ⟨hg.2, hq⟩, rfl⟩
      next => cases h
    next => cases h
  case stDeq t c b =>
    simp only [step] at h
    split at h
    next hg =>
      split at h
      next hp =>
        split at h
        next x rest hc =>
          split at h
          next hx =>
            obtain ⟨rfl, rfl⟩ := hx
            cases h
            exact ⟨_, _, hg.1, hp, .deq, ⟨hg.2, by rw [hc]; rfl, by rw [hc]; rfl⟩, by simp only [write, hc, List.tail_cons]; rfl⟩
          next => cases h
        next => cases h
      next => cases h
    next => cases h
  case stUnlink t r =>
    simp only [step] at h
    split at h
    next hg =>
      split at h
      next hp =>
        cases r <;> cases h
        · exact ⟨_, _, hg.1, hp, .unlinkG, hg.2, rfl⟩
        · exact ⟨_, _, hg.1, hp, .unlink, hg.2, rfl⟩
      next => cases h
    next => cases h
  -- the other events: every accepted branch is one line of `Loc`, its conditions are `Guard`, and the
  -- state it yields is `write` with the program counter moved
  all_goals
    simp only [step] at h
    repeat' split at h
    all_goals first | (cases h; done) | cases h
  all_goals ((repeat (cases ‹_ ∧ _›)); (try simp only [Bool.not_eq_true] at *); subst_vars)
  all_goals (refine ⟨_, _, by assumption, by assumption, by constructor <;> assumption, ?_, ?_⟩ <;>
     first | trivial | assumption | rfl)

theorem popCore_of_write {t z g : Nat} {d : Bool} {pcT : Pc}
    (hg : s.queue.head? = some g ∧ z = s.queue.tail.length ∧ (setPopped (s.pc g)).isSome = true ∧
      d = decide (s.pc g = .slp false)) :
    popCore s t z g d pcT =
      some { s with queue := s.queue.tail, tok := tokTo s g d, pc := upd (popped s.pc g) t pcT,
                    waiting := upd s.waiting g false, poppedOp := upd s.poppedOp g true,
                    pops := upd s.pops g (s.pops g + 1) } := by
  obtain ⟨hh, hz, hs, hd⟩ := hg
  obtain ⟨p', hsp⟩ := Option.isSome_iff_exists.1 hs
  cases hq : s.queue with
  | nil => rw [hq] at hh; cases hh
  | cons g' rest =>
    rw [hq] at hh hz
    cases hh
    simp [popCore, hq, hsp, hz, hd, popped, tokTo]

theorem Step.accepted (h : Step s e s') : step s e = some s' := by
  obtain ⟨p, p', ht, hp, hl, hg, rfl⟩ := h
  cases hl <;> simp only [actor, Guard] at ht hp hg <;> simp only [step, write, actor]
  case inv t o => cases o <;> simp_all [entryPc, isWait, isStop] <;> split <;> rfl
  case pop1 => rw [if_pos ⟨ht, hg.1, hg.2.1⟩]; simp only [hp]; exact popCore_of_write hg.2.2
  case popA | popC => rw [if_pos ⟨ht, hg.1⟩]; simp only [hp]; exact popCore_of_write hg.2
  case wokeK still tm => cases still <;> simp [*]
  case deq => cases hc : s.cbs <;> simp_all
  case unlinkG => simp_all
  all_goals simp [*]

theorem step_iff : step s e = some s' ↔ Step s e s' := ⟨Step.of_step, Step.accepted⟩

/-- `Step.accepted` in the form in which an accepted event is exhibited: name the line. -/
theorem Loc.step {p p' : Pc} (hl : Loc s e p p') (ht : actor e < s.n) (hp : s.pc (actor e) = p) (hg : Guard s e) :
    step s e = some { write s p e with pc := upd (write s p e).pc (actor e) p' } :=
  Step.accepted ⟨p, p', ht, hp, hl, hg, rfl⟩

/-! ## What an event leaves alone -/

/-- An event leaves the per-thread maps alone away from the acting thread and from the target of a
    pop (`cbFin` apart, which `request_stop` sets for the owner of the callback it ran). -/
theorem step_other (h : step s e = some s') {u : Nat} (hu : u ≠ actor e) (hg : popTarget e ≠ some u) :
    SameAt s s' u := by
  obtain ⟨p, p', ht, hp, hl, hgd, rfl⟩ := Step.of_step h
  clear ht hp hl hgd h
  have hpc : ∀ {pc : Nat → Pc}, upd pc (actor e) p' u = pc u := upd_other _ _ _ _ hu
  cases e <;> simp only [actor] at hu
  case popResume t z g d | popAll t z g d =>
    have hug : u ≠ g := fun e => hg (e ▸ rfl)
    refine ⟨hpc.trans (popped_other hug), rfl, upd_other _ _ _ _ hug, ?_, upd_other _ _ _ _ hug, rfl,
      upd_other _ _ _ _ hug, rfl, rfl, id⟩
    show tokTo s g d u = s.tok u
    unfold tokTo; split
    · rfl
    · exact upd_other _ _ _ _ hug
  case cvWoke t b _ => cases b <;> exact ⟨hpc, rfl, by first | rfl | exact upd_other _ _ _ _ hu, rfl, rfl, rfl, rfl, rfl, rfl, id⟩
  case stUnlink t b => cases b <;> exact ⟨hpc, rfl, rfl, rfl, rfl, rfl, rfl, by first | rfl | exact upd_other _ _ _ _ hu, rfl, id⟩
  all_goals
    refine ⟨hpc, ?_, ?_, ?_, ?_, ?_, ?_, ?_, ?_, ?_⟩ <;> simp only [write] <;>
      first | rfl | exact id | exact upd_other _ _ _ _ hu | (split <;> first | rfl | exact upd_other _ _ _ _ hu)
            | (intro h; split <;> first | rfl | exact h)

/-- … and marks the target of a pop. -/
theorem step_target (h : step s e = some s') {g : Nat} (hg : popTarget e = some g) (hne : g ≠ actor e) :
    setPopped (s.pc g) = some (s'.pc g) := by
  obtain ⟨p, p', _, _, _, hgd, rfl⟩ := Step.of_step h
  have hs : (setPopped (s.pc g)).isSome = true := by
    cases e <;> cases hg <;> first | exact hgd.2.2.2.2.1 | exact hgd.2.2.2.1
  obtain ⟨q, hq⟩ := Option.isSome_iff_exists.1 hs
  have : (write s p e).pc g = q := by
    cases e <;> cases hg <;> (show popped s.pc g g = q; rw [popped, upd_same, hq]; rfl)
  rw [hq]; exact congrArg some ((upd_other _ _ _ _ hne).trans this).symm

/-- What no event writes for another thread, the target of a pop included. -/
theorem step_own (h : step s e = some s') {u : Nat} (hu : u ≠ actor e) :
    s'.curOp u = s.curOp u ∧ s'.enqs u = s.enqs u ∧ s'.kept u = s.kept u ∧ s'.sstop u = s.sstop u := by
  by_cases hg : popTarget e = some u
  · obtain ⟨p, p', _, _, _, _, rfl⟩ := Step.of_step h
    cases e <;> cases hg <;> exact ⟨rfl, rfl, rfl, rfl⟩
  · obtain ⟨_, h2, _, _, _, h6, _, h8, h9, _⟩ := step_other h hu hg
    exact ⟨h2, h6, h8, h9⟩

theorem write_n (s : St) (p : Pc) (e : Ev) : (write s p e).n = s.n := by unfold write; split <;> rfl

theorem step_n (h : step s e = some s') : s'.n = s.n := by
  obtain ⟨p, _, _, _, _, _, rfl⟩ := Step.of_step h; exact write_n s p e

end

end PikaVerif.CV
