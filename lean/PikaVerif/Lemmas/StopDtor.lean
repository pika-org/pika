import PikaVerif.Lemmas.StopLife
/-!
# Destructor versus running callback: the layers D, U, C of the stop_state invariant

On top of A, B and S.  D and C (together `InvF`) need faithful thread identities; U does not.

Layer D:
* `pend`: a callback that was dequeued by request_stop and has not been entered yet is not
  destroyed, and its destructor is not past its last access (it is not about to return);
* `winNoFin`: while request_stop processes `c` the finished flag of `c` is not set;
* `waitOther`: an activity waiting in `remove_callback` is not on the signalling thread;
* `sameThrR`, `sameThrD`: if the destructor of `c` returns (or is about to) while
  request_stop still processes `c`, the destructor runs on the thread of that request_stop.

Layer U says what holds of a callback that is `unchecked`: its destructor is not yet at its `return`,
that is, it has not been invoked (`alive`) or is inside `remove_callback` before the `return` (`unregPath`).
* `path`: with the repaired constructor the lock path of `remove_callback` is only entered for a callback
  that was linked into the list;
* `linked`: a linked unchecked callback is in the list or was dequeued by request_stop;
* `rem`: request_stop's local `is_removed` is only set once the callback it processes is checked;
* `ptrNew`, `ptr`: `is_removed_` of an unchecked callback points into the frame of the request_stop that
  processes it;
* `deq`: a dequeued unchecked callback is finished or is being processed by the request_stop that dequeued it.

Layer C is the converse of `InvU.rem`, which makes the store `cb->callback_finished_executing_ = true` after
the callback safe:
* `ptrRun`: between the store `cb->is_removed_ = &is_removed` and the finished store the
  pointer of the callback really points into the frame of the request_stop that processes it;
* `convR`: a destructor of `c` that has passed its last access to the stop state (only the
  `return` is left) while request_stop still processes `c` has set that request_stop's `is_removed`;
* `convD`: the same for a destructor that has returned.

`frameD`, `frameU` and `InvC.move` say what a step has to show for each group; a `Quiet` step shows nothing
(`quiet_dtor`), and `step_dtor` goes through the twelve events that are not quiet once.
-/
namespace PikaVerif.Stop

structure InvD (s : St) : Prop where
  pend : ∀ c, s.deqd c = true → s.runs c = 0 → s.life c ≠ .dead ∧ ∀ b, retUnreg (s.pc b) ≠ some c
  winNoFin : ∀ w c, winPhase (s.pc w) = some c → s.fin c = false
  waitOther : ∀ b c, s.pc b = .wait c → s.sig ≠ s.ident b
  sameThrR : ∀ w b c, winPhase (s.pc w) = some c → retUnreg (s.pc b) = some c → thr s.K b = thr s.K w
  sameThrD : ∀ w c, winPhase (s.pc w) = some c → s.life c = .dead → thr s.K (s.dtorBy c) = thr s.K w

theorem invD_init (n K : Nat) (id : Nat → Nat) (f1 f2 : Bool) (m : Nat) : InvD (init n K id f1 f2 m) := by
  refine ⟨?_, ?_, ?_, ?_, ?_⟩ <;> simp [init, winPhase, retUnreg]

/-- two active activities outside a callback body with the same identity are the same activity -/
theorem top_of_ident {s : St} (hS : InvS s) (hf : Faith s) :
    ∀ a b, act (s.pc a) = true → isBody (s.pc a) = false → act (s.pc b) = true → isBody (s.pc b) = false →
      s.ident a = s.ident b → a = b := by
  intro a b ha hba hb hbb hid
  exact hS.top a b ((hf.2 a b).1 hid) ha hb hba hbb

/-- an activity outside a callback body that has the signalling thread's identity while a
    dequeued callback has not been entered yet is the request_stop that dequeued it -/
theorem sig_is_dequeuer {s : St} (hB : InvB s) (hS : InvS s) (hf : Faith s) :
    ∀ a c, act (s.pc a) = true → isBody (s.pc a) = false → s.sig = s.ident a →
      s.deqd c = true → s.runs c = 0 → a = s.owner c := by
  intro a c ha hba hsig hd hr
  have hw := (hB.cb c).deqWinner hd
  have hs := hS.sigW _ hw
  have hp := hB.deqRuns c hd hr
  apply top_of_ident hS hf a (s.owner c) ha hba
  · rcases hp with hp | hp <;> simp [hp, act]
  · rcases hp with hp | hp <;> simp [hp, isBody]
  · rw [← hsig, hs]

/-- the signalling thread's identity belongs to the winner's thread -/
theorem sig_on_winner_thread {s : St} (hS : InvS s) (hf : Faith s) :
    ∀ a w, s.sig = s.ident a → s.winner = some w → thr s.K a = thr s.K w := by
  intro a w hsig hw
  have hs := hS.sigW _ hw
  exact (hf.2 a w).1 (by rw [← hsig, hs])

theorem InvB.head_fresh {s : St} (hB : InvB s) {c : Nat} {rest : List Nat} (hl : s.list = c :: rest) :
    s.life c ≠ .dead ∧ ∀ b, retUnreg (s.pc b) ≠ some c :=
  have hm : c ∈ s.list := hl ▸ List.mem_cons_self ..
  ⟨((hB.cb c).inList hm).2.2.2.2, fun b hb => (hB.unregOut b c (retUnreg_unregDone hb)).1 hm⟩

/-- What a step has to show for the layers D and T.  By default nothing of this happens.
    A destructor gets to its `return` only when its callback, if dequeued, has been entered, and on the
    thread of whoever processes its callback; a request_stop that starts to process `c` finds its
    finished flag clear, `c` alive and no destructor of `c` about to return, as does whoever dequeues
    `c`; the finished flag is set only when nobody processes `c` any more; a destructor starts to wait
    only on another thread than the signalling one, and the signalling identity changes only to one that
    no waiting destructor has; a callback dies when its destructor returns; a run count does not return
    to 0; `dtorBy` of a dead callback, `ident` and `K` stay. -/
theorem frameD {s s' : St} (hD : InvD s)
    (hret : ∀ b c, retUnreg (s'.pc b) = some c → retUnreg (s.pc b) = some c ∨
      ((s.deqd c = true → s.runs c ≠ 0) ∧ ∀ w, winPhase (s.pc w) = some c → thr s.K b = thr s.K w) := by
      exact enter_upd nofun)
    (hwin : ∀ w c, winPhase (s'.pc w) = some c → winPhase (s.pc w) = some c ∨
      (s'.fin c = false ∧ s'.life c ≠ .dead ∧ ∀ b, retUnreg (s'.pc b) ≠ some c) := by exact enter_upd nofun)
    (hwait : ∀ b c, waitOf (s'.pc b) = some c → waitOf (s.pc b) = some c ∨ s'.sig ≠ s'.ident b := by
      exact enter_upd nofun)
    (hdeq : ∀ c, s'.deqd c = true →
      s.deqd c = true ∨ (s'.life c ≠ .dead ∧ ∀ b, retUnreg (s'.pc b) ≠ some c) := by exact fun _ h => .inl h)
    (hruns : ∀ c, s'.runs c = 0 → s.runs c = 0 := by exact fun _ h => h)
    (hfin : ∀ c, s'.fin c = true → s.fin c = true ∨ ∀ w, winPhase (s'.pc w) ≠ some c := by
      exact fun _ h => .inl h)
    (hsig : s'.sig = s.sig ∨ ∀ b c, waitOf (s'.pc b) = some c → s'.sig ≠ s'.ident b := by exact .inl rfl)
    (hident : s'.ident = s.ident := by rfl)
    (hl : ∀ c, s'.life c = .dead → s.life c = .dead ∨ retUnreg (s.pc (s'.dtorBy c)) = some c := by
      exact fun _ h => .inl h)
    (hdtor : ∀ c, s.life c = .dead → s'.dtorBy c = s.dtorBy c := by exact fun _ _ => rfl)
    (hK : s'.K = s.K := by rfl) : InvD s' := by
  obtain ⟨h1, h2, h3, h4, h5⟩ := hD
  refine ⟨?_, ?_, fun b c hb => ?_, ?_, ?_⟩
  · grind
  · grind
  · have := h3 b c; have := @waitOf_eq_some (s'.pc b) c; have := @waitOf_eq_some (s.pc b) c; grind
  · grind
  · grind

theorem quietD {s s' : St} (hD : InvD s) (hq : Quiet s s') : InvD s' := by
  obtain ⟨pc, _, _, _, _, hp, rfl⟩ := hq
  exact frameD hD (fun u c h => .inl (phases_ret (hp u) ▸ h)) (fun u c h => .inl (phases_win (hp u) ▸ h))
    (fun u c h => .inl (phases_wait (hp u) ▸ h))

def alive : Life → Bool
  | .ctor | .live => true
  | _ => false

/-- The destructor of `c` is not yet at its `return`: it has not been invoked, or it is inside `remove_callback`
    before the `return` (lock loop, unlink, thread check, wait). -/
def unchecked (s : St) (c : Nat) : Prop :=
  alive (s.life c) = true ∨ ∃ b, unregPath (s.pc b) = some c

structure InvU (s : St) : Prop where
  path : ∀ b c, unregPath (s.pc b) = some c → s.fixCtor = true → s.pushed c = true
  linked : ∀ c, s.pushed c = true → unchecked s c → c ∈ s.list ∨ s.deqd c = true
  rem : ∀ w c, runPhase (s.pc w) = some c → s.remFlag w = true → ¬ unchecked s c
  ptrNew : ∀ w c, s.remPtr c = some w → s.life c ≠ .new
  ptr : ∀ w c, s.remPtr c = some w → unchecked s c → runPhase (s.pc w) = some c
  deq : ∀ c, s.deqd c = true → unchecked s c → s.fin c = true ∨ winPhase (s.pc (s.owner c)) = some c

theorem invU_init (n K : Nat) (id : Nat → Nat) (f1 f2 : Bool) (m : Nat) : InvU (init n K id f1 f2 m) := by
  refine ⟨?_, ?_, ?_, ?_, ?_, ?_⟩ <;> simp [init, unregPath, runPhase]

theorem InvB.not_unchecked {s s' : St} (hB : InvB s) {a c : Nat} {p' : Pc}
    (ha : unregPath (s.pc a) = some c) (hp' : unregPath p' = none) (hpc : s'.pc = upd s.pc a p')
    (hl : s'.life c = s.life c) : ¬ unchecked s' c := by
  rintro (h | ⟨b, hb⟩)
  · rw [hl, hB.unregP a c (unregPath_unregOf ha)] at h; cases h
  · rw [hpc] at hb
    rcases upd_cases (unregPath · = some c) hb with ⟨_, hb⟩ | ⟨hne, hb⟩
    · rw [hp'] at hb; cases hb
    · -- only the activity recorded in `dtorBy` is on the lock path
      exact hne ((hB.dtorP b c (unregPath_unregOf hb)).symm.trans (hB.dtorP a c (unregPath_unregOf ha)))

/-- What a step has to show for layer U: `hrun`, `hwin` always; by default nothing else happens.
    * `path`, `linked`: the lock path is entered for a callback that is alive and (repaired constructor) linked; a
      callback becomes alive from new; it is linked by putting it into the list; it leaves the list
      dequeued or checked.
    * `rem`, `ptr`: every activity stays in its run phase, or enters it with its `is_removed` clear, or leaves the
      run phase of `c` with the flag set or with `is_removed_` of `c` cleared; the flag is set through
      `is_removed_` of a callback that the step checks; `is_removed_` is set to the frame of a request_stop
      in the run phase.
    * `deq`: a callback is dequeued by a request_stop that then processes it; a request_stop stops
      processing `c` with the finished flag set, or in the run phase with `is_removed` set. -/
theorem frameU {s s' : St} (hB : InvB s) (hB' : InvB s')
    (hrun : ∀ w, runPhase (s'.pc w) = runPhase (s.pc w) ∨
      ((runPhase (s.pc w) = none ∧ s'.remFlag w = false) ∨
       (runPhase (s'.pc w) = none ∧ ∀ c, runPhase (s.pc w) = some c → s.remFlag w = true ∨ s'.remPtr c = none)))
    (hwin : ∀ w, winPhase (s'.pc w) = winPhase (s.pc w) ∨
      ∀ c, winPhase (s.pc w) = some c → s'.fin c = true ∨ (runPhase (s.pc w) = some c ∧ s.remFlag w = true))
    (hpath : ∀ b c, unregPath (s'.pc b) = some c → unregPath (s.pc b) = some c ∨
      (alive (s.life c) = true ∧ (s.fixCtor = true → s.pushed c = true)) := by exact enter_upd nofun)
    (halive : ∀ c, alive (s'.life c) = true → alive (s.life c) = true ∨ s.life c = .new := by
      exact fun _ h => .inl h)
    (hpushed : ∀ c, s'.pushed c = true → s.pushed c = true ∨ c ∈ s'.list := by exact fun _ h => .inl h)
    (hlist : ∀ c, c ∈ s.list → c ∈ s'.list ∨ s'.deqd c = true ∨ ¬ unchecked s' c := by
      exact fun _ h => .inl h)
    (hkeep : ∀ c, s.pushed c = true → s'.pushed c = true := by exact fun _ h => h)
    (hdeqd : ∀ c, s.deqd c = true → s'.deqd c = true := by exact fun _ h => h)
    (hfix : s'.fixCtor = s.fixCtor := by rfl)
    (hflag : ∀ w, s'.remFlag w = true →
      s.remFlag w = true ∨ ∃ c, s.remPtr c = some w ∧ unchecked s c ∧ ¬ unchecked s' c := by
      exact fun _ h => .inl h)
    (hptr : ∀ w c, s'.remPtr c = some w →
      s.remPtr c = some w ∨ (s'.life c ≠ .new ∧ runPhase (s'.pc w) = some c) := by exact fun _ _ h => .inl h)
    (hnew : ∀ c, s'.life c = .new → s.life c = .new := by exact fun _ h => h)
    (hdeq : ∀ c, s'.deqd c = true → s.deqd c = true ∨ ∃ w, winPhase (s'.pc w) = some c := by
      exact fun _ h => .inl h)
    (hfin : ∀ c, s.fin c = true → s'.fin c = true := by exact fun _ h => h) (hi : InvU s) : InvU s' := by
  -- only the constructor makes a callback unchecked
  have hU : ∀ c, unchecked s' c → unchecked s c ∨ s.life c = .new := by unfold unchecked; grind
  have := fun c => (hB.cb c).fresh; have := hi.rem
  refine ⟨?_, ?_, ?_, ?_, ?_, ?_⟩
  · have := hi.path; grind
  · have := hi.linked; grind
  · -- a callback that is being run has been dequeued, so it is not new
    have := hi.ptr; have := hB.winP; have := @runPhase_win; grind
  · have := hi.ptrNew; grind
  · have := hi.ptr; have := hi.ptrNew; grind
  · have := hi.deq; have := hB'.ownerW; grind

theorem quietU {s s' : St} (hB : InvB s) (hB' : InvB s') (hq : Quiet s s') :
    InvU s → InvU s' := by
  obtain ⟨pc, _, _, _, _, hp, rfl⟩ := hq
  exact frameU hB hB' (fun w => .inl (phases_run (hp w))) (fun w => .inl (phases_win (hp w)))
    (hpath := fun b c h => .inl (phases_path (hp b) ▸ h))

structure InvC (s : St) : Prop where
  ptrRun : ∀ w c, runPhase (s.pc w) = some c → s.remPtr c = some w
  convR : ∀ w c b, runPhase (s.pc w) = some c → retUnreg (s.pc b) = some c → s.remFlag w = true
  convD : ∀ w c, runPhase (s.pc w) = some c → s.life c = .dead → s.remFlag w = true

/-- Activity `a` moves to `p'`; callbacks may change their `life`.  The request_stops
    that stay in the window `runPhase` keep their `is_removed_` pointer and a set flag.  The new
    point is in the window only if the old one was, or it enters it for a callback that is intact,
    with the pointer set.  It is at the `return` of the destructor of `c` only if every request_stop
    that has `c` in the window has its flag set afterwards.  A callback that dies must have had the
    flag set wherever it is in the window. -/
theorem InvC.move {s s' : St} (hi : InvC s) {a : Nat} {p' : Pc}
    (hpc : s'.pc = upd s.pc a p')
    (hptr : ∀ w c, w ≠ a → runPhase (s.pc w) = some c → s'.remPtr c = s.remPtr c)
    (hfl : ∀ w, w ≠ a → s.remFlag w = true → s'.remFlag w = true)
    (hrun : ∀ c, runPhase p' = some c →
      (runPhase (s.pc a) = some c ∧ s'.remPtr c = s.remPtr c ∧ (s.remFlag a = true → s'.remFlag a = true)) ∨
      (s'.remPtr c = some a ∧ s'.life c ≠ .dead ∧ ∀ b, retUnreg (s.pc b) ≠ some c))
    (hret : ∀ c, retUnreg p' = some c → ∀ w, runPhase (s.pc w) = some c → s'.remFlag w = true)
    (hdead : ∀ c, s'.life c = .dead →
      s.life c = .dead ∨ ∀ w, runPhase (s.pc w) = some c → s.remFlag w = true) : InvC s' := by
  -- a request_stop in the window was there before, or is `a` entering it
  have key : ∀ w c, runPhase (s'.pc w) = some c →
      (runPhase (s.pc w) = some c ∧ s'.remPtr c = s.remPtr c ∧ (s.remFlag w = true → s'.remFlag w = true)) ∨
      (w = a ∧ s'.remPtr c = some a ∧ s'.life c ≠ .dead ∧ ∀ b, retUnreg (s.pc b) ≠ some c) := by
    intro w c hw
    rw [hpc] at hw
    by_cases hwa : w = a
    · subst hwa; rw [upd_same] at hw
      exact (hrun c hw).imp id fun h => ⟨rfl, h⟩
    · rw [upd_other _ _ _ _ hwa] at hw
      exact .inl ⟨hw, hptr w c hwa hw, hfl w hwa⟩
  refine ⟨fun w c hw => ?_, fun w c b hw hb => ?_, fun w c hw hd => ?_⟩
  · rcases key w c hw with ⟨h1, h2, -⟩ | ⟨rfl, h2, -⟩
    · rw [h2]; exact hi.ptrRun w c h1
    · exact h2
  · have hw' := hw
    rw [hpc] at hb hw'
    by_cases hba : b = a
    · subst hba; rw [upd_same] at hb
      rcases key w c hw with ⟨h1, -, -⟩ | ⟨rfl, -⟩
      · exact hret c hb w h1
      · rw [upd_same] at hw'; exact (runPhase_retUnreg hw' hb).elim
    · rw [upd_other _ _ _ _ hba] at hb
      rcases key w c hw with ⟨h1, -, h3⟩ | ⟨-, -, -, h4⟩
      · exact h3 (hi.convR w c b h1 hb)
      · exact absurd hb (h4 b)
  · rcases key w c hw with ⟨h1, -, h3⟩ | ⟨-, -, h4, -⟩
    · exact h3 ((hdead c hd).elim (hi.convD w c h1) fun h => h w h1)
    · exact absurd hd h4

/-- The case in which nothing but the program counter of `a`, the life of callbacks and fields `InvC` does not
    speak of changes. -/
theorem InvC.pcMove {s s' : St} (hi : InvC s) {a : Nat} {p' : Pc}
    (hpc : s'.pc = upd s.pc a p')
    (hrun : ∀ c, runPhase p' = some c → runPhase (s.pc a) = some c)
    (hret : ∀ c, retUnreg p' = some c → ∀ w, runPhase (s.pc w) = some c → s.remFlag w = true)
    (hdead : ∀ c, s'.life c = .dead →
      s.life c = .dead ∨ ∀ w, runPhase (s.pc w) = some c → s.remFlag w = true := by exact fun _ => .inl)
    (hrest : s'.remPtr = s.remPtr ∧ s'.remFlag = s.remFlag := by exact ⟨rfl, rfl⟩) : InvC s' :=
  hi.move hpc (fun _ _ _ _ => by rw [hrest.1]) (fun _ _ => by rw [hrest.2]; exact id)
    (fun c hc => .inl ⟨hrun c hc, by rw [hrest.1], by rw [hrest.2]; exact id⟩)
    (fun c hc w hw => hrest.2 ▸ hret c hc w hw) hdead

theorem quietC {s s' : St} (hq : Quiet s s') (hi : InvC s) : InvC s' := by
  obtain ⟨pc, _, _, _, _, hp, rfl⟩ := hq
  exact ⟨fun w c h => hi.ptrRun w c (phases_run (hp w) ▸ h),
    fun w c b hw hb => hi.convR w c b (phases_run (hp w) ▸ hw) (phases_ret (hp b) ▸ hb),
    fun w c hw => hi.convD w c (phases_run (hp w) ▸ hw)⟩

/-! ## All three layers, event by event -/

/-- The layers that need identities that tell the threads apart. -/
structure InvF (s : St) : Prop where
  D : InvD s
  C : InvC s

/-- What `step_dtor` shows of a step from `s` to `s'`. -/
def KeepsDtor (s s' : St) : Prop :=
  (InvU s → InvU s') ∧ (InvS s → Faith s → InvF s → InvF s')

theorem quiet_dtor {s s' : St} (hB : InvB s) (hB' : InvB s') (hq : Quiet s s') : KeepsDtor s s' :=
  ⟨quietU hB hB' hq, fun _ _ h => ⟨quietD h.D hq, quietC hq h.C⟩⟩

theorem step_dtor {s s' : St} {e : Ev} (hA : InvA s) (hB : InvB s) (h : step s e = some s') : KeepsDtor s s' := by
  have hB' := stepB s s' e hA hB h
  -- no request_stop has a callback in the window that was not dequeued
  have hdeq : ∀ {w c}, runPhase (s.pc w) = some c → s.deqd c = true :=
    fun hw => hB.winP _ _ (runPhase_win hw)
  -- the request_stop that owns `c` is the only one that can have it in the window
  have hown : ∀ {a w c}, winPhase (s.pc a) = some c → runPhase (s.pc w) = some c → w = a :=
    fun ha hw => (hB.ownerW _ _ (runPhase_win hw)).symm.trans (hB.ownerW _ _ ha)
  cases e with
  | inv a k =>
    obtain ⟨_, hp, _, ⟨rfl, rfl⟩ | ⟨c, rfl, hl, rfl⟩ | ⟨c, rfl, hl, rfl⟩⟩ := step_inv h
    · exact quiet_dtor hB hB' (.move (by rw [hp]; rfl) ..)
    · refine ⟨frameU hB hB' (keep_of hp rfl) (keep_of hp rfl) (halive := new_updP (alive · = true) fun _ => hl)
        (hnew := stay_upd nofun), fun _ _ ⟨hD, hi⟩ => ⟨frameD hD (hl := new_upd nofun),
          hi.pcMove rfl nofun nofun fun c' hd => .inl (upd_eq_ne hd nofun).2⟩⟩
    · have hdtor : ∀ c', s.life c' = .dead → upd s.dtorBy c a c' = s.dtorBy c' :=
        fun _ h => upd_other _ _ _ _ fun e => by rw [e, hl] at h; cases h
      by_cases hk : s.fixCtor = true ∧ s.kept c = false
      · -- the early return is taken for a callback that was never linked, hence never dequeued
        have hnd : s.deqd c ≠ true := fun hd => by
          have := (hB.cb c).keptP (by rw [hl]; rfl)
          rw [(hB.cb c).deqPushed hd, hk.2] at this; cases this
        rw [if_pos hk] at hB' ⊢
        refine ⟨frameU hB hB' (keep_of hp rfl) (keep_of hp rfl) (halive := new_updP (alive · = true) nofun)
          (hnew := stay_upd nofun), fun _ _ ⟨hD, hi⟩ => ⟨frameD hD (hl := new_upd nofun) (hdtor := hdtor)
            (hret := enter_upd fun _ h => .inr (by
              cases h; exact ⟨fun hd => absurd hd hnd, fun w hw => absurd (hB.winP w c hw) hnd⟩)),
          hi.pcMove rfl nofun (fun c' hc' w hw => ?_) fun c' hd => .inl (upd_eq_ne hd nofun).2⟩⟩
        cases hc'
        exact absurd (hdeq hw) hnd
      · rw [if_neg hk] at hB' ⊢
        refine ⟨frameU hB hB' (keep_of hp rfl) (keep_of hp rfl)
          (hpath := enter_upd fun _ h => .inr ⟨by cases h; rw [hl]; rfl, fun hf => ?_⟩)
          (halive := new_updP (alive · = true) nofun) (hnew := stay_upd nofun),
          fun _ _ ⟨hD, hi⟩ => ⟨frameD hD (hl := new_upd nofun) (hdtor := hdtor),
            hi.pcMove rfl nofun nofun fun c' hd => .inl (upd_eq_ne hd nofun).2⟩⟩
        -- the lock path is taken when `add_callback` had returned true, i.e. had linked the callback
        cases h
        rw [← (hB.cb c).keptP (by rw [hl]; rfl)]
        cases hc : s.kept c
        · exact absurd ⟨hf, hc⟩ hk
        · rfl
  | ret a r =>
    obtain ⟨_, ⟨hp, rfl⟩ | ⟨c, b, hp, rfl⟩ | ⟨c, b, hp, rfl⟩⟩ := step_ret h
    · exact quiet_dtor hB hB' (.move (by rw [hp]; rfl) ..)
    · -- the callback was alive already: it was under construction
      refine ⟨frameU hB hB' (keep_of hp rfl) (keep_of hp rfl) (hnew := stay_upd nofun)
        (halive := fun d h => .inl ((upd_cases (alive · = true) h).elim (fun x => ?_) (·.2))),
        fun _ _ ⟨hD, hi⟩ => ⟨frameD hD (hl := new_upd nofun),
          hi.pcMove rfl nofun nofun fun c' hd => .inl (upd_eq_ne hd nofun).2⟩⟩
      rw [x.1, (hB.retRegP a c b hp).1]; rfl
    · have hd : s.dtorBy c = a := (hB.unregOut a c (by rw [hp]; rfl)).2.2
      refine ⟨frameU hB hB' (keep_of hp rfl) (keep_of hp rfl) (halive := new_updP (alive · = true) nofun)
        (hnew := stay_upd nofun), fun _ _ ⟨hD, hi⟩ => ⟨frameD hD (hl := new_upd fun _ => by
          show retUnreg (s.pc (s.dtorBy c)) = some c; rw [hd, hp]; rfl), ?_⟩⟩
      -- the returning destructor was at its `return`: `convR` becomes `convD`
      refine hi.pcMove rfl nofun nofun fun c' hd => ?_
      by_cases hc : c' = c
      · subst hc; exact .inr fun w hw => hi.convR w c' a hw (by rw [hp]; rfl)
      · exact .inl (by simpa only [upd_other _ _ _ _ hc] using hd)
  | acq a =>
    obtain ⟨_, _, ⟨hp, rfl⟩ | ⟨k, _, hp, rfl⟩⟩ := step_acq h
    · refine ⟨frameU hB hB' (keep_of hp rfl) (keep_of hp rfl), fun hS hf ⟨hD, hi⟩ =>
        ⟨frameD hD (hsig := .inr fun b c hb hid => ?_), hi.pcMove rfl nofun nofun⟩⟩
      -- a waiting destructor is at the top of its thread's stack, as is `a`: they are on different threads
      have hb := mono_upd (φ := waitOf) (p' := .locked .rs) nofun b c hb
      rw [waitOf_eq_some] at hb
      have := top_of_ident hS hf a b (by rw [hp]; rfl) (by rw [hp]; rfl) (by rw [hb]; rfl) (by rw [hb]; rfl) hid
      rw [← this, hp] at hb; cases hb
    · exact quiet_dtor hB hB' (.move (by rw [hp, phases_locked, phases_cas]) ..)
  | deq a c m =>
    obtain ⟨rest, _, _, hp, hl, _, rfl⟩ := step_deq h
    have hc := (hB.cb c).inList (hl ▸ List.mem_cons_self ..)
    have hfr : s.life c ≠ .dead ∧ ∀ b, retUnreg (upd s.pc a (.pre c) b) ≠ some c :=
      ⟨(hB.head_fresh hl).1, fun b hb => (hB.head_fresh hl).2 b (mono_upd (φ := retUnreg) (p' := .pre c) nofun b c hb)⟩
    have hp' : winPhase (s.pc a) = none ∧ runPhase (s.pc a) = none := by
      rcases hp with hp | hp <;> rw [hp] <;> exact ⟨rfl, rfl⟩
    refine ⟨frameU hB hB' (keep_upd (.inl hp'.2.symm))
      (keep_upd (.inr fun _ h => by rw [hp'.1] at h; cases h)) (hlist := fun c' hm => ?_)
      (hdeqd := fun _ => upd_true_of_true) (hdeq := new_upd fun _ => ⟨a, congrArg winPhase (upd_same ..)⟩),
      fun _ _ ⟨hD, hi⟩ => ⟨frameD hD (hwin := enter_upd fun c' h => .inr ⟨?_, by cases h; exact hfr⟩)
        (hdeq := new_upd fun _ => hfr), hi.pcMove rfl nofun nofun⟩⟩
    · rw [hl] at hm
      rcases List.mem_cons.1 hm with rfl | hm
      · exact .inr (.inl (upd_same ..))
      · exact .inl hm
    · -- the callback has not run, so its finished flag is clear
      cases h
      cases hfin : s.fin c with
      | false => rfl
      | true => have := (hB.cb c).finRuns hfin; rw [hc.2.2.1] at this; cases this
  | preExec a c =>
    obtain ⟨_, hp, rfl⟩ := step_preExec h
    have hwin : winPhase (s.pc a) = some c := by rw [hp]; rfl
    have hr0 : s.runs c = 0 := by have := hB.runsW a c hwin; rwa [hp] at this
    have hd := hB.winP a c hwin
    refine ⟨frameU hB hB' (keep_upd (.inr (.inl ⟨by rw [hp]; rfl, upd_same ..⟩))) (keep_of hp rfl)
      (hflag := new_upd nofun) (hptr := fun w => new_upd fun h => ?_),
      fun _ _ ⟨hD, hi⟩ => ⟨frameD hD (hwin := enter_upd fun _ h => .inl (hp ▸ h)), ?_⟩⟩
    · cases h
      refine ⟨fun hn => ?_, congrArg runPhase (upd_same ..)⟩
      have := ((hB.cb c).fresh hn).2.1
      rw [hd] at this; cases this
    · -- `a` enters the window with `is_removed = false`: `c` is dequeued and not yet run, so it
      -- is neither dead nor is a destructor of it at its `return` (layer D); nobody else has `c`
      refine hi.move rfl (fun w c' hwa hw => upd_other _ _ _ _ fun e => hwa (hown hwin (e ▸ hw)))
        (fun w hwa => (upd_other _ _ _ _ hwa).trans) (fun c' hc' => ?_) nofun (fun _ => .inl)
      cases hc'
      exact .inr ⟨upd_same .., hD.pend c hd hr0⟩
  | cbBegin a c =>
    obtain ⟨inl, _, hp, rfl⟩ := step_cbBegin h
    exact ⟨frameU hB hB' (keep_of hp rfl) (keep_of hp rfl), fun _ _ ⟨hD, hi⟩ =>
      ⟨frameD hD (hwin := enter_upd fun _ h => .inl (hp ▸ h)) (hruns := stay_upd (Nat.succ_ne_zero _)),
       hi.pcMove rfl (hp ▸ fun _ => id) nofun⟩⟩
  | finStore a c r =>
    obtain ⟨_, hp, hr, ⟨rfl, rfl⟩ | ⟨rfl, rfl⟩⟩ := step_finStore h
    · -- the finished store is skipped: `is_removed` is set
      exact ⟨frameU hB hB'
        (keep_upd (.inr (.inr ⟨congrArg runPhase (upd_same ..), fun _ _ => .inl hr.symm⟩)))
        (keep_upd (.inr fun c' h => .inr ⟨by rw [hp] at h ⊢; exact h, hr.symm⟩)),
        fun _ _ ⟨hD, hi⟩ => ⟨frameD hD, hi.pcMove rfl nofun nofun⟩⟩
    · -- `a` leaves the window and clears `is_removed_` of `c`, which only `a` was processing
      have hwin : winPhase (s.pc a) = some c := by rw [hp]; rfl
      refine ⟨frameU hB hB'
        (keep_upd (.inr (.inr ⟨congrArg runPhase (upd_same ..), fun c' h => .inr (by
          rw [hp] at h; cases h; exact upd_same ..)⟩)))
        (keep_upd (.inr fun c' h => .inl (by rw [hp] at h; cases h; exact upd_same ..)))
        (hptr := fun _ => new_upd nofun) (hfin := fun _ => upd_true_of_true),
        fun _ _ ⟨hD, hi⟩ => ⟨frameD hD (hfin := new_upd fun _ w hw => ?_),
          hi.move rfl (fun w c' hwa hw => upd_other _ _ _ _ fun e => hwa (hown hwin (e ▸ hw)))
            (fun _ _ => id) nofun nofun (fun _ => .inl)⟩⟩
      rcases upd_cases (winPhase · = some c) hw with ⟨_, hw⟩ | ⟨hne, hw⟩
      · cases hw
      · exact hne ((hB.ownerW w c hw).symm.trans (hB.ownerW a c hwin))
  | inFin a c =>
    obtain ⟨_, hp, rfl⟩ := step_inFin h
    refine ⟨frameU hB hB' (keep_of hp rfl) (keep_of hp rfl) (hfin := fun _ => upd_true_of_true),
      fun _ _ ⟨hD, hi⟩ => ⟨frameD hD (hfin := new_upd fun _ w hw => ?_),
        hi.pcMove rfl nofun nofun⟩⟩
    -- the callback ran in its constructor: it was never linked, so nobody dequeued it
    have hw := mono_upd (φ := winPhase) (p' := .retn (.reg c) false) nofun w c hw
    have := (hB.regP a c (by rw [hp]; rfl)).2.1
    rw [(hB.cb c).deqPushed (hB.winP w c hw)] at this; cases this
  | push a c b =>
    obtain ⟨_, _, hp, _, rfl⟩ := step_push h
    exact ⟨frameU hB hB' (keep_of hp rfl) (keep_of hp rfl) (hpushed := new_upd fun _ => .head _)
      (hlist := fun _ h => .inl (.tail _ h)) (hkeep := fun _ => upd_true_of_true),
      fun _ _ ⟨hD, hi⟩ => ⟨frameD hD, hi.pcMove rfl nofun nofun⟩⟩
  | unlink a c r =>
    obtain ⟨_, _, hp, ⟨rfl, hm, rfl⟩ | ⟨rfl, hm, rfl⟩⟩ := step_unlink h
    · -- unlinked from the list: not dequeued, so no request_stop processes it
      have hnd : s.deqd c ≠ true := by rw [((hB.cb c).inList hm).2.1]; nofun
      refine ⟨frameU hB hB' (keep_of hp rfl) (keep_of hp rfl) (hlist := fun c' hm' => ?_),
        fun _ _ ⟨hD, hi⟩ => ⟨frameD hD (hret := enter_upd fun _ h => .inr (by
          cases h; exact ⟨fun hd => absurd hd hnd, fun w hw => absurd (hB.winP w c hw) hnd⟩)),
          hi.pcMove rfl nofun (fun c' hc' w hw => ?_)⟩⟩
      · by_cases hc : c' = c
        · subst hc; exact .inr (.inr (hB.not_unchecked (by rw [hp]; rfl) rfl rfl rfl))
        · exact .inl ((List.mem_erase_of_ne hc).2 hm')
      · cases hc'
        exact absurd (hdeq hw) hnd
    · exact ⟨frameU hB hB' (keep_of hp rfl) (keep_of hp rfl) (hpath := enter_upd fun _ h => .inl (hp ▸ h)),
        fun _ _ ⟨hD, hi⟩ => ⟨frameD hD, hi.pcMove rfl nofun nofun⟩⟩
  | selfChk a c eq p =>
    obtain ⟨_, hp, he, h3⟩ := step_selfChk h
    refine ⟨?_, fun hS hf ⟨hD, hi⟩ => ?_⟩
    · rcases h3 with ⟨w, _, _, hw, rfl⟩ | ⟨_, _, _, rfl⟩ | ⟨_, _, rfl⟩
      · exact frameU hB hB' (keep_of hp rfl) (keep_of hp rfl) (hflag := new_upd fun _ =>
          ⟨c, hw, .inr ⟨a, by rw [hp]; rfl⟩, hB.not_unchecked (by rw [hp]; rfl) rfl rfl rfl⟩)
      · exact frameU hB hB' (keep_of hp rfl) (keep_of hp rfl)
      · exact frameU hB hB' (keep_of hp rfl) (keep_of hp rfl) (hpath := enter_upd fun _ h => .inl (hp ▸ h))
    -- on the signalling thread: were `c` dequeued and not yet entered, `a` would be the request_stop
    -- that dequeued it; and `a` is on the thread of whoever processes `c`
    have key1 : s.sig = s.ident a → s.deqd c = true → s.runs c ≠ 0 := fun hs hd hr => by
      have := sig_is_dequeuer hB hS hf a c (by rw [hp]; rfl) (by rw [hp]; rfl) hs hd hr
      rcases hB.deqRuns c hd hr with h | h <;> rw [← this, hp] at h <;> cases h
    have key2 : s.sig = s.ident a → ∀ w, winPhase (s.pc w) = some c → thr s.K a = thr s.K w :=
      fun hs w hw => sig_on_winner_thread hS hf a w hs (hA.winPhaseWinner w c hw)
    rcases h3 with ⟨w, rfl, rfl, hw, rfl⟩ | ⟨rfl, rfl, hw, rfl⟩ | ⟨rfl, rfl, rfl⟩
    · have hs := of_decide_eq_true he.symm
      refine ⟨frameD hD (hret := enter_upd fun _ h => .inr (by cases h; exact ⟨key1 hs, key2 hs⟩)), ?_⟩
      -- the destructor sets the flag of the request_stop `is_removed_` points to, which is the
      -- only one that can have `c` in the window, and goes to its `return`
      refine hi.move rfl (fun _ _ _ _ => rfl) (fun w' _ hw' => ?_) nofun (fun c' hc' w' hw' => ?_) (fun _ => .inl)
      · by_cases hww : w' = w
        · subst hww; exact upd_same ..
        · exact (upd_other _ _ _ _ hww).trans hw'
      · cases hc'
        rw [hi.ptrRun w' c hw'] at hw; cases hw
        exact upd_same ..
    · have hs := of_decide_eq_true he.symm
      refine ⟨frameD hD (hret := enter_upd fun _ h => .inr (by cases h; exact ⟨key1 hs, key2 hs⟩)),
        hi.pcMove rfl nofun (fun c' hc' w' hw' => ?_)⟩
      cases hc'
      rw [hi.ptrRun w' c hw'] at hw; cases hw
    · exact ⟨frameD hD (hwait := enter_upd fun _ _ => .inr (of_decide_eq_false he.symm)),
        hi.pcMove rfl nofun nofun⟩
  | waited a c =>
    obtain ⟨_, hp, hfin, rfl⟩ := step_waited h
    -- the callback has run, and nobody processes it any more (layer D)
    refine ⟨frameU hB hB' (keep_of hp rfl) (keep_of hp rfl), fun _ _ ⟨hD, hi⟩ =>
      ⟨frameD hD (hret := enter_upd fun _ h => .inr ⟨fun _ => ?_, fun w hw => ?_⟩),
       hi.pcMove rfl nofun (fun c' hc' w hw => ?_)⟩⟩
    · cases h; rw [(hB.cb c).finRuns hfin]; nofun
    · cases h; rw [hD.winNoFin w c hw] at hfin; cases hfin
    · cases hc'; have := hD.winNoFin w c (runPhase_win hw); rw [hfin] at this; cases this
  | _ => exact quiet_dtor hB hB' (step_quiet h rfl)

end PikaVerif.Stop
