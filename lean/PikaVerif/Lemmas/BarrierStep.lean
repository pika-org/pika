import PikaVerif.Lemmas.BarrierRounds
/-! What each event of the barrier model does: `step` as a relation with one constructor per event and
    outcome (guards, program counter of the acting thread, the new state); what all events have in
    common. -/
namespace PikaVerif.Barrier

variable {s s' : St}

def thr : Ev → Nat
  | .inv t _ | .adj t | .load t _ _ | .start t _ | .cas t _ _ _ | .cas2 t _ _ _ | .last t _ _
  | .compl t | .publish t _ _ | .poll t _ _ | .ret t | .done t => t

def opPc : Op → Pc
  | .arrive u => .want u
  | .aw => .want 1
  | .drop => .wantDrop
  | .wait => .polling
/-- how much of the phase's count an invoked operation claims (`arrive u`: `u`; `wait`: nothing; the
    others `1`) -/
def opCount : Op → Nat
  | .arrive u => u
  | .wait => 0
  | _ => 1

inductive Step (s : St) : Ev → St → Prop
  | inv (t o) (ht : t < s.n) (hpc : s.pc t = .idle) (hc : o = .wait ∨ 1 ≤ opCount o ∧ opCount o ≤ s.count) :
      Step s (.inv t o) { s with pc := upd s.pc t (opPc o), aw := upd s.aw t (decide (o = .aw)),
                                 count := s.count - opCount o }
  | adj (t) (ht : t < s.n) (hpc : s.pc t = .wantDrop) :
      Step s (.adj t) { s with adj := s.adj + 1, drops := s.drops + 1, pc := upd s.pc t (.want 1) }
  | load (t u) (ht : t < s.n) (hpc : s.pc t = .want u) :
      Step s (.load t s.phase s.expected) { s with tok := upd s.tok t s.phase, tokIdx := upd s.tokIdx t s.ph,
                                                   pc := upd s.pc t (afterCall (s.aw t) u) }
  | start (t cur u) (ht : t < s.n) (hcur : cur < (s.expected + 1) / 2) (hpc : s.pc t = .arr u) (hu : 1 ≤ u) :
      Step s (.start t cur) { s with pc := upd s.pc t (.try (u - 1) cur 0 s.expected) }
  | casUp (t c r u cur m) (ht : t < s.n) (hpc : s.pc t = .try u cur r m) (hm : 1 < m)
      (hc : c = if cur = (m + 1) / 2 then 0 else cur) (hl : c = (m + 1) / 2 - 1 ∧ m % 2 = 1)
      (hv : s.tk r c = s.tok t) :
      Step s (.cas t c r .up) { s with tk := upd2 s.tk r c (fullB (s.tok t)),
                                       pc := upd s.pc t (.try u (c / 2) (r + 1) ((m + 1) / 2)) }
  | casHalf (t c r u cur m) (ht : t < s.n) (hpc : s.pc t = .try u cur r m) (hm : 1 < m)
      (hc : c = if cur = (m + 1) / 2 then 0 else cur) (hl : ¬ (c = (m + 1) / 2 - 1 ∧ m % 2 = 1))
      (hv : s.tk r c = s.tok t) :
      Step s (.cas t c r .half) { s with tk := upd2 s.tk r c (halfB (s.tok t)),
                                         pc := upd s.pc t (afterCall (s.aw t) u) }
  | casSeen (t c r u cur m) (ht : t < s.n) (hpc : s.pc t = .try u cur r m) (hm : 1 < m)
      (hc : c = if cur = (m + 1) / 2 then 0 else cur) (hl : ¬ (c = (m + 1) / 2 - 1 ∧ m % 2 = 1))
      (hv : s.tk r c = halfB (s.tok t)) :
      Step s (.cas t c r .seen) { s with pc := upd s.pc t (.try2 u c r m) }
  | casMiss (t c r u cur m) (ht : t < s.n) (hpc : s.pc t = .try u cur r m) (hm : 1 < m)
      (hc : c = if cur = (m + 1) / 2 then 0 else cur) (hv : s.tk r c ≠ s.tok t)
      (hl : (c = (m + 1) / 2 - 1 ∧ m % 2 = 1) ∨ s.tk r c ≠ halfB (s.tok t)) :
      Step s (.cas t c r (.miss (s.tk r c))) { s with pc := upd s.pc t (.try u (c + 1) r m) }
  | cas2Up (t c r u m) (ht : t < s.n) (hpc : s.pc t = .try2 u c r m) (hv : s.tk r c = halfB (s.tok t)) :
      Step s (.cas2 t c r .up) { s with tk := upd2 s.tk r c (fullB (s.tok t)),
                                        pc := upd s.pc t (.try u (c / 2) (r + 1) ((m + 1) / 2)) }
  | cas2Miss (t c r u m) (ht : t < s.n) (hpc : s.pc t = .try2 u c r m) (hv : s.tk r c ≠ halfB (s.tok t)) :
      Step s (.cas2 t c r (.miss (s.tk r c))) { s with pc := upd s.pc t (.try u (c + 1) r m) }
  | last (t u cur r m) (ht : t < s.n) (hpc : s.pc t = .try u cur r m) (hm : m ≤ 1) :
      Step s (.last t (s.tok t) s.expected) { s with pc := upd s.pc t (.won u r), wins := s.wins + 1, win := some t }
  | compl (t u r) (ht : t < s.n) (hpc : s.pc t = .won u r) :
      Step s (.compl t) { s with compls := s.compls + 1, expected := s.expected - s.adj, adj := 0,
                                 pc := upd s.pc t (.pub u r) }
  | publish (t u r) (ht : t < s.n) (hpc : s.pc t = .pub u r) :
      Step s (.publish t (fullB (s.tok t)) s.expected)
        { s with phase := fullB (s.tok t), ph := s.ph + 1, count := s.expected, e0 := s.expected, drops := 0,
                 win := none, pc := upd s.pc t (afterCall (s.aw t) u) }
  | poll (t) (ht : t < s.n) (hpc : s.pc t = .polling) :
      Step s (.poll t (s.tok t) s.phase)
        { s with pc := upd s.pc t (if s.phase = s.tok t then .polling else .retn) }
  | ret (t) (ht : t < s.n) (hpc : s.pc t = .retn) : Step s (.ret t) { s with pc := upd s.pc t .idle }
  | done (t) (ht : t < s.n) (hpc : s.pc t = .idle) : Step s (.done t) { s with pc := upd s.pc t .fin }

theorem step_iff {e : Ev} : step s e = some s' ↔ Step s e s' := by
  constructor
  · intro h
    cases e <;> simp only [step] at h
    case inv t o =>
      split at h
      · next hg =>
        cases o <;> dsimp only at h
        case wait => cases Option.some.inj h; exact .inv t _ hg.1 hg.2 (.inl rfl)
        all_goals
          split at h
          · next hc => cases Option.some.inj h; exact .inv t _ hg.1 hg.2 (.inr (by simpa [opCount] using hc))
          · cases h
      · cases h
    case adj t =>
      split at h
      · next hg => cases Option.some.inj h; exact .adj t hg.1 hg.2
      · cases h
    case load t a b =>
      split at h
      · next hg =>
        obtain ⟨ht, rfl, rfl⟩ := hg
        split at h
        · next u hpc => cases Option.some.inj h; exact .load t u ht hpc
        · cases h
      · cases h
    case start t a =>
      split at h
      · next hg =>
        split at h
        · next u hpc =>
          split at h
          · next hu => cases Option.some.inj h; exact .start t a u hg.1 hg.2 hpc hu
          · cases h
        · cases h
      · cases h
    case cas t c rnd out =>
      by_cases ht : t < s.n
      case neg => rw [if_neg ht] at h; cases h
      rw [if_pos ht] at h
      split at h
      case h_2 => cases h
      next u cur r m hpc =>
      by_cases hg : 1 < m ∧ rnd = r ∧ c = (if cur = (m + 1) / 2 then 0 else cur)
      case neg => rw [if_neg hg] at h; cases h
      rw [if_pos hg] at h
      obtain ⟨hm, rfl, hc⟩ := hg
      by_cases hl : c = (m + 1) / 2 - 1 ∧ m % 2 = 1
      · rw [if_pos hl] at h
        by_cases hv : s.tk rnd c = s.tok t
        · rw [if_pos hv] at h
          by_cases ho : out = .up
          · rw [if_pos ho] at h; cases Option.some.inj h; subst ho; exact .casUp t c rnd u cur m ht hpc hm hc hl hv
          · rw [if_neg ho] at h; cases h
        · rw [if_neg hv] at h
          by_cases ho : out = .miss (s.tk rnd c)
          · rw [if_pos ho] at h; cases Option.some.inj h; subst ho
            exact .casMiss t c rnd u cur m ht hpc hm hc hv (.inl hl)
          · rw [if_neg ho] at h; cases h
      · rw [if_neg hl] at h
        by_cases hv : s.tk rnd c = s.tok t
        · rw [if_pos hv] at h
          by_cases ho : out = .half
          · rw [if_pos ho] at h; cases Option.some.inj h; subst ho
            exact .casHalf t c rnd u cur m ht hpc hm hc hl hv
          · rw [if_neg ho] at h; cases h
        · rw [if_neg hv] at h
          by_cases hv2 : s.tk rnd c = halfB (s.tok t)
          · rw [if_pos hv2] at h
            by_cases ho : out = .seen
            · rw [if_pos ho] at h; cases Option.some.inj h; subst ho
              exact .casSeen t c rnd u cur m ht hpc hm hc hl hv2
            · rw [if_neg ho] at h; cases h
          · rw [if_neg hv2] at h
            by_cases ho : out = .miss (s.tk rnd c)
            · rw [if_pos ho] at h; cases Option.some.inj h; subst ho
              exact .casMiss t c rnd u cur m ht hpc hm hc hv (.inr hv2)
            · rw [if_neg ho] at h; cases h
    case cas2 t c rnd out =>
      by_cases ht : t < s.n
      case neg => rw [if_neg ht] at h; cases h
      rw [if_pos ht] at h
      split at h
      case h_2 => cases h
      next u cur r m hpc =>
      by_cases hg : rnd = r ∧ c = cur
      case neg => rw [if_neg hg] at h; cases h
      rw [if_pos hg] at h
      obtain ⟨rfl, rfl⟩ := hg
      by_cases hv : s.tk rnd c = halfB (s.tok t)
      · rw [if_pos hv] at h
        by_cases ho : out = .up
        · rw [if_pos ho] at h; cases Option.some.inj h; subst ho; exact .cas2Up t c rnd u m ht hpc hv
        · rw [if_neg ho] at h; cases h
      · rw [if_neg hv] at h
        by_cases ho : out = .miss (s.tk rnd c)
        · rw [if_pos ho] at h; cases Option.some.inj h; subst ho; exact .cas2Miss t c rnd u m ht hpc hv
        · rw [if_neg ho] at h; cases h
    case last t a b =>
      split at h
      · next hg =>
        obtain ⟨ht, rfl, rfl⟩ := hg
        split at h
        · next u cur r m hpc =>
          split at h
          · next hm => cases Option.some.inj h; exact .last t u cur r m ht hpc hm
          · cases h
        · cases h
      · cases h
    case compl t =>
      split at h
      · next ht =>
        split at h
        · next u r hpc => cases Option.some.inj h; exact .compl t u r ht hpc
        · cases h
      · cases h
    case publish t a b =>
      split at h
      · next hg =>
        obtain ⟨ht, rfl, rfl⟩ := hg
        split at h
        · next u r hpc => cases Option.some.inj h; exact .publish t u r ht hpc
        · cases h
      · cases h
    case poll t a b =>
      split at h
      · next hg => obtain ⟨ht, hpc, rfl, rfl⟩ := hg; cases Option.some.inj h; exact .poll t ht hpc
      · cases h
    case ret t =>
      split at h
      · next hg => cases Option.some.inj h; exact .ret t hg.1 hg.2
      · cases h
    case done t =>
      split at h
      · next hg => cases Option.some.inj h; exact .done t hg.1 hg.2
      · cases h
  · intro h
    cases h <;> simp only [step]
    case inv t o ht hpc hc =>
      rw [if_pos ⟨ht, hpc⟩]
      cases o <;> dsimp only
      case wait => rfl
      all_goals exact if_pos (by simpa [opCount] using hc)
    case adj ht hpc | ret ht hpc | done ht hpc => rw [if_pos ⟨ht, hpc⟩]
    case load ht hpc | publish ht hpc => rw [if_pos ⟨ht, trivial, trivial⟩, hpc]
    case start ht hcur hpc hu => rw [if_pos ⟨ht, hcur⟩, hpc]; exact if_pos hu
    case casUp ht hpc hm hc hl hv =>
      rw [if_pos ht, hpc]; dsimp only; rw [if_pos ⟨hm, rfl, hc⟩, if_pos hl, if_pos hv, if_pos trivial]
    case casHalf ht hpc hm hc hl hv =>
      rw [if_pos ht, hpc]; dsimp only; rw [if_pos ⟨hm, rfl, hc⟩, if_neg hl, if_pos hv, if_pos trivial]
    case casSeen ht hpc hm hc hl hv =>
      rw [if_pos ht, hpc]; dsimp only
      rw [if_pos ⟨hm, rfl, hc⟩, if_neg hl, if_neg (hv ▸ halfB_ne _), if_pos hv, if_pos trivial]
    case casMiss c _ _ _ m ht hpc hm hc hv hl =>
      rw [if_pos ht, hpc]; dsimp only; rw [if_pos ⟨hm, rfl, hc⟩]
      by_cases hl' : c = (m + 1) / 2 - 1 ∧ m % 2 = 1
      · rw [if_pos hl', if_neg hv, if_pos rfl]
      · rw [if_neg hl', if_neg hv, if_neg (hl.resolve_left hl'), if_pos rfl]
    case cas2Up ht hpc hv => rw [if_pos ht, hpc]; dsimp only; rw [if_pos ⟨rfl, rfl⟩, if_pos hv, if_pos trivial]
    case cas2Miss ht hpc hv => rw [if_pos ht, hpc]; dsimp only; rw [if_pos ⟨rfl, rfl⟩, if_neg hv, if_pos rfl]
    case last ht hpc hm => rw [if_pos ⟨ht, trivial, trivial⟩, hpc]; exact if_pos hm
    case compl ht hpc => rw [if_pos ht, hpc]
    case poll ht hpc => rw [if_pos ⟨ht, hpc, trivial, trivial⟩]

/-- What all events have in common: an accepted event is a move of its own thread, the number of
    threads stays, `expected` never grows, `e0` changes only by being set to `expected`, phases are
    never unpublished, and the tokens of the other threads stay. -/
theorem step_frame {e : Ev} (h : step s e = some s') :
    thr e < s.n ∧ s'.n = s.n ∧ s'.expected ≤ s.expected ∧ (s'.e0 = s.e0 ∨ s'.e0 = s'.expected) ∧
      s.ph ≤ s'.ph ∧ (∀ u, u ≠ thr e → s'.tok u = s.tok u ∧ s'.tokIdx u = s.tokIdx u) ∧
      ∀ u, u ≠ thr e → s'.pc u = s.pc u := by
  cases step_iff.mp h <;>
    refine ⟨‹_ < s.n›, rfl, ?_, ?_, ?_, ?_, fun _ hu => upd_other _ _ _ _ hu⟩
  -- the exceptions: `compl` lowers `expected`, `publish` sets `e0` and raises `ph`, `load` writes its own token
  all_goals first
    | exact Nat.le_refl _ | exact Nat.sub_le _ _ | exact Nat.le_succ _ | exact .inl rfl | exact .inr rfl
    | exact fun _ _ => ⟨rfl, rfl⟩ | exact fun _ hu => ⟨upd_other _ _ _ _ hu, upd_other _ _ _ _ hu⟩

theorem step_n {e : Ev} (h : step s e = some s') : s'.n = s.n := (step_frame h).2.1

theorem step_expected_le {e : Ev} (h : step s e = some s') : s'.expected ≤ s.expected :=
  (step_frame h).2.2.1

theorem step_pc_other {e : Ev} (h : step s e = some s') {u : Nat} (hu : u ≠ thr e) : s'.pc u = s.pc u :=
  (step_frame h).2.2.2.2.2.2 u hu

end PikaVerif.Barrier
