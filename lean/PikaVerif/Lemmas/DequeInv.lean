import PikaVerif.Lemmas.DequeGlob
import PikaVerif.Lemmas.DequeStep
import PikaVerif.Core.Run
/-! Inductive invariant of the deque model, in two parts: `SInv`, the shape of heap and threads, and `Inv`,
which adds conservation.  `SInv` survives every accepted event except a link CAS that succeeds stale on a
live link (`Tr.preserves`; `LinkOk` says which link writes do no harm).  Seen through `contents`, every
accepted step is a step of a list deque (`Lin`, `Tr.lin`), and conservation is a property of that list
deque (`Lin.cons`): the history lists `pushed`, `popped` are looked at nowhere else.  The file ends with
what the Props files read off `Inv`, for any tagging discipline (hence the `_G` of `pop_false_only_if_empty_G`).

Convention: `SInv.move`, `SInv.heap`, `SInv.cas`, `SInv.pop_cas` take their routine side conditions (the
held tag, the owned node, the growth of the anchor tag, the frame of a heap write) as default arguments: a
call such as `hi.move hpc trivial` discharges them by the tactic written in the lemma's statement; with
`hi : Inv s` the same call goes through the parent structure. -/
namespace PikaVerif.Deque

/-- the node a push carries through a helping stabilisation (0 if none) -/
def ownedK : Kont → Nat
  | .pushLoop _ n => n
  | _ => 0

/-- node the thread owns exclusively (allocated and not linked, or unlinked and not yet freed) -/
def owned : Pc → Nat
  | .pushLd _ n | .pushCasE _ n _ | .pushLink _ n _ | .pushCas _ n _ => n
  | .popFree n _ => n
  | .stRd1 k _ _ | .stChk1 k _ _ _ | .stRd2 k _ _ _ | .stChk2 k _ _ _ _ | .stLink k _ _ _ _
  | .stCas k _ _ => ownedK k
  | _ => 0

/-- anchor value held in the local variable `lrs` -/
def held : Pc → Option Anchor
  | .pushCasE _ _ a | .pushLink _ _ a | .pushCas _ _ a | .popCas1 _ a | .popChk _ a | .popRd _ a
  | .popCas _ a _ | .stRd1 _ _ a | .stChk1 _ _ a _ | .stRd2 _ _ a _ | .stChk2 _ _ a _ _
  | .stLink _ _ a _ _ | .stCas _ _ a => some a
  | _ => none

def heldTag (p : Pc) : Nat := ((held p).map (·.tag)).getD 0

/-- the node carried through a helping stabilisation is a real node -/
def KOk : Kont → Prop
  | .pushLoop _ n => n ≠ 0
  | _ => True

/-- what a thread at this program counter knows -/
def Loc (A : Anchor) (C : List Nat) (N : Nat → Node) : Pc → Prop
  | .pushLd _ n => n ≠ 0
  | .pushCasE d n a => n ≠ 0 ∧ a.endp d = 0
  | .pushLink d n a => n ≠ 0 ∧ a.endp d ≠ 0 ∧ a.st = 0
  | .pushCas d n a => n ≠ 0 ∧ a.endp d ≠ 0 ∧ a.st = 0 ∧ (A = a → (inward d (N n)).ptr = a.endp d)
  | .popCas1 d a => a.l = a.r ∧ a.endp d ≠ 0
  | .popChk _ a | .popRd _ a => a.l ≠ a.r ∧ a.st = 0
  | .popCas d a prev => a.l ≠ a.r ∧ a.st = 0 ∧ (A = a → Nbr d C (a.endp d) prev.ptr)
  | .popFree m _ => m ≠ 0
  | .stRd1 k d a => KOk k ∧ a.st = pushSt d
  | .stChk1 k d a prev | .stRd2 k d a prev | .stChk2 k d a prev _ | .stLink k d a prev _ =>
    KOk k ∧ a.st = pushSt d ∧ (A = a → Nbr d C (a.endp d) prev.ptr)
  | .stCas k d a =>
    KOk k ∧ a.st = pushSt d ∧ (A = a → ∀ p, Nbr d C (a.endp d) p → (outward d (N p)).ptr = a.endp d)
  | _ => True

/-- the anchor and links describe the chain, every thread knows what its program counter says, and
    private nodes are private -/
structure SInv (s : St) : Prop where
  glob : Glob s.anchor s.chain s.nodes s.used
  loc : ∀ t, Loc s.anchor s.chain s.nodes (s.pc t)
  /-- a held `lrs` is not newer than the anchor: once the anchor has moved on, `anchor = lrs` is false -/
  tags : ∀ t, heldTag (s.pc t) ≤ s.anchor.tag
  own : ∀ t, owned (s.pc t) ≠ 0 → s.used (owned (s.pc t)) = true ∧ owned (s.pc t) ∉ s.chain
  /-- no two threads own the same node -/
  excl : ∀ t u, t ≠ u → owned (s.pc t) ≠ 0 → owned (s.pc t) ≠ owned (s.pc u)

/-- conservation: what was pushed is what was popped plus what the chain stores -/
structure Inv (s : St) : Prop extends SInv s where
  cons : s.pushed.Perm (s.popped ++ contents s)

theorem inv_init (n : Nat) : Inv (init n) := by
  refine ⟨⟨⟨rfl, rfl, by simp [init], by simp [init], Or.inl rfl, by simp [init], by simp [init]⟩,
    ?_, ?_, ?_, ?_⟩, ?_⟩ <;> simp [init, Loc, heldTag, held, owned, contents]

variable {s : St} {t : Nat} {p : Pc} {A : Anchor} {C : List Nat} {N : Nat → Node}
  {A' : Anchor} {N' : Nat → Node} {U' : Nat → Bool} {C' pu po : List Nat} {st' : Bool} {p' : Pc}
  {fx : Bool} {s' : St} {e : Ev}

theorem loc_frame (h : Loc A C N p) (hC : ∀ x, x ∈ C → N' x = N x) (hO : N' (owned p) = N (owned p)) :
    Loc A C N' p := by
  cases p <;> try exact h
  case pushCas d n a => exact ⟨h.1, h.2.1, h.2.2.1, fun he => hO ▸ h.2.2.2 he⟩
  case stCas k d a => exact ⟨h.1, h.2.1, fun he p hp => hC p (nbr_mem hp).2 ▸ h.2.2 he p hp⟩

theorem loc_kont {k : Kont} (h : KOk k) :
    Loc A C N (kont k) := by
  cases k <;> first | exact h | trivial

theorem held_kont (k : Kont) : held (kont k) = none := by cases k <;> rfl
theorem heldTag_kont (k : Kont) : heldTag (kont k) = 0 := by rw [heldTag, held_kont]; rfl
theorem owned_kont (k : Kont) : owned (kont k) = ownedK k := by cases k <;> rfl

/-- `Loc` survives a write into the side-`d` outward link of `P` when the pointer written is what the chain
    asks of that word, if it asks anything, and the thread is not a push on the other side that has stored
    this very word as the inward link of its private node -/
theorem loc_write_outward {d : Bool} {P : Nat} {lk : Link} (h : Loc A C N p)
    (hP : ∀ x, Nbr d C x P → x = lk.ptr) (hpriv : ∀ a, p ≠ .pushCas (!d) P a) :
    Loc A C (upd N P (setOutward d (N P) lk)) p := by
  cases p <;> try exact h
  case pushCas d' n a =>
    refine ⟨h.1, h.2.1, h.2.2.1, fun he => ?_⟩
    by_cases hnP : n = P
    · subst hnP
      have hd : d' = d := by
        cases d <;> cases d' <;> first | rfl | exact absurd rfl (hpriv a)
      rw [hd, upd_same, inward_setOutward]; exact hd ▸ h.2.2.2 he
    · rw [upd_other _ _ _ _ hnP]; exact h.2.2.2 he
  case stCas k d' a =>
    refine ⟨h.1, h.2.1, fun he q hq => ?_⟩
    by_cases hqP : q = P
    · subst hqP he
      rw [upd_same]
      -- the same side: the word just written; the other side: the other word of `P`
      cases d <;> cases d' <;> first | exact (hP _ hq).symm | exact h.2.2 rfl q hq
    · rw [upd_other _ _ _ _ hqP]; exact h.2.2 he q hq

/-- knowledge guarded by `anchor = lrs` is vacuous once the anchor has a newer tag -/
theorem loc_new_anchor
    (h : Loc A C N p) (ht : heldTag p ≤ A.tag) (hA : A.tag < A'.tag) : Loc A' C' N p := by
  have hv : ∀ {a : Anchor} {X : Prop}, a.tag ≤ A.tag → A' = a → X :=
    fun ha he => absurd (he ▸ ha) (Nat.not_le_of_lt hA)
  cases p <;> first | exact h | exact ⟨h.1, h.2.1, hv ht⟩ | exact ⟨h.1, h.2.1, h.2.2.1, hv ht⟩

theorem perm_push {P Q X : List Nat} (v : Nat) (h : P.Perm (Q ++ X)) (d : Bool) :
    (v :: P).Perm (Q ++ (if d then X ++ [v] else v :: X)) := by
  cases d
  · exact (List.Perm.cons v h).trans List.perm_middle.symm
  · rw [if_pos rfl, ← List.append_assoc]
    exact (List.Perm.cons v h).trans (List.perm_append_singleton v (Q ++ X)).symm

theorem perm_pop {P Q X : List Nat} (v : Nat) (d : Bool)
    (h : P.Perm (Q ++ (if d then X ++ [v] else v :: X))) : P.Perm ((v :: Q) ++ X) := by
  cases d
  · exact h.trans List.perm_middle
  · rw [if_pos rfl, ← List.append_assoc] at h
    exact h.trans (List.perm_append_singleton v (Q ++ X))

theorem map_chainPush (f : Nat → Nat) (d : Bool) (C : List Nat) (n : Nat) :
    (chainPush d C n).map f = (if d then C.map f ++ [f n] else f n :: C.map f) := by
  cases d <;> simp [chainPush]

theorem mem_chainPush {d : Bool} {C : List Nat} {n x : Nat} (h : x ∈ chainPush d C n) :
    x ∈ C ∨ x = n := by
  cases d <;> simp [chainPush] at h <;> rcases h with h | h <;> simp [h]

/-- storing `⟨e, _⟩` into the side-`d` outward link of `P` does no harm: it is the value the chain asks of
    that word, or nobody trusts the word before it is rewritten -/
def LinkOk (s : St) (d : Bool) (P e : Nat) : Prop :=
  (∀ x, Nbr d s.chain x P → x = e) ∧ ∀ u a, s.pc u ≠ .pushCas (!d) P a

theorem data_upd {N : Nat → Node} {P : Nat} {nd : Node} (h : nd.data = (N P).data) (x : Nat) :
    (upd N P nd x).data = (N x).data := by
  grind [upd]

theorem Tr.current (tr : Tr fx s t e s') (hs : s'.stale = false) {k : Kont} {d : Bool} {a : Anchor}
    {prev pn : Link} (he : e = .lcas t true) (hpc : s.pc t = .stLink k d a prev pn) : s.anchor = a := by
  subst he
  cases tr with
  | lcasOk hpc' hg =>
    cases hpc'.symm.trans hpc
    exact Decidable.not_not.1 (of_decide_eq_false (Bool.or_eq_false_iff.1 hs).2)

/-- one accepted step, seen through the abstraction `contents`: nothing happens, or a value is
    inserted at end `d`, or the value at end `d` is removed and handed to the popping thread -/
def Lin (s s' : St) : Prop :=
  (contents s' = contents s ∧ s'.pushed = s.pushed ∧ s'.popped = s.popped) ∨
  (∃ (d : Bool) (v : Nat), contents s' = (if d then contents s ++ [v] else v :: contents s) ∧
      s'.pushed = v :: s.pushed ∧ s'.popped = s.popped) ∨
  (∃ (d : Bool) (v : Nat), contents s = (if d then contents s' ++ [v] else v :: contents s') ∧
      s'.popped = v :: s.popped ∧ s'.pushed = s.pushed ∧ ∃ t nd, s'.pc t = .popFree nd v)

theorem lin_same (h1 : s'.chain = s.chain) (h2 : ∀ x, x ∈ s.chain → (s'.nodes x).data = (s.nodes x).data)
    (h3 : s'.pushed = s.pushed) (h4 : s'.popped = s.popped) : Lin s s' :=
  Or.inl ⟨by unfold contents; rw [h1]; exact List.map_congr_left h2, h3, h4⟩

theorem Glob.map_pop {U : Nat → Bool}
    (g : Glob A C N U) (d : Bool) (h0 : A.endp d ≠ 0) (f : Nat → Nat) :
    C.map f = if d then (chainPop d C).map f ++ [f (A.endp d)]
              else f (A.endp d) :: (chainPop d C).map f := by
  conv => lhs; rw [g.chain_split d h0]
  cases d <;> simp

theorem Lin.cons (h : Lin s s') (hc : s.pushed.Perm (s.popped ++ contents s)) :
    s'.pushed.Perm (s'.popped ++ contents s') := by
  rcases h with ⟨h1, h2, h3⟩ | ⟨d, v, h1, h2, h3⟩ | ⟨d, v, h1, h2, h3, _⟩
  · rwa [h1, h2, h3]
  · rw [h1, h2, h3]; exact perm_push v hc d
  · rw [h2, h3]; exact perm_pop v d (h1 ▸ hc)

variable (hi : SInv s)
include hi

theorem SInv.loc_at (h : s.pc t = p) : Loc s.anchor s.chain s.nodes p := h ▸ hi.loc t
theorem SInv.tag_at (h : s.pc t = p) : heldTag p ≤ s.anchor.tag := h ▸ hi.tags t
theorem SInv.own_at (h : s.pc t = p) (h0 : owned p ≠ 0) :
    s.used (owned p) = true ∧ owned p ∉ s.chain := by
  subst h; exact hi.own t h0

theorem SInv.excl_at (h : s.pc t = p) (h0 : owned p ≠ 0) {u : Nat} (hu : u ≠ t) :
    owned (s.pc u) ≠ owned p := by
  subst h; exact Ne.symm (hi.excl t u (Ne.symm hu) h0)

theorem SInv.owned_ne {x : Nat} (h0 : x ≠ 0) (hx : x ∈ s.chain ∨ s.used x = false) (u : Nat) :
    owned (s.pc u) ≠ x := by
  have := hi.own u
  grind

theorem SInv.owned_ne_of_mem {x : Nat} (hx : x ∈ s.chain) (u : Nat) : owned (s.pc u) ≠ x :=
  hi.owned_ne (hi.glob.mem x hx).1 (Or.inl hx) u

/-- Thread `t` moves to `p'` while the rest of the state becomes `A'`, `C'`, `N'`, `U'`, `pu`, `po`:
    what has to be shown of the new state, the other threads keeping their program counters. -/
theorem SInv.step_core (t : Nat) (p' : Pc) (st' : Bool)
    (hg : Glob A' C' N' U')
    (hloc : ∀ u, u ≠ t → Loc A' C' N' (s.pc u))
    (htag : s.anchor.tag ≤ A'.tag)
    (hown : ∀ u, u ≠ t → owned (s.pc u) ≠ 0 → U' (owned (s.pc u)) = true ∧ owned (s.pc u) ∉ C')
    (hl : Loc A' C' N' p') (ht : heldTag p' ≤ A'.tag)
    (ho : owned p' ≠ 0 → (U' (owned p') = true ∧ owned p' ∉ C') ∧ ∀ u, u ≠ t → owned p' ≠ owned (s.pc u)) :
    SInv ⟨s.n, A', N', U', upd s.pc t p', C', pu, po, st'⟩ := by
  refine ⟨hg, forall_upd_of_others (fun _ h => h) hloc hl,
    forall_upd_of_others (F := fun p => heldTag p ≤ A'.tag) (fun _ h => h) (fun u _ => Nat.le_trans (hi.tags u) htag) ht,
    forall_upd_of_others (F := fun p => owned p ≠ 0 → U' (owned p) = true ∧ owned p ∉ C') (fun _ h => h) hown
      (fun h0 => (ho h0).1),
    fun v u hvu => ?_⟩
  have := hi.excl v u hvu
  grind [upd]

theorem SInv.keep (hpc : s.pc t = p) (ho : owned p' = owned p ∨ owned p' = 0)
    (h0 : owned p' ≠ 0) :
    (s.used (owned p') = true ∧ owned p' ∉ s.chain) ∧ ∀ u, u ≠ t → owned p' ≠ owned (s.pc u) := by
  have := hi.own t; have := hi.excl t
  grind

/-- Only the program counter of `t` moves: to a pc without `lrs`, with the same `lrs`, or with the
    anchor just loaded; the thread keeps its node or gives it up. -/
theorem SInv.move (hpc : s.pc t = p) (hl : Loc s.anchor s.chain s.nodes p')
    (ht : heldTag p' = 0 ∨ heldTag p' = heldTag p ∨ heldTag p' = s.anchor.tag := by
      first | exact Or.inl rfl | exact Or.inr (Or.inl rfl) | exact Or.inr (Or.inr rfl))
    (ho : owned p' = owned p ∨ owned p' = 0 := by first | exact Or.inl rfl | exact Or.inr rfl) :
    SInv { s with pc := upd s.pc t p' } := by
  have := hi.tag_at hpc
  exact hi.step_core t p' s.stale hi.glob (fun u _ => hi.loc u) (Nat.le_refl _) (fun u _ => hi.own u) hl
    (by omega) (hi.keep hpc ho)

/-- Anchor, chain and history stay; the heap changes at one node `m`, which is not in the chain and
    not owned by another thread. -/
theorem SInv.heap (t : Nat) (p' : Pc) {m : Nat}
    (hm : m ∉ s.chain) (hmo : ∀ u, u ≠ t → owned (s.pc u) ≠ m)
    (hl : Loc s.anchor s.chain N' p') (ht : heldTag p' ≤ s.anchor.tag)
    (ho : owned p' ≠ 0 → (U' (owned p') = true ∧ owned p' ∉ s.chain) ∧ ∀ u, u ≠ t → owned p' ≠ owned (s.pc u))
    (hN : ∀ x, x ≠ m → N' x = s.nodes x := by
      first | exact fun _ _ => rfl | exact fun _ hx => upd_other _ _ _ _ hx)
    (hU : ∀ x, x ≠ m → U' x = s.used x := by
      first | exact fun _ _ => rfl | exact fun _ hx => upd_other _ _ _ _ hx) :
    SInv { s with nodes := N', used := U', pc := upd s.pc t p' } := by
  have hC : ∀ x, x ∈ s.chain → x ≠ m := fun x hx h => hm (h ▸ hx)
  refine hi.step_core t p' s.stale (hi.glob.frame (fun x hx => hN x (hC x hx)) (fun x hx => ?_))
    (fun u hu => loc_frame (hi.loc u) (fun x hx => hN x (hC x hx)) (hN _ (hmo u hu))) (Nat.le_refl _)
    (fun u hu h0 => ⟨?_, (hi.own u h0).2⟩) hl ht ho
  · rw [hU x (hC x hx)]; exact (hi.glob.mem x hx).2
  · rw [hU _ (hmo u hu)]; exact (hi.own u h0).1

theorem rd_inward (d : Bool) (lk : Link) {X : Prop}
    (hs : s.anchor.st = 0 ∨ s.anchor.st = pushSt d) (hne : s.anchor.l ≠ s.anchor.r)
    (hg : (unknownLeft s d (s.anchor.endp d) = true ∧ X) ∨ lk = inward d (s.nodes (s.anchor.endp d))) :
    Nbr d s.chain (s.anchor.endp d) lk.ptr := by
  have hu := (hi.glob.mem _ (hi.glob.end_mem d (hi.glob.end_ne_zero d hne))).2
  rcases hg with ⟨hg, _⟩ | hg
  · simp [unknownLeft, hu] at hg
  · rw [hg]; exact hi.glob.nbr_inward d hne hs

/-- A successful anchor CAS of thread `t`: what the other threads knew under `anchor = lrs` no
    longer binds. -/
theorem SInv.cas (t : Nat) (p' : Pc)
    (hg : Glob A' C' s.nodes s.used)
    (hsub : ∀ u, u ≠ t → owned (s.pc u) ≠ 0 → owned (s.pc u) ∉ C')
    (hl : Loc A' C' s.nodes p') (ht : heldTag p' ≤ A'.tag)
    (ho : owned p' ≠ 0 → (s.used (owned p') = true ∧ owned p' ∉ C') ∧ ∀ u, u ≠ t → owned p' ≠ owned (s.pc u))
    (hA : s.anchor.tag < A'.tag := by
      first | exact Nat.lt_succ_self _ | (split <;> exact Nat.lt_succ_self _)) :
    SInv { s with anchor := A', chain := C', pushed := pu, popped := po, pc := upd s.pc t p' } :=
  hi.step_core t p' s.stale hg (fun u _ => loc_new_anchor (hi.loc u) (hi.tags u) hA) (Nat.le_of_lt hA)
    (fun u hu h0 => ⟨(hi.own u h0).1, hsub u hu h0⟩) hl ht ho

theorem SInv.to_kont {k : Kont} (hpc : s.pc t = p) (hk : KOk k) (ho : owned p = ownedK k) :
    SInv { s with pc := upd s.pc t (kont k) } :=
  hi.move hpc (loc_kont hk) (Or.inl (heldTag_kont k)) (Or.inl ((owned_kont k).trans ho.symm))

/-- the anchor CAS of a pop: the end node on side `d` leaves the chain and belongs to `t` -/
theorem SInv.pop_cas (t : Nat) (d : Bool)
    (h0 : s.anchor.endp d ≠ 0) (hg : Glob A' (chainPop d s.chain) s.nodes s.used)
    (hA : s.anchor.tag < A'.tag := by
      first | exact Nat.lt_succ_self _ | (split <;> exact Nat.lt_succ_self _)) :
    SInv { s with anchor := A', chain := chainPop d s.chain,
                  popped := (s.nodes (s.anchor.endp d)).data :: s.popped,
                  pc := upd s.pc t (.popFree (s.anchor.endp d) (s.nodes (s.anchor.endp d)).data) } :=
  have hE := hi.glob.end_mem d h0
  hi.cas t _ hg (fun u _ hu0 hm => (hi.own u hu0).2 (mem_of_mem_chainPop hm)) h0 (Nat.zero_le _)
    (fun _ => ⟨⟨(hi.glob.mem _ hE).2, hi.glob.end_not_mem_pop d h0⟩, fun u _ => (hi.owned_ne_of_mem hE u).symm⟩)
    hA

/-- the link CAS of a thread whose `lrs` is current writes the link the unfinished push left open -/
theorem SInv.linkOk {k : Kont} {d : Bool} {a : Anchor} {prev pn : Link}
    (hpc : s.pc t = .stLink k d a prev pn) (hA : s.anchor = a) : LinkOk s d prev.ptr (a.endp d) :=
  have hP := (hi.loc_at hpc).2.2 hA
  ⟨fun _ hx => nbr_unique_left hi.glob.nodup hx hP,
    fun u _ hu => hi.owned_ne_of_mem (nbr_mem hP).2 u (by rw [hu]; rfl)⟩

theorem Tr.lin (tr : Tr fx s t e s') : Lin s s' := by
  cases tr with
  | @alloc d v n hn hu hpc =>
    have hne : ∀ x, x ∈ s.chain → x ≠ n := fun x hx he =>
      Bool.noConfusion (hu.symm.trans (he ▸ (hi.glob.mem x hx).2))
    exact lin_same rfl (fun x hx => congrArg Node.data (upd_other _ _ _ _ (hne x hx))) rfl rfl
  | link hpc => exact lin_same rfl (fun x _ => data_upd (data_setInward ..) x) rfl rfl
  | lcasOk hpc hg => exact lin_same rfl (fun x _ => data_upd (data_setOutward ..) x) rfl rfl
  | @pushEmpty d n hpc | @push d n hpc =>
    exact Or.inr (Or.inl ⟨d, (s.nodes n).data, map_chainPush _ d _ n, rfl, rfl⟩)
  | @popSingle d hpc =>
    exact Or.inr (Or.inr ⟨d, _, hi.glob.map_pop d (hi.loc_at hpc).2 _, rfl, rfl, t, _, upd_same _ _ _⟩)
  | @pop d prev hpc =>
    exact Or.inr (Or.inr ⟨d, _, hi.glob.map_pop d (hi.glob.end_ne_zero d (hi.loc_at hpc).1) _, rfl, rfl, t, _,
      upd_same _ _ _⟩)
  | _ => exact lin_same rfl (fun _ _ => rfl) rfl rfl

omit hi in
theorem Tr.preserves (tr : Tr fx s t e s') (hi : Inv s)
    (hw : ∀ k d a prev pn, e = .lcas t true → s.pc t = .stLink k d a prev pn →
      LinkOk s d prev.ptr (a.endp d)) : Inv s' := by
  refine ⟨?_, (tr.lin hi.toSInv).cons hi.cons⟩
  cases tr with
  | inv push d v hpc =>
    cases push <;> exact hi.move hpc trivial
  | @alloc d v n hn hu hpc =>
    have hnc : n ∉ s.chain := fun hm => Bool.noConfusion (hu.symm.trans (hi.glob.mem n hm).2)
    exact hi.heap t _ hnc
      (fun u _ => hi.owned_ne hn (Or.inr hu) u) hn (Nat.zero_le _)
      (fun _ => ⟨⟨upd_same _ _ _, hnc⟩, fun u _ => (hi.owned_ne hn (Or.inr hu) u).symm⟩)
  | @ldPush d n hpc =>
    have hn := hi.loc_at hpc
    split
    · exact hi.move hpc ⟨hn, ‹_›⟩
    · split
      · exact hi.move hpc ⟨hn, ‹_›, ‹_›⟩
      · exact hi.move hpc ⟨hn, hi.glob.st_eq_pushSt ‹_›⟩
  | @ldPop d hpc =>
    split
    · exact hi.move hpc trivial
    · split
      · exact hi.move hpc ⟨‹_›, ‹_›⟩
      · split
        · exact hi.move hpc ⟨‹_›, ‹_›⟩
        · exact hi.move hpc ⟨trivial, hi.glob.st_eq_pushSt ‹_›⟩
  | chkPop same hpc hs =>
    cases same
    · exact hi.move hpc trivial
    · exact hi.move hpc (hi.loc_at hpc :)
  | chk1 same hpc hs | chk2 same hpc hs =>
    cases same
    · exact hi.to_kont hpc (hi.loc_at hpc).1 rfl
    · exact hi.move hpc (hi.loc_at hpc :)
  | @rdPop d a lk hpc hg =>
    obtain ⟨hne, hst⟩ := hi.loc_at hpc
    exact hi.move hpc ⟨hne, hst, fun he => by subst he; exact rd_inward hi.toSInv d lk (Or.inl hst) hne hg⟩
     
  | @rd1 k d a lk hpc hg =>
    obtain ⟨hk, hst⟩ := hi.loc_at hpc
    refine hi.move hpc ⟨hk, hst, fun he => ?_⟩
    subst he
    exact rd_inward hi.toSInv d lk (Or.inr hst) (hi.glob.ends_ne_of_st (hst ▸ pushSt_ne_zero d)) hg
  | @rd2 k d a prev lk hpc hg =>
    obtain ⟨hk, hst, hnb⟩ := hi.loc_at hpc
    split
    · exact hi.move hpc ⟨hk, hst, hnb⟩
    · -- the loaded link already names the end node: nothing is left to repair
      refine hi.move hpc ⟨hk, hst, fun he p hp => ?_⟩
      obtain rfl := nbr_unique hi.glob.nodup hp (hnb he)
      have hu := (hi.glob.mem _ (nbr_mem hp).2).2
      rcases hg with ⟨hg, _⟩ | hg
      · simp [unknownLeft, hu] at hg
      · rw [← hg]; exact Decidable.not_not.1 ‹_›
  | @link d m a hpc =>
    obtain ⟨hm0, h0, hst⟩ := hi.loc_at hpc
    exact hi.heap t _ (hi.own_at hpc hm0).2
      (fun u hu => hi.excl_at hpc hm0 hu) ⟨hm0, h0, hst, fun _ => by rw [upd_same, inward_setInward]⟩
      (hi.tag_at hpc :) (hi.keep hpc (Or.inl rfl))
  | @lcasOk k d a prev pn hpc hg =>
    obtain ⟨hk, hst, hnb⟩ := hi.loc_at hpc
    have ok := hw _ _ _ _ _ rfl hpc
    exact hi.step_core t _ _ (hi.glob.write_outward d ok.1)
      (fun u _ => loc_write_outward (hi.loc u) ok.1 (ok.2 u)) (Nat.le_refl _) (fun u _ => hi.own u)
      ⟨hk, hst, fun he p hp => by rw [nbr_unique hi.glob.nodup hp (hnb he), upd_same, outward_setOutward]⟩
      (hi.tag_at hpc :) (hi.keep hpc (Or.inl rfl))
  | @pushEmpty d n hpc =>
    obtain ⟨hn, h0⟩ := hi.loc_at hpc
    exact hi.cas t _ (hi.glob.push_empty d h0 hn (hi.own_at hpc hn).1)
      (fun u hu hu0 hm => (mem_chainPush hm).elim (hi.own u hu0).2 (hi.excl_at hpc hn hu))
      trivial (Nat.zero_le _) (fun h => absurd rfl h)
  | @push d n hpc =>
    obtain ⟨hn, h0, hst, hlk⟩ := hi.loc_at hpc
    have ho := hi.own_at hpc hn
    exact hi.cas t _ (hi.glob.push d hst h0 hn ho.1 ho.2 (hlk rfl))
      (fun u hu hu0 hm => (mem_chainPush hm).elim (hi.own u hu0).2 (hi.excl_at hpc hn hu))
      (by cases d <;> exact ⟨trivial, rfl⟩) (by cases d <;> exact Nat.le_refl _) (fun h => absurd rfl h)
  | pushEmptyFail hpc | pushFail hpc => exact hi.move hpc (hi.loc_at hpc).1
  | @popSingle d hpc =>
    obtain ⟨hlr, h0⟩ := hi.loc_at hpc
    exact hi.pop_cas t d h0 (hi.glob.pop_single d hlr h0)
  | @pop d prev hpc =>
    obtain ⟨hlr, hst, hnb⟩ := hi.loc_at hpc
    exact hi.pop_cas t d (hi.glob.end_ne_zero d hlr) (hi.glob.pop d hst hlr (hnb rfl))
  | @stab k d hpc =>
    obtain ⟨hk, hst, hlinks⟩ := hi.loc_at hpc
    exact hi.cas t _ (hi.glob.stab d hst (hlinks rfl)) (fun u _ h0 => (hi.own u h0).2)
      (loc_kont hk) (by rw [heldTag_kont]; exact Nat.zero_le _) (hi.keep hpc (Or.inl (owned_kont k)))
  | lcasFail hpc | stabFail hpc => exact hi.to_kont hpc (hi.loc_at hpc).1 rfl
  | free hpc =>
    have hm0 := hi.loc_at hpc
    exact hi.heap t _ (hi.own_at hpc hm0).2
      (fun u hu => hi.excl_at hpc hm0 hu) trivial (Nat.zero_le _) (fun h => absurd rfl h)
  | popSingleFail hpc | popFail hpc => exact hi.move hpc trivial
  | ret hpc | done hpc => exact hi.move hpc trivial (ho := Or.inr rfl)

omit hi

theorem step_inv (hi : Inv s) (h : stepG fx s e = some s') (hs : s'.stale = false) : Inv s' :=
  let ⟨_, _, tr⟩ := Tr.of_step h
  tr.preserves hi (fun _ _ _ _ _ he hpc => hi.linkOk hpc (tr.current hs he hpc))

theorem step_lin (hi : Inv s) (h : stepG fx s e = some s') : Lin s s' :=
  let ⟨_, _, tr⟩ := Tr.of_step h
  tr.lin hi.toSInv

theorem inv_of_accepted {n : Nat} {log : List Ev} (h : runLog (stepG fx) (init n) log = some s)
    (hs : s.stale = false) : Inv s :=
  inv_of_runLog (fun s => s.stale = false → Inv s)
    (fun _ _ _ ih hst hs' => step_inv (ih (stale_mono hst hs')) hst hs') (fun _ => inv_init n) h hs

/-- a pop takes its "return false" branch only on an empty chain (any tagging discipline) -/
theorem pop_false_only_if_empty_G (hi : Inv s) (t : Nat) (a : Anchor)
    (d : Bool) (hpc : s.pc t = .popLd d) (hstep : stepG fx s (.ld t a) = some s')
    (hret : s'.pc t = .retn false 0) : contents s = [] := by
  obtain ⟨_, _, tr⟩ := Tr.of_step hstep
  cases tr with
  | ldPush hpc' => cases hpc.symm.trans hpc'
  | ldPop hpc' =>
    cases hpc.symm.trans hpc'
    by_cases h0 : s.anchor.endp d = 0
    · rw [contents, hi.glob.nil_of_end d h0]; rfl
    · exfalso
      revert hret
      dsimp only
      rw [upd_same, if_neg h0]
      intro h
      split at h <;> (try split at h) <;> cases h

theorem pop_false_only_if_empty {e : Ev} (hi : Inv s) (hstep : stepG fx s e = some s') :
    ∀ t d a, e = .ld t a → s.pc t = .popLd d → s'.pc t = .retn false 0 → contents s = [] :=
  fun t d a he hpc hret => pop_false_only_if_empty_G hi t a d hpc (he ▸ hstep) hret

theorem conc_of_inv (hi : Inv s) :
    s.pushed.Perm (s.popped ++ contents s) ∧
    (∀ v, s.popped.count v ≤ s.pushed.count v) ∧
    (s.chain = [] → s.popped.Perm s.pushed) := by
  refine ⟨hi.cons, count_le_of_perm_append hi.cons, fun hc => ?_⟩
  have := hi.cons
  rw [contents, hc, List.map_nil, List.append_nil] at this
  exact this.symm

theorem nodup_of_inv (hi : Inv s) (hd : s.pushed.Nodup) : s.popped.Nodup :=
  (sub_of_perm_append hi.cons).2.2 hd

theorem chain_of_inv (hi : Inv s) :
    Glob s.anchor s.chain s.nodes s.used ∧ (s.anchor.l = 0 ↔ s.chain = []) ∧
    (s.anchor.r = 0 ↔ s.chain = []) :=
  ⟨hi.glob, ⟨hi.glob.nil_of_end false, fun hc => by have := hi.glob.hd; rwa [hc] at this⟩,
    ⟨hi.glob.nil_of_end true, fun hc => by have := hi.glob.lst; rwa [hc] at this⟩⟩

end PikaVerif.Deque
