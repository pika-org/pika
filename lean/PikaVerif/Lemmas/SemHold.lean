import PikaVerif.Lemmas.Sem2
/-!
# The internal lock is released within three events of its holder (C08t)

Termination of the real code is termination of the model modulo spinning on the internal lock (see
the head of `Props/C08t.lean`).  This file shows that such a spinning episode is short: whenever
the lock is held, its holder — running alone — releases it after at most three events, in every
reachable state (the holder is never blocked while it holds the lock).
-/
namespace PikaVerif.Sem

def actor : Ev → Nat
  | .inv t _ | .ret t _ | .slAcq t | .slRel t | .cvEnq t _ _ | .popResume t _ _ _ | .cvNone t
  | .cvWoke t _ _ | .take t _ | .add t _ _ | .suspend t | .woke t | .sleep t | .timeout t | .done t => t

/-- `r`, running alone from `s`, releases the lock within `k` events -/
abbrev Releases (s : St) (r k : Nat) : Prop := SoloRun step (actor · = r) k s (·.lock = none)

theorem releases_rel {s s1 : St} {r : Nat} (h : Step s (.slRel r) s1) (hl : s1.lock = none) : Releases s r 1 :=
  .cons (B := 0) h.accepted rfl (.nil hl)

/-- at the check of an acquire-type operation: take or enqueue / give up, then unlock -/
theorem releases_check (s : St) (r : Nat) (o : Op) (c : Bool) (hl : s.lock = some r) (hrn : r < s.n)
    (hp : s.pc r = .locked o c) (ho : ∀ k, o ≠ .rel k) : Releases s r 2 := by
  by_cases hval : 1 ≤ s.value
  · exact .cons (Step.take hrn hl hp ho hval).accepted rfl (releases_rel (.relTaken hrn hl (upd_same ..)) rfl)
  · have hv : s.value < 1 := by omega
    cases o with
    | rel k => exact absurd rfl (ho k)
    | tryq => exact (releases_rel (.relTry hrn hl hp hv) rfl).le (by omega)
    | acq =>
      exact .cons (Step.cvEnq (tm := false) hrn hl hp hv).accepted rfl (releases_rel (.relEnq hrn hl (upd_same ..)) rfl)
    | timed =>
      exact .cons (Step.cvEnq (tm := true) hrn hl hp hv).accepted rfl (releases_rel (.relEnq hrn hl (upd_same ..)) rfl)

/-- at the head of the notify loop: one `notify_one`, then unlock -/
theorem releases_loop (s : St) (hi : Inv s) (r i m : Nat) (hl : s.lock = some r) (hrn : r < s.n)
    (hp : s.pc r = .relL i m) : Releases s r 2 := by
  cases hq : s.queue with
  | nil => exact .cons (Step.cvNone hrn hl hp hq).accepted rfl (releases_rel (.relRes hrn hl (upd_same ..)) rfl)
  | cons g rest =>
    obtain ⟨p', hp'⟩ := hi.front_poppable hl hq (by rw [hp]; rfl)
    exact .cons (Step.pop hrn hl hp hq hp').accepted rfl (releases_rel (.relRes hrn hl (upd_same ..)) rfl)

/-- **The lock holder releases the lock within three of its own events.** -/
theorem holder_releases (s : St) (hi : Inv s) (hi2 : Inv2 s) (r : Nat) (hl : s.lock = some r) :
    Releases s r 3 := by
  obtain ⟨hh, hrn⟩ := hi2.lockConv r hl
  cases hp : s.pc r <;> simp [hp, holds] at hh
  case locked o c =>
    by_cases ho : ∀ k, o ≠ .rel k
    · exact (releases_check s r o c hl hrn hp ho).le (by omega)
    · -- `release(k)`: add the permits, then the loop head or straight out
      obtain ⟨k, rfl⟩ : ∃ k, o = .rel k := by cases o <;> simp at ho ⊢
      obtain rfl : c = false := by
        cases c with
        | false => rfl
        | true => exact absurd (hi2.carryOps r _ hp) (by simp)
      have h1 := Step.add hrn hl hp
      refine .cons h1.accepted rfl ?_
      by_cases hc : 0 < k ∧ 0 ≤ s.value + (k : Int)
      · exact releases_loop _ (hi.step h1.accepted) r 0 k hl hrn (by show upd _ _ _ _ = _; rw [upd_same, if_pos hc])
      · exact .le (releases_rel (.relFin hrn hl (by show upd _ _ _ _ = _; rw [upd_same, if_neg hc])) rfl) (by omega)
  case enq tm => exact (releases_rel (.relEnq hrn hl hp) rfl).le (by omega)
  case taken => exact (releases_rel (.relTaken hrn hl hp) rfl).le (by omega)
  case failing => exact (releases_rel (.relFailing hrn hl hp) rfl).le (by omega)
  case relRes i m more => exact (releases_rel (.relRes hrn hl hp) rfl).le (by omega)
  case relFin => exact (releases_rel (.relFin hrn hl hp) rfl).le (by omega)
  case relL i m => exact (releases_loop s hi r i m hl hrn hp).le (by omega)
  case relk tm p =>
    -- back under the lock after a wake-up: re-check (two more events) or give up
    cases p with
    | true =>
      exact .cons (Step.wokePopped hrn hl hp).accepted rfl
        (releases_check _ r _ true hl hrn (upd_same ..) (by cases tm <;> simp))
    | false =>
      cases tm with
      | true =>
        exact .le (.cons (Step.wokeTimeout hrn hl hp).accepted rfl
          (releases_rel (.relFailing hrn hl (upd_same ..)) rfl)) (Nat.le_succ 2)
      | false =>
        exact .cons (Step.wokeSpurious hrn hl hp).accepted rfl
          (releases_check _ r _ false hl hrn (upd_same ..) (by simp))

end PikaVerif.Sem
