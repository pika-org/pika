import PikaVerif.Model.Mtx
import PikaVerif.Lemmas.Excl
/-! What each event of the mutex model does: the accepted events as an inductive relation `Step`, one
    constructor per event with its guards and its successor state, and `Step.of`, by which every
    proof about `step` proceeds by cases.  Where the program counter reached depends on the one left,
    a small function on program counters (`acqNext`, `relNext`, `wokeNext`) says so, and facts about
    the move are facts about that function. -/
namespace PikaVerif.Mtx

/-- Taking the internal spinlock: at the entry of an operation, or on the way out of a wait. -/
def acqNext : Pc → Option Pc
  | .want o => some (.locked o)
  | .wokeNL tm p => some (.relk tm p)
  | _ => none

/-- Releasing the internal spinlock: into the wait after `cv.enq`, or to the report of the result
    that the owner tests made under the spinlock have decided (`owner` = `owner_id_`). -/
def relNext (owner : Option Nat) (t : Nat) : Pc → Option Pc
  | .enq tm => some (.unl tm false)
  | .owned o => if o = .unlock then none else some (.retn o .ok)
  | .notified => some (.retn .unlock .ok)
  | .timedOut => some (.retn .timed .fail)
  | .locked .lock => if owner = some t then some (.retn .lock .errDeadlock) else none
  | .locked .tryl => if owner ≠ none then some (.retn .tryl .fail) else none
  | .locked .unlock => if owner ≠ some t then some (.retn .unlock .errLock) else none
  | .sig => if owner ≠ none then some (.retn .timed .fail) else none
  | _ => none

/-- Where `cv.woke` takes a waiter that has re-taken the spinlock: signalled (`popped`), back to the
    re-test of the owner; otherwise its entry is erased, and the timed wait reports `timeout`. -/
def wokeNext (tm popped : Bool) : Pc :=
  if popped then (if tm then .sig else .again true) else (if tm then .timedOut else .again false)

inductive Step (s : St) : Ev → St → Prop
  | inv (t o) (ht : t < s.n) (hp : s.pc t = .idle) (hc : o = .unlock → s.inCS t = false) :
    Step s (.inv t o)
      { s with pc := upd s.pc t (.want o), curOp := upd s.curOp t o,
               ownedAtInv := upd s.ownedAtInv t (decide (s.owner = some t)),
               tookOp := upd s.tookOp t false, touched := upd s.touched t false,
               holdsG := upd s.holdsG t (if o = .unlock then false else s.holdsG t) }
  | ret (t r) (ht : t < s.n) (o) (hp : s.pc t = .retn o r) :
    Step s (.ret t r)
      { s with pc := upd s.pc t .idle,
               holdsG := upd s.holdsG t (if r = .ok ∧ o ≠ .unlock then true else s.holdsG t) }
  | slAcq (t) (ht : t < s.n) (hl : s.lock = none) (p') (hp : acqNext (s.pc t) = some p') :
    Step s (.slAcq t)
      { s with lock := some t, pc := upd s.pc t p' }
  | slRel (t) (ht : t < s.n) (hl : s.lock = some t) (p') (hp : relNext s.owner t (s.pc t) = some p') :
    Step s (.slRel t)
      { s with lock := none, pc := upd s.pc t p' }
  | cvEnq (t z tm) (ht : t < s.n) (hl : s.lock = some t) (ho : s.owner ≠ none)
    (hz : z = s.queue.length + 1)
    (hp : (s.pc t = .locked .lock ∧ s.owner ≠ some t ∧ tm = false) ∨ (∃ c, s.pc t = .again c ∧ tm = false) ∨
      (s.pc t = .locked .timed ∧ tm = true)) :
    Step s (.cvEnq t z tm)
      { s with queue := s.queue ++ [t], touched := upd s.touched t true, pc := upd s.pc t (.enq tm) }
  | own (t k w) (ht : t < s.n) (hl : s.lock = some t) (ho : s.owner = none) (hw : w = false) (o)
    (hk : k = ownKind o) (hno : o ≠ .unlock)
    (hp : s.pc t = .locked o ∨ (o = .lock ∧ ∃ c, s.pc t = .again c) ∨ (o = .timed ∧ s.pc t = .sig)) :
    Step s (.own t k w)
      { s with owner := some t, tookOp := upd s.tookOp t true, touched := upd s.touched t true,
               pc := upd s.pc t (.owned o) }
  | disown (t) (ht : t < s.n) (hl : s.lock = some t) (ho : s.owner = some t)
    (hp : s.pc t = .locked .unlock) :
    Step s (.disown t)
      { s with owner := none, touched := upd s.touched t true, pc := upd s.pc t .disowned }
  | popResume (t z g d) (ht : t < s.n) (hl : s.lock = some t) (hp : s.pc t = .disowned) (rest p')
    (hq : s.queue = g :: rest) (hz : z = rest.length) (hp' : setPopped (s.pc g) = some p')
    (hd : d = decide (s.pc g = .slp false)) :
    Step s (.popResume t z g d)
      { s with queue := rest, tok := if d then s.tok else upd s.tok g (s.tok g + 1),
               pc := upd (upd s.pc g p') t .notified }
  | cvNone (t) (ht : t < s.n) (hl : s.lock = some t) (hq : s.queue = []) (hp : s.pc t = .disowned) :
    Step s (.cvNone t)
      { s with pc := upd s.pc t .notified }
  | suspend (t) (ht : t < s.n) (p) (hp : s.pc t = .unl false p) :
    Step s (.suspend t)
      { s with pc := upd s.pc t (.susp p) }
  | woke (t) (ht : t < s.n) (hk : 0 < s.tok t) (p) (hp : s.pc t = .susp p) :
    Step s (.woke t)
      { s with tok := upd s.tok t (s.tok t - 1), pc := upd s.pc t (.wokeNL false p) }
  | sleep (t) (ht : t < s.n) (p) (hp : s.pc t = .unl true p) :
    Step s (.sleep t)
      { s with tok := upd s.tok t 0, pc := upd s.pc t (.slp p) }
  | timeout (t) (ht : t < s.n) (p) (hp : s.pc t = .slp p) :
    Step s (.timeout t)
      { s with pc := upd s.pc t (.wokeNL true p) }
  | cvWoke (t still tm) (ht : t < s.n) (hl : s.lock = some t) (popped) (hp : s.pc t = .relk tm popped)
    (hst : still = !popped) :
    Step s (.cvWoke t still tm)
      { s with queue := if popped then s.queue else s.queue.erase t,
               pc := upd s.pc t (wokeNext tm popped) }
  | csEnter (t) (ht : t < s.n) (hp : s.pc t = .idle) (hh : s.holdsG t = true) (hc : s.inCS t = false) :
    Step s (.csEnter t)
      { s with inCS := upd s.inCS t true, enters := s.enters + 1 }
  | csExit (t) (ht : t < s.n) (hp : s.pc t = .idle) (hc : s.inCS t = true) :
    Step s (.csExit t)
      { s with inCS := upd s.inCS t false, exits := s.exits + 1 }
  | done (t) (ht : t < s.n) (hp : s.pc t = .idle) : Step s (.done t)
      { s with pc := upd s.pc t .fin }

theorem Step.of {s s' : St} {e : Ev} (h : step s e = some s') : Step s e s' := by
  cases e with
  | inv t o =>
    simp only [step, ite_upd] at h
    split at h
    · rename_i hg; cases h; exact .inv t o hg.1 hg.2.1 hg.2.2
    · cases h
  | ret t r =>
    simp only [step, ite_upd] at h
    split at h
    · rename_i hg
      split at h
      · rename_i o b hp
        split at h
        · rename_i hb; subst hb; cases h; exact .ret t _ hg o hp
        · cases h
      · cases h
    · cases h
  | cvEnq t z tm =>
    simp only [step] at h
    split at h
    · rename_i hg
      split at h
      · rename_i hp; split at h
        · rename_i hc; obtain ⟨rfl, hc⟩ := hc; cases h
          exact .cvEnq t z _ hg.1 hg.2.1 hg.2.2.1 hg.2.2.2 (.inl ⟨hp, hc, rfl⟩)
        · cases h
      · rename_i c hp; split at h
        · rename_i hc; subst hc; cases h
          exact .cvEnq t z _ hg.1 hg.2.1 hg.2.2.1 hg.2.2.2 (.inr (.inl ⟨c, hp, rfl⟩))
        · cases h
      · rename_i hp; split at h
        · rename_i hc; subst hc; cases h
          exact .cvEnq t z _ hg.1 hg.2.1 hg.2.2.1 hg.2.2.2 (.inr (.inr ⟨hp, rfl⟩))
        · cases h
      · cases h
    · cases h
  | popResume t z g d =>
    simp only [step] at h
    split at h
    · rename_i hg
      split at h
      · rename_i g' rest hp hq
        split at h
        · rename_i hz; obtain ⟨hz, rfl⟩ := hz
          split at h
          · rename_i p' hp'
            split at h
            · rename_i hd; cases h; exact .popResume t z _ d hg.1 hg.2 hp rest p' hq hz hp' hd
            · cases h
          · cases h
        · cases h
      · cases h
    · cases h
  | cvWoke t still tm =>
    simp only [step] at h
    split at h
    · rename_i hg
      split at h
      · rename_i tmm popped hp
        split at h
        · rename_i hc; obtain ⟨rfl, hst⟩ := hc
          have := Step.cvWoke t still tm hg.1 hg.2 popped hp hst
          cases popped <;> cases tm <;> (cases h; exact this)
        · cases h
      · cases h
    · cases h
  | _ =>
    -- one constructor per event, its premises among the guards that `step` has just tested
    simp only [step] at h
    (repeat' split at h) <;> first
      | (cases h; constructor <;> simp_all [acqNext, relNext, ownKind]; done)
      | cases h

/-- The same with the successor as a fresh variable equal to `s'`: `cases` on `Step s e s'` needs a
    variable there, and in the program layer `s'` is a projection `p'.s`. -/
theorem Step.of' {s s' : St} {e : Ev} (h : step s e = some s') : ∃ s'', s'' = s' ∧ Step s e s'' :=
  ⟨s', rfl, .of h⟩

theorem step_frame {s s' : St} {e : Ev} (h : step s e = some s') :
    s'.n = s.n ∧ s'.enters = s.enters + (match e with | .csEnter _ => 1 | _ => 0) ∧
      s'.exits = s.exits + (match e with | .csExit _ => 1 | _ => 0) := by
  cases Step.of h <;> exact ⟨rfl, rfl, rfl⟩

end PikaVerif.Mtx
