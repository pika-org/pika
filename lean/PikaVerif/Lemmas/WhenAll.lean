import PikaVerif.Model.WhenAll
import PikaVerif.Core.Sum
import PikaVerif.Core.Run
/-!
Invariants of the `when_all` counter model (C03): the connected receiver is signalled
exactly once, by the receiver call whose decrement reaches zero, with the decision determined by
the first non-value completion to reach the latch (value iff all predecessors sent values).

First the acceptor as a relation `Step` (one rule per outcome of an event; every proof about `step`
goes by cases on `Step.of_step`); then the invariants, each with the lemmas saying which moves of a
thread leave it alone; only the four events of a receiver call proper (`fire`, `sig`, `dec`, `rcv`)
need an argument.
-/
namespace PikaVerif.WhenAll

def retPc : Ctx → Pc
  | .producer => .retC
  | .starter => .starting

/-- The armed prefix after a receiver call: the starter resumes the start loop. -/
def armedAfter (s : St) : Ctx → Nat
  | .producer => s.armedTo
  | .starter => advance s.pending s.n s.armedTo s.n

theorem afterCall_eq (s : St) (t : Nat) (cx : Ctx) :
    afterCall s t cx = { s with armedTo := armedAfter s cx, pc := upd s.pc t (retPc cx) } := by
  cases cx <;> rfl

/-- One rule per outcome, with the new state written out and those guards that some proof reads.
    `sig`: what the call stores depends on the channel and on what the flag held; `dec`: the call
    that brings the counter to zero stays in the operation state, every other call returns. -/
inductive Step (s : St) : Ev → St → Prop
  | invStart {t} : s.pc t = .idle → s.armedTo = 0 →
      Step s (.invStart t) { s with armedTo := advance s.pending s.n 0 s.n, pc := upd s.pc t .starting }
  | invCompleteArmed {t i ch arg} : s.pc t = .idle →
      Step s (.invComplete t i ch arg) { s with pc := upd s.pc t (.completing i) }
  | invCompleteEarly {t i ch arg} : s.pc t = .idle →
      Step s (.invComplete t i ch arg)
        { s with pending := upd s.pending i (some (ch, arg)), pc := upd s.pc t .retC }
  | fire {t i ch arg cx} : s.firedI i = false → i < s.armedTo → i < s.n →
      (s.pc t = .completing i ∨ s.pc t = .starting) →
      Step s (.fire t i ch arg)
        { s with firedI := upd s.firedI i true, pc := upd s.pc t (.fired i ch arg cx),
                 compl := upd s.compl i (some (ch, arg)), stage := upd s.stage i 1, who := upd s.who i t }
  | sig {t ch i arg cx sl l er f note} : s.pc t = .fired i ch arg cx →
      (s.latch = true ∧ ch ≠ 1 ∧ sl = s.slots ∧ l = s.latch ∧ er = s.err ∧ f = s.first ∨
       s.latch = false ∧ ch = 0 ∧ sl = upd s.slots i (some arg) ∧ l = s.latch ∧ er = s.err ∧ f = s.first ∨
       ch = 1 ∧ sl = s.slots ∧ l = true ∧ er = s.err ∧
         f = (if s.first = none then some (i, ch, arg) else s.first) ∨
       s.latch = false ∧ 2 ≤ ch ∧ sl = s.slots ∧ l = true ∧ er = some arg ∧
         f = (if s.first = none then some (i, ch, arg) else s.first)) →
      Step s (.sig t ch)
        { s with slots := sl, latch := l, err := er, first := f, stage := upd s.stage i 2,
                 pc := upd s.pc t (.sigd i cx note) }
  | store {t j i cx} : s.pc t = .sigd i cx 1 →
      Step s (.store t j) { s with pc := upd s.pc t (.sigd i cx 0) }
  | latch {t i cx} : s.pc t = .sigd i cx 2 → Step s (.latch t) { s with pc := upd s.pc t (.sigd i cx 0) }
  | dec {t i cx a k lt p'} : s.pc t = .sigd i cx 0 → s.remaining ≠ 0 → k = s.remaining - 1 →
      (s.remaining = 1 ∧ a = s.armedTo ∧ lt = t ∧ p' = .last cx false ∨
       s.remaining ≠ 1 ∧ a = armedAfter s cx ∧ lt = s.lastT ∧ p' = retPc cx) →
      Step s (.dec t)
        { s with armedTo := a, remaining := k, stage := upd s.stage i 3, lastT := lt, pc := upd s.pc t p' }
  | zero {t l e cx} : s.pc t = .last cx false →
      Step s (.zero t l e) { s with pc := upd s.pc t (.last cx true) }
  | rcv {t ch v cx} : s.pc t = .last cx true → (ch, v) = decision s →
      Step s (.rcv t ch v)
        { s with armedTo := armedAfter s cx, delivered := s.delivered + 1, result := some (ch, v),
                 pc := upd s.pc t (retPc cx) }
  | retC {t} : s.pc t = .retC → Step s (.ret t) { s with pc := upd s.pc t .idle }
  | retS {t} : s.pc t = .starting → Step s (.ret t) { s with pc := upd s.pc t .idle }
  | tdone {t} : s.pc t = .idle → Step s (.tdone t) { s with pc := upd s.pc t .fin }

theorem Step.of_step {s s' : St} {e : Ev} (h : step s e = some s') : Step s e s' := by
  cases e <;> simp only [step, afterCall_eq] at h <;> (repeat' split at h) <;>
    first
    | (cases h; done)
    | (cases h; subst_vars; constructor <;> first | assumption | (simp_all; done))
    | (cases h; exact .retS ‹_›)
    | (cases h; subst_vars; exact .sig ‹_› (by simp_all <;> omega))
    | (cases h; exact .dec ‹_› ‹_› (by omega) (.inl ⟨‹_›, rfl, rfl, rfl⟩))
    | (cases h; exact .dec ‹_› ‹_› rfl (.inr ⟨‹_›, by cases ‹Ctx› <;> rfl, rfl, rfl⟩))

/-- The predecessor whose receiver call a thread is executing. -/
def curOf : Pc → Option Nat
  | .fired i _ _ _ => some i
  | .sigd i _ _ => some i
  | _ => none

def stOf : Pc → Nat
  | .fired _ _ _ _ => 1
  | .sigd _ _ _ => 2
  | _ => 0

def isLast : Pc → Bool
  | .last _ _ => true
  | _ => false

/-- weight of a predecessor in the counter: 1 once its receiver call has decremented -/
def w3 (st : Nat) : Nat := if st = 3 then 1 else 0

@[simp] theorem curOf_retPc (cx : Ctx) : curOf (retPc cx) = none := by cases cx <;> rfl
@[simp] theorem stOf_retPc (cx : Ctx) : stOf (retPc cx) = 0 := by cases cx <;> rfl
@[simp] theorem isLast_retPc (cx : Ctx) : isLast (retPc cx) = false := by cases cx <;> rfl

/-- receiver calls in progress versus the per-predecessor stage -/
structure W1 (s : St) : Prop where
  curStage : ∀ t i, curOf (s.pc t) = some i → s.who i = t ∧ s.stage i = stOf (s.pc t) ∧ i < s.n ∧ s.stage i ≠ 0
  stageCur : ∀ i, (s.stage i = 1 ∨ s.stage i = 2) → curOf (s.pc (s.who i)) = some i
  firedCompl : ∀ t i ch arg cx, s.pc t = .fired i ch arg cx → s.compl i = some (ch, arg)
  stageLe : ∀ i, s.stage i ≤ 3
  firedStage : ∀ i, s.firedI i = true ↔ s.stage i ≠ 0
  stageCompl : ∀ i, s.stage i ≠ 0 → s.compl i ≠ none

theorem w1_init (n : Nat) : W1 (init n) := by
  constructor <;> simp [init, curOf]

theorem W1.stage_eq_zero {s : St} (h1 : W1 s) {i : Nat} (h : s.firedI i = false) : s.stage i = 0 :=
  Decidable.byContradiction fun hne => by
    have := (h1.firedStage i).mpr hne; rw [h] at this; cases this


/- The values an event may give to fields that the invariant at hand does not read. -/
variable {a r d lt : Nat} {pd co : Nat → Option (Nat × Int)} {fi : Nat → Bool} {l : Bool}
  {e : Option Int} {sl : Nat → Option Int} {res : Option (Nat × Int)} {st w : Nat → Nat}
  {f : Option (Nat × Nat × Int)} {pc : Nat → Pc}

/-- A thread that stays in the same call at the same stage (or outside any) and does not enter
    one leaves `W1` alone, whatever happens to the fields `W1` does not read. -/
theorem W1.move {s : St} (h1 : W1 s) {t : Nat} {p p' : Pc} (hp : s.pc t = p)
    (hc : curOf p' = curOf p) (hs : stOf p' = stOf p) (hf : stOf p' ≠ 1) :
    W1 { s with armedTo := a, pending := pd, remaining := r, latch := l, err := e, slots := sl,
                pc := upd s.pc t p', delivered := d, result := res, first := f, lastT := lt } := by
  subst hp
  have ec := apply_upd_of_eq curOf hc
  have es := apply_upd_of_eq stOf hs
  refine ⟨fun u i h => ?_, fun i h => ?_, fun u i ch arg cx h => ?_,
    h1.stageLe, h1.firedStage, h1.stageCompl⟩
  · dsimp only at h ⊢; rw [es u]; exact h1.curStage u i (ec u ▸ h)
  · dsimp only at h ⊢; rw [ec]; exact h1.stageCur i h
  · dsimp only at h
    by_cases hu : u = t
    · subst hu; rw [upd_same] at h; rw [h] at hf; exact absurd rfl hf
    · rw [upd_other _ _ _ _ hu] at h; exact h1.firedCompl u i ch arg cx h

/-- The thread running the call of predecessor `i` takes it to stage `k`: either it is still in
    the call, at a point of stage `k`, or the call is over and `k = 3`.  Another thread's call is
    another predecessor's (`who`), so only `i` and `t` are concerned. -/
theorem W1.toStage {s : St} (h1 : W1 s) {t i k : Nat} {p' : Pc} (hi : curOf (s.pc t) = some i)
    (hk : curOf p' = some i ∧ stOf p' = k ∧ k ≠ 0 ∨ curOf p' = none ∧ k = 3) (hk3 : k ≤ 3)
    (hf : stOf p' ≠ 1) :
    W1 { s with armedTo := a, remaining := r, latch := l, err := e, slots := sl,
                stage := upd s.stage i k, pc := upd s.pc t p', first := f, lastT := lt } := by
  obtain ⟨a1, a2, a3, a4, a5, a6⟩ := h1
  constructor <;> dsimp only <;> grind [upd, curOf, stOf]

/-- A thread outside any call enters the call of a predecessor that has not completed yet (its
    stage is 0, so no call in progress is its). -/
theorem W1.enter {s : St} (h1 : W1 s) {t i ch : Nat} {arg : Int} {cx : Ctx}
    (hc : curOf (s.pc t) = none) (hfi : s.firedI i = false) (hi : i < s.n) :
    W1 { s with firedI := upd s.firedI i true, pc := upd s.pc t (.fired i ch arg cx),
                compl := upd s.compl i (some (ch, arg)), stage := upd s.stage i 1,
                who := upd s.who i t } := by
  have h0 := h1.stage_eq_zero hfi
  obtain ⟨a1, a2, a3, a4, a5, a6⟩ := h1
  constructor <;> dsimp only <;> grind [upd, curOf, stOf]

/-! ### the counter -/

theorem sumTo_all_one {n : Nat} {f : Nat → Nat} (h : ∀ i, i < n → f i = 1) : sumTo n f = n := by
  induction n with
  | zero => rfl
  | succ k ih =>
    rw [sumTo_succ, ih (fun i hi => h i (Nat.lt_succ_of_lt hi)), h k (Nat.lt_succ_self k)]

theorem sumTo_full {n : Nat} {f : Nat → Nat} (h : ∀ i, f i ≤ 1) (hs : sumTo n f = n) :
    ∀ i, i < n → f i = 1 := by
  induction n with
  | zero => intro i hi; exact absurd hi (Nat.not_lt_zero _)
  | succ k ih =>
    rw [sumTo_succ] at hs
    have h1 := sumTo_le_n (n := k) fun i _ => h i
    have h2 := h k
    intro i hi
    by_cases hik : i = k
    · subst hik; omega
    · exact ih (by omega) i (by omega)

/-- `predecessors_remaining` = number of predecessors whose receiver call has not decremented yet. -/
def Cnt (s : St) : Prop := s.remaining + sumTo s.n (fun i => w3 (s.stage i)) = s.n

theorem cnt_init (n : Nat) : Cnt (init n) := by
  simp [Cnt, init, w3, sumTo_eq_zero]

theorem Cnt.stage {s s' : St} (hc : Cnt s) {i k : Nat} (hi : i < s.n) (hn : s'.n = s.n)
    (hs : s'.stage = upd s.stage i k)
    (hr : s'.remaining + w3 k = s.remaining + w3 (s.stage i)) : Cnt s' := by
  unfold Cnt at hc ⊢
  have := sumTo_upd s.n w3 s.stage i k hi
  rw [hn, hs]
  omega
/-- Once the counter is zero every predecessor's receiver call has decremented. -/
theorem all_decremented (s : St) (hc : Cnt s) (hz : s.remaining = 0) : ∀ i, i < s.n → s.stage i = 3 := by
  unfold Cnt at hc
  rw [hz, Nat.zero_add] at hc
  intro i hi
  have := sumTo_full (f := fun i => w3 (s.stage i)) (by intro i; simp only [w3]; split <;> omega) hc i hi
  simp only [w3] at this
  split at this
  · assumption
  · omega

/-- the call whose decrement reached zero, and the delivery -/
structure W2 (s : St) : Prop where
  lastPc : ∀ t, isLast (s.pc t) = true → t = s.lastT ∧ s.remaining = 0 ∧ s.delivered = 0
  zeroDone : s.remaining = 0 → 0 < s.n → s.delivered = 1 ∨ isLast (s.pc s.lastT) = true
  delOnce : s.delivered = 0 ∨ (s.delivered = 1 ∧ s.remaining = 0)

theorem w2_init (n : Nat) : W2 (init n) := by
  constructor <;> simp [init, isLast] <;> omega


theorem W2.move {s : St} (h2 : W2 s) {t : Nat} {p p' : Pc} (hp : s.pc t = p)
    (hl : isLast p' = isLast p) :
    W2 { s with armedTo := a, pending := pd, firedI := fi, latch := l, err := e, slots := sl,
                pc := upd s.pc t p', result := res, compl := co, stage := st, who := w, first := f } := by
  subst hp
  have el := apply_upd_of_eq isLast hl
  exact ⟨fun u h => h2.lastPc u (el u ▸ h),
    fun hz hn => (h2.zeroDone hz hn).imp id fun h => (el _).trans h, h2.delOnce⟩

/-- The decrement of a call: while the counter is not zero nothing is delivered and nobody is the
    last caller; the decrement that reaches zero makes its thread the last caller. -/
theorem W2.dec {s : St} (h2 : W2 s) {t : Nat} {p' : Pc} {k : Nat} (h0 : s.remaining ≠ 0)
    (hp' : isLast p' = true ↔ k = 0) (hlt : k = 0 → lt = t) :
    W2 { s with armedTo := a, remaining := k, stage := st, lastT := lt, pc := upd s.pc t p' } := by
  obtain ⟨b1, b2, b3⟩ := h2
  constructor <;> dsimp only <;> grind [upd]

theorem W2.rcv {s : St} (h2 : W2 s) {t : Nat} {p' : Pc} (hp : isLast (s.pc t) = true)
    (hp' : isLast p' = false) :
    W2 { s with armedTo := a, delivered := s.delivered + 1, result := res, pc := upd s.pc t p' } := by
  obtain ⟨b1, b2, b3⟩ := h2
  constructor <;> dsimp only <;> grind [upd]

/-! ### the decision -/

/-- the stored error, as a function of the first non-value completion -/
def errOf : Option (Nat × Nat × Int) → Option Int
  | none => none
  | some (_, ch, e) => if ch = 1 then none else some e

/-- latch, error and value slots versus the history of completions -/
structure W3 (s : St) : Prop where
  latchFirst : s.latch = true ↔ s.first ≠ none
  errFirst : s.err = errOf s.first
  firstCompl : ∀ i ch a, s.first = some (i, ch, a) →
    s.compl i = some (ch, a) ∧ ch ≠ 0 ∧ 2 ≤ s.stage i ∧ i < s.n
  valuesStored : s.first = none → ∀ i ch a, 2 ≤ s.stage i → s.compl i = some (ch, a) →
    ch = 0 ∧ s.slots i = some a

theorem w3_init (n : Nat) : W3 (init n) := by
  constructor <;> simp [init, errOf]

theorem two_le_upd {f : Nat → Nat} {i k : Nat} (h : 2 ≤ k ↔ 2 ≤ f i) (j : Nat) :
    2 ≤ upd f i k j ↔ 2 ≤ f j := by
  by_cases hj : j = i
  · subst hj; rw [upd_same]; exact h
  · rw [upd_other _ _ _ _ hj]

/-- `W3` speaks of a predecessor only once its call is past the flag (stage ≥ 2), and does not read
    the other fields written here. -/
theorem W3.congr {s : St} (h3 : W3 s) (hst : ∀ j, 2 ≤ st j ↔ 2 ≤ s.stage j)
    (hco : ∀ j, 2 ≤ s.stage j → co j = s.compl j) :
    W3 { s with armedTo := a, pending := pd, firedI := fi, remaining := r, pc := pc, delivered := d,
                result := res, compl := co, stage := st, who := w, lastT := lt } := by
  refine ⟨h3.latchFirst, h3.errFirst, fun j ch a hf => ?_, fun hf j ch a hj hc => ?_⟩
  · obtain ⟨h1, h2, h3, h4⟩ := h3.firstCompl j ch a hf
    exact ⟨(hco j h3).trans h1, h2, (hst j).mpr h3, h4⟩
  · have := (hst j).mp hj
    exact h3.valuesStored hf j ch a this ((hco j this).symm.trans hc)

theorem W3.frame {s : St} (h3 : W3 s) :
    W3 { s with armedTo := a, pending := pd, firedI := fi, remaining := r, pc := pc, delivered := d,
                result := res, who := w, lastT := lt } :=
  h3.congr (fun _ => Iff.rfl) (fun _ _ => rfl)

theorem W3.pass {s s' : St} {t ch : Nat} (h1 : W1 s) (h3 : W3 s) (h : step s (.sig t ch) = some s') :
    W3 s' := by
  cases Step.of_step h with | @sig _ _ i arg cx sl l er f note hp hs => ?_
  have hco := h1.firedCompl t i ch arg cx hp
  obtain ⟨_, hst, hi, _⟩ := h1.curStage t i (by rw [hp]; rfl)
  replace hst : s.stage i = 1 := by rw [hst, hp]; rfl
  have hup : ∀ j, 2 ≤ upd s.stage i 2 j ↔ j = i ∨ 2 ≤ s.stage j := fun j => by
    by_cases hj : j = i
    · subst hj; simp
    · simp [hj]
  have hfc : ∀ j c a, s.first = some (j, c, a) →
      s.compl j = some (c, a) ∧ c ≠ 0 ∧ 2 ≤ upd s.stage i 2 j ∧ j < s.n := fun j c a hf =>
    have ⟨x, y, z, w⟩ := h3.firstCompl j c a hf
    ⟨x, y, (hup j).mpr (.inr z), w⟩
  have hnone : s.latch = false → s.first = none := fun hl =>
    Decidable.byContradiction fun hf => by have := h3.latchFirst.mpr hf; rw [hl] at this; cases this
  rcases hs with ⟨hl, _, rfl, rfl, rfl, rfl⟩ | ⟨hl, h0, rfl, rfl, rfl, rfl⟩ | ⟨h1, rfl, rfl, rfl, rfl⟩ |
    ⟨hl, h2, rfl, rfl, rfl, rfl⟩
  · -- the flag was set already: the call stores nothing
    exact ⟨h3.latchFirst, h3.errFirst, hfc, fun hf => absurd hf (h3.latchFirst.mp hl)⟩
  · -- a value that finds the flag clear is stored
    refine ⟨h3.latchFirst, h3.errFirst, hfc, fun hf j c a hj hc => ?_⟩
    dsimp only at hj hc ⊢
    by_cases hji : j = i
    · subst hji
      rw [hco] at hc
      obtain ⟨rfl, rfl⟩ : ch = c ∧ arg = a := by simpa using hc
      exact ⟨h0, upd_same _ _ _⟩
    · rw [upd_other _ _ _ _ hji]
      exact h3.valuesStored hf j c a (((hup j).mp hj).resolve_left hji) hc
  · -- stopped: the flag is set, and this completion is the first unless there was one
    cases hf : s.first with
    | some p =>
      refine ⟨⟨fun _ => by simp, fun _ => rfl⟩, by simpa [hf] using h3.errFirst, ?_,
        fun hf' => by simp at hf'⟩
      simpa [hf] using hfc
    | none =>
      refine ⟨⟨fun _ => by simp, fun _ => rfl⟩, by simpa [hf, errOf, h1] using h3.errFirst, ?_,
        fun hf' => by simp at hf'⟩
      intro j c a hj
      obtain ⟨rfl, rfl, rfl⟩ : i = j ∧ ch = c ∧ arg = a := by simpa [hf] using hj
      exact ⟨hco, by omega, (hup i).mpr (.inl rfl), hi⟩
  · -- an error that wins the exchange is the first non-value completion and is stored
    have hf := hnone hl
    refine ⟨⟨fun _ => by simp [hf], fun _ => rfl⟩, ?_, ?_, fun hf' => by simp [hf] at hf'⟩
    · have : ch ≠ 1 := by omega
      simp [hf, errOf, this]
    · intro j c a hj
      obtain ⟨rfl, rfl, rfl⟩ : i = j ∧ ch = c ∧ arg = a := by simpa [hf] using hj
      exact ⟨hco, by omega, (hup i).mpr (.inl rfl), hi⟩


/-! ### the delivered signal -/

theorem enc_congr (f g : Nat → Option Int) : ∀ n, (∀ i, i < n → f i = g i) → enc f n = enc g n
  | 0, _ => rfl
  | k + 1, h => by
    simp only [enc]
    rw [enc_congr f g k (fun i hi => h i (Nat.lt_succ_of_lt hi)), h k (Nat.lt_succ_self k)]

/-- With the counter at zero the code's decision (`finish()`) is the history's decision. -/
theorem decision_eq (s : St) (h1 : W1 s) (hc : Cnt s) (h3 : W3 s) (hz : s.remaining = 0) :
    decision s = decisionG s := by
  have hall := all_decremented s hc hz
  unfold decision decisionG
  cases hf : s.first with
  | none =>
    have hl : s.latch = false := by
      cases h : s.latch with
      | false => rfl
      | true => exact absurd hf (h3.latchFirst.mp h)
    simp only [hl, Bool.not_false, if_true]
    congr 1
    apply enc_congr
    intro i hi
    have hst := hall i hi
    have hne := h1.stageCompl i (by omega)
    simp only [vals]
    cases hci : s.compl i with
    | none => exact absurd hci hne
    | some p =>
      obtain ⟨ch, a⟩ := p
      exact (h3.valuesStored hf i ch a (by omega) hci).2
  | some p =>
    obtain ⟨i, ch, e⟩ := p
    have hl : s.latch = true := h3.latchFirst.mpr (by rw [hf]; simp)
    have he := h3.errFirst
    rw [hf] at he
    simp only [hl, Bool.not_true, Bool.false_eq_true, if_false, he, errOf]
    split <;> simp_all

/-- the delivered signal is the history's decision -/
def W4 (s : St) : Prop := s.delivered = 1 → s.result = some (decisionG s)

theorem w4_init (n : Nat) : W4 (init n) := by simp [W4, init]

/-- The complete inductive invariant of the `when_all` counter model. -/
structure WInv (s : St) : Prop where
  w1 : W1 s
  cnt : Cnt s
  w2 : W2 s
  w3 : W3 s
  w4 : W4 s

theorem winv_init (n : Nat) : WInv (init n) :=
  ⟨w1_init n, cnt_init n, w2_init n, w3_init n, w4_init n⟩

theorem WInv.move {s : St} (hi : WInv s) {t : Nat} {p p' : Pc} (hp : s.pc t = p)
    (hc : curOf p' = curOf p) (hs : stOf p' = stOf p) (hf : stOf p' ≠ 1) (hl : isLast p' = isLast p) :
    WInv { s with armedTo := a, pending := pd, pc := upd s.pc t p' } :=
  ⟨hi.w1.move hp hc hs hf, hi.cnt, hi.w2.move hp hl, hi.w3.frame, hi.w4⟩

theorem step_winv (s s' : St) (e : Ev) (hi : WInv s) (h : step s e = some s') : WInv s' := by
  have ⟨h1, hc, h2, h3, h4⟩ := hi
  have hcall : ∀ {t i p}, s.pc t = p → curOf p = some i → i < s.n ∧ s.stage i = stOf p :=
    fun hp hi => by subst hp; exact ⟨(h1.curStage _ _ hi).2.2.1, (h1.curStage _ _ hi).2.1⟩
  have hall : s.delivered = 1 → ∀ i, i < s.n → s.stage i = 3 := fun hd => by
    rcases h2.delOnce with h0 | ⟨_, hz⟩
    · omega
    · exact all_decremented s hc hz
  cases Step.of_step h with
  | @fire t i ch arg cx hfi _ hi hp =>
    have h0 := h1.stage_eq_zero hfi
    have hp' : ∃ p, s.pc t = p ∧ curOf p = none ∧ isLast p = false := by
      rcases hp with hp | hp <;> exact ⟨_, hp, rfl, rfl⟩
    obtain ⟨p, hp, hcp, hlp⟩ := hp'
    refine ⟨h1.enter (hp ▸ hcp) hfi hi, hc.stage hi rfl rfl (by rw [h0]; rfl), h2.move hp hlp.symm,
      h3.congr (two_le_upd (by omega)) fun j hj => upd_other _ _ _ _ (by rintro rfl; omega), fun hd => ?_⟩
    -- the signal is not delivered before every predecessor has completed
    have : s.stage i ≠ 0 := by rw [hall hd i hi]; decide
    exact absurd h0 this
  | @sig t ch i arg cx sl l er f note hp hs =>
    have hcur : curOf (s.pc t) = some i := by rw [hp]; rfl
    obtain ⟨hi, hst⟩ := hcall hp rfl
    -- no receiver call is in progress once the signal was delivered
    have hnd : s.delivered ≠ 1 := fun hd => by rw [hall hd i hi] at hst; cases hst
    exact ⟨h1.toStage hcur (.inl ⟨rfl, rfl, by decide⟩) (by decide) (by simp [stOf]),
      hc.stage hi rfl rfl (by rw [hst]; rfl), h2.move hp (by rfl), h3.pass h1 h, fun hd => absurd hd hnd⟩
  | @dec t i cx a k lt p' hp h0 hk hd =>
    have hcur : curOf (s.pc t) = some i := by rw [hp]; rfl
    obtain ⟨hi, hst⟩ := hcall hp rfl
    have hw : w3 3 = w3 (s.stage i) + 1 := by rw [hst]; rfl
    have hle : 2 ≤ 3 ↔ 2 ≤ s.stage i := by rw [hst]; simp [stOf]
    -- the thread is the last caller iff its decrement reached zero; otherwise it returns
    obtain ⟨hcp, hsp, hlp, hlt⟩ : curOf p' = none ∧ stOf p' ≠ 1 ∧ (isLast p' = true ↔ k = 0) ∧ (k = 0 → lt = t) := by
      rcases hd with ⟨hr, _, rfl, rfl⟩ | ⟨hr, _, _, rfl⟩
      · exact ⟨rfl, by simp [stOf], by simp [isLast]; omega, fun _ => rfl⟩
      · have : k ≠ 0 := by omega
        exact ⟨curOf_retPc cx, by simp, by simp [this], fun h => absurd h this⟩
    exact ⟨h1.toStage hcur (.inr ⟨hcp, rfl⟩) (Nat.le_refl 3) hsp, hc.stage hi rfl rfl (by dsimp only; omega),
      h2.dec h0 hlp hlt, h3.congr (two_le_upd hle) fun _ _ => rfl, h4⟩
  | @rcv t ch v cx hp hd =>
    have hla : isLast (s.pc t) = true := by rw [hp]; rfl
    exact ⟨h1.move hp (curOf_retPc cx) (stOf_retPc cx) (by simp), hc, h2.rcv hla (isLast_retPc cx),
      h3.frame, fun _ => congrArg some (hd.trans (decision_eq s h1 hc h3 (h2.lastPc t hla).2.1))⟩
  | _ => exact hi.move (by assumption) (by rfl) (by rfl) (by simp [stOf]) (by rfl)

theorem winv_of_accepted {n : Nat} {log : List Ev} {s : St}
    (h : runLog step (init n) log = some s) : WInv s :=
  inv_of_runLog WInv (fun s e s' => step_winv s s' e) (winv_init n) h

/-- `n` never changes. -/
theorem step_n {s s' : St} {e : Ev} (h : step s e = some s') : s'.n = s.n := by
  cases Step.of_step h <;> rfl

theorem n_of_accepted {n : Nat} {log : List Ev} {s : St}
    (h : runLog step (init n) log = some s) : s.n = n :=
  inv_of_runLog (fun s => s.n = n) (fun _ _ _ hn hs => (step_n hs).trans hn) rfl h

end PikaVerif.WhenAll

