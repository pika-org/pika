import PikaVerif.Lemmas.OnceU2
/-!
# Life cycle of the `k` callers of `call_once` (C09u): invariant of the program layer
-/
namespace PikaVerif.Once

theorem wDone_ne (c : Ctx) : wDone c ≠ .idle ∧ wDone c ≠ .fin := by cases c <;> simp [wDone]
theorem sDone_ne (c : Ctx) : sDone c ≠ .idle ∧ sDone c ≠ .fin := by cases c <;> simp [sDone]
theorem popd_idle (p : Pc) : (popd p = .idle ↔ p = .idle) ∧ (popd p = .fin ↔ p = .fin) := by
  cases p <;> simp [popd]

/-- Events other than `inv`, `ret`, `done` leave every thread's "between operations" / "finished"
    status and its current operation unchanged: they move a thread that is inside an operation to
    another program counter inside it. -/
theorem step_other {s s' : St} {e : Ev} (h : step s e = some s') (h1 : ∀ t o, e ≠ .inv t o)
    (h2 : ∀ t r, e ≠ .ret t r) (h3 : ∀ t, e ≠ .done t) :
    ∀ u, (s'.pc u = .idle ↔ s.pc u = .idle) ∧ (s'.pc u = .fin ↔ s.pc u = .fin) ∧
      s'.curOp u = s.curOp u := by
  have hw := wDone_ne
  have hsd := sDone_ne
  have hpo := popd_idle
  cases Step.of h with
  | inv t o => exact absurd rfl (h1 t o)
  | ret t r | occ t r => exact absurd rfl (h2 t r)
  | done t => exact absurd rfl (h3 t)
  | _ => intro u; grind [upd]

/-- life cycle of caller `t`: not yet called / inside `call_once` / returned with a recorded
    result `r` (0 = normally, only once a completion was stored; 2 = its own exception) -/
def CallerOk (thr : Nat → Bool) (p : PSt) (t : Nat) : Prop :=
  (p.prog t = [.call (thr t)] ∧ p.s.pc t = .idle ∧ p.res t = none ∧ p.s.curOp t = .occ) ∨
  (p.prog t = [] ∧ p.s.curOp t = .call (thr t) ∧
    ((p.res t = none ∧ p.s.pc t ≠ .idle ∧ p.s.pc t ≠ .fin) ∨
     ((p.s.pc t = .idle ∨ p.s.pc t = .fin) ∧ ∃ r, p.res t = some r ∧ (r = 0 → 0 < p.s.completions) ∧
        (r = 0 ∨ (r = 2 ∧ thr t = true)))))

/-- The invariant of the program layer for `k` callers with throwing pattern `thr`: every caller is in
    its life cycle (`st`), a callable that did not throw was entered only if some callable does not
    throw (`ok`), and no stand-alone `reset` ever happened (`noTop`). -/
structure J (thr : Nat → Bool) (p : PSt) : Prop where
  st : ∀ t, CallerOk thr p t
  ok : 0 < p.s.okRuns → ∃ u, u < p.s.n ∧ thr u = false
  noTop : p.s.topResets = 0

theorem J_init (thr : Nat → Bool) (k : Nat) : J thr (pinit k (callers thr)) := by
  refine ⟨?_, ?_, rfl⟩
  · intro t; left; simp [pinit, callers, init]
  · intro h; simp [pinit, init] at h

theorem callerOk_transfer {thr : Nat → Bool} {p p' : PSt} (t : Nat)
    (hprog : p'.prog t = p.prog t) (hres : p'.res t = p.res t) (hcur : p'.s.curOp t = p.s.curOp t)
    (hidle : p'.s.pc t = .idle ↔ p.s.pc t = .idle) (hfin : p'.s.pc t = .fin ↔ p.s.pc t = .fin)
    (hc : p.s.completions ≤ p'.s.completions) (h : CallerOk thr p t) : CallerOk thr p' t := by
  unfold CallerOk at h ⊢
  rw [hprog, hres, hcur]
  rcases h with ⟨a1, a2, a3, a4⟩ | ⟨b1, b2, ⟨c1, c2, c3⟩ | ⟨d1, r, d2, d3, d4⟩⟩
  · exact Or.inl ⟨a1, hidle.mpr a2, a3, a4⟩
  · exact Or.inr ⟨b1, b2, Or.inl ⟨c1, fun h => c2 (hidle.mp h), fun h => c3 (hfin.mp h)⟩⟩
  · refine Or.inr ⟨b1, b2, Or.inr ⟨?_, r, d2, fun h => Nat.lt_of_lt_of_le (d3 h) hc, d4⟩⟩
    rcases d1 with d1 | d1
    · exact Or.inl (hidle.mpr d1)
    · exact Or.inr (hfin.mpr d1)


theorem J_step (thr : Nat → Bool) {p p' : PSt} {e : Ev} (hA : Inv p.s) (hM : InvM p.s) (hJ : J thr p)
    (h : pstep p e = some p') : J thr p' := by
  have hs := pstep_step h
  obtain ⟨hn, hok, hcm, htop⟩ := step_counters hs
  have hc : p.s.completions ≤ p'.s.completions := by omega
  clear hcm
  -- a caller past `inv` has `curOp = call _`, so it is not at a program counter of another operation
  have hcall : ∀ t, p.s.pc t ≠ .idle → ∃ b, p.s.curOp t = .call b := fun t ht =>
    (hJ.st t).elim (fun a => absurd a.2.1 ht) fun b => ⟨_, b.2.1⟩
  refine ⟨?_, fun hpos => ?_, ?_⟩
  · cases e with
    | inv t o =>
      obtain ⟨rest, hp, hp'⟩ := pstep_inv h
      have hres : p'.res = p.res := pstep_res h
      obtain ⟨_, f1, hpc, hop⟩ := step_inv hs
      intro u
      by_cases hu : u = t
      · subst hu
        rcases hJ.st u with ⟨a1, a2, a3, a4⟩ | ⟨b1, _⟩
        · rw [hp] at a1
          simp only [List.cons.injEq] at a1
          right
          refine ⟨by rw [hp']; simp [a1.2], by rw [hop, upd_same]; exact a1.1,
            Or.inl ⟨by rw [hres]; exact a3, ?_, ?_⟩⟩ <;> rw [hpc, upd_same, a1.1] <;> exact nofun
        · rw [hp] at b1; cases b1
      · exact callerOk_transfer u (by rw [hp']; simp [upd, hu]) (by rw [hres])
          (by rw [hop, upd_other _ _ _ _ hu]) (by rw [hpc, upd_other _ _ _ _ hu])
          (by rw [hpc, upd_other _ _ _ _ hu]) hc (hJ.st u)
    | ret t r =>
      have hprog := (pstep_other h nofun).1
      have hres : p'.res = upd p.res t (some r) := pstep_res h
      obtain ⟨_, f1, hpc, hop⟩ := step_ret hs
      intro u
      by_cases hu : u = t
      · subst hu
        have hopOk := hA.opOk u
        rcases hJ.st u with ⟨_, a2, _⟩ | ⟨b1, b2, ⟨c1, c2, c3⟩ | ⟨d1, _⟩⟩
        · rw [a2] at f1; rcases f1 with f1 | ⟨f1, _⟩ <;> cases f1
        · have hpcu : p.s.pc u = .retn r := by
            rcases f1 with f1 | ⟨f1, _⟩
            · exact f1
            · rw [f1, b2] at hopOk; simp [pcOpOk] at hopOk
          right
          refine ⟨by rw [hprog]; exact b1, by rw [hop]; exact b2,
            Or.inr ⟨Or.inl (by rw [hpc, upd_same]), r, by rw [hres]; simp, ?_, ?_⟩⟩
          · intro hr0
            subst hr0
            have hst := hM.complete u (by rw [hpcu, b2]; rfl)
            have hcm := hM.compl
            rw [if_pos hst] at hcm
            omega
          · rcases hM.retOk u r hpcu with h0 | h2
            · exact Or.inl h0
            · subst h2
              have hx := hM.excOk u hpcu
              rw [hx] at b2
              exact Or.inr ⟨rfl, by simpa using b2.symm⟩
        · rcases d1 with d1 | d1 <;> rw [d1] at f1 <;> rcases f1 with f1 | ⟨f1, _⟩ <;> cases f1
      · exact callerOk_transfer u (by rw [hprog]) (by rw [hres]; simp [upd, hu]) (by rw [hop])
          (by rw [hpc, upd_other _ _ _ _ hu]) (by rw [hpc, upd_other _ _ _ _ hu]) hc (hJ.st u)
    | done t =>
      have hprog := (pstep_other h nofun).1
      have hres : p'.res = p.res := pstep_res h
      have hpe := (pstep_other h nofun).2 t rfl
      obtain ⟨_, f1, hpc, hop⟩ := step_done hs
      intro u
      by_cases hu : u = t
      · subst hu
        rcases hJ.st u with ⟨a1, _⟩ | ⟨b1, b2, ⟨c1, c2, c3⟩ | ⟨d1, r, d2, d3, d4⟩⟩
        · rw [hpe] at a1; cases a1
        · exact absurd f1 c2
        · right
          exact ⟨by rw [hprog]; exact b1, by rw [hop]; exact b2,
            Or.inr ⟨Or.inr (by rw [hpc, upd_same]), r, by rw [hres]; exact d2,
              fun h => Nat.lt_of_lt_of_le (d3 h) hc, d4⟩⟩
      · exact callerOk_transfer u (by rw [hprog]) (by rw [hres]) (by rw [hop])
          (by rw [hpc, upd_other _ _ _ _ hu]) (by rw [hpc, upd_other _ _ _ _ hu]) hc (hJ.st u)
    | _ =>
      have hprog := (pstep_other h nofun).1
      have hres : p'.res = p.res := pstep_res h
      have hfr := step_other hs nofun nofun nofun
      intro u
      obtain ⟨g1, g2, g3⟩ := hfr u
      exact callerOk_transfer u (by rw [hprog]) (by rw [hres]) g3 g1 g2 hc (hJ.st u)
  · -- a callable that does not throw was entered: its caller is the witness
    rw [hn]
    by_cases hb : ∃ t, e = .body t false
    · obtain ⟨t, rfl⟩ := hb
      obtain ⟨htn, hpc⟩ := step_body hs
      obtain ⟨b, hb⟩ := hcall t (by rw [hpc]; nofun)
      have hop := hA.opOk t
      rw [hpc, hb] at hop
      rcases hJ.st t with ⟨_, a2, _⟩ | ⟨_, b2, _⟩
      · rw [hpc] at a2; cases a2
      · rw [hb] at b2
        refine ⟨t, htn, ?_⟩
        cases b2; simpa [pcOpOk] using hop.symm
    · have : p'.s.okRuns = p.s.okRuns := by
        rw [hok]; split
        · exact absurd ⟨_, rfl⟩ hb
        · rfl
      exact hJ.ok (this ▸ hpos)
  · -- no caller is inside a stand-alone `reset`
    rcases htop with h1 | ⟨t, hpc⟩
    · rw [h1]; exact hJ.noTop
    · obtain ⟨b, hb⟩ := hcall t (by rw [hpc]; nofun)
      have hop := hA.opOk t
      rw [hpc, hb] at hop
      cases hop

theorem J_of_accepted (thr : Nat → Bool) (k : Nat) (log : List Ev) (p' : PSt)
    (h : runLog pstep (pinit k (callers thr)) log = some p') : Inv p'.s ∧ InvM p'.s ∧ J thr p' :=
  inv_of_runLog (fun p => Inv p.s ∧ InvM p.s ∧ J thr p)
    (fun _ _ _ hi hs => have hm := inv_step hi.1 hi.2.1 (pstep_step hs)
      ⟨hm.1, hm.2, J_step thr hi.1 hi.2.1 hi.2.2 hs⟩)
    ⟨inv_init k, invM_init k, J_init thr k⟩ h

end PikaVerif.Once
