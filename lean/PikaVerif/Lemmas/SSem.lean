import PikaVerif.Lemmas.SSemStep
import PikaVerif.Core.CvQueue
/-! Invariants of the sliding semaphore model: structural part. -/
namespace PikaVerif.SSem

/-- Program counters at which the thread holds the internal spinlock. -/
def holds : Pc → Bool
  | .locked _ _ _ | .lockedSig _ | .enq _ | .relk _ _ | .passed | .refused
  | .sigL _ _ | .sigRes _ _ _ | .sigFin => true
  | _ => false

/-- Program counters at which the thread's entry is linked in the cv queue. -/
def inQ : Pc → Bool
  | .enq _ => true
  | .unl _ p | .susp _ p | .wokeNL _ p | .relk _ p => !p
  | _ => false

/-- upper limit a queued waiter is waiting for -/
def ubound : Pc → Option Int
  | .enq u | .unl u _ | .susp u _ | .wokeNL u _ | .relk u _ => some u
  | _ => none

/-- notifications a signaller will still issue -/
def weight : Pc → Nat
  | .sigL i n => n - i
  | .sigRes i n _ => n - i - 1
  | .sigNL i n => n - i
  | _ => 0

def budget (s : St) : Nat := sumTo s.n (fun t => weight (s.pc t))

structure Inv1 (s : St) : Prop where
  lockHolder : ∀ t, holds (s.pc t) = true → s.lock = some t
  outside : ∀ t, s.n ≤ t → s.pc t = .idle
  qIff : ∀ t, t ∈ s.queue ↔ inQ (s.pc t) = true
  qNodup : s.queue.Nodup
  /-- `notify_one` reports "nobody left" only when it found the queue empty -/
  noneEmpty : ∀ t i n, s.pc t = .sigRes i n false → s.queue = []
  /-- a notified waiter that has not yet woken up owns a wake-up token (no lost wake-up) -/
  wake : ∀ t u, (s.pc t = .unl u true ∨ s.pc t = .susp u true) → 0 < s.tok t
  /-- the notify loop is at its head only with iterations left -/
  sigLt : ∀ t i n, s.pc t = .sigL i n → i < n

theorem inv1_init (n : Nat) (d l : Int) : Inv1 (init n d l) := by
  refine ⟨?_, ?_, ?_, ?_, ?_, ?_, ?_⟩ <;> simp [init, holds, inQ]

/-- What `setPopped` does to the classifying functions: a popped waiter was queued, does not hold
    the lock, keeps its upper limit, and is not a signaller. -/
theorem setPopped_inv {p p' : Pc} (h : setPopped p = some p') :
    inQ p = true ∧ inQ p' = false ∧ holds p' = false ∧ ubound p' = ubound p ∧
    weight p = 0 ∧ weight p' = 0 ∧ (∀ i n b, p' ≠ .sigRes i n b) ∧ (∀ i n, p' ≠ .sigL i n) := by
  unfold setPopped at h
  split at h <;> cases h <;> simp [inQ, holds, ubound, weight]

/-- The part of the invariant that speaks of the lock, the queue and the tokens. -/
def Core (s : St) : Prop :=
  CvInv holds inQ (fun p => ∃ u, p = .unl u true ∨ p = .susp u true) .idle s.n s.pc s.lock s.queue s.tok

theorem Inv1.core {s : St} (hi : Inv1 s) : Core s :=
  ⟨hi.lockHolder, hi.outside, hi.qIff, hi.qNodup, fun t ⟨u, h⟩ => hi.wake t u h⟩

/-- What a step must satisfy beyond `Core`: the two clauses particular to the signal loop. -/
theorem Inv1.of_core {s : St} (hc : Core s) (hne : ∀ t i n, s.pc t = .sigRes i n false → s.queue = [])
    (hlt : ∀ t i n, s.pc t = .sigL i n → i < n) : Inv1 s :=
  ⟨hc.lockHolder, hc.outside, hc.qIff, hc.qNodup, hne, fun t u h => hc.wake t ⟨u, h⟩, hlt⟩

theorem Inv1.lt_of_mem {s : St} (hi : Inv1 s) {g : Nat} : g ∈ s.queue → g < s.n := hi.core.lt_of_mem rfl

/-- The front waiter of a non-empty queue is not the lock holder, so `notify_one` can mark it. -/
theorem Inv1.front_poppable {s : St} (hi : Inv1 s) {t : Nat} (hl : s.lock = some t) {g : Nat} {rest : List Nat}
    (hq : s.queue = g :: rest) (hp : inQ (s.pc t) = false) : ∃ p', setPopped (s.pc g) = some p' := by
  obtain ⟨hg, hnh, -, -⟩ := hi.core.front rfl hl hp hq
  cases hpg : s.pc g <;> simp [hpg, inQ, holds] at hg hnh <;> simp [setPopped, hg]

/-- The recorded lock holder is a thread of the system at a lock-holding pc. -/
def LockConv (s : St) : Prop := ∀ r, s.lock = some r → holds (s.pc r) = true ∧ r < s.n

/-- Every event moves the lock, the queue and the tokens together with one program counter (`notify_one`:
    two); the same moves keep the converse of `lockHolder`. -/
theorem Core.step {s s' : St} {e : Ev} (hc : Core s) (h : Step s e s') : Core s' ∧ (LockConv s → LockConv s') := by
  cases h with
  | inv htn hp | ret htn hp | done htn hp | pass htn _ hp | wokePopped htn _ hp | cvNone htn _ hp =>
    exact hc.move_conv htn (.same (by rw [hp]; rfl)) (.same (by rw [hp]; rfl)) (fun _ _ => rfl) (by simp)
  | suspend htn hp =>
    exact hc.move_conv htn (.same (by rw [hp]; rfl)) (.same (by rw [hp]; rfl)) (fun _ _ => rfl)
      fun ⟨x, h⟩ => hc.wake _ ⟨x, .inl (by simpa [hp] using h)⟩
  | woke htn hp =>
    exact hc.move_conv htn (.same (by rw [hp]; rfl)) (.same (by rw [hp]; rfl)) (fun u hu => upd_other _ _ _ _ hu) (by simp)
  | sig htn hl hp =>
    exact hc.move_conv htn (.held hl (by split <;> rfl)) (.same (by rw [hp]; split <;> rfl)) (fun _ _ => rfl) (by split <;> simp)
  | acqWait htn hl hp | acqTry htn hl hp | acqSig htn hl hp | acqWoke htn hl hp =>
    exact hc.move_conv htn (.acq hl rfl) (.same (by rw [hp]; rfl)) (fun _ _ => rfl) (by simp)
  | acqLoop htn hl hp =>
    exact hc.move_conv htn (.acq hl (by split <;> rfl)) (.same (by rw [hp]; split <;> rfl)) (fun _ _ => rfl) (by split <;> simp)
  | relEnq htn hl hp | relPassed htn hl hp | relRefused htn hl hp | relTry htn hl hp | relFin htn hl hp =>
    exact hc.move_conv htn (.rel hl rfl) (.same (by rw [hp]; rfl)) (fun _ _ => rfl) (by simp)
  | relRes htn hl hp =>
    exact hc.move_conv htn (.rel hl (by split <;> rfl)) (.same (by rw [hp]; split <;> rfl)) (fun _ _ => rfl) (by split <;> simp)
  | cvEnq htn hl hp => exact hc.move_conv htn (.held hl rfl) (.enq (by rw [hp]; rfl) rfl) (fun _ _ => rfl) (by simp)
  | wokeSpurious htn hl => exact hc.move_conv htn (.held hl rfl) (.erase rfl) (fun _ _ => rfl) (by simp)
  | pop htn hl hp hq hp' =>
    obtain ⟨-, hq', hh', -⟩ := setPopped_inv hp'
    refine ⟨hc.pop htn rfl hq (by rw [hp]; rfl) ⟨hq', hh'⟩ hl (by rw [hp]; rfl) rfl
      (fun u hu => upd_other _ _ _ _ hu) (fun _ => by simp) (by simp), fun _ r hr => ?_⟩
    -- the lock stays with the notifier
    obtain rfl := Option.some.inj (hl.symm.trans hr)
    exact ⟨by show holds (upd _ _ _ _) = true; rw [upd_same]; rfl, htn⟩

/-- Thread `t` moves to `p'` without touching the queue: the two particular clauses are pointwise in the
    program counters. -/
theorem Inv1.move {s s' : St} (hi : Inv1 s) {t : Nat} {p' : Pc} (hc : Core s')
    (hpc : s'.pc = upd s.pc t p') (hqu : s'.queue = s.queue)
    (hne : ∀ i n, p' = .sigRes i n false → s.queue = []) (hlt : ∀ i n, p' = .sigL i n → i < n) : Inv1 s' := by
  refine .of_core hc ?_ ?_ <;> rw [hpc]
  · rw [hqu]; exact forall_upd (P := fun _ p => ∀ i n, p = Pc.sigRes i n false → s.queue = []) hi.noneEmpty hne
  · exact forall_upd (P := fun _ p => ∀ i n, p = Pc.sigL i n → i < n) hi.sigLt hlt

theorem Inv1.step {s s' : St} {e : Ev} (hi : Inv1 s) (h : step s e = some s') : Inv1 s' := by
  have hc := (hi.core.step (step_iff.1 h)).1
  cases step_iff.1 h with
  | inv | ret | done | pass | wokePopped | suspend | woke | acqWait | acqTry | acqSig | acqWoke | relEnq | relPassed
  | relRefused | relTry | relFin => exact hi.move hc rfl rfl nofun nofun
  | cvNone _ _ _ hq => exact hi.move hc rfl rfl (fun _ _ _ => hq) nofun
  | relRes => exact hi.move hc rfl rfl (fun i n => by split <;> nofun) (fun i n => by split <;> nofun)
  | sig | acqLoop =>
    -- the notify loop is entered, and re-entered, only with iterations left
    refine hi.move hc rfl rfl (fun i n => by split <;> nofun) (fun i n => ?_)
    split
    · next hz => intro h; cases h; exact hz
    · nofun
  | @cvEnq t _ _ _ hl hp =>
    refine .of_core hc (fun u i n => ?_) (forall_upd (P := fun _ p => ∀ i n, p = Pc.sigL i n → i < n) hi.sigLt nofun)
    -- a thread at `sigRes` holds the lock, so it is `t`, which is at `enq` now
    have := hi.core.holder hl (u := u)
    simp only [upd_apply]; grind [holds]
  | wokeSpurious =>
    refine .of_core hc (fun u i n => ?_) (forall_upd (P := fun _ p => ∀ i n, p = Pc.sigL i n → i < n) hi.sigLt nofun)
    have := hi.noneEmpty u i n
    simp only [upd_apply]; grind
  | pop _ _ hp hq hp' =>
    obtain ⟨-, -, -, -, -, -, hres, hsig⟩ := setPopped_inv hp'
    refine .of_core hc (fun u i' n' => ?_) (fun u i' n' => ?_)
    · have := hi.noneEmpty u i' n'
      simp only [upd_apply]; grind
    · have := hi.sigLt u i' n'
      simp only [upd_apply]; grind

end PikaVerif.SSem
