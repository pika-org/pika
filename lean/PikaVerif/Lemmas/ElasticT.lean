import PikaVerif.Lemmas.Elastic
import PikaVerif.Core.Run
import PikaVerif.Core.Sum
/-! Termination measure of the `Elastic` model (C19t): potential per worker, event classes,
    the step inequality and its sum over a log. -/
namespace PikaVerif.Elastic

/-- steps a worker still owes on its sleep path: `pre_sleep` seen in the loop = 6 (commit, store,
    enter wait, be notified, wake up, CAS back), … , woken = 1 -/
def pathPot (x : Wk) : Nat :=
  match x.pc with
  | .loop => if x.st = rsPreSleep then 6 else 0
  | .commit => 5
  | .stored => 4
  | .waiting => if x.notified then 2 else 3
  | .woken => 1

/-- potential of a worker: sleep path + queued tasks + a held pu mutex (model hold) -/
def pot (x : Wk) : Nat := pathPot x + x.q + (if x.lk.isSome then 1 else 0)

def apot : APc → Nat
  | .idle => 0
  | .refused => 1

/-- the measure over workers / actors `0 … N-1` -/
def mu (N : Nat) (s : St) : Nat :=
  sumTo N (fun w => pot (s.wk w)) + s.lowq + sumTo N (fun a => apot (s.apc a))

/-- **sources**: what the environment (controller calls, submitters) puts in; the weight is the
    potential it adds: a placement 1, a successful selection (pu mutex taken) 1, the pu mutex of a
    suspend call 1, a CAS `running → pre_sleep` 6, a refusal 1 -/
def weight : Ev → Nat
  | .inc _ _ => 1
  | .incLow _ => 1
  | .sel _ _ _ _ _ ok => if ok then 1 else 0
  | .slock _ _ => 1
  | .cas _ _ b _ => if b = rsRunning then 6 else 0
  | .ucas _ _ b _ => if b = rsRunning then 6 else 0
  | .refuse _ => 1
  | _ => 0

/-- **moves** (by the event alone): the runtime's steps that consume potential -/
def moves : Ev → Bool
  | .chk _ v c => decide (v = rsPreSleep) && c
  | .sleep _ => true
  | .wait _ => true
  | .woke _ => true
  | .wake _ _ _ => true
  | .dec _ _ => true
  | .decLow _ => true
  | .sunl _ _ => true
  | _ => false

/-- **effective** events in a state: the moves, plus the three events that are a move or an exact
    stutter depending on the state: `unl` (releases a model hold or had none), `notify` (first
    notify of a waiting worker, or lost / repeated), `ret` (ends a refused call, or any other return) -/
def eff (s : St) : Ev → Bool
  | .unl _ w => (s.wk w).lk.isSome
  | .notify _ w => decide ((s.wk w).pc = .waiting) && !(s.wk w).notified
  | .ret a => decide (s.apc a = .refused)
  | e => moves e

/-- **neutral** events: neither source nor possibly effective — loop rounds and polls -/
def neutral : Ev → Bool
  | .start _ _ _ => true
  | .top _ _ => true
  | .qlen _ _ _ => true
  | .chk _ v c => !(decide (v = rsPreSleep) && c)
  | .sel _ _ _ _ _ ok => !ok
  | .cas _ _ b _ => decide (b ≠ rsRunning)
  | .ucas _ _ b _ => decide (b ≠ rsRunning)
  | .sdone _ _ _ => true
  | .rload _ _ _ => true
  | _ => false

def b2n (b : Bool) : Nat := if b then 1 else 0

/-- index range: the worker (or, for `refuse` / `ret`, the actor) the event is about is `< N` -/
def inR (N : Nat) : Ev → Bool
  | .start _ w _ => decide (w < N)
  | .top w _ => decide (w < N)
  | .qlen _ w _ => decide (w < N)
  | .chk w _ _ => decide (w < N)
  | .sleep w => decide (w < N)
  | .wait w => decide (w < N)
  | .woke w => decide (w < N)
  | .wake w _ _ => decide (w < N)
  | .inc _ w => decide (w < N)
  | .dec _ w => decide (w < N)
  | .incLow _ => true
  | .decLow _ => true
  | .sel _ w _ _ _ _ => decide (w < N)
  | .unl _ w => decide (w < N)
  | .slock _ w => decide (w < N)
  | .cas _ w _ _ => decide (w < N)
  | .sunl _ w => decide (w < N)
  | .sdone _ w _ => decide (w < N)
  | .ucas _ w _ _ => decide (w < N)
  | .notify _ w => decide (w < N)
  | .rload _ w _ => decide (w < N)
  | .refuse a => decide (a < N)
  | .ret a => decide (a < N)

/-- the index the event is about (for `keyBound`) -/
def evKey : Ev → Nat
  | .start _ w _ => w
  | .top w _ => w
  | .qlen _ w _ => w
  | .chk w _ _ => w
  | .sleep w => w
  | .wait w => w
  | .woke w => w
  | .wake w _ _ => w
  | .inc _ w => w
  | .dec _ w => w
  | .incLow _ => 0
  | .decLow _ => 0
  | .sel _ w _ _ _ _ => w
  | .unl _ w => w
  | .slock _ w => w
  | .cas _ w _ _ => w
  | .sunl _ w => w
  | .sdone _ w _ => w
  | .ucas _ w _ _ => w
  | .notify _ w => w
  | .rload _ w _ => w
  | .refuse a => a
  | .ret a => a

theorem inR_of_key (N : Nat) (e : Ev) (h : evKey e < N) : inR N e = true := by
  cases e <;> simp_all [inR, evKey]

theorem mu_init (N : Nat) (cfg : Cfg) : mu N (init cfg) = 0 := by
  have h1 : sumTo N (fun w => pot ((init cfg).wk w)) = 0 := sumTo_eq_zero (fun t _ => by simp [init, pot, pathPot])
  have h2 : sumTo N (fun a => apot ((init cfg).apc a)) = 0 := sumTo_eq_zero (fun t _ => by simp [init, apot])
  simp only [mu, h1, h2]
  rfl


theorem mu_step_wk {N : Nat} {s : St} {w : Nat} {x' : Wk} {k g : Nat} (hw : decide (w < N) = true)
    (h : k + pot x' ≤ pot (s.wk w) + g) : k + mu N { s with wk := upd s.wk w x' } ≤ mu N s + g := by
  have := sumTo_upd N pot s.wk w x' (of_decide_eq_true hw)
  simp only [mu]
  omega

theorem mu_step_apc {N : Nat} {s : St} {a : Nat} {p : APc} {k g : Nat} (ha : decide (a < N) = true)
    (h : k + apot p ≤ apot (s.apc a) + g) : k + mu N { s with apc := upd s.apc a p } ≤ mu N s + g := by
  have := sumTo_upd N apot s.apc a p (of_decide_eq_true ha)
  simp only [mu]
  omega

variable {s s' : St} {e : Ev} {w : Nat} {x' : Wk}

attribute [local simp] eff moves weight pot pathPot b2n rsRunning rsPreSleep rsSleeping in
/-- the step inequality at the one worker whose record the event replaces -/
theorem WkStep.pot_le (h : WkStep s w (s.wk w) e x') (hi : WInv (s.wk w)) :
    b2n (eff s e) + pot x' ≤ pot (s.wk w) + weight e := by
  cases h with
  | start hg => simp [hg.2.2]
  | top hg => simp [hg.2]
  | chkCommit hg hc => simp_all; omega
  | chkStay hg hc => simp [hg.2.1]; rw [if_neg hc]; omega
  | wake hg =>
    -- the worker on its way out of `wait` is `sleeping`: the CAS sets `running`
    have hst := hi.asleep hg.1
    simp_all; omega
  | cas hg | ucas hg =>
    -- `running → pre_sleep` puts a worker that is in its loop six steps from `running` again
    rcases casResult_cases (s.wk w).st with ⟨h1, h2⟩ | ⟨h1, h2⟩ <;> cases hpc : (s.wk w).pc <;>
      simp_all <;> omega
  | woke hg | wait hg | notify hg => cases hn : (s.wk w).notified <;> simp [hg, hn] <;> omega
  | sel hg hok hl => subst hok; simp [hl]
  | _ => simp [*] <;> omega

/-- **Step inequality.**  In a state satisfying the invariant, an accepted event about an index
    `< N` changes the measure by at most its weight, and an effective event pays 1. -/
theorem mu_step (N : Nat) (hi : Inv s) (hr : inR N e = true) (h : step s e = some s') :
    b2n (eff s e) + mu N s' ≤ mu N s + weight e := by
  cases Step.of_step h with
  | @wk _ w _ hw =>
    have : inR N e = decide (w < N) := by cases hw <;> rfl
    exact mu_step_wk (this ▸ hr) (hw.pot_le (hi w))
  | refuse hg => exact mu_step_apc hr (by simp [apot, hg, eff, moves, weight, b2n])
  | @ret a => exact mu_step_apc hr (by cases hp : s.apc a <;> simp [apot, hp, eff, weight, b2n])
  | incLow | decLow hg => simp [mu, eff, moves, weight, b2n]; omega
  | _ => simp [eff, moves, weight, b2n, *]

/-! ## Sum over a log; the index range of a log -/

/-- number of effective events along the run of `log` from `s` -/
def nEff (s : St) : List Ev → Nat
  | [] => 0
  | e :: es => match step s e with
    | none => 0
    | some s' => b2n (eff s e) + nEff s' es

/-- number of moves (event-determined class) of a log -/
def nMoves : List Ev → Nat
  | [] => 0
  | e :: es => b2n (moves e) + nMoves es

/-- total weight of the sources of a log -/
def wsum : List Ev → Nat
  | [] => 0
  | e :: es => weight e + wsum es

theorem moves_le_eff (s : St) (e : Ev) : b2n (moves e) ≤ b2n (eff s e) := by
  cases e <;> simp [moves, eff, b2n]

theorem nMoves_le_nEff (log : List Ev) : ∀ (s s' : St), runLog step s log = some s' → nMoves log ≤ nEff s log := by
  induction log with
  | nil => intro s s' _; exact Nat.le_refl _
  | cons e es ih =>
    intro s s' h
    obtain ⟨s1, hs, h⟩ := runLog_cons_some h
    have := ih s1 s' h
    have := moves_le_eff s e
    simp only [nMoves, nEff, hs]
    omega

theorem mu_runLog (N : Nat) (log : List Ev) : ∀ (s s' : St), Inv s → (∀ e, e ∈ log → inR N e = true) →
    runLog step s log = some s' → nEff s log + mu N s' ≤ mu N s + wsum log := by
  induction log with
  | nil =>
    intro s s' _ _ h
    simp at h
    subst h
    simp [nEff, wsum]
  | cons e es ih =>
    intro s s' hi hr h
    obtain ⟨s1, hs, h⟩ := runLog_cons_some h
    have h1 := mu_step N hi (hr e (List.mem_cons_self ..)) hs
    have h2 := ih s1 s' (step_inv hi hs) (fun e' he' => hr e' (List.mem_cons_of_mem _ he')) h
    simp only [nEff, wsum, hs]
    omega

/-- largest index mentioned in a log, plus one -/
def keyBound : List Ev → Nat
  | [] => 0
  | e :: es => max (evKey e + 1) (keyBound es)

theorem inR_mono (N M : Nat) (e : Ev) (h : inR N e = true) (hm : N ≤ M) : inR M e = true := by
  cases e <;> simp_all [inR] <;> omega

theorem inR_keyBound (log : List Ev) : ∀ e, e ∈ log → inR (keyBound log) e = true := by
  induction log with
  | nil => intro e he; cases he
  | cons e es ih =>
    intro e' he'
    simp only [List.mem_cons] at he'
    cases he' with
    | inl h =>
      subst h
      exact inR_of_key _ _ (by simp only [keyBound]; omega)
    | inr h =>
      exact inR_mono _ _ _ (ih e' h) (by simp only [keyBound]; omega)

/-! ## Exact stutters -/

/-- an ineffective `unl` / `notify` / `ret` leaves the state exactly as it is -/
theorem ineff_stutter (h : step s e = some s') (hne : eff s e = false)
    (hk : (∃ a w, e = .unl a w) ∨ (∃ a w, e = .notify a w) ∨ (∃ a, e = .ret a)) : s' = s := by
  cases Step.of_step h with
  | @wk _ w _ hw =>
    cases hw with
    | unl hl => simp [eff, hl] at hne
    | notify hg =>
      -- a repeated notify sets a flag that is set
      have hn : (s.wk w).notified = true := by simpa [eff, hg] using hne
      have : ({ s.wk w with notified := true } : Wk) = s.wk w := by rw [← hn]
      rw [this, upd_self]
    | _ => simp at hk
  | @ret a =>
    have : s.apc a = .idle := by cases hp : s.apc a <;> simp_all [eff]
    rw [← this, upd_self]
  | _ => first | rfl | simp at hk

end PikaVerif.Elastic
