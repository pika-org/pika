import PikaVerif.Lemmas.LifeHistInv
import PikaVerif.Lemmas.LifeHistT
/-! Maximal states of life-cycle histories (C05t), in both directions: a state satisfying the invariants
    in which no progress event is accepted is drained and idle, or holds work on a suspended runtime
    (`max_final`, from the progress lemmas `prog_…`); conversely such states accept only stutters
    (`maximal_of_stuck`). -/
namespace PikaVerif.Life

section

-- The enabledness proofs below evaluate `hstep h e` on a concrete event `e`: `simp` unfolds the two
-- acceptors and the numerals of the runtime states and decides the guards from the facts it is given.
attribute [local simp] hstep step led rsInitialized rsPreStartup rsStartup rsPreMain rsRunning rsSleeping rsStopped

theorem not_max {h : HSt} (e : Ev) (hs : (hstep h e).isSome = true) (hn : neutral e = false) : ¬ Maximal h := by
  intro hm
  cases hh : hstep h e with
  | none => rw [hh] at hs; cases hs
  | some h' => have := hm e h' hh; rw [hn] at this; cases this

/-- the controller (actor 0) is no worker: workers register as 1, 2, … -/
theorem worker0 {h : HSt} (ha : HInvA h) : h.s.worker 0 = false := by
  cases hw : h.s.worker 0 with
  | false => rfl
  | true => have := (ha.canon 0 hw).1; omega

/-- The lemmas `prog_…` show progress: in the situation named, some non-stutter event is accepted, so
    the state is not maximal.

    An actor inside a phase can always go on: enter the body, leave it, or end the last phase -/
theorem prog_inphase {h : HSt} (hi : Inv h.s) (ha : HInvA h) {a o : Nat} (hc : h.s.cur a = some o) : ¬ Maximal h := by
  have hl := hi.curLive a o hc
  have hana : a < h.s.na := hi.workerBound a (hi.curWorker a (by rw [hc]; rfl)).1
  obtain ⟨hle, _, hout⟩ := ha.obj o hl.1
  have h035 : ¬ (h.tp o = 0 ∨ h.tp o = 3 ∨ h.tp o = 5) := by
    intro hx; have := hout hx; rw [hl.2] at this; cases this
  have : h.tp o = 1 ∨ h.tp o = 2 ∨ h.tp o = 4 := by omega
  rcases this with h1 | h2 | h4
  · exact not_max (.body a o) (by simp [hana, hc, h1]) rfl
  · exact not_max (.body a o) (by simp [hana, hc, h2]) rfl
  · exact not_max (.phaseEnd a o) (by simp [hana, hc, h4]) rfl

theorem cur_none_of_max {h : HSt} (hi : Inv h.s) (ha : HInvA h) (hm : Maximal h) (a : Nat) :
    h.s.cur a = none := by
  cases hc : h.s.cur a with
  | none => rfl
  | some o => exact absurd hm (prog_inphase hi ha hc)

theorem free_slot {h : HSt} (hi : Inv h.s) (ha : HInvA h) (hc : 0 < h.s.creating) :
    ∃ o, o < h.s.no ∧ h.s.live o = false := by
  have h1 := hi.count
  have h2 := hi.history
  have h3 := ha.slots
  have hlt : sumTo h.s.no (fun o => b2n (h.s.live o)) < sumTo h.s.no (fun _ => 1) := by
    rw [sumTo_const, Nat.mul_one]; simp only [nlive] at h1; omega
  obtain ⟨o, ho, hlt⟩ := exists_lt_of_sumTo_lt hlt
  refine ⟨o, ho, ?_⟩
  cases hl : h.s.live o with
  | false => rfl
  | true => rw [hl] at hlt; simp [b2n] at hlt

/-- the anonymous sections of a unit's life (creation in flight, staged description, destruction in
    flight) and the destruction of a terminated task can always go on, in every phase -/
theorem prog_anon {h : HSt} (hi : Inv h.s) (ha : HInvA h) (hna : 0 < h.s.na)
    (hx : 0 < h.s.creating ∨ 0 < h.s.staged ∨ 0 < h.s.destroying ∨ ∃ o, h.s.live o = true ∧ h.tp o = 5) :
    ¬ Maximal h := by
  rcases hx with hc | hs | hd | ⟨o, hl, h5⟩
  · obtain ⟨o, ho, hl⟩ := free_slot hi ha hc
    exact not_max (.new 0 o) (by simp [hna, ho, hl, hc]) rfl
  · exact not_max (.unstage 0) (by simp [hna, hs]) rfl
  · have h1 := hi.count
    exact not_max (.dec 0 (h.s.cnt - 1)) (by
      have : h.s.cnt - 1 + 1 = h.s.cnt := by omega
      simp [hna, hd, this]) rfl
  · have ho := hi.liveBound o hl
    have hr := (ha.obj o hl).2.2 (Or.inr (Or.inr h5))
    exact not_max (.destroy 0 o) (by simp [hna, ho, hl, hr, h5]) rfl

theorem quiet_of_max {h : HSt} (hi : Inv h.s) (ha : HInvA h) (hna : 0 < h.s.na) (hm : Maximal h) :
    (h.s.creating = 0 ∧ h.s.staged = 0 ∧ h.s.destroying = 0) ∧
      ∀ o, h.s.live o = true → h.tp o = 0 ∨ h.tp o = 3 := by
  have hq := fun hx => prog_anon hi ha hna hx hm
  refine ⟨⟨?_, ?_, ?_⟩, fun o hl => ?_⟩
  · exact Nat.eq_zero_of_not_pos fun hx => hq (.inl hx)
  · exact Nat.eq_zero_of_not_pos fun hx => hq (.inr (.inl hx))
  · exact Nat.eq_zero_of_not_pos fun hx => hq (.inr (.inr (.inl hx)))
  · have h5 : h.tp o ≠ 5 := fun h5 => hq (.inr (.inr (.inr ⟨o, hl, h5⟩)))
    obtain ⟨_, hin, _⟩ := ha.obj o hl
    have hin : ¬ (h.tp o = 1 ∨ h.tp o = 2 ∨ h.tp o = 4) := fun hx => prog_inphase hi ha (hin hx) hm
    omega

/-- **Queued work runs on a running runtime.**  With the runtime in phase `running` and a non-zero
    activity count some progress event is accepted. -/
theorem prog_running {h : HSt} (hi : Inv h.s) (ha : HInvA h) (hb : HInvB h) (hph : h.s.ph = .running)
    (hcnt : 0 < h.s.cnt) : ¬ Maximal h := by
  intro hm
  have ⟨hth, hcfg⟩ := hb.up (hph ▸ nofun)
  have hna := hb.na_pos (hph ▸ nofun)
  obtain ⟨⟨hcr, hst, hde⟩, hq⟩ := quiet_of_max hi ha hna hm
  have hcur := cur_none_of_max hi ha hm
  have h1 := hi.count
  have hnl : 0 < sumTo h.s.no (fun o => b2n (h.s.live o)) := by simp only [nlive] at h1; omega
  obtain ⟨o, ho, hpos⟩ := exists_pos_of_sumTo_pos hnl
  have hl := eq_true_of_b2n_pos hpos
  have h03 := hq o hl
  have hrun := (ha.obj o hl).2.2 (by omega)
  -- an idle, awake worker
  have hnw : h.s.nworkers = h.s.cfg.th := hi.cfgWorkers (hph ▸ nofun) (hph ▸ nofun)
  have hwpos : 0 < sumTo h.s.na (fun a => b2n (h.s.worker a)) := by rw [← hi.nworkersSum]; omega
  obtain ⟨a, hana, hwp⟩ := exists_pos_of_sumTo_pos hwpos
  have hw : h.s.worker a = true := eq_true_of_b2n_pos hwp
  have hns : h.s.nsleep = 0 := hi.awake (hph ▸ nofun) (hph ▸ nofun) (hph ▸ nofun) (hph ▸ nofun)
  have hsl : h.s.asleep a = false := by
    cases hs : h.s.asleep a with
    | false => rfl
    | true => have := nsleep_pos hi hs; omega
  exact not_max (.phaseBegin a o) (by
    rcases h03 with h0 | h0 <;> simp [hana, ho, hl, hrun, hcur, hw, hsl, h0]) rfl hm

/-- after the configuration was requested the runtime can be constructed -/
theorem prog_start1 {h : HSt} (hb : HInvB h) (hc : h.cpc = .start1) : ¬ Maximal h := by
  obtain ⟨_, h1, _, _, h2, _⟩ := hb.at hc
  have hna : 0 < h.s.na := by omega
  exact not_max (.rtState 0 rsInitialized) (by simp [hna, h1, hc]) rfl

/-- while the runtime starts, the next worker registers, or `start()` returns once all have -/
theorem prog_start2 {h : HSt} (hi : Inv h.s) (ha : HInvA h) (hb : HInvB h) (hc : h.cpc = .start2) : ¬ Maximal h := by
  obtain ⟨_, hph, hw, _⟩ := hb.at hc
  have ⟨hth, hcfg⟩ := hb.up (hph ▸ nofun)
  have hna : 0 < h.s.na := by omega
  by_cases hwl : 0 < h.wleft
  · have hnw : h.s.worker (h.s.nworkers + 1) = false := by
      cases hx : h.s.worker (h.s.nworkers + 1) with
      | false => rfl
      | true => have := (ha.canon _ hx).2; omega
    have hcur := cur_none_of_not_worker hi hnw
    have hlt : h.s.nworkers + 1 < h.s.na := by omega
    exact not_max (.worker (h.s.nworkers + 1)) (by simp [hlt, hph, hnw, hcur, hc, hwl]) rfl
  · have hnw : h.s.nworkers = h.s.cfg.th := by omega
    exact not_max (.rtState 0 rsRunning) (by simp [hna, hph, hnw, hc]) rfl

/-- inside `suspend()`: an idle worker that is awake goes to sleep, or `suspend()` returns once all sleep -/
theorem prog_susp {h : HSt} (hi : Inv h.s) (ha : HInvA h) (hb : HInvB h) (hc : h.cpc = .susp) : ¬ Maximal h := by
  intro hm
  obtain ⟨_, hph, hsw, _⟩ := hb.at hc
  have hna := hb.na_pos (hph ▸ nofun)
  have hcur := cur_none_of_max hi ha hm
  have hle := nsleep_le hi
  by_cases hlt : h.s.nsleep < h.s.nworkers
  · have hlt0 := hlt
    rw [hi.nsleepSum, hi.nworkersSum] at hlt
    obtain ⟨a, hana, hlt⟩ := exists_lt_of_sumTo_lt hlt
    have hw : h.s.worker a = true := eq_true_of_b2n_pos (Nat.lt_of_le_of_lt (Nat.zero_le _) hlt)
    have hs : h.s.asleep a = false := by
      cases hs : h.s.asleep a with
      | false => rfl
      | true => rw [hs, hw] at hlt; exact absurd hlt (Nat.lt_irrefl _)
    have hts : 0 < h.toSleep := by omega
    exact not_max (.sleep a) (by simp [hana, hph, hw, hs, hcur, hts]) rfl hm
  · have heq : h.s.nsleep = h.s.nworkers := by omega
    exact not_max (.rtState 0 rsSleeping) (by simp [hna, hph, heq, hc]) rfl hm

/-- inside `resume()`: a sleeping worker wakes, or `resume()` returns once none sleeps -/
theorem prog_res {h : HSt} (hi : Inv h.s) (hb : HInvB h) (hc : h.cpc = .res) : ¬ Maximal h := by
  obtain ⟨_, hph, hw, _⟩ := hb.at hc
  have hna := hb.na_pos (hph ▸ nofun)
  by_cases hpos : 0 < h.s.nsleep
  · obtain ⟨b, hbn, hs⟩ := exists_asleep hi hpos
    have htw : 0 < h.toWake := by omega
    exact not_max (.wake b) (by simp [hbn, hph, hs, htw]) rfl
  · have h0 : h.s.nsleep = 0 := by omega
    exact not_max (.rtState 0 rsRunning) (by simp [hna, hph, h0, hc]) rfl

/-- inside `stop()`: every step of the stop path is enabled, except the drain check while units remain -/
theorem prog_stop {h : HSt} (hi : Inv h.s) (ha : HInvA h) (hb : HInvB h) (hc : h.cpc = .stop)
    (hx : h.s.spc = .waitedFin → h.s.cnt = 0) : ¬ Maximal h := by
  obtain ⟨hout, hstph, hw, hfin, _⟩ := hb.at hc
  have hsome := hi.stopperSome hout
  have hst : h.s.stopper = some 0 := by
    cases hs : h.s.stopper with
    | none => rw [hs] at hsome; cases hsome
    | some a => rw [hb.stopper0 a hs]
  have hna := hi.stopperBound 0 hst
  have hcur0 : h.s.cur 0 = none := cur_none_of_not_worker hi (worker0 ha)
  cases hspc : h.s.spc with
  | out => exact absurd hspc hout
  | entered => exact not_max (.waitFin 0) (by simp [hst, hspc, hfin, hc]) rfl
  | waitedFin =>
    have hcnt := hx hspc
    have hph : h.s.ph = .running ∨ h.s.ph = .suspended := by
      rcases hstph with h1 | h1 | h1
      · exact Or.inl h1
      · exact Or.inr h1
      · have := hi.stopPc.2 h1; rw [hspc] at this; simp at this
    exact not_max (.sample 0 0 0) (by
      rcases hph with h1 | h1 <;> simp [hna, hcnt, hcur0, b2n, hst, hspc, h1, hc]) (by simp [neutral])
  | drained => exact not_max (.waited 0 h.s.result) (by simp [hst, hspc, hc]) rfl
  | waited =>
    have hph := hi.stopPc.1 (Or.inr (Or.inl hspc))
    exact not_max (.rtState 0 rsStopped) (by simp [hna, hst, hspc, hph, hc]) rfl
  | halted =>
    have hph := hi.stopPc.1 (Or.inr (Or.inr hspc))
    by_cases hpos : 0 < h.s.nsleep
    · obtain ⟨b, hbn, hs⟩ := exists_asleep hi hpos
      have htw : 0 < h.toWake := by omega
      exact not_max (.wake b) (by simp [hbn, hph, hspc, hs, htw]) rfl
    · have h0 : h.s.nsleep = 0 := by omega
      exact not_max (.stopExit 0 h.s.result) (by simp [hst, hspc, h0, hc]) rfl

/-- after the idle sample `wait()` returns -/
theorem prog_wait2 {h : HSt} (hb : HInvB h) (hc : h.cpc = .wait2) : ¬ Maximal h := by
  obtain ⟨_, hph, hl, _⟩ := hb.at hc
  have hna := hb.na_pos (hph.elim (· ▸ nofun) (· ▸ nofun))
  exact not_max (.waitExit 0) (by simp [hna, hl, hc]) rfl

/-- polling in `wait()` with the counter at zero: the idle sample is accepted -/
theorem prog_wait1 {h : HSt} (hi : Inv h.s) (ha : HInvA h) (hb : HInvB h) (hc : h.cpc = .wait1)
    (hcnt : h.s.cnt = 0) : ¬ Maximal h := by
  obtain ⟨hspc, hph, _⟩ := hb.at hc
  have hna := hb.na_pos (hph.elim (· ▸ nofun) (· ▸ nofun))
  have hcur0 : h.s.cur 0 = none := cur_none_of_not_worker hi (worker0 ha)
  have hst := hi.outStopper hspc
  exact not_max (.sample 0 0 0) (by simp [hna, hcnt, hcur0, b2n, hst, hc]) (by simp [neutral])

/-- between two calls the next call of a well-formed script can be issued -/
theorem prog_idle {h : HSt} (hi : Inv h.s) (ha : HInvA h) (hb : HInvB h) (hc : h.cpc = .idle)
    (c : Call) (r : List Call) (hscr : h.script = c :: r) : ¬ Maximal h := by
  have hwf := (hb.at hc).2.2
  rw [hscr] at hwf
  have hcur0 : h.s.cur 0 = none := cur_none_of_not_worker hi (worker0 ha)
  have hw0 := worker0 ha
  have hspc := (hb.at hc).1
  have hst := hi.outStopper hspc
  have hna := hb.na_pos
  cases c <;> simp only [wf] at hwf
  case start t p =>
    have hn : 0 < h.s.na := by omega
    exact not_max (.reqCfg 0 t p) (by simp [hn, hwf.1, hc, hscr, hwf.2.1, hwf.2.2.1]) rfl
  case submit =>
    have hn := hna (hwf.1.elim (· ▸ nofun) (· ▸ nofun))
    exact not_max (.inc 0 (h.s.cnt + 1)) (by
      rcases hwf.1 with h1 | h1 <;> simp [hn, h1, hc, hscr]) rfl
  case wait =>
    have hn := hna (hwf.1.elim (· ▸ nofun) (· ▸ nofun))
    exact not_max (.waitEnter 0) (by simp [hn, hc, hscr]) rfl
  case suspend =>
    have hn := hna (hwf.1 ▸ nofun)
    exact not_max (.suspendEnter 0) (by simp [hn, hwf.1, hcur0, hw0, hc, hscr]) rfl
  case resume =>
    have hn := hna (hwf.1 ▸ nofun)
    exact not_max (.resumeEnter 0) (by simp [hn, hwf.1, hcur0, hw0, hc, hscr]) rfl
  case finalize =>
    have hn := hna (hwf.1 ▸ nofun)
    exact not_max (.fin 0) (by simp [hn, hwf.1, hwf.2.1, hc, hscr]) rfl
  case stop =>
    have hn := hna (hwf.1.elim (· ▸ nofun) (· ▸ nofun))
    exact not_max (.stopEnter 0) (by
      rcases hwf.1 with h1 | h1 <;> simp [hn, h1, hst, hspc, hcur0, hw0, hc, hscr]) rfl

/-- the documented non-terminating shape: the runtime is suspended and still holds work, and the
    controller has ended its script, polls in `wait()`, or polls in `stop()`'s drain check -/
def Holding (h : HSt) : Prop :=
  h.s.ph = .suspended ∧ 0 < h.s.cnt ∧
  ((h.script = [] ∧ h.cpc = .idle) ∨ h.cpc = .wait1 ∨ (h.cpc = .stop ∧ h.s.spc = .waitedFin))

/-- **Final states of maximal runs.** -/
theorem max_final {h : HSt} (hi : Inv h.s) (ha : HInvA h) (hb : HInvB h) (hm : Maximal h) :
    (h.script = [] ∧ h.cpc = .idle ∧ h.s.cnt = 0) ∨ Holding h := by
  cases hc : h.cpc with
  | start1 => exact absurd hm (prog_start1 hb hc)
  | start2 => exact absurd hm (prog_start2 hi ha hb hc)
  | susp => exact absurd hm (prog_susp hi ha hb hc)
  | res => exact absurd hm (prog_res hi hb hc)
  | wait2 => exact absurd hm (prog_wait2 hb hc)
  | wait1 =>
    by_cases hcnt : h.s.cnt = 0
    · exact absurd hm (prog_wait1 hi ha hb hc hcnt)
    · rcases (hb.at hc).2.1 with hp | hp
      · exact absurd hm (prog_running hi ha hb hp (by omega))
      · exact Or.inr ⟨hp, by omega, Or.inr (Or.inl hc)⟩
  | stop =>
    by_cases hx : h.s.spc = .waitedFin → h.s.cnt = 0
    · exact absurd hm (prog_stop hi ha hb hc hx)
    · have hspc : h.s.spc = .waitedFin := Classical.byContradiction (fun hn => hx (fun h1 => absurd h1 hn))
      have hcnt : 0 < h.s.cnt := by
        have : ¬ h.s.cnt = 0 := fun h0 => hx (fun _ => h0)
        omega
      rcases (hb.at hc).2.1 with hp | hp | hp
      · exact absurd hm (prog_running hi ha hb hp hcnt)
      · exact Or.inr ⟨hp, hcnt, Or.inr (Or.inr ⟨hc, hspc⟩)⟩
      · have := hi.stopPc.2 hp; rw [hspc] at this; simp at this
  | idle =>
    cases hscr : h.script with
    | cons c r => exact absurd hm (prog_idle hi ha hb hc c r hscr)
    | nil =>
      by_cases hcnt : h.s.cnt = 0
      · exact Or.inl ⟨rfl, rfl, hcnt⟩
      · rcases (hb.at hc).2.1 with hp | hp | hp
        · exact absurd (hi.stoppingDrained (Or.inr hp)) hcnt
        · exact absurd hm (prog_running hi ha hb hp (by omega))
        · exact Or.inr ⟨hp, by omega, Or.inl ⟨hscr, hc⟩⟩

end

/-- everything is done: the script is exhausted and every issued call has returned (no thread is inside
    `stop()`, `wait()`, `suspend()`, `resume()`), the activity counter is zero with nothing in flight,
    staged, live or being destroyed, every unit ever started has finished, every task was entered and
    left exactly once (`bodies = exits = started`), and no OS thread is inside a task -/
def Final (h : HSt) : Prop :=
  h.script = [] ∧ h.cpc = .idle ∧ h.s.spc = .out ∧ h.s.stopper = none ∧
  h.s.cnt = 0 ∧ h.s.creating = 0 ∧ h.s.staged = 0 ∧ h.s.destroying = 0 ∧ (∀ o, h.s.live o = false) ∧
  h.s.finished = h.s.started ∧ h.bodies = h.s.started ∧ h.exits = h.s.started ∧ (∀ a, h.s.cur a = none)

theorem final_of_drained {h : HSt} (hall : AllInv h) (hscr : h.script = []) (hc : h.cpc = .idle)
    (hcnt : h.s.cnt = 0) : Final h := by
  have hd := drained_of_cnt_zero hall.i hcnt
  have hspc := (hall.b.at hc).1
  have hfin := hall.i.history
  have he : entered h = 0 := sumTo_eq_zero (fun t _ => by simp [wTerm, hd.2.2.2 t])
  have hx : exited h = 0 := sumTo_eq_zero (fun t _ => by simp [wTerm, hd.2.2.2 t])
  have hb := hall.c.bodies
  have hex := hall.c.exits
  exact ⟨hscr, hc, hspc, hall.i.outStopper hspc, hcnt, hd.1, hd.2.1, hd.2.2.1, hd.2.2.2, by omega,
    by omega, by omega, cur_none_of_cnt_zero hall.i hcnt⟩

/-- **Where nothing can move.**  No actor is inside a task, nothing is in flight, staged or being
    destroyed, a live task waits for its next phase on a suspended runtime, and the controller has
    ended its script or polls a busy counter of a suspended runtime: only stutters are accepted. -/
theorem maximal_of_stuck {h : HSt} (hi : Inv h.s) (hb : HInvB h) (hcur : ∀ a, h.s.cur a = none)
    (h0 : h.s.creating = 0 ∧ h.s.staged = 0 ∧ h.s.destroying = 0)
    (hlive : ∀ o, h.s.live o = true → h.s.ph = .suspended ∧ (h.tp o = 0 ∨ h.tp o = 3))
    (hctl : (h.cpc = .idle ∧ h.script = []) ∨
      (h.s.ph = .suspended ∧ 0 < h.s.cnt ∧ (h.cpc = .wait1 ∨ (h.cpc = .stop ∧ h.s.spc = .waitedFin)))) :
    Maximal h := by
  have hph : ∀ p, p ≠ .none → p ≠ .running → p ≠ .suspended → h.s.ph ≠ p := by
    have := hb.ctl; grind
  have hcall : h.cpc = .idle → ∀ c r, h.script ≠ c :: r := by grind
  have hstop : h.cpc = .stop → h.s.spc = .waitedFin := by grind
  intro e h' hs
  obtain ⟨s', l, h1, h2, rfl⟩ := hstep_some hs
  cases e with
  | inc a n =>
    obtain ⟨_, hc, r, hr, _⟩ | ⟨_, o, ho, _⟩ := led_inc h2
    · exact absurd hr (hcall hc _ r)
    · rw [hcur] at ho; cases ho
  | dec a n => have := (of_ite_some h1).1.2.2; omega
  | stage a | unstage a => have := (of_ite_some h1).1.2; omega
  | new a o => have := (of_ite_some h1).1.2.2.2; omega
  | destroy a o =>
    have := hlive o (of_ite_some h1).1.2.2.1
    have := (of_ite_some h2).1
    omega
  | phaseBegin a o =>
    obtain ⟨⟨_, _, hl, _, _, hw, hs⟩, _⟩ := of_ite_some h1
    have := (suspended_asleep hi (hlive o hl).1).1 a hw
    rw [hs] at this; cases this
  | phaseEnd a o | body a o => have := (of_ite_some h1).1.2; rw [hcur] at this; cases this
  | sample a v w =>
    obtain ⟨⟨_, hv, hw⟩, _⟩ := step_sample h1
    have hc : h.cpc = .wait1 ∨ h.cpc = .stop := by
      obtain ⟨_, ⟨hc, _⟩ | ⟨hc, _⟩ | ⟨hc, _⟩⟩ := led_sample h2
      · exact .inl hc
      · exact .inl hc
      · exact .inr hc
    rcases hctl with ⟨hi0, _⟩ | ⟨_, hcnt, _⟩
    · rw [hi0] at hc; exact hc.elim nofun nofun
    · -- the counter is busy and the sampling thread is in no task
      rw [hcur] at hw
      exact decide_eq_true (by rw [hv, hw]; exact hcnt)
  | rtState a v =>
    obtain ⟨rfl, hp, _⟩ | ⟨hv, _⟩ | ⟨_, hp, _⟩ | ⟨_, ⟨hp, _⟩, _⟩ | ⟨_, ⟨hp, _⟩, _⟩ := step_rtState h1
    · have hc := (led_rtState_init h2).1
      rcases hctl with ⟨hi0, _⟩ | ⟨hs, _⟩
      · rw [hi0] at hc; cases hc
      · rw [hp] at hs; cases hs
    · exact decide_eq_true hv
    · exact hp.elim (absurd ·.1 (hph _ nofun nofun nofun)) (absurd ·.1 (hph _ nofun nofun nofun))
    · exact absurd hp (hph _ nofun nofun nofun)
    · exact absurd hp (hph _ nofun nofun nofun)
  | waitFin a | waited a r | stopExit a r =>
    have := hstop (of_ite_some h2).1.2
    rw [(of_ite_some h1).1.2.1] at this; cases this
  | worker a | sleep a => exact absurd (of_ite_some h1).1.2.1 (hph _ nofun nofun nofun)
  | wake a =>
    exact (of_ite_some h1).1.2.1.elim (absurd · (hph _ nofun nofun nofun)) (absurd ·.1 (hph _ nofun nofun nofun))
  | waitExit a =>
    have hc := (of_ite_some h2).1.2
    rcases hctl with ⟨hw, _⟩ | ⟨_, _, hw | ⟨hw, _⟩⟩ <;> rw [hc] at hw <;> cases hw
  | result a r | seenCfg a t p => rfl
  -- the events by which the controller issues a call
  | _ => obtain ⟨_, hc, r, hr, _⟩ := led_call rfl h2; exact absurd hr (hcall hc _ r)

end PikaVerif.Life
