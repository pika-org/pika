import PikaVerif.Lemmas.StopT
/-!
# Finite programs over the stop_state model

A *program* gives every thread `t < K` a finite list of operations (`ops t`) and every callback
`c` a finite script (`ops (K + c)`): construct / destroy a callback, request_stop, the queries,
copy / drop a stop_source.  `pstep` is the model's `step` restricted to the logs of that program:
an environment event of activity `a` must be an operation still to come in the list of `a`'s
*slot* — the thread's list at nesting level 0, the script of the callback whose body the parent
activity `a - K` is in otherwise (operations before it are skipped: the harness skips operations
that are illegal at that moment, e.g. destroying a callback that is not alive); `done a` needs
the thread's list to be empty; every other event is passed to `step` unchanged.

`phi` = `mu` + `(invCost + 1)` per operation not yet started.  Every accepted event of a program
is a stutter (state and program unchanged) or strictly decreases `phi`.
-/
namespace PikaVerif.Stop

inductive Op where
  | call (k : Kind) | q | inc | dec
  deriving DecidableEq, Repr

/-- the rest of the list after the first occurrence of `o` -/
def after (o : Op) : List Op → Option (List Op)
  | [] => none
  | x :: l => if x = o then some l else after o l

theorem after_length (o : Op) (l r : List Op) (h : after o l = some r) : r.length < l.length := by
  induction l with
  | nil => simp [after] at h
  | cons x l ih =>
    simp only [after] at h
    split at h
    · simp only [Option.some.injEq] at h; subst h; simp
    · have := ih h; simp only [List.length_cons]; omega

structure PSt where
  s : St
  /-- slots `0 … K-1`: threads; slot `K + c`: script of callback `c` -/
  ops : Nat → List Op
  /-- number of slots -/
  m : Nat

/-- where activity `a` takes its operations from -/
def slot (s : St) (a : Nat) : Option Nat :=
  if a < s.K then some a
  else match s.pc (a - s.K) with
    | .body c _ => some (s.K + c)
    | _ => none

/-- an environment event of activity `a` that starts operation `o`: accepted if `o` is still to come in
    the list of `a`'s slot; the operations before it are dropped -/
def consume (p : PSt) (a : Nat) (o : Op) (e : Ev) : Option PSt :=
  match slot p.s a with
  | some i =>
    if i < p.m then
      match after o (p.ops i) with
      | some rest => (step p.s e).map (fun s' => ⟨s', upd p.ops i rest, p.m⟩)
      | none => none
    else none
  | none => none

/-- an event that does not touch the program: the model's step, program unchanged -/
def lift (p : PSt) (e : Ev) : Option PSt := (step p.s e).map (fun s' => ⟨s', p.ops, p.m⟩)

def pstep (p : PSt) (e : Ev) : Option PSt :=
  match e with
  | .inv a k => consume p a (.call k) e
  | .query a _ _ => consume p a .q e
  | .srcInc a => consume p a .inc e
  | .srcDec a => consume p a .dec e
  | .done a => if p.ops a = [] then lift p e else none
  | _ => lift p e

/-- operations not yet started -/
def todo (p : PSt) : Nat := sumTo p.m (fun i => (p.ops i).length)

def phi (p : PSt) : Nat := mu p.s + (invCost p.s + 1) * todo p

theorem consume_spec (p p' : PSt) (a : Nat) (o : Op) (e : Ev) (h : consume p a o e = some p') :
    step p.s e = some p'.s ∧ p'.m = p.m ∧ todo p' < todo p := by
  simp only [consume] at h
  split at h
  · next i _ =>
    split at h
    · next him =>
      split at h
      · next rest hr =>
        obtain ⟨s', h1, rfl⟩ := Option.map_eq_some_iff.mp h
        have := sumTo_upd p.m List.length p.ops i rest him
        have := after_length o _ _ hr
        exact ⟨h1, rfl, by simp only [todo]; omega⟩
      · cases h
    · cases h
  · cases h

theorem lift_spec (p p' : PSt) (e : Ev) (h : lift p e = some p') :
    step p.s e = some p'.s ∧ p'.m = p.m ∧ p'.ops = p.ops := by
  obtain ⟨s', h1, rfl⟩ := Option.map_eq_some_iff.mp h
  exact ⟨h1, rfl, rfl⟩

/-- what `pstep` does with an event: an operation of the program is consumed, or the event passes
    through: it is pika's own, or a thread whose list is exhausted finishes -/
theorem pstep_cases {p p' : PSt} {e : Ev} (h : pstep p e = some p') :
    (envEv e = true ∧ ∃ a o, consume p a o e = some p') ∨
    (lift p e = some p' ∧ (envEv e = false ∨ ∃ a, e = .done a)) := by
  cases e with
  | inv a k => exact .inl ⟨rfl, a, _, h⟩
  | query a x y => exact .inl ⟨rfl, a, _, h⟩
  | srcInc a => exact .inl ⟨rfl, a, _, h⟩
  | srcDec a => exact .inl ⟨rfl, a, _, h⟩
  | done a =>
    simp only [pstep] at h
    split at h
    · exact .inr ⟨h, .inr ⟨a, rfl⟩⟩
    · cases h
  | _ => exact .inr ⟨h, .inl rfl⟩

theorem pstep_step (p p' : PSt) (e : Ev) (h : pstep p e = some p') : step p.s e = some p'.s := by
  rcases pstep_cases h with ⟨-, a, o, h⟩ | ⟨h, -⟩
  · exact (consume_spec _ _ _ _ _ h).1
  · exact (lift_spec _ _ _ h).1

theorem phi_step (p p' : PSt) (e : Ev) (h : pstep p e = some p') :
    (stutter p.s e = true ∧ p'.s = p.s ∧ p'.ops = p.ops ∧ p'.m = p.m) ∨ phi p' < phi p := by
  have hs := pstep_step p p' e h
  obtain ⟨hn, hst, hmv, henv, hdone⟩ := mu_step _ _ _ hs
  have hc : invCost p'.s = invCost p.s := invCost_eq _ _ hn
  rcases pstep_cases h with ⟨he, a, o, hco⟩ | ⟨hl, he⟩
  · -- an operation is started: `mu` grows by at most `invCost`, `todo` drops
    obtain ⟨_, _, htd⟩ := consume_spec _ _ _ _ _ hco
    have h1 := henv he
    have h2 : mu p'.s ≤ mu p.s + invCost p.s := by
      split at h1 <;> omega
    simp only [phi, hc]
    have : (invCost p.s + 1) * (todo p' + 1) ≤ (invCost p.s + 1) * todo p := Nat.mul_le_mul_left _ htd
    rw [Nat.mul_add] at this
    exact .inr (by omega)
  · obtain ⟨_, hm, ho⟩ := lift_spec _ _ _ hl
    have htd : todo p' = todo p := by simp [todo, hm, ho]
    simp only [phi, hc, htd]
    rcases he with he | ⟨a, rfl⟩
    · cases hstt : stutter p.s e
      · have := hmv (by simp [moving, he, hstt])
        exact .inr (by omega)
      · exact .inl ⟨rfl, hst hstt, ho, hm⟩
    · have := hdone a rfl
      exact .inr (by omega)

/-- number of non-stutter events along the program run of `l` from `p` -/
def nSteps : PSt → List Ev → Nat
  | _, [] => 0
  | p, e :: l =>
    match pstep p e with
    | none => 0
    | some p' => (if stutter p.s e then 0 else 1) + nSteps p' l

theorem prog_bound (p p' : PSt) (l : List Ev) (h : runLog pstep p l = some p') :
    nSteps p l + phi p' ≤ phi p := by
  induction l generalizing p with
  | nil => simp at h; subst h; simp [nSteps]
  | cons e es ih =>
    obtain ⟨p1, hs, h⟩ := runLog_cons_some h
    have h1 := ih p1 h
    simp only [nSteps, hs]
    rcases phi_step p p1 e hs with ⟨hst, h2, h3, h4⟩ | hlt
    · have : phi p1 = phi p := by simp [phi, todo, h2, h3, h4]
      simp [hst]; omega
    · split <;> omega

theorem pstep_own (p : PSt) (e : Ev) (s' : St) (he : envEv e = false) (h : step p.s e = some s') :
    pstep p e = some ⟨s', p.ops, p.m⟩ := by
  have : lift p e = some ⟨s', p.ops, p.m⟩ := by rw [lift, h]; rfl
  cases e <;> first | exact this | cases he

theorem lift_run (l : List Ev) : ∀ (p : PSt) (s' : St), (∀ e ∈ l, envEv e = false) →
    runLog step p.s l = some s' → runLog pstep p l = some ⟨s', p.ops, p.m⟩ := by
  induction l with
  | nil => intro p s' _ h; simp at h; subst h; rfl
  | cons e es ih =>
    intro p s' hall h
    obtain ⟨s1, hs, h⟩ := runLog_cons_some h
    simp only [runLog, pstep_own p e s1 (hall e List.mem_cons_self) hs]
    exact ih ⟨s1, p.ops, p.m⟩ s' (fun x hx => hall x (List.mem_cons_of_mem _ hx)) h

/-- number of stutters along the program run of `l` from `p` -/
def nStut : PSt → List Ev → Nat
  | _, [] => 0
  | p, e :: l =>
    match pstep p e with
    | none => 0
    | some p' => (if stutter p.s e then 1 else 0) + nStut p' l

theorem steps_add_stut (p p' : PSt) (l : List Ev) (h : runLog pstep p l = some p') :
    nSteps p l + nStut p l = l.length := by
  induction l generalizing p with
  | nil => rfl
  | cons e es ih =>
    obtain ⟨p1, hs, h⟩ := runLog_cons_some h
    have := ih p1 h
    simp only [nSteps, nStut, hs, List.length_cons]
    split <;> omega

def pinit (n K : Nat) (ident : Nat → Nat) (fixCas fixCtor : Bool) (srcs : Nat) (ops : Nat → List Op) (m : Nat) : PSt :=
  ⟨init n K ident fixCas fixCtor srcs, ops, m⟩

end PikaVerif.Stop
