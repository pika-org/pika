import PikaVerif.Lemmas.CVInvResults
/-! What the holder of the internal lock sees of the waiters, what a pop does for its target, and what
    can happen while a `notify_all` is in its pop loop (for the notify theorems of `Props/C07.lean`). -/
namespace PikaVerif.CV

/-- Inside the pop loop of a `notify_all` (public call, or the stop callback). -/
def allPc : Pc → Bool
  | .nAll | .cAll _ => true
  | _ => false

/-- Whoever holds the internal lock finds every other thread that has released the user lock in a
    wait, and has not been woken since, linked in the queue: `released` (the window between `ul.rel`
    and `cv.enq`) is a program counter at which the waiter itself holds the internal lock. -/
theorem Inv.waiting_mem_queue {s : St} (hi : Inv s) {u w : Nat} (hl : s.lock = some u) (hne : w ≠ u)
    (hw : s.waiting w = true) : w ∈ s.queue := by
  have h1 := hi.waitingIff w
  rw [hw] at h1
  apply (hi.qIff w).2
  cases hp : s.pc w <;> simp [hp, waitExp] at h1 <;> simp [inQ, h1]
  have := hi.lockHolder w (by simp [hp, holds])
  rw [hl] at this
  simp at this
  exact absurd this.symm hne

theorem no_waiter_of_empty {s : St} (hi : Inv s) {u : Nat} (hl : s.lock = some u) (hq : s.queue = [])
    (hu : waitExp (s.pc u) = false) : ∀ w, s.waiting w = false := by
  intro w
  cases hw : s.waiting w with
  | false => rfl
  | true =>
    by_cases hwu : w = u
    · rw [hwu, hi.waitingIff u, hu] at hw; cases hw
    · have := hi.waiting_mem_queue hl hwu hw
      rw [hq] at this; cases this

theorem popped_was_waiting {s : St} (hi : Inv s) {g : Nat} (hq : s.queue.head? = some g) :
    s.waiting g = true := by
  have hin : inQ (s.pc g) = true := (hi.qIff g).1 (List.mem_of_mem_head? hq)
  rw [hi.waitingIff g]
  cases hpg : s.pc g <;> rw [hpg] at hin <;> first | exact hin | rfl | cases hin

/-- The resume of a pop is a wake-up token, unless it is aimed at a thread polling its deadline. -/
theorem pop_wakes {s : St} {g : Nat} {d : Bool} (hd : d = decide (s.pc g = .slp false)) :
    tokTo s g d g = s.tok g + 1 ∨ s.pc g = .slp false := by
  cases d
  · exact .inl (upd_same ..)
  · exact .inr (of_decide_eq_true hd.symm)

theorem allPc_upd {s : St} {t u : Nat} {p p' : Pc} (hp : s.pc t = p) (hnp : allPc p = false)
    (hpc : allPc (s.pc u) = true) : allPc (upd s.pc t p' u) = true := by
  have : u ≠ t := fun e => by rw [e, hp, hnp] at hpc; cases hpc
  rw [upd_other _ _ _ _ this]; exact hpc

/-- While `u` is in the pop loop of a `notify_all` (holding the internal lock), a waiting thread `w`
    stays waiting, and `u` stays in the loop, until `u` pops `w` or leaves the loop by `sl.rel`: every
    other event is one of a thread outside the loop that does not need the internal lock. -/
theorem nall_step (s s' : St) (e : Ev) (u w : Nat) (hl : s.lock = some u)
    (hpc : allPc (s.pc u) = true) (hw : s.waiting w = true) (hne : e ≠ .slRel u) (h : step s e = some s') :
    (∃ z d, e = .popAll u z w d) ∨ (s'.waiting w = true ∧ s'.lock = some u ∧ allPc (s'.pc u) = true) := by
  -- a thread that holds the internal lock is `u`; one that takes it cannot exist
  have holder : ∀ {t}, s.lock = some t → t = u := fun h => Option.some.inj (h.symm.trans hl)
  obtain ⟨p, p', ht, hp, hloc, hg, rfl⟩ := Step.of_step h
  cases hloc <;> simp only [actor, Guard] at ht hp hg
  case popA t z g d | popC t z g d k =>
    cases holder hg.1
    by_cases hgw : g = w
    · exact .inl ⟨z, d, by rw [hgw]⟩
    · exact .inr ⟨(upd_other _ _ _ _ (Ne.symm hgw)).trans hw, hl, (congrArg allPc (upd_same ..)).trans (hp ▸ hpc)⟩
  case ulRelW t =>
    refine .inr ⟨?_, hl, allPc_upd hp rfl hpc⟩
    by_cases hwt : w = t
    · rw [hwt]; exact upd_same ..
    · exact (upd_other _ _ _ _ hwt).trans hw
  case acqW | acqC | acqK | acqN => rw [hl] at hg; cases hg
  case relN | relC => cases holder hg; exact absurd rfl hne
  -- the other lines that need the internal lock are not lines of the pop loop
  case relE | relP | relS | relD | relX | wokeK =>
    cases holder hg; rw [hp] at hpc; cases hpc
  case enq | pop1 | none | all | allC | stop1 | stop2 =>
    cases holder hg.1; rw [hp] at hpc; cases hpc
  -- every other event moves a thread that is not in the loop and touches neither `waiting` nor the lock
  all_goals exact .inr ⟨hw, hl, allPc_upd hp rfl hpc⟩

/-- A `notify_all` (the public call or the stop callback) leaves its pop loop only when nobody waits. -/
theorem no_waiter_at_loop_exit {s s' : St} {u : Nat} (hi : Inv s) (hpc : allPc (s.pc u) = true)
    (h : step s (.slRel u) = some s') : ∀ w, s.waiting w = false := by
  obtain ⟨p, p', _, hp, hloc, hl, _⟩ := Step.of_step h
  have hu : waitExp (s.pc u) = false := by
    revert hpc; cases s.pc u <;> first | exact fun _ => rfl | exact fun h => nomatch h
  cases hloc
  case relN | relC => exact no_waiter_of_empty hi hl ‹s.queue = []› hu
  all_goals rw [show s.pc u = _ from hp] at hpc; cases hpc

end PikaVerif.CV
