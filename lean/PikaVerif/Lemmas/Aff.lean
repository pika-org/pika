import PikaVerif.Model.Aff
/-! Lemmas for the affinity model (C15): the loop rule (`forFrom_inv`, `forRange_inv`), topology
    arithmetic (`base`, `puNumber`), the mask table while workers are placed one after the other
    (`distinct_upd`, `Fresh`, `fresh_upd`), what the property demands of a decoder's result (`ind`, `Good`,
    `Fin`), and the count of the PUs a request may use: `cntTo` along the machine, `cntB` inside a core,
    regrouped by `sumTo_base` (`socketPus_eq_cntTo`, `cntTo_numPus`, `enough`). -/
namespace PikaVerif.Aff

/-- outcome predicate of a loop body: `P` if it keeps running, `Q` if the function returned,
    `E` if it raised an error -/
def CtlP {σ : Type} (P Q : σ → Prop) (E : Prop) : Ctl σ → Prop
  | .run s => P s
  | .fin s => Q s
  | .err => E

/-- a loop (or body) that neither returns nor raises an error keeps running -/
theorem CtlP.run {σ : Type} {P : σ → Prop} {r : Ctl σ} (h : CtlP P (fun _ => False) False r) :
    ∃ s, r = .run s ∧ P s := by
  cases r with
  | run s => exact ⟨s, rfl, h⟩
  | fin s => exact h.elim
  | err => exact h.elim

/-- the loop rule: a position-indexed invariant `P` carried by every body that keeps running, `Q` by
    a body that returns, `E` by one that raises an error, give the same for the whole loop -/
theorem forFrom_inv {σ : Type} (body : Nat → σ → Ctl σ) (P : Nat → σ → Prop) (Q : σ → Prop)
    (E : Prop) : ∀ (cnt i : Nat) (s : σ),
    (∀ j s, i ≤ j → j < i + cnt → P j s → CtlP (P (j + 1)) Q E (body j s)) → P i s →
    CtlP (P (i + cnt)) Q E (forFrom body i cnt s) := by
  intro cnt
  induction cnt with
  | zero => intro i s _ h; simpa [forFrom, CtlP] using h
  | succ m ih =>
    intro i s hb h
    simp only [forFrom]
    have h1 := hb i s (Nat.le_refl i) (by omega) h
    cases hr : body i s with
    | run s' =>
      rw [hr] at h1
      have := ih (i + 1) s' (fun j s hj hj2 hp => hb j s (by omega) (by omega) hp) h1
      simpa [Nat.add_assoc, Nat.add_comm 1 m] using this
    | fin s' => rw [hr] at h1; simpa [CtlP] using h1
    | err => rw [hr] at h1; simpa [CtlP] using h1

theorem forRange_inv {σ : Type} (body : Nat → σ → Ctl σ) (P : Nat → σ → Prop) (Q : σ → Prop)
    (E : Prop) (m : Nat) (s : σ)
    (hb : ∀ j s, j < m → P j s → CtlP (P (j + 1)) Q E (body j s)) (h : P 0 s) :
    CtlP (P m) Q E (forRange m body s) := by
  have := forFrom_inv body P Q E m 0 s (fun j s _ hj hp => hb j s (by omega) hp) h
  simpa [forRange] using this

/-- well-formed machine: at least one core, every core has at least one PU -/
structure WF (t : Topo) : Prop where
  cores : 0 < t.nc
  pus : ∀ c, c < t.nc → 0 < t.pus c

theorem base_succ (t : Topo) (c : Nat) : base t (c + 1) = base t c + t.pus c := rfl

theorem sumTo_mono_len (f : Nat → Nat) {a b : Nat} (h : a ≤ b) : sumTo a f ≤ sumTo b f := by
  induction b with
  | zero => rw [Nat.le_zero.1 h]; exact Nat.le_refl _
  | succ k ih =>
    by_cases hk : a = k + 1
    · subst hk; exact Nat.le_refl _
    · have := ih (by omega); rw [sumTo_succ]; omega

theorem base_mono (t : Topo) {c d : Nat} (h : c ≤ d) : base t c ≤ base t d := sumTo_mono_len _ h

theorem le_base {t : Topo} (hwf : WF t) {c : Nat} (h : c ≤ t.nc) : c ≤ base t c := by
  induction c with
  | zero => exact Nat.zero_le _
  | succ k ih =>
    have := ih (by omega)
    have := hwf.pus k (by omega)
    rw [base_succ]; omega

theorem base_add_lt (t : Topo) {c d x : Nat} (hx : x < t.pus c) (h : c < d) :
    base t c + x < base t d := by
  have := base_mono t (c := c + 1) (d := d) (by omega)
  rw [base_succ] at this; omega

/-- PUs of different cores have different logical indices -/
theorem base_inj (t : Topo) {c d x y : Nat} (hx : x < t.pus c) (hy : y < t.pus d)
    (h : base t c + x = base t d + y) : c = d ∧ x = y := by
  by_cases hcd : c = d
  · subst hcd; exact ⟨rfl, by omega⟩
  · exfalso
    by_cases hlt : c < d
    · have := base_add_lt t hx hlt; omega
    · have := base_add_lt t hy (show d < c by omega); omega

theorem puNumber_eq (t : Topo) {c p : Nat} (hc : c < t.nc) (hp : p < t.pus c) :
    puNumber t c p = base t c + p := by
  simp [puNumber, Nat.mod_eq_of_lt hc, Nat.mod_eq_of_lt hp]

theorem corePus_eq (t : Topo) {c : Nat} (hc : c < t.nc) : corePus t c = t.pus c := by
  simp [corePus, hc]

theorem base_add_lt_numPus (t : Topo) {c p : Nat} (hc : c < t.nc) (hp : p < t.pus c) :
    base t c + p < numPus t := base_add_lt t hp hc

/-! ## the mask table while workers are placed one after the other -/

theorem distinct_upd {aff : Nat → List Nat} {k : Nat} {v : List Nat}
    (hd : ∀ i j, i < k → j < k → i ≠ j → aff i ≠ aff j) (hnew : ∀ i, i < k → aff i ≠ v) :
    ∀ i j, i < k + 1 → j < k + 1 → i ≠ j → upd aff k v i ≠ upd aff k v j := by
  intro i j hi hj hij
  simp only [upd]
  grind

def Fresh (s : ASt) : Prop := ∀ i, s.k ≤ i → s.aff i = []

theorem fresh_upd {aff : Nat → List Nat} {k : Nat} {v : List Nat} (hf : ∀ i, k ≤ i → aff i = []) :
    ∀ i, k + 1 ≤ i → upd aff k v i = [] := fun i hi => by
  rw [upd_other _ _ _ _ (by omega)]; exact hf i (by omega)

/-! ## what C15 demands of a decoder's result -/

/-- PU `q` may be used: the process mask is ignored or contains it -/
def ind (cfg : Cfg) (q : Nat) : Bool := !cfg.usePm || cfg.pm q

/-- what C15 demands of the masks and reported PU numbers of workers `0 … n-1` -/
structure Good (cfg : Cfg) (aff : Nat → List Nat) (pn : Nat → Nat) : Prop where
  bound : ∀ i, i < cfg.n → ∃ q, aff i = [q] ∧ pn i = q ∧ q < numPus cfg.t ∧ ind cfg q = true
  distinct : ∀ i j, i < cfg.n → j < cfg.n → i ≠ j → aff i ≠ aff j

/-- the decoder returned: the masks it leaves satisfy C15 -/
def Fin (cfg : Cfg) (s : ASt) : Prop := Good cfg s.aff s.pn

theorem inMask_eq (cfg : Cfg) {c p : Nat} (hc : c < cfg.t.nc) (hp : p < cfg.t.pus c) :
    inMask cfg c p = ind cfg (base cfg.t c + p) := by
  simp [inMask, ind, puNumber_eq cfg.t hc hp]

theorem effCores_le (cfg : Cfg) : effCores cfg ≤ cfg.t.nc := by
  unfold effCores; split <;> omega

/-! ## counting usable PUs -/

/-- number of indices below `m` at which `f` holds -/
def cntB (f : Nat → Bool) (m : Nat) : Nat := sumTo m (fun p => if f p then 1 else 0)

theorem cntB_succ (f : Nat → Bool) (m : Nat) :
    cntB f (m + 1) = cntB f m + (if f m then 1 else 0) := rfl

theorem cntB_mono (f : Nat → Bool) {a b : Nat} (h : a ≤ b) : cntB f a ≤ cntB f b := sumTo_mono_len _ h

theorem cntB_le (f : Nat → Bool) (m : Nat) : cntB f m ≤ m := by
  induction m with
  | zero => exact Nat.le_refl _
  | succ k ih => rw [cntB_succ]; split <;> omega

theorem cntB_congr {f g : Nat → Bool} {m : Nat} (h : ∀ p, p < m → f p = g p) :
    cntB f m = cntB g m := by
  unfold cntB
  apply sumTo_congr
  intro p hp; rw [h p hp]

/-- number of usable PUs with logical index below `pos` -/
def cntTo (cfg : Cfg) (pos : Nat) : Nat := sumTo pos (fun q => if ind cfg q then 1 else 0)

theorem cntTo_succ (cfg : Cfg) (pos : Nat) :
    cntTo cfg (pos + 1) = cntTo cfg pos + (if ind cfg pos then 1 else 0) := rfl

theorem cntTo_all (cfg : Cfg) (hu : cfg.usePm = false) (pos : Nat) : cntTo cfg pos = pos := by
  induction pos with
  | zero => rfl
  | succ k ih => rw [cntTo_succ, ih]; simp [ind, hu]

theorem cntTo_mask (cfg : Cfg) (hu : cfg.usePm = true) : cntTo cfg (numPus cfg.t) = countMask cfg := by
  unfold cntTo countMask
  apply sumTo_congr
  intro q _
  simp [ind, hu]

/-- number of PUs a decoder may use -/
def avail (cfg : Cfg) : Nat := if cfg.usePm then countMask cfg else numPus cfg.t

theorem cntTo_numPus (cfg : Cfg) : cntTo cfg (numPus cfg.t) = avail cfg := by
  unfold avail
  cases hp : cfg.usePm with
  | true => simpa using cntTo_mask cfg hp
  | false => simpa using cntTo_all cfg hp (numPus cfg.t)

theorem tooMany_false (cfg : Cfg) (h : cfg.n ≤ avail cfg) : tooMany cfg = false := by
  unfold tooMany avail at *
  split <;> simp_all

theorem le_avail_of_not_tooMany {cfg : Cfg} (h : tooMany cfg = false) : cfg.n ≤ avail cfg := by
  unfold tooMany avail at *
  split <;> simp_all

/-- the cores the decoders look at hold at least `n` usable PUs -/
theorem enough (cfg : Cfg) (hwf : WF cfg.t)
    (hu : cfg.usePm = true ∨ cfg.n ≤ cfg.maxCores) (hn : cfg.n ≤ avail cfg) :
    cfg.n ≤ cntTo cfg (base cfg.t (effCores cfg)) := by
  cases hp : cfg.usePm with
  | true =>
    have : effCores cfg = cfg.t.nc := by simp [effCores, hp]
    rw [this, ← numPus, cntTo_numPus]
    exact hn
  | false =>
    rw [cntTo_all cfg hp]
    have hm : cfg.n ≤ cfg.maxCores := by cases hu with
      | inl h => simp [hp] at h
      | inr h => exact h
    have hn' : cfg.n ≤ numPus cfg.t := by simpa [avail, hp] using hn
    simp only [effCores, hp, Bool.false_eq_true, ↓reduceIte]
    by_cases hc : cfg.maxCores ≤ cfg.t.nc
    · rw [Nat.min_eq_left hc]
      have := le_base hwf hc; omega
    · rw [Nat.min_eq_right (by omega)]; exact hn'

theorem sumTo_add (f : Nat → Nat) (a : Nat) : ∀ b, sumTo (a + b) f = sumTo a f + sumTo b (fun p => f (a + p)) := by
  intro b
  induction b with
  | zero => simp
  | succ k ih => rw [← Nat.add_assoc, sumTo_succ, ih, sumTo_succ]; omega

/-- a sum over all PUs is the sum over the cores of the sums over their PUs -/
theorem sumTo_base (t : Topo) (f : Nat → Nat) : ∀ m,
    sumTo (base t m) f = sumTo m (fun c => sumTo (t.pus c) (fun p => f (base t c + p))) := by
  intro m
  induction m with
  | zero => rfl
  | succ k ih => rw [base_succ, sumTo_add, ih, sumTo_succ]

/-- the usable PUs of cores `off … off + m - 1`, counted core by core as the numa-balanced decoder does,
    are what the linear count gains along the block -/
theorem socketPus_eq_cntTo (cfg : Cfg) (off m : Nat) (h : off + m ≤ cfg.t.nc) :
    socketPusInMask cfg off m + cntTo cfg (base cfg.t off) = cntTo cfg (base cfg.t (off + m)) := by
  unfold cntTo socketPusInMask
  rw [sumTo_base, sumTo_base, sumTo_add, Nat.add_comm]
  congr 1
  apply sumTo_congr
  intro c hc
  have hcn : c + off < cfg.t.nc := by omega
  rw [Nat.add_comm off c, corePus_eq cfg.t hcn]
  exact sumTo_congr fun p hp => by rw [inMask_eq cfg hcn hp]

end PikaVerif.Aff
