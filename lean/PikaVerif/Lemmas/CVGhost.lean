import PikaVerif.Core.Run
/-! Ghost state folded over a log.  Several theorems about the condition variable speak of an
    observation `fold g log` computed from the log alone (`obsGLog`, `obsKLog`); the relation
    between it and the model state is proved once per step and carried along the log here. -/
namespace PikaVerif

theorem runLog_ghost {σ ε γ : Type} {step : σ → ε → Option σ} {obs : γ → ε → γ} {fold : γ → List ε → γ}
    (hnil : ∀ g, fold g [] = g) (hcons : ∀ g e es, fold g (e :: es) = fold (obs g e) es)
    (R : σ → γ → Prop) (hstep : ∀ s g e s', R s g → step s e = some s' → R s' (obs g e))
    {s s' : σ} {g : γ} {log : List ε} (h0 : R s g) (h : runLog step s log = some s') :
    R s' (fold g log) := by
  induction log generalizing s g with
  | nil => cases h; rw [hnil]; exact h0
  | cons e es ih =>
    obtain ⟨s₁, h1, h2⟩ := runLog_cons_some h
    rw [hcons]; exact ih (hstep s g e s₁ h0 h1) h2

end PikaVerif
