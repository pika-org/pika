import PikaVerif.Lemmas.Rw2
/-! Consequences of the async_rw_mutex invariant used by the property theorems. -/
namespace PikaVerif.Rw

theorem weight_zero {x : Acc} (h : weight x = 0) : x = .none ∨ x = .released := by
  cases x <;> simp_all [weight]

/-- A shared state is destroyed when its three kinds of references are gone: the mutex has moved on or
    is destroyed, the previous shared state is destroyed, and its accesses are released. -/
theorem dead_iff_refs {s : St} (hi : Inv s) {g : Nat} (hg : g < s.ng) :
    s.dead g = true ↔ (s.alive = false ∨ g + 1 < s.ng) ∧ (g = 0 ∨ s.dead (g - 1) = true) ∧
      ∀ b, b < s.na → s.grp b = g → s.acc b = .released := by
  rw [hi.deadRc g hg, hi.account g hg]
  have hm : mtxw s g = 0 ↔ (s.alive = false ∨ g + 1 < s.ng) := by
    simp only [mtxw, mtxwF]; grind
  have hl : linkw s g = 0 ↔ (g = 0 ∨ s.dead (g - 1) = true) := by
    simp only [linkw, linkwF]; grind
  have hs : gsum s g = 0 ↔ ∀ b, b < s.na → s.grp b = g → s.acc b = .released :=
    ⟨fun h b hb hgb => by
      have := weight_le_gsum s b hb
      rw [hgb, h] at this
      exact (weight_zero (Nat.le_zero.1 this)).resolve_left (hi.accSome b hb),
    fun h => sumTo_eq_zero fun u hu => by
      by_cases e : s.grp u = g
      · rw [if_pos e, h u hu e]; rfl
      · exact if_neg e⟩
  rw [← hm, ← hl, ← hs]
  omega

/-- Shared states are destroyed in creation order: `g` is destroyed exactly when the mutex no longer
    refers to it and every access of every shared state up to `g` is released. -/
theorem dead_iff {s : St} (hi : Inv s) : ∀ {g : Nat}, g < s.ng →
    (s.dead g = true ↔ (s.alive = false ∨ g + 1 < s.ng) ∧ ∀ b, b < s.na → s.grp b ≤ g → s.acc b = .released)
  | 0, hg => by
    rw [dead_iff_refs hi hg]
    simp only [true_or, true_and, Nat.le_zero]
  | k + 1, hg => by
    rw [dead_iff_refs hi hg, Nat.add_sub_cancel, dead_iff hi (Nat.lt_of_succ_lt hg)]
    refine and_congr_right fun _ => ⟨fun ⟨h1, h2⟩ b hb hle => ?_, fun h => ⟨.inr ⟨.inr hg, fun b hb hle => ?_⟩,
      fun b hb e => h b hb (Nat.le_of_eq e)⟩⟩
    · rcases Nat.lt_or_eq_of_le hle with hlt | e
      · exact (h1.resolve_left (Nat.succ_ne_zero k)).2 b hb (Nat.le_of_lt_succ hlt)
      · exact h2 b hb e
    · exact h b hb (Nat.le_succ_of_le hle)

/-- `done()` has been called on a group only after its predecessor was destroyed -/
theorem sent_pred {s : St} (hi : Inv s) {g : Nat} (hg : g < s.ng) (hs : s.head g = none) :
    g = 0 ∨ s.dead (g - 1) = true := by
  have h1 := hi.headDn g hg
  have h2 := hi.dnIdle g hg
  simp only [hs, Option.isNone_none] at h1
  grind [isDrain]

/-- once an access has been granted, every access of an earlier group is released -/
theorem granted_pred_released {s : St} (hi : Inv s) {a b : Nat} (ha : a < s.na) (hb : b < s.na)
    (hp : post (s.acc a) = true) (hlt : s.grp b < s.grp a) : s.acc b = .released := by
  have hg := hi.grpLt a ha
  rcases sent_pred hi hg (post_sent hi ha hp) with h | h
  · omega
  · exact ((dead_iff hi (by omega)).1 h).2 b hb (by omega)

/-- a `done()` frame that has not exchanged the head yet finds the queue open -/
theorem pend_open {s : St} (hi : Inv s) {g t : Nat} (hg : g < s.ng) (hd : s.dn g = .pend t) :
    ∃ q, s.head g = some q := by
  have := hi.headDn g hg
  rw [hd] at this
  cases hh : s.head g with
  | some q => exact ⟨q, rfl⟩
  | none => rw [hh] at this; cases this

/-- the next continuation a `done()` frame has to run belongs to a queued access of its group -/
theorem drain_front {s : St} (hi : Inv s) {g t a : Nat} {r : List Nat} (hg : g < s.ng)
    (hd : s.dn g = .drain t (a :: r)) :
    s.head g = none ∧ a < s.na ∧ s.grp a = g ∧ ∃ det, s.acc a = .queued det := by
  have hh : s.head g = none := by
    have := hi.headDn g hg
    rw [hd] at this
    exact Option.isNone_iff_eq_none.1 this
  obtain ⟨m1, m2, m3⟩ := (hi.qMem g a hg).1 (by simp [qof, qofF, hh, hd])
  refine ⟨hh, m1, m2, ?_⟩
  cases hx : s.acc a with
  | queued det => exact ⟨det, rfl⟩
  | _ => rw [hx] at m3; cases m3

end PikaVerif.Rw
