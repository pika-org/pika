import PikaVerif.Lemmas.MtxStep
import PikaVerif.Core.CvQueue
/-! Inductive invariant of the mutex model, part 1: internal spinlock, wait queue, wake-ups (`Core`, an
    instance of `Core/CvQueue.lean`, kept by every event: `Core.step`) and "no lost unlock" (`Budget`). -/
namespace PikaVerif.Mtx

/-- Program counters at which the task holds the internal spinlock. -/
def holds : Pc → Bool
  | .locked _ | .again _ | .sig | .enq _ | .relk _ _ | .timedOut | .owned _ | .disowned
  | .notified => true
  | _ => false

/-- Program counters at which the task's entry is linked in the cv queue. -/
def inQ : Pc → Bool
  | .enq _ => true
  | .unl _ p | .susp p | .slp p | .wokeNL _ p | .relk _ p => !p
  | _ => false

def b2n (b : Bool) : Nat := if b then 1 else 0

/-- Hand-offs in flight: 1 for an unlocker that cleared `owner_id_` and has not notified yet,
    1 for a waiter that was notified and has not re-tested `owner_id_` yet. -/
def weight : Pc → Nat
  | .unl _ p | .susp p | .slp p | .wokeNL _ p | .relk _ p => b2n p
  | .again c => b2n c
  | .sig => 1
  | .disowned => 1
  | _ => 0

def wsum (s : St) : Nat := sumTo s.n (fun t => weight (s.pc t))

structure Inv (s : St) : Prop where
  lockHolder : ∀ t, holds (s.pc t) = true → s.lock = some t
  /-- numbers from `n` on are not tasks of the system: they never leave `idle` -/
  outside : ∀ t, s.n ≤ t → s.pc t = .idle
  qIff : ∀ t, t ∈ s.queue ↔ inQ (s.pc t) = true
  qNodup : s.queue.Nodup
  /-- a `lock()` waiter that was notified before it parked (or while parked) has its wake-up token -/
  wake : ∀ t, (s.pc t = .unl false true ∨ s.pc t = .susp true) → 0 < s.tok t
  /-- no lost unlock: while the mutex is free and tasks are queued, a hand-off is in flight -/
  budget : s.queue ≠ [] → s.owner = none → 0 < wsum s

set_option hygiene false in
macro "mtx_step" t:term : tactic => `(tactic| (
  simp only [step] at h
  obtain ⟨h1,h2,h3,h4,h6,h7⟩ := hi
  split at h
  case isFalse => simp at h
  rename_i hg
  have htn : $t < s.n := by grind
  have hle := le_sumTo (f := fun u => weight (s.pc u)) htn
  simp only [wsum] at h7
  repeat' split at h
  all_goals first | (simp at h; done) | skip
  all_goals (
    simp only [Option.some.injEq] at h
    subst h
    refine ⟨?_, ?_, ?_, ?_, ?_, ?_⟩ <;> dsimp only [wsum]
  )
  all_goals first
    | assumption
    | (intro u; grind [upd])
    | (rw [sumTo_upd_eq _ _ _ _ _ htn]; grind)
    | grind [upd]))

/-! ### Spinlock, queue and tokens

Every event but `popResume` moves the program counter of one task `t` and may change the spinlock,
the queue and `t`'s tokens; `core_move` says what such a move must satisfy to keep `Core`. -/

/-- The part of the invariant that speaks of the spinlock, the queue and the tokens, with the converse
    of its first clause: the spinlock word names a task of the system at a program counter holding it. -/
def Core (s : St) : Prop :=
  CvInv holds inQ (fun p => p = .unl false true ∨ p = .susp true) .idle s.n s.pc s.lock s.queue s.tok ∧
    ∀ r, s.lock = some r → holds (s.pc r) = true ∧ r < s.n

theorem core_move {n : Nat} {pc : Nat → Pc} {l l' : Option Nat} {q q' : List Nat} {k k' : Nat → Nat}
    (hc : CvInv holds inQ (fun p => p = .unl false true ∨ p = .susp true) .idle n pc l q k ∧
      ∀ r, l = some r → holds (pc r) = true ∧ r < n) {t : Nat} {p' : Pc} (ht : t < n)
    (hL : LockMove holds t (pc t) p' l l') (hQ : QMove inQ t (pc t) p' q q')
    (hT : ∀ u, u ≠ t → k' u = k u) (hK : p' = .unl false true ∨ p' = .susp true → 0 < k' t) :
    CvInv holds inQ (fun p => p = .unl false true ∨ p = .susp true) .idle n (upd pc t p') l' q' k' ∧
      ∀ r, l' = some r → holds (upd pc t p' r) = true ∧ r < n :=
  ⟨hc.1.move ht hL hQ hT hK, hL.conv ht hc.2⟩

/-! ### The program counters an event connects -/

theorem acqNext_facts {p p' : Pc} (h : acqNext p = some p') :
    holds p' = true ∧ inQ p' = inQ p ∧ weight p' = weight p ∧ p' ≠ .unl false true ∧ p' ≠ .susp true := by
  unfold acqNext at h
  split at h <;> cases h <;> simp [holds, inQ, weight]

theorem relNext_facts {ow : Option Nat} {t : Nat} {p p' : Pc} (h : relNext ow t p = some p') :
    holds p = true ∧ holds p' = false ∧ inQ p' = inQ p ∧ p' ≠ .unl false true ∧ p' ≠ .susp true ∧
      (ow = none → weight p ≤ weight p') := by
  unfold relNext at h
  split at h <;> (try split at h) <;> cases h <;> simp_all [holds, inQ, weight, b2n]

theorem setPopped_facts {p p' : Pc} (h : setPopped p = some p') :
    holds p = false ∧ holds p' = false ∧ inQ p = true ∧ inQ p' = false ∧ weight p' = 1 ∧
      (p' = .unl false true ∨ p' = .susp true → p ≠ .slp false) := by
  unfold setPopped at h
  split at h <;> cases h <;> simp [holds, inQ, weight, b2n]

theorem Core.step {s s' : St} {e : Ev} (hc : Core s) (h : Step s e s') : Core s' := by
  cases h with
  | inv t _ ht hp | ret t _ ht _ hp | done t ht hp | timeout t ht _ hp =>
    exact core_move hc ht (.same (by rw [hp]; rfl)) (.same (by rw [hp]; rfl)) (fun _ _ => rfl) (by simp)
  | woke t ht _ _ hp | sleep t ht _ hp =>
    exact core_move hc ht (.same (by rw [hp]; rfl)) (.same (by rw [hp]; rfl)) (fun u hu => upd_other _ _ _ _ hu)
      (by simp)
  | suspend t ht p hp =>
    -- suspended after being popped: the notifier's token is still there
    exact core_move hc ht (.same (by rw [hp]; rfl)) (.same (by rw [hp]; rfl)) (fun _ _ => rfl) fun hw =>
      hc.1.wake t (.inl (by rcases hw with hw | hw <;> cases hw; exact hp))
  | csEnter | csExit => exact hc
  | slAcq t ht hl p' hp =>
    obtain ⟨hh, hq, -, n1, n2⟩ := acqNext_facts hp
    exact core_move hc ht (.acq hl hh) (.same hq) (fun _ _ => rfl) (fun h => h.elim (absurd · n1) (absurd · n2))
  | slRel t ht hl p' hp =>
    obtain ⟨-, hh, hq, n1, n2, -⟩ := relNext_facts hp
    exact core_move hc ht (.rel hl hh) (.same hq) (fun _ _ => rfl) (fun h => h.elim (absurd · n1) (absurd · n2))
  | cvEnq t z tm ht hl _ _ hp =>
    refine core_move hc ht (.held hl rfl) (.enq ?_ rfl) (fun _ _ => rfl) (by simp)
    rcases hp with ⟨hp, _⟩ | ⟨c, hp, _⟩ | ⟨hp, _⟩ <;> rw [hp] <;> rfl
  | own t k w ht hl _ _ o _ _ hp =>
    refine core_move hc ht (.held hl rfl) (.same ?_) (fun _ _ => rfl) (by simp)
    rcases hp with hp | ⟨_, c, hp⟩ | ⟨_, hp⟩ <;> rw [hp] <;> rfl
  | disown t ht hl _ hp | cvNone t ht hl _ hp =>
    exact core_move hc ht (.held hl rfl) (.same (by rw [hp]; rfl)) (fun _ _ => rfl) (by simp)
  | cvWoke t st tm ht hl popped hp _ =>
    cases popped
    · -- not notified: the waiter unlinks its own entry
      exact core_move hc ht (.held hl (by cases tm <;> rfl)) (.erase (by cases tm <;> rfl)) (fun _ _ => rfl)
        (by cases tm <;> simp [wokeNext])
    · exact core_move hc ht (.held hl (by cases tm <;> rfl)) (.same (by rw [hp]; cases tm <;> rfl))
        (fun _ _ => rfl) (by cases tm <;> simp [wokeNext])
  | popResume t z g d ht hl hp rest p' hq _ hp' hd =>
    obtain ⟨-, hg', -, hgq', -, hgd⟩ := setPopped_facts hp'
    obtain ⟨-, hg, hgt, hgn⟩ := hc.1.front rfl hl (by rw [hp]; rfl) hq
    -- first the waiter `g` leaves the queue, marked and with its token; then `t` has notified
    have h1 := core_move (k' := if d then s.tok else upd s.tok g (s.tok g + 1)) hc hgn
      (.same (hg'.trans hg.symm)) (.pop hq hgq')
      (fun u hu => by split <;> first | rfl | exact upd_other _ _ _ _ hu)
      (fun hw => by rw [hd, decide_eq_false (hgd hw), if_neg Bool.false_ne_true, upd_same]; omega)
    exact core_move h1 ht (.held hl rfl) (.same (by rw [upd_other _ _ _ _ hgt.symm, hp]; rfl)) (fun _ _ => rfl)
      (by simp)

/-! ### No lost unlock -/

theorem wsum_move {s s' : St} {t : Nat} {p' : Pc} (ht : t < s.n) (hn : s'.n = s.n)
    (hpc : s'.pc = upd s.pc t p') : wsum s' + weight (s.pc t) = wsum s + weight p' := by
  unfold wsum; rw [hn, hpc]; exact sumTo_upd s.n weight s.pc t p' ht

/-- The clause `Inv.budget`. -/
def Budget (s : St) : Prop := s.queue ≠ [] → s.owner = none → 0 < wsum s

/-- Task `t` moves without losing weight while the mutex is free, and queues nobody. -/
theorem Budget.move {s s' : St} (hb : Budget s) {t : Nat} {p' : Pc} (ht : t < s.n) (hn : s'.n = s.n)
    (hpc : s'.pc = upd s.pc t p') (hq : s'.queue ≠ [] → s.queue ≠ [])
    (ho : s'.owner = none → s.owner = none ∧ weight (s.pc t) ≤ weight p') : Budget s' := by
  intro h1 h2
  have := hb (hq h1) (ho h2).1
  have := (ho h2).2
  have := wsum_move ht hn hpc
  omega

/-- A move to a program counter of positive weight gives the clause outright. -/
theorem budget_pos {s s' : St} {t : Nat} {p' : Pc} (ht : t < s.n) (hn : s'.n = s.n)
    (hpc : s'.pc = upd s.pc t p') (hp : 0 < weight p') : Budget s' := by
  intro _ _
  have := wsum_move ht hn hpc
  have : weight (s.pc t) ≤ wsum s := le_sumTo (f := fun u => weight (s.pc u)) ht
  omega

theorem Budget.step {s s' : St} {e : Ev} (hb : Budget s) (hc : Core s) (h : Step s e s') : Budget s' := by
  cases h with
  | inv t _ ht hp | ret t _ ht _ hp | done t ht hp | timeout t ht _ hp | woke t ht _ _ hp | sleep t ht _ hp
  | suspend t ht _ hp =>
    exact hb.move ht rfl rfl id fun ho => ⟨ho, by rw [hp]; exact Nat.le_refl _⟩
  | csEnter | csExit => exact hb
  | slAcq t ht _ p' hp =>
    exact hb.move ht rfl rfl id fun ho => ⟨ho, Nat.le_of_eq (acqNext_facts hp).2.2.1.symm⟩
  | slRel t ht _ p' hp =>
    exact hb.move ht rfl rfl id fun ho => ⟨ho, (relNext_facts hp).2.2.2.2.2 ho⟩
  | cvEnq t z tm ht _ ho => exact fun _ ho' => absurd ho' ho
  | own => exact fun _ ho' => by cases ho'
  | disown t ht => exact budget_pos ht rfl rfl Nat.one_pos
  | cvNone t ht _ hq => exact fun hq' => absurd hq hq'
  | cvWoke t st tm ht _ popped hp _ =>
    refine hb.move ht rfl rfl (fun hne hq => hne ?_) fun ho => ⟨ho, ?_⟩
    · cases popped <;> simp [hq]
    · rw [hp]; cases tm <;> cases popped <;> exact Nat.le_refl _
  | popResume t z g d ht hl hp rest p' hq _ hp' _ =>
    obtain ⟨-, -, hgt, hgn⟩ := hc.1.front rfl hl (by rw [hp]; rfl) hq
    -- the popped waiter carries the hand-off
    intro _ _
    have := le_sumTo (f := fun u => weight ((upd (upd s.pc g p') t .notified) u)) hgn
    simp only [upd_other _ _ _ _ hgt, upd_same, (setPopped_facts hp').2.2.2.2.1] at this
    exact this

theorem core_of_accepted {n : Nat} {log : List Ev} {s : St}
    (h : runLog step (init n) log = some s) : Core s ∧ Budget s :=
  inv_of_runLog (fun s => Core s ∧ Budget s)
    (fun _ _ _ hi hs => ⟨hi.1.step (.of hs), hi.2.step hi.1 (.of hs)⟩)
    ⟨⟨by refine ⟨?_, ?_, ?_, ?_, ?_⟩ <;> simp [init, holds, inQ], fun _ h => by cases h⟩, fun h => absurd rfl h⟩ h

theorem inv_of_accepted {n : Nat} {log : List Ev} {s : St}
    (h : runLog step (init n) log = some s) : Inv s :=
  have ⟨⟨hc, _⟩, hb⟩ := core_of_accepted h
  ⟨hc.lockHolder, hc.outside, hc.qIff, hc.qNodup, hc.wake, hb⟩

end PikaVerif.Mtx
