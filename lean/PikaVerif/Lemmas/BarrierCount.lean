import PikaVerif.Lemmas.BarrierInv
/-! Consequences of the counting invariant: capacity bound per round, emptiness above the top
    round, uniqueness of the last arriver, when a round is saturated and what follows from it up and down
    the rounds (the "last arriver ⇒ everybody arrived" lemma, the free slot of a searching arriver, no phase
    stuck with all arrivals in), the untouched tree of a fresh phase, and `InvB.known`: what the invariant says of a thread at each
    program counter. -/
namespace PikaVerif.Barrier

theorem Fsum_le_nodes (N p : Nat) (tk : Nat → Nat → Nat) (r : Nat) : Fsum N p tk r ≤ nodes N r :=
  sumTo_le_n (by intro c _; unfold isF; split <;> omega)

theorem two_le_sumTo {n : Nat} {f : Nat → Nat} {a b : Nat} (ha : a < n) (hb : b < n) (hab : a ≠ b)
    (h1 : 1 ≤ f a) (h2 : 1 ≤ f b) : 2 ≤ sumTo n f := by
  induction n with
  | zero => exact absurd ha (Nat.not_lt_zero _)
  | succ k ih =>
    simp only [sumTo_succ]
    by_cases hak : a = k
    · have hbk : b < k := by omega
      have := le_sumTo (f := f) hbk
      subst hak; omega
    · by_cases hbk : b = k
      · have hak' : a < k := by omega
        have := le_sumTo (f := f) hak'
        subst hbk; omega
      · have := ih (by omega) (by omega); omega

/-- Capacity bound: round `r` never holds more arrivals than it has participants. -/
theorem X_bound {s : St} (hb : InvB s) (r : Nat) :
    Wsum s.e0 s.phase s.tk r + Asum s.n s.pc r ≤ mr s.e0 r := by
  cases r with
  | zero => have := hb.c0; simp only [mr]; omega
  | succ k =>
    have := hb.cr k
    have := Fsum_le_nodes s.e0 s.phase s.tk k
    have := nodes_le_mr_succ s.e0 k
    omega

theorem above_top_empty {s : St} (hb : InvB s) {r k : Nat} (htop : mr s.e0 r ≤ 1) (hk : r < k) :
    Asum s.n s.pc k = 0 := by
  obtain ⟨j, rfl⟩ : ∃ j, k = j + 1 := ⟨k - 1, by omega⟩
  have h1 := hb.cr j
  have hn : nodes s.e0 j = 0 := nodes_top (Nat.le_trans (mr_anti s.e0 (by omega : r ≤ j)) htop)
  have := Fsum_le_nodes s.e0 s.phase s.tk j
  omega

theorem Wsum_all_full {N p : Nat} {tk : Nat → Nat → Nat} {r : Nat} (hm : 1 < mr N r)
    (h : ∀ c, c < nodes N r → tk r c = fullB p) : Wsum N p tk r = mr N r := by
  rw [← sumTo_cap hm]
  unfold Wsum
  apply sumTo_congr
  intro c hc
  simp [wt, h c hc]

/-- Two different threads cannot both be in top rounds (rounds with at most one participant). -/
theorem top_unique {s : St} (hb : InvB s) {t t1 r r1 : Nat} (ht : t < s.n) (ht1 : t1 < s.n)
    (hne : t ≠ t1) (hin : inR r (s.pc t) = 1) (hin1 : inR r1 (s.pc t1) = 1)
    (htop : mr s.e0 r ≤ 1) (htop1 : mr s.e0 r1 ≤ 1) : False := by
  by_cases hrr : r = r1
  · subst hrr
    have := two_le_sumTo (f := fun u => inR r (s.pc u)) ht ht1 hne (by simp [hin]) (by simp [hin1])
    have := X_bound hb r
    unfold Asum at this; omega
  · by_cases hlt : r < r1
    · have := above_top_empty hb htop hlt
      have := le_sumTo (f := fun u => inR r1 (s.pc u)) ht1
      unfold Asum at *; simp only [hin1] at this; omega
    · have := above_top_empty hb htop1 (by omega : r1 < r)
      have := le_sumTo (f := fun u => inR r (s.pc u)) ht
      unfold Asum at *; simp only [hin] at this; omega

/-- **A saturated round.**  In a round with a ticket search the three ways of saying that it has taken
    all its participants agree: the tickets have absorbed `mr` arrivals; every node is full; the next
    round holds as many arrivals as it has participants (one sent up per node). -/
theorem saturated {s : St} (hb : InvB s) {k : Nat} (hm : 1 < mr s.e0 k) :
    let full := ∀ c, c < nodes s.e0 k → s.tk k c = fullB s.phase
    (Wsum s.e0 s.phase s.tk k = mr s.e0 k → full) ∧
    (full → Wsum s.e0 s.phase s.tk k = mr s.e0 k ∧
      Wsum s.e0 s.phase s.tk (k + 1) + Asum s.n s.pc (k + 1) = mr s.e0 (k + 1)) ∧
    (Wsum s.e0 s.phase s.tk (k + 1) + Asum s.n s.pc (k + 1) = mr s.e0 (k + 1) → full) := by
  have hnext : mr s.e0 (k + 1) = nodes s.e0 k := by rw [mr_succ, nodes_eq hm]
  have hcr := hb.cr k
  refine ⟨fun hW c hc => ?_, fun hfull => ⟨Wsum_all_full hm hfull, ?_⟩, fun hX c hc => ?_⟩
  · -- every node has absorbed its whole capacity; by `tix` only a full one has
    have hw := sumTo_eq_of_le (fun c _ => wt_le_cap s.e0 s.phase k c (s.tk k c))
      (by rw [sumTo_cap hm]; exact Nat.le_of_eq hW.symm) c hc
    have := cap_pos s.e0 k c
    rcases hb.tix k c hc with h | h | h
    · rw [h, wt_old] at hw; omega
    · rw [h.1, wt_half, h.2] at hw; omega
    · exact h
  · have : Fsum s.e0 s.phase s.tk k = nodes s.e0 k := by
      unfold Fsum
      rw [sumTo_congr (g := fun _ => 1) (fun c hc => by rw [hfull c hc, isF_full]), sumTo_const, Nat.mul_one]
    omega
  · have := sumTo_eq_of_le (f := fun c => isF s.phase (s.tk k c)) (g := fun _ => 1)
      (fun c _ => by unfold isF; split <;> omega) (by rw [sumTo_const]; unfold Fsum at hcr; omega) c hc
    unfold isF at this
    split at this
    · assumption
    · cases this

/-- Downward induction: if a thread is in a top round `r`, every round `k ≤ r` holds exactly
    as many arrivals as it has participants; below `r` they are all absorbed by full tickets. -/
theorem win_Q {s : St} (hb : InvB s) {t r : Nat} (ht : t < s.n) (hin : inR r (s.pc t) = 1)
    (htop : mr s.e0 r ≤ 1) :
    ∀ d k, k + d = r → Wsum s.e0 s.phase s.tk k + Asum s.n s.pc k = mr s.e0 k ∧ 1 ≤ mr s.e0 k ∧
      (k < r → Asum s.n s.pc k = 0 ∧ ∀ c, c < nodes s.e0 k → s.tk k c = fullB s.phase) := by
  intro d
  induction d with
  | zero =>
    intro k hk
    have hkr : k = r := by omega
    subst hkr
    have h1 := le_sumTo (f := fun u => inR k (s.pc u)) ht
    simp only [hin] at h1
    have h2 := X_bound hb k
    unfold Asum at *
    exact ⟨by omega, by omega, fun h => absurd h (Nat.lt_irrefl _)⟩
  | succ d ih =>
    intro k hk
    obtain ⟨hq, hpos, -⟩ := ih (k + 1) (by omega)
    have hm : 1 < mr s.e0 k := Nat.lt_of_not_le fun h => by
      have := hb.cr k; have := Fsum_le_nodes s.e0 s.phase s.tk k; have := nodes_top h; omega
    -- round `k + 1` is saturated, so round `k` is full and nobody is left in it
    have hfull := (saturated hb hm).2.2 hq
    have := ((saturated hb hm).2.1 hfull).1
    have := X_bound hb k
    exact ⟨by omega, by omega, fun _ => ⟨by omega, hfull⟩⟩

/-- What holds when a thread is in a top round (it is the last arriver of the phase). -/
theorem win_facts {s : St} (hb : InvB s) {t r : Nat} (ht : t < s.n) (hin : inR r (s.pc t) = 1)
    (htop : mr s.e0 r ≤ 1) :
    Remsum s.n s.pc = 0 ∧ s.count = 0 ∧ 1 ≤ s.e0 ∧
    (∀ k, k ≠ r → Asum s.n s.pc k = 0) ∧ Asum s.n s.pc r = 1 ∧
    (∀ k c, c < nodes s.e0 k → s.tk k c = fullB s.phase) := by
  have hQ := win_Q hb ht hin htop
  obtain ⟨h0, hpos, -⟩ := hQ r 0 (by omega)
  have hc0 := hb.c0
  simp only [mr] at h0 hpos
  have hAr : Asum s.n s.pc r = 1 := by
    have h1 := le_sumTo (f := fun u => inR r (s.pc u)) ht
    simp only [hin] at h1
    have h2 := X_bound hb r
    unfold Asum at *
    omega
  refine ⟨by omega, by omega, hpos, fun k hkr => ?_, hAr, fun k c hc => ?_⟩
  · by_cases hlt : k < r
    · exact ((hQ (r - k) k (by omega)).2.2 hlt).1
    · exact above_top_empty hb htop (by omega)
  · by_cases hlt : k < r
    · exact ((hQ (r - k) k (by omega)).2.2 hlt).2 c hc
    · have := nodes_top (N := s.e0) (r := k) (Nat.le_trans (mr_anti s.e0 (by omega : r ≤ k)) htop)
      omega

/-- a searching thread's round is never completely full -/
theorem not_all_full {s : St} (hb : InvB s) {t : Nat} (ht : t < s.n) {r m : Nat}
    (hin : inR r (s.pc t) = 1) (hm : m = mr s.e0 r) (hm1 : 1 < m) :
    ¬ ∀ c', c' < (m + 1) / 2 → s.tk r c' = fullB s.phase := fun hall => by
  subst hm
  rw [← nodes_eq hm1] at hall
  have := ((saturated hb hm1).2.1 hall).1
  have := X_bound hb r
  have := le_sumTo (f := fun u => inR r (s.pc u)) ht
  simp only [hin] at this
  unfold Asum at *; omega

/-- **A searching arriver always has a free slot in its round**: the round never holds more arrivals
    than it has capacity. -/
theorem slot_available {s : St} (hb : InvB s) {t : Nat} (ht : t < s.n) {r : Nat}
    (hin : inR r (s.pc t) = 1) (hm : 1 < mr s.e0 r) :
    ∃ c, c < nodes s.e0 r ∧ (s.tk r c = s.phase ∨ (s.tk r c = halfB s.phase ∧ cap s.e0 r c = 2)) :=
  Classical.byContradiction fun hno => not_all_full hb ht hin rfl hm fun c hc =>
    have hc : c < nodes s.e0 r := nodes_eq hm ▸ hc
    (hb.tix r c hc).elim (fun h => absurd ⟨c, hc, .inl h⟩ hno)
      fun h => h.elim (fun h => absurd ⟨c, hc, .inr h⟩ hno) id

/-- **All arrivals of the phase are in, nobody is inside `base.arrive`: impossible.**  The last
    arrival of a phase always produces a last arriver (`won`/`pub`), so a state in which the
    phase's count is used up and every thread is outside the arriving code does not exist. -/
theorem tree_not_stuck {s : St} (hb : InvB s) (hA : ∀ r, Asum s.n s.pc r = 0)
    (hR : Remsum s.n s.pc = 0) (hc : s.count = 0) (he : 1 ≤ s.e0) : False := by
  have key : ∀ r, Wsum s.e0 s.phase s.tk r = mr s.e0 r := by
    intro r
    induction r with
    | zero => have := hb.c0; have := hA 0; simp only [mr]; omega
    | succ k ih =>
      have hm : 1 < mr s.e0 k := Nat.lt_of_not_le fun h => by
        have := mr_pos he k
        unfold Wsum at ih; rw [nodes_top h] at ih; simp at ih; omega
      have := ((saturated hb hm).2.1 ((saturated hb hm).1 ih)).2
      have := hA (k + 1)
      omega
  have h1 := key s.e0
  have h3 := mr_pos he s.e0
  unfold Wsum at h1; rw [nodes_top (mr_top s.e0)] at h1; simp at h1; omega

theorem Fsum_le_Wsum (N p : Nat) (tk : Nat → Nat → Nat) (r : Nat) : Fsum N p tk r ≤ Wsum N p tk r :=
  sumTo_mono fun c _ => by
    have := cap_pos N r c
    unfold isF wt; split <;> omega

/-- While the whole expected count of the phase is outstanding no ticket in range has been touched (the tree
    is as a freshly constructed one): no round has absorbed anything, round by round upwards. -/
theorem InvB.fresh {s : St} (hb : InvB s) (hfresh : s.count = s.e0) :
    ∀ r c, c < nodes s.e0 r → s.tk r c = s.phase := by
  have hW : ∀ r, Wsum s.e0 s.phase s.tk r = 0 := by
    intro r
    induction r with
    | zero => have := hb.c0; omega
    | succ k ih => have := hb.cr k; have := Fsum_le_Wsum s.e0 s.phase s.tk k; omega
  intro r c hc
  have h0 := le_sumTo (f := fun c => wt s.phase (cap s.e0 r c) (s.tk r c)) hc
  rw [show sumTo _ _ = 0 from hW r] at h0
  have := cap_pos s.e0 r c
  rcases hb.tix r c hc with h | h | h
  · exact h
  · rw [h.1, wt_half] at h0; cases h0
  · rw [h, wt_full] at h0; omega

theorem isWin_inR {N : Nat} {p : Pc} (h : isWin p = true) (hs : pcOk N p) :
    ∃ r, inR r p = 1 ∧ mr N r ≤ 1 := by
  cases p <;> simp [isWin, isWon, isPub] at h
  case won u r => exact ⟨r, by simp [inR], hs⟩
  case pub u r => exact ⟨r, by simp [inR], hs⟩

/-- While a last arriver exists (between `true` from base.arrive and the phase store) every other
    thread is outside the arriving code, the last arriver has no call left, the phase's count is used
    up and every in-range ticket is full. -/
theorem last_arriver {s : St} (hb : InvB s) {t1 : Nat} (hw : s.win = some t1) :
    (∀ t, t < s.n → t ≠ t1 → arriving (s.pc t) = false) ∧ rem (s.pc t1) = 0 ∧ t1 < s.n ∧ s.count = 0 ∧
      1 ≤ s.e0 ∧ ∀ k c, c < nodes s.e0 k → s.tk k c = fullB s.phase := by
  obtain ⟨hwin, ht1, _⟩ := hb.winConv t1 hw
  obtain ⟨r, hin, htop⟩ := isWin_inR hwin (hb.shape t1)
  obtain ⟨hrem, hcnt, he0, hA, hAr, hfull⟩ := win_facts hb ht1 hin htop
  have hrem : ∀ t, t < s.n → rem (s.pc t) = 0 := fun t ht => by
    have := le_sumTo (f := fun u => rem (s.pc u)) ht
    unfold Remsum at hrem; omega
  refine ⟨fun t ht hne => arriving_of_quiet (hrem t ht) (fun k => ?_) (hb.shape t), hrem t1 ht1, ht1, hcnt, he0,
    hfull⟩
  by_cases hk : k = r
  · subst hk
    by_cases h0 : inR k (s.pc t) = 0
    · exact h0
    · have := two_le_sumTo (f := fun u => inR k (s.pc u)) ht ht1 hne (by show 1 ≤ inR k (s.pc t); omega) (by simp [hin])
      unfold Asum at hAr; omega
  · have := hA k hk
    have := le_sumTo (f := fun u => inR k (s.pc u)) ht
    unfold Asum at *; omega

/-- … every other thread, threads that do not exist included -/
theorem others_quiet {s : St} (ha : InvA s) (hb : InvB s) {t1 : Nat} (hw : s.win = some t1) (t : Nat)
    (hne : t ≠ t1) : arriving (s.pc t) = false := by
  by_cases ht : t < s.n
  · exact (last_arriver hb hw).1 t ht hne
  · rw [ha.outside t (by omega)]; rfl

theorem no_win_of_rem {s : St} (hb : InvB s) : ∀ t, t < s.n → 1 ≤ rem (s.pc t) → s.win = none := by
  intro t ht hr
  cases hw : s.win with
  | none => rfl
  | some t1 =>
    obtain ⟨h1, h2, -⟩ := last_arriver hb hw
    by_cases h : t = t1
    · subst h; omega
    · have := (not_arriving (h1 t ht h)).1; omega

theorem no_win_of_inR {s : St} (hb : InvB s) : ∀ t k, t < s.n → inR k (s.pc t) = 1 →
    s.win = none ∨ s.win = some t := by
  intro t k ht hr
  cases hw : s.win with
  | none => exact Or.inl rfl
  | some t1 =>
    by_cases h : t = t1
    · subst h; exact Or.inr rfl
    · have := (not_arriving ((last_arriver hb hw).1 t ht h)).2.1 k; omega

/-- What the invariant says of thread `t` at program counter `p`: the locals of `base.arrive` fit the
    round, the token is that of the phase, and whether a last arriver can be pending (`arr`: the call's
    own arrival is still counted in `rem`, so `expected` is not used up). -/
def Known (s : St) (t : Nat) : Pc → Prop
  | .want u => 1 ≤ u ∧ s.win = none
  | .wantDrop => s.win = none
  | .arr u => 1 ≤ u ∧ 1 ≤ s.expected ∧ s.expected = s.e0 ∧ s.win = none
  | .try _ cur r m => m = mr s.e0 r ∧ (1 < m → cur ≤ (m + 1) / 2 ∧ nodes s.e0 r = (m + 1) / 2) ∧
      s.tok t = s.phase ∧ s.win = none
  | .try2 _ cur r m => m = mr s.e0 r ∧ 1 < m ∧ cur < (m + 1) / 2 ∧ nodes s.e0 r = (m + 1) / 2 ∧
      s.tok t = s.phase ∧ s.win = none
  | .won _ r => mr s.e0 r ≤ 1 ∧ s.tok t = s.phase ∧ s.win = some t ∧
      s.expected = s.e0 ∧ s.adj = s.drops ∧ s.compls = s.ph
  | .pub _ r => mr s.e0 r ≤ 1 ∧ s.tok t = s.phase ∧ s.win = some t ∧ s.compls = s.ph + 1 ∧ s.adj = 0
  | _ => True

theorem InvB.known {s : St} (hb : InvB s) {t : Nat} (ht : t < s.n) {p : Pc} (hp : s.pc t = p) :
    Known s t p := by
  have hsh := hb.shape t
  have htok := fun h => (hb.tokPhase t h).1
  have hrem := no_win_of_rem hb t ht
  have hnodes : ∀ {r m}, m = mr s.e0 r → 1 < m → nodes s.e0 r = (m + 1) / 2 := fun h1 h2 => by
    rw [nodes_eq (h1 ▸ h2), h1]
  have hin : ∀ r, inR r (s.pc t) = 1 → isWin (s.pc t) = false → s.win = none := fun r h1 h2 =>
    (no_win_of_inR hb t r ht h1).resolve_right fun h => by have := (hb.winConv t h).1; rw [h2] at this; cases this
  subst hp
  cases hpc : s.pc t <;> rw [hpc] at hsh htok hrem hin <;> try trivial
  case want u => exact ⟨hsh, hrem hsh⟩
  case wantDrop => exact hrem (Nat.le_refl 1)
  case arr u =>
    have hw := hrem hsh
    have hc0 := hb.c0
    have := le_sumTo (f := fun u => rem (s.pc u)) ht
    have h1 : 1 ≤ rem (s.pc t) := by rw [hpc]; exact hsh
    exact ⟨hsh, by rw [(hb.noWin hw).1]; unfold Remsum at hc0; omega, (hb.noWin hw).1, hw⟩
  case «try» u cur r m =>
    exact ⟨hsh.1, fun hm => ⟨hsh.2 hm, hnodes hsh.1 hm⟩, htok rfl, hin r (if_pos rfl) rfl⟩
  case try2 u cur r m =>
    exact ⟨hsh.1, hsh.2.1, hsh.2.2, hnodes hsh.1 hsh.2.1, htok rfl, hin r (if_pos rfl) rfl⟩
  case won u r => exact ⟨hsh, htok rfl, hb.winOk t (by rw [hpc]; rfl), hb.wonF t (by rw [hpc]; rfl)⟩
  case pub u r => exact ⟨hsh, htok rfl, hb.winOk t (by rw [hpc]; rfl), hb.pubF t (by rw [hpc]; rfl)⟩

theorem InvB.phase_ne_tok {s : St} (hb : InvB s) {t : Nat} (hdone : s.tokIdx t < s.ph)
    (hnear : s.ph - s.tokIdx t < 128) : s.phase ≠ s.tok t := by
  rw [(hb.tokIdxOk t).1, hb.phaseEq]; omega

end PikaVerif.Barrier
