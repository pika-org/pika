import PikaVerif.Lemmas.Bulk
import PikaVerif.Lemmas.Partition
/-! Chunk accounting invariant of the bulk protocol model: where every chunk is (`mono` … `out`), and
    what each worker at its pc knows of the queues (`PcQ`) and of the spawner loop (`SpW`). -/
namespace PikaVerif.Bulk

theorem mod_cover (w k q : Nat) (hk : k < w) (hq : q < w) : ∃ o, o < w ∧ (k + o) % w = q := by
  by_cases h : k ≤ q
  · exact ⟨q - k, by omega, by rw [show k + (q - k) = q by omega]; exact Nat.mod_eq_of_lt hq⟩
  · refine ⟨q + w - k, by omega, ?_⟩
    rw [show k + (q + w - k) = q + w by omega, Nat.add_mod_right]
    exact Nat.mod_eq_of_lt hq

theorem qEmpty_iff (r : Nat × Nat) : qEmpty r = true ↔ r.2 ≤ r.1 := by simp [qEmpty]
theorem qEmpty_false_iff (r : Nat × Nat) : qEmpty r = false ↔ r.1 < r.2 := by
  simp [qEmpty]

theorem cur_ne_L (s : St) : cur s ≠ s.L := by
  unfold cur; split <;> omega

/-- what worker `u` at `pc` knows of the queues: a task at steal offset `off` has found the queues at
    the offsets below `off` empty; the local worker leaves `do_work` without a throw only after it saw
    all queues empty, and has decremented only after that or after some call threw -/
def PcQ (w L : Nat) (qs : Nat → Nat × Nat) (saw exc : Bool) (u : Nat) (pc : Pc) : Prop :=
  (∀ off, offOf pc = some off → off < w ∧ ∀ o, o < off → qEmpty (qs ((u + o) % w)) = true) ∧
  (u = L → pc = .fin false → saw = true) ∧ (u = L → pc = .decd → saw = true ∨ exc = true)

/-- queues only shrink and the two flags only rise -/
theorem PcQ.mono {w L u : Nat} {qs qs' : Nat → Nat × Nat} {saw saw' exc exc' : Bool} {pc : Pc}
    (h : PcQ w L qs saw exc u pc) (hqs : ∀ q, qEmpty (qs q) = true → qEmpty (qs' q) = true)
    (hsaw : saw = true → saw' = true) (hexc : exc = true → exc' = true) : PcQ w L qs' saw' exc' u pc :=
  ⟨fun off ho => ⟨(h.1 off ho).1, fun o hlt => hqs _ ((h.1 off ho).2 o hlt)⟩, fun a b => hsaw (h.2.1 a b),
    fun a b => (h.2.2 a b).imp hsaw hexc⟩

/-- a pc outside `do_work` that is neither `fin false` nor `decd` -/
theorem PcQ.plain {w L u : Nat} {qs : Nat → Nat × Nat} {saw exc : Bool} {pc : Pc}
    (h1 : offOf pc = none) (h2 : pc ≠ .fin false) (h3 : pc ≠ .decd) : PcQ w L qs saw exc u pc :=
  ⟨fun off ho => (by rw [h1] at ho; cases ho), fun _ h => absurd h h2, fun _ h => absurd h h3⟩

/-- the spawner loop has handled exactly the workers below `nx`, other than the local worker `L`, which is
    never `spawned` -/
def SpW (L nx u : Nat) (pc : Pc) : Prop := (u ≠ L → (pc = .idle ↔ nx ≤ u)) ∧ (u = L → pc ≠ .spawned)

/-- a worker that the spawner loop is done with moves on -/
theorem SpW.next {L nx u : Nat} {pc x : Pc} (h : SpW L nx u pc) (hp : pc ≠ .idle ∨ u = L) (hx : x ≠ .idle)
    (hx2 : x ≠ .spawned) : SpW L nx u x :=
  ⟨fun hu => ⟨fun e => absurd e hx, fun hn => absurd ((h.1 hu).2 hn) (hp.resolve_right hu)⟩, fun _ => hx2⟩

/-- Where every chunk index is: still in its queue, or popped exactly once; and what every worker knows. -/
structure InvQ (s : St) : Prop where
  mono : ∀ k, k < s.w → s.a k ≤ s.a (k + 1)
  rng : ∀ k, k < s.w → s.a k ≤ (s.qs k).1 ∧ (s.qs k).1 ≤ (s.qs k).2 ∧ (s.qs k).2 ≤ s.a (k + 1)
  /-- a chunk of the initial range of queue `k` is still in the queue or has been popped once -/
  acc : ∀ k j, k < s.w → s.a k ≤ j → j < s.a (k + 1) →
    s.popped j + (if (s.qs k).1 ≤ j ∧ j < (s.qs k).2 then 1 else 0) = 1
  out : ∀ j, (∀ k, k < s.w → ¬ (s.a k ≤ j ∧ j < s.a (k + 1))) → s.popped j = 0
  /-- `sawAll` is set only when every queue is empty (queues never grow) -/
  all : s.sawAll = true → ∀ q, q < s.w → qEmpty (s.qs q) = true
  wq : ∀ u, PcQ s.w s.L s.qs s.sawAll s.excThrown u (s.pc u)
  sp : ∀ u, SpW s.L s.next u (s.pc u)

theorem invQ_init (w L : Nat) (a : Nat → Nat) (hm : ∀ k, k < w → a k ≤ a (k + 1)) :
    InvQ (init w L a) := by
  refine ⟨hm, ?_, ?_, ?_, ?_, fun u => .plain rfl nofun nofun, fun u => ⟨fun _ => by simp [init], nofun⟩⟩ <;>
    simp [init]
  · intro k hk; exact hm k hk
  · intro k j _ h1 h2; simp [h1, h2]

/-- worker `k` moves to `x`; the queues stay -/
theorem InvQ.move {s : St} (hq : InvQ s) {k : Nat} {x : Pc} {sa ex : Bool}
    (hsa : s.sawAll = true → sa = true) (hex : s.excThrown = true → ex = true)
    (hall : sa = true → ∀ q, q < s.w → qEmpty (s.qs q) = true)
    (hx : PcQ s.w s.L s.qs sa ex k x) (hp : s.pc k ≠ .idle ∨ k = s.L) (hx1 : x ≠ .idle := by nofun)
    (hx2 : x ≠ .spawned := by nofun) {rem thr sg : Nat} {oc : Option Bool} :
    InvQ { s with pc := upd s.pc k x, sawAll := sa, excThrown := ex, remaining := rem,
                  threw := thr, signals := sg, outcome := oc } :=
  ⟨hq.mono, hq.rng, hq.acc, hq.out, hall, forall_upd (fun u => (hq.wq u).mono (fun _ h => h) hsa hex) hx,
    forall_upd hq.sp ((hq.sp k).next hp hx1 hx2)⟩

theorem offOf_ne_idle {p : Pc} {off : Nat} (h : offOf p = some off) : p ≠ .idle := by
  cases p <;> simp [offOf] at h ⊢

theorem stepQ {s s' : St} {e : Ev} (hi : Inv s ∧ InvQ s) (h : step s e = some s') :
    Inv s' ∧ InvQ s' := by
  refine ⟨step_inv hi.1 h, ?_⟩
  obtain ⟨hi, hq⟩ := hi
  cases step_iff.1 h with
  | @spawn k _ hc hp | @skip k _ hc hp =>
    -- the spawner loop moves on to `k + 1`: `k` is the first worker other than `L` from `next` on
    have hk : k ≠ s.L := hc ▸ cur_ne_L s
    have hn : s.next ≤ k ∧ ∀ u, u ≠ s.L → u ≠ k → (s.next ≤ u ↔ k + 1 ≤ u) := by
      unfold cur at hc; split at hc <;> exact ⟨by omega, fun u _ _ => by omega⟩
    exact ⟨hq.mono, hq.rng, hq.acc, hq.out, hq.all,
      forall_upd hq.wq ⟨nofun, fun h => absurd h hk, fun h => absurd h hk⟩,
      forall_upd_ne (fun u hu => ⟨fun hL => ((hq.sp u).1 hL).trans (hn.2 u hL hu), (hq.sp u).2⟩)
        ⟨fun _ => ⟨nofun, fun h => absurd h (Nat.not_succ_le_self k)⟩, fun h => absurd h hk⟩⟩
  | task hk hp =>
    refine hq.move id id hq.all ?_ (hp.elim (fun h => .inr h.1) fun h => .inl (by simp [h.2]))
    exact ⟨fun off ho => by cases ho; exact ⟨by omega, nofun⟩, nofun, nofun⟩
  | chunk => exact hq
  | sig => exact ⟨hq.mono, hq.rng, hq.acc, hq.out, hq.all, hq.wq, hq.sp⟩
  | exc _ _ hp => refine hq.move id (fun _ => rfl) hq.all ?_ (.inl (by simp [hp])); exact .plain rfl nofun nofun
  | @decFin k t _ _ hpc =>
    refine hq.move id id hq.all ?_ (.inl (by simp [hpc]))
    refine ⟨nofun, nofun, fun hk _ => ?_⟩
    subst hk
    cases t
    · exact .inl ((hq.wq _).2.1 rfl hpc)
    · exact .inr (hi.finT _ hpc)
  | decWork _ _ hp hex =>
    refine hq.move id id hq.all ?_ (.inl (by simp [hp])); exact ⟨nofun, nofun, fun _ _ => .inr hex⟩
  | @popNone k _ off hk hoff hq' he =>
    subst hq'
    obtain ⟨hoffw, hseen⟩ := (hq.wq k).1 off hoff
    -- the queues at the offsets up to `off` are empty; with `off + 1 = w` these are all
    have hupto : ∀ o, o < off + 1 → qEmpty (s.qs ((k + o) % s.w)) = true := fun o ho => by
      by_cases h : o < off
      · exact hseen o h
      · rw [show o = off by omega]; exact he
    refine hq.move (by simp +contextual) id (fun h q hqw => ?_) ?_ (.inl (offOf_ne_idle hoff))
      (by unfold afterEmpty; split <;> nofun) (by unfold afterEmpty; split <;> nofun)
    · simp only [Bool.or_eq_true, decide_eq_true_eq] at h
      rcases h with h | h
      · exact hq.all h q hqw
      · obtain ⟨o, ho, rfl⟩ := mod_cover s.w k q hk hqw
        exact hupto o (by omega)
    · unfold afterEmpty
      split
      · exact ⟨fun o ho => by cases ho; exact ⟨‹_›, hupto⟩, nofun, nofun⟩
      · exact ⟨nofun, fun _ _ => by simp; omega, nofun⟩
  | @popSome k q off j hk hoff hqq hne hj =>
    subst hj
    have hqw : q < s.w := by rw [hqq]; exact Nat.mod_lt _ (by omega)
    obtain ⟨hj, hb, -, hind⟩ := popEnd_spec off ((qEmpty_false_iff _).1 hne)
    have hr := hq.rng q hqw
    have hcell : ∀ u, u < s.w → s.a u ≤ (popEnd off (s.qs q)).1 → (popEnd off (s.qs q)).1 < s.a (u + 1) →
        u = q := fun u hu h1 h2 =>
      Partition.cell_unique s.a s.w hq.mono hu hqw h1 h2 (by omega) (by omega)
    -- queue `q` was not empty, the others stay: an empty queue stays empty
    have hemp : ∀ q', qEmpty (s.qs q') = true → upd s.qs q (popEnd off (s.qs q)).2 q' = s.qs q' :=
      fun q' h => by rw [upd_other _ _ _ _ (fun e => by rw [e, hne] at h; cases h)]
    refine ⟨hq.mono, ?_, ?_, ?_, ?_, ?_,
      forall_upd hq.sp ((hq.sp k).next (.inl (offOf_ne_idle hoff)) nofun nofun)⟩ <;> dsimp only
    · intro u hu
      by_cases huq : u = q
      · subst huq; rw [upd_same]; omega
      · rw [upd_other _ _ _ _ huq]; exact hq.rng u hu
    · intro u j' hu h1 h2
      have hacc := hq.acc u j' hu h1 h2
      by_cases huq : u = q
      · subst huq
        rw [hind j'] at hacc
        simp only [upd_same]
        by_cases hjj : j' = (popEnd off (s.qs u)).1
        · rw [hjj, upd_same]; rw [hjj, if_pos rfl] at hacc; omega
        · rw [upd_other _ _ _ _ hjj]; rw [if_neg hjj] at hacc; omega
      · have : j' ≠ (popEnd off (s.qs q)).1 := fun e => huq (hcell u hu (e ▸ h1) (e ▸ h2))
        simp only [upd, huq, this, if_false]; exact hacc
    · intro j' hno
      have : j' ≠ (popEnd off (s.qs q)).1 := fun h => hno q hqw (h ▸ ⟨by omega, by omega⟩)
      rw [upd_other _ _ _ _ this]; exact hq.out j' hno
    · intro h
      have := hq.all h q hqw
      rw [hne] at this; cases this
    · exact forall_upd (fun u => (hq.wq u).mono (fun q' h => by rw [hemp q' h]; exact h) id id)
        ⟨fun o ho => by
          cases ho
          exact ⟨((hq.wq k).1 _ hoff).1, fun o' ho' => by
            have := ((hq.wq k).1 _ hoff).2 o' ho'; rw [hemp _ this]; exact this⟩, nofun, nofun⟩

theorem invQ_of_accepted {w L : Nat} {a : Nat → Nat} (hL : L < w)
    (hm : ∀ k, k < w → a k ≤ a (k + 1)) {log : List Ev} {s : St}
    (h : runLog step (init w L a) log = some s) : Inv s ∧ InvQ s :=
  inv_of_runLog (fun s => Inv s ∧ InvQ s) (fun _ _ _ hi hs => stepQ hi hs)
    ⟨inv_init w L a hL, invQ_init w L a hm⟩ h

theorem popped_le_one (p : St) (hq : InvQ p) (j : Nat) : p.popped j ≤ 1 := by
  by_cases hc : ∃ k, k < p.w ∧ p.a k ≤ j ∧ j < p.a (k + 1)
  · obtain ⟨k, hk, h1, h2⟩ := hc
    have := hq.acc k j hk h1 h2
    split at this <;> omega
  · have := hq.out j (fun k hk hh => hc ⟨k, hk, hh.1, hh.2⟩); omega

theorem popped_eq_one_of_value (p : St) (hi : Inv p) (hq : InvQ p)
    (ho : p.outcome = some false) (j : Nat) (h1 : p.a 0 ≤ j) (h2 : j < p.a p.w) : p.popped j = 1 := by
  obtain ⟨h0, he⟩ := hi.outc false ho
  have hdec := no_active_when_done p hi h0
  have hLw : p.L < p.w := hi.wL
  have hsaw : p.sawAll = true := by
    rcases (hq.wq p.L).2.2 rfl (hdec p.L hLw) with h | h
    · exact h
    · rw [← he] at h; simp at h
  obtain ⟨k, hk, c1, c2⟩ := Partition.exists_cell p.a p.w hq.mono j h1 h2
  have hacc := hq.acc k j hk c1 c2
  have hempty := (qEmpty_iff _).1 (hq.all hsaw k hk)
  split at hacc
  · omega
  · omega

theorem frame_of_accepted {w L : Nat} {a : Nat → Nat} {log : List Ev} {s : St}
    (h : runLog step (init w L a) log = some s) : s.w = w ∧ s.L = L ∧ s.a = a := by
  refine inv_of_runLog (fun s => s.w = w ∧ s.L = L ∧ s.a = a) ?_ ⟨rfl, rfl, rfl⟩ h
  intro s e s' hf hs
  obtain ⟨h1, h2, h3⟩ := step_params hs
  exact ⟨h1.trans hf.1, h2.trans hf.2.1, h3.trans hf.2.2⟩

/-- what `C11Proto.Reachable` gives: both invariants and the parameters of the run -/
theorem of_reach {w L : Nat} {a : Nat → Nat} {s : St}
    (h : L < w ∧ (∀ k, k < w → a k ≤ a (k + 1)) ∧ ∃ log, runLog step (init w L a) log = some s) :
    (Inv s ∧ InvQ s) ∧ s.w = w ∧ s.L = L ∧ s.a = a :=
  let ⟨hL, hm, _, hl⟩ := h
  ⟨invQ_of_accepted hL hm hl, frame_of_accepted hl⟩

end PikaVerif.Bulk
