import PikaVerif.Model.AffCmd
import PikaVerif.Lemmas.AffNuma
/-! C15: the command-line layer — the thread-count keywords never oversubscribe (`defaultCores_le`),
    and `--pika:cores` is without effect while the process mask is used (`decode_withCores`). -/
namespace PikaVerif.Aff

theorem defaultCores_le (cfg : Cfg) (hwf : WF cfg.t) : defaultCores cfg ≤ avail cfg := by
  unfold defaultCores avail
  cases hp : cfg.usePm with
  | false => simp only [Bool.false_eq_true, ↓reduceIte]; exact le_base hwf (Nat.le_refl _)
  | true =>
    simp only [↓reduceIte]
    unfold countMask numPus
    rw [sumTo_base]
    apply sumTo_mono
    intro c _
    unfold coreInPm
    split
    · rename_i h
      simp only [Bool.and_eq_true, decide_eq_true_eq] at h
      exact h.2
    · exact Nat.zero_le _

theorem defaultThreads_eq (cfg : Cfg) : defaultThreads cfg = avail cfg := rfl


/-! ## `--pika:cores` while the process mask is used -/

/-- the same request with another `max_cores` -/
def withCores (cfg : Cfg) (k : Nat) : Cfg := { cfg with maxCores := k }

theorem effCores_withCores (cfg : Cfg) (k : Nat) (h : cfg.usePm = true) :
    effCores (withCores cfg k) = effCores cfg := by
  simp [effCores, withCores, h]

theorem compactLoop_withCores (cfg : Cfg) (k : Nat) (h : cfg.usePm = true) (f : Nat) (s : ASt) :
    compactLoop (withCores cfg k) f s = compactLoop cfg f s := by
  have hp : ∀ s, compactPass (withCores cfg k) s = compactPass cfg s := fun s => by
    unfold compactPass; rw [effCores_withCores cfg k h]; rfl
  induction f generalizing s with
  | zero => rfl
  | succ f ih => simp only [compactLoop, hp, ih]

theorem scatterLoop_withCores (cfg : Cfg) (k : Nat) (h : cfg.usePm = true) (f : Nat) (s : SSt) :
    scatterLoop (withCores cfg k) f s = scatterLoop cfg f s := by
  have hp : ∀ s, scatterPass (withCores cfg k) s = scatterPass cfg s := fun s => by
    unfold scatterPass; rw [effCores_withCores cfg k h]; rfl
  induction f generalizing s with
  | zero => rfl
  | succ f ih => simp only [scatterLoop, hp, ih]

/-- the first phase of balanced does not look at `max_cores` at all -/
theorem balPhase1_withCores (cfg : Cfg) (k off goal ncores : Nat) :
    balPhase1 (withCores cfg k) off goal ncores = balPhase1 cfg off goal ncores := by
  have (f : Nat) (s : BSt) : balLoop (withCores cfg k) off goal ncores f s = balLoop cfg off goal ncores f s := by
    induction f generalizing s <;> simp only [balLoop, *] <;> rfl
  unfold balPhase1; rw [this]

theorem numaSockets_withCores (cfg : Cfg) (k : Nat) (shares : List Nat) (n : Nat) (s : ASt) :
    numaSockets (withCores cfg k) shares n s = numaSockets cfg shares n s := by
  induction shares generalizing n s <;> simp only [numaSockets, balPhase1_withCores, *] <;> rfl

theorem numaShares_withCores (cfg : Cfg) (k P m n t2 : Nat) :
    numaShares (withCores cfg k) P m n t2 = numaShares cfg P m n t2 := by
  induction m generalizing n t2 <;> simp only [numaShares, *] <;> rfl

/-- **`--pika:cores` is without effect while the process mask is used** -/
theorem decode_withCores (m : Mode) (cfg : Cfg) (k : Nat) (h : cfg.usePm = true) :
    decode m (withCores cfg k) = decode m cfg := by
  have ht : tooMany (withCores cfg k) = tooMany cfg := rfl
  have hn : (withCores cfg k).n = cfg.n := rfl
  cases m with
  | compact => simp only [decode, decodeCompact, ht, hn, compactLoop_withCores cfg k h]
  | scatter => simp only [decode, decodeScatter, ht, hn, scatterLoop_withCores cfg k h]
  | balanced =>
    simp only [decode, decodeBalanced, ht, hn, effCores_withCores cfg k h, balPhase1_withCores]
    rfl
  | numaBalanced =>
    have hp : numaPusT (withCores cfg k) = numaPusT cfg := rfl
    have hs : numSockets (withCores cfg k).t = numSockets cfg.t := rfl
    simp only [decode, decodeNuma, ht, hp, hs, numaShares_withCores, numaSockets_withCores]



theorem cmdCfg_fields (cmd : Cmd) (t : Topo) (pm : Nat → Bool) (cfg : Cfg)
    (h : cmdCfg cmd t pm = some cfg) :
    cfg.t = t ∧ cfg.usePm = !cmd.ignoreMask ∧ cfg.used = 0 ∧ (cmd.cores = .dflt → cfg.maxCores = cfg.n) := by
  unfold cmdCfg at h
  simp only at h
  split at h
  · cases h
  · cases h
    exact ⟨rfl, rfl, rfl, fun hc => by simp [cmdCores, hc]⟩

end PikaVerif.Aff
