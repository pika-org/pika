import PikaVerif.Lemmas.BulkQ
import PikaVerif.Core.Run
/-!
Progress of the bulk protocol model `PikaVerif.Bulk` (C11):

* `actor`: while the outcome is undecided some participant is in a state from which it can move
  (the classification used for the protocol model and for the composed model);
* `BulkC.pcw`: what a participant weighs in the measures of both models, by its place in the spawn /
  steal round / decrement protocol (`3·(w − off)` for the queues it has not yet seen empty);
* `muP`: termination measure of the protocol model (the pops are atomic here): it decreases with
  every accepted event except the stutter event `chunk` (which only confirms the chunk index).
-/
namespace PikaVerif

/-- If every accepted event that is not a stutter lowers `μ` and a stutter does not raise it, an
    accepted log has at most `μ s - μ s'` events that are not stutters. -/
theorem runLog_work_le {σ ε : Type} {step : σ → ε → Option σ} (Inv : σ → Prop) (μ : σ → Nat)
    (st : ε → Bool) (hinv : ∀ s e s', Inv s → step s e = some s' → Inv s')
    (hμ : ∀ s e s', Inv s → step s e = some s' → μ s' + (if st e then 0 else 1) ≤ μ s)
    {s s' : σ} {log : List ε} (h0 : Inv s) (h : runLog step s log = some s') :
    (log.filter (fun e => !st e)).length + μ s' ≤ μ s := by
  have := runLog_measure Inv μ (fun e => if st e then 0 else 1) hinv hμ h0 h
  have hl : ∀ l : List ε,
      (l.map (fun e => if st e then 0 else 1)).sum = (l.filter (fun e => !st e)).length := by
    intro l
    induction l with
    | nil => rfl
    | cons a l ih => cases ha : st a <;> simp [ha, ih] <;> omega
  have := hl log
  omega

end PikaVerif

namespace PikaVerif.BulkC

def pcw (w : Nat) : Bulk.Pc → Nat
  | .idle => 3 * w + 8
  | .spawned => 3 * w + 6
  | .run off => 3 * (w - off) + 4
  | .work off _ => 3 * (w - off) + 4
  | .fin _ => 2
  | .decd => 0

theorem pcw_afterEmpty (w off : Nat) (pc : Bulk.Pc) (h : Bulk.offOf pc = some off) :
    pcw w (Bulk.afterEmpty w off) + 2 ≤ pcw w pc := by
  have hp : pcw w pc = 3 * (w - off) + 4 := by
    cases pc <;> simp [Bulk.offOf] at h <;> subst h <;> rfl
  rw [hp]
  unfold Bulk.afterEmpty
  split
  · simp only [pcw]; omega
  · simp only [pcw]; omega

theorem pcw_of_offOf (w off j : Nat) (pc : Bulk.Pc) (h : Bulk.offOf pc = some off) :
    pcw w pc = pcw w (.work off j) := by
  cases pc <;> simp [Bulk.offOf] at h <;> subst h <;> rfl

end PikaVerif.BulkC

namespace PikaVerif.Bulk

theorem exists_zero_of_sumTo_lt {n : Nat} {f : Nat → Nat} (h : sumTo n f < n) :
    ∃ k, k < n ∧ f k = 0 := by
  induction n with
  | zero => omega
  | succ m ih =>
    simp only [sumTo_succ] at h
    by_cases hm : f m = 0
    · exact ⟨m, by omega, hm⟩
    · obtain ⟨k, hk, hz⟩ := ih (by omega)
      exact ⟨k, by omega, hz⟩

/-- While the outcome is undecided, (1) the spawner loop is at an untouched
    worker, or (2) the spawner loop is finished and the local worker has not started, or some
    worker `k < w` is (3) spawned and not started, (4) inside `do_work` (popping, or inside
    `do_work_chunk`), or (5) about to decrement the join counter. -/
theorem actor (s : St) (hi : Inv s) (hq : InvQ s) (ho : s.outcome = none) :
    (cur s < s.w ∧ s.pc (cur s) = .idle) ∨
    (s.w ≤ cur s ∧ s.pc s.L = .idle) ∨
    (∃ k, k < s.w ∧ k ≠ s.L ∧ s.pc k = .spawned) ∨
    (∃ k off, k < s.w ∧ offOf (s.pc k) = some off) ∨
    (∃ k t, k < s.w ∧ s.pc k = .fin t) := by
  by_cases hc : cur s < s.w
  · refine Or.inl ⟨hc, ((hq.sp (cur s)).1 (cur_ne_L s)).2 ?_⟩
    unfold cur; split <;> omega
  · by_cases hL : s.pc s.L = .idle
    · exact Or.inr (Or.inl ⟨by omega, hL⟩)
    · have hr := (hi.outn ho).1
      have hcnt := hi.cnt
      obtain ⟨k, hk, hz⟩ := exists_zero_of_sumTo_lt (n := s.w) (f := fun k => isDecd (s.pc k)) (by omega)
      refine Or.inr (Or.inr ?_)
      cases hp : s.pc k with
      | idle =>
        exfalso
        have hkL : k ≠ s.L := fun e => hL (e ▸ hp)
        have := ((hq.sp k).1 hkL).1 hp
        unfold cur at hc
        have := hi.wL
        split at hc <;> omega
      | spawned =>
        exact Or.inl ⟨k, hk, fun e => (hq.sp k).2 e hp, hp⟩
      | run off => exact Or.inr (Or.inl ⟨k, off, hk, by rw [hp]; rfl⟩)
      | work off j => exact Or.inr (Or.inl ⟨k, off, hk, by rw [hp]; rfl⟩)
      | fin t => exact Or.inr (Or.inr ⟨k, t, hk, hp⟩)
      | decd => rw [hp] at hz; simp [isDecd] at hz

def muP (s : St) : Nat :=
  sumTo s.w (fun q => (s.qs q).2 - (s.qs q).1) + sumTo s.w (fun k => BulkC.pcw s.w (s.pc k)) +
    (1 - s.signals)

/-- `chunk k j` only confirms the chunk index: the one event that leaves the state unchanged -/
def isChunk : Ev → Bool
  | .chunk _ _ => true
  | _ => false

theorem muP_pc (s s' : St) (k : Nat) (x : Pc) (hk : k < s.w) (hw : s'.w = s.w) (hqs : s'.qs = s.qs)
    (hsig : s'.signals = s.signals) (hpc : s'.pc = upd s.pc k x)
    (hlt : BulkC.pcw s.w x < BulkC.pcw s.w (s.pc k)) : muP s' < muP s := by
  unfold muP
  rw [hw, hqs, hsig, hpc]
  have := sumTo_upd s.w (BulkC.pcw s.w) s.pc k x hk
  omega

theorem muP_step (s s' : St) (e : Ev) (he : isChunk e = false) (h : step s e = some s') :
    muP s' < muP s := by
  cases step_iff.1 h with
  | chunk => simp [isChunk] at he
  | spawn hk _ hp | skip hk _ hp | exc hk _ hp | decFin hk _ hp | decWork hk _ hp =>
    exact muP_pc s _ _ _ hk rfl rfl rfl rfl (by rw [hp]; simp only [BulkC.pcw]; omega)
  | task hk hp =>
    exact muP_pc s _ _ _ hk rfl rfl rfl rfl (by
      rcases hp with ⟨_, _, hp⟩ | ⟨_, hp⟩ <;> rw [hp] <;> simp only [BulkC.pcw] <;> omega)
  | @popNone _ _ off hk hoff =>
    exact muP_pc s _ _ _ hk rfl rfl rfl rfl (by have := BulkC.pcw_afterEmpty s.w off _ hoff; omega)
  | @popSome k q off j hk hoff hqq hne =>
    have hqw : q < s.w := by rw [hqq]; exact Nat.mod_lt _ (by omega)
    have hp0 := BulkC.pcw_of_offOf s.w off j _ hoff
    have A := sumTo_upd s.w (fun r : Nat × Nat => r.2 - r.1) s.qs q (popEnd off (s.qs q)).2 hqw
    have B := sumTo_upd s.w (BulkC.pcw s.w) s.pc k (.work off j) hk
    have := (popEnd_spec off ((qEmpty_false_iff _).1 hne)).2.2.1
    unfold muP
    dsimp only at A ⊢
    omega
  | sig _ h0 =>
    unfold muP
    dsimp only
    rw [h0]
    omega

theorem chunk_same (s s' : St) (e : Ev) (he : isChunk e = true) (h : step s e = some s') : s' = s := by
  cases step_iff.1 h <;> first | rfl | simp [isChunk] at he

def workP (log : List Ev) : Nat := (log.filter (fun e => !isChunk e)).length

theorem workP_le_muP (s s' : St) (log : List Ev) (h : runLog step s log = some s') :
    workP log + muP s' ≤ muP s :=
  runLog_work_le (fun _ => True) muP isChunk (fun _ _ _ _ _ => trivial)
    (fun s e s' _ hs => by
      cases he : isChunk e
      · have := muP_step s s' e he hs; simp only [Bool.false_eq_true, if_false]; omega
      · rw [chunk_same s s' e he hs]; simp) trivial h

theorem size_tele (a : Nat → Nat) (m : Nat) (hm : ∀ k, k < m → a k ≤ a (k + 1)) :
    sumTo m (fun k => a (k + 1) - a k) = a m - a 0 ∧ a 0 ≤ a m := by
  induction m with
  | zero => simp
  | succ j ih =>
    obtain ⟨e, hle⟩ := ih (fun k hk => hm k (by omega))
    have h1 := hm j (by omega)
    simp only [sumTo_succ]
    rw [e]
    omega

theorem muP_init (w L : Nat) (a : Nat → Nat) (hm : ∀ k, k < w → a k ≤ a (k + 1)) :
    muP (init w L a) = (a w - a 0) + w * (3 * w + 8) + 1 := by
  obtain ⟨t1, _⟩ := size_tele a w hm
  have e1 : sumTo w (fun _ => BulkC.pcw w Pc.idle) = w * (3 * w + 8) := sumTo_const w _
  unfold muP
  show sumTo w (fun k => a (k + 1) - a k) + sumTo w (fun _ => BulkC.pcw w Pc.idle) + (1 - 0) = _
  rw [t1, e1]

theorem proto_progress (s : St) (hi : Inv s) (hq : InvQ s) (h0 : s.signals = 0) :
    ∃ e s', isChunk e = false ∧ step s e = some s' := by
  cases ho : s.outcome with
  | some err => exact ⟨_, _, rfl, step_iff.2 (.sig ho h0)⟩
  | none =>
    have hrem := (hi.outn ho).1
    rcases actor s hi hq ho with ⟨hc, hidle⟩ | ⟨hc, hidle⟩ | ⟨k, hk, hkL, hpc⟩ |
        ⟨k, off, hk, hoff⟩ | ⟨k, t, hk, hpc⟩
    · cases hq : qEmpty (s.qs (cur s)) with
      | false => exact ⟨_, _, rfl, step_iff.2 (.spawn hc rfl hidle hq)⟩
      | true => exact ⟨_, _, rfl, step_iff.2 (.skip hc rfl hidle hq)⟩
    · exact ⟨_, _, rfl, step_iff.2 (.task hi.wL (.inl ⟨rfl, hc, hidle⟩))⟩
    · exact ⟨_, _, rfl, step_iff.2 (.task hk (.inr ⟨hkL, hpc⟩))⟩
    · cases hq : qEmpty (s.qs ((k + off) % s.w)) with
      | true => exact ⟨_, _, rfl, step_iff.2 (.popNone hk hoff rfl hq)⟩
      | false => exact ⟨_, _, rfl, step_iff.2 (.popSome hk hoff rfl hq rfl)⟩
    · exact ⟨_, _, rfl, step_iff.2 (.decFin hk hrem hpc)⟩

end PikaVerif.Bulk
