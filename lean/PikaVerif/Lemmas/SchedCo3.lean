import PikaVerif.Lemmas.SchedCo2
import PikaVerif.Lemmas.Sched3
/-! Who owes the next event in the scheduler model with the coroutine/body layer.  The layer guards
    only `phase.end` among the internal events of the protocol model (`coBase_isSome`), so the moves of
    a pending object's token are accepted by the layer as they are by the protocol model (`base_some`,
    `token_move`), and alone take the object to `active` (`solo_run`); the owner of an activation
    always has a next event (`owner_enabled`).  Hence `progress`: a constructed object has an internal
    event that the model accepts, or it is at rest, terminated or suspended. -/
namespace PikaVerif.SchedCo
open PikaVerif.Sched

variable {s : St}

/-- of the internal events the layer guards only `phase.end` -/
theorem coBase_isSome (co : Nat → Co) {e : Sched.Ev} (hI : Sched.Internal e = true)
    (hn : ∀ a o r, e ≠ .phaseEnd a o r) : (coBase co e).isSome = true := by
  cases e <;> first | rfl | exact absurd rfl (hn _ _ _) | cases hI

/-- the layer accepts a base event that the protocol model accepts and its own guard lets through -/
theorem base_some {e : Sched.Ev} {b' : Sched.St} (h : Sched.step s.base e = some b')
    (hc : (coBase s.co e).isSome = true) : ∃ co', step s (.base e) = some ⟨b', co'⟩ := by
  obtain ⟨co', hc⟩ := Option.isSome_iff_exists.1 hc
  exact ⟨co', by simp only [step, h, hc]⟩

/-- the internal events of the layer: those of the protocol model, and all of the coroutine's own -/
abbrev Int (e : Ev) : Prop := ∀ e0, e = .base e0 → Sched.Internal e0 = true

theorem token_move (hi : Sched.Inv s.base) {o : Nat} (hl : (s.base.obj o).live = true)
    (hp : pendingish (s.base.obj o).w = true) {a : Nat} (ha : ∀ h, (s.base.obj o).holder = some h → h = a) :
    ∃ e s', Sched.Internal e = true ∧ step s (.base e) = some s' ∧ TokStep a (s.base.obj o) (s'.base.obj o) := by
  obtain ⟨e, b', hI, hn, hs, ht⟩ := Sched.token_move hi hl hp ha
  obtain ⟨co', hs'⟩ := base_some hs (coBase_isSome s.co hI hn)
  exact ⟨e, _, hI, hs', ht⟩

/-- Solo run: the token's moves alone take a constructed pending object to `active`, within `dist`
    events; the worker is `a` unless another one already holds the popped entry. -/
theorem solo_run {o a : Nat} (hi : Sched.Inv s.base) (hl : (s.base.obj o).live = true)
    (hp : pendingish (s.base.obj o).w = true) (ha : ∀ h, (s.base.obj o).holder = some h → h = a) :
    SoloRun step Int (dist (s.base.obj o)) s
      fun s' => (s'.base.obj o).w.st = sActive ∧ (s'.base.obj o).owner = some a := by
  induction hn : dist (s.base.obj o) generalizing s with
  | zero => obtain ⟨_, _, _, _, _, ⟨_, _, h⟩ | ⟨_, _, h⟩⟩ := token_move hi hl hp ha <;> omega
  | succ n ih =>
    obtain ⟨e, s1, hI, hs, hl1, ⟨h1, h2, _⟩ | ⟨hp1, ha1, hd⟩⟩ := token_move hi hl hp ha
    · exact .cons hs (fun _ he => by cases he; exact hI) (.nil ⟨h1, h2⟩)
    · exact .cons hs (fun _ he => by cases he; exact hI)
        (ih (Sched.step_inv hi (step_base hs).1) hl1 hp1 ha1 (by omega))

/-- The owner of an activation always has a next event: begin the phase, switch to the body (enter
    or resume it), let it return, end the phase with what the body left, store the state. -/
theorem owner_enabled (hi : Inv s) {o a : Nat}
    (hl : (s.base.obj o).live = true) (ho : (s.base.obj o).owner = some a) :
    ∃ e, Int e ∧ (step s e).isSome = true := by
  have hc := hi.2 o
  have base : ∀ {e0}, Sched.Internal e0 = true → Int (.base e0) := fun h _ he => by cases he; exact h
  cases hp : (s.base.obj o).inPhase with
  | false =>
    cases hrp : (s.base.obj o).ranPhase with
    | false =>
      exact ⟨.base (.phaseBegin a o), base rfl, by simp [step, Sched.step, coBase, hl, ho, hp, hrp]⟩
    | true =>
      exact ⟨.base (.restore1 a o (s.base.obj o).w ⟨(s.base.obj o).result, (s.base.obj o).w.ex, (s.base.obj o).w.tag + 1⟩),
        base rfl, by simp [step, Sched.step, coBase, hl, ho, hp, hrp]⟩
  | true =>
    cases hpc : (s.co o).pc with
    | ready => exact ⟨.coEnter a o, fun _ => nofun, by simp [step, hl, ho, hp, hpc, hc.readyNotRan hpc]⟩
    | inBody => exact ⟨.coReturn a o sTerminated, fun _ => nofun, by simp [step, hl, ho, hp, hpc]⟩
    | yielded r =>
      cases hran : (s.co o).ran with
      | false => exact ⟨.coResume a o, fun _ => nofun, by simp [step, hl, ho, hp, hpc, hran, CoPc.isYielded]⟩
      | true =>
        -- a yield does not ask for `active`
        have hr : r ≠ sActive := fun h => by have hk := hc.okReq; rw [hpc, h] at hk; cases hk
        exact ⟨.base (.phaseEnd a o r), base rfl, by simp [step, Sched.step, coBase, hl, ho, hp, hpc, hran, hr]⟩
    | returned =>
      -- in a phase, before the switch to the body, the function has not returned
      have hran : (s.co o).ran = true := by
        have := (fits_inPhase ((hi.1 o).of_owner hl ho).2.1 hp).1 hc.fits
        cases hran : (s.co o).ran with
        | false => simp [hran, hpc, CoPc.resumable] at this
        | true => rfl
      exact ⟨.base (.phaseEnd a o sTerminated), base rfl,
        by simp [step, Sched.step, coBase, hl, ho, hp, hpc, hran, show sTerminated ≠ sActive by decide]⟩

/-- **Progress.**  A constructed object has an internal event that the model accepts (its owner's next
    event, or a move of its token), or it has been scheduled, is at rest, and is terminated after the
    one return of its function or suspended at a yield that asked for that. -/
theorem progress (hi : Inv s) {o : Nat} (hl : (s.base.obj o).live = true) :
    (∃ e, Int e ∧ (step s e).isSome = true) ∨
    ((s.base.obj o).fresh = false ∧
     ((s.base.obj o).q = 0 ∧ (s.base.obj o).holder = none ∧ (s.base.obj o).pusher = none ∧
       (s.base.obj o).owner = none) ∧ (s.base.obj o).inPhase = false ∧
     (((s.base.obj o).w.st = sTerminated ∧ (s.co o).pc = .returned ∧ (s.co o).entries = 1 ∧ (s.co o).exits = 1) ∨
      ((s.base.obj o).w.st = sSuspended ∧ (s.co o).pc = .yielded sSuspended ∧ (s.co o).entries = 1 ∧
        (s.co o).exits = 0))) := by
  have bi := hi.1 o
  cases ho : (s.base.obj o).owner with
  | some a => exact .inl (owner_enabled hi hl ho)
  | none =>
    cases hp : pendingish (s.base.obj o).w with
    | true =>
      obtain ⟨e, s', hI, hs, _⟩ := token_move hi.1 hl hp (a := (s.base.obj o).holder.getD 0)
        fun _ hh => by rw [hh]; rfl
      exact .inl ⟨.base e, fun _ he => by cases he; exact hI, by rw [hs]; rfl⟩
    | false =>
      -- scheduled before (a fresh object is pending), without a token, suspended or terminated
      right
      have := bi.no_token hl (.inl hp)
      have := bi.ownerActive hl
      have := bi.tokFresh hl
      have := bi.phaseOwner
      have hc := hi.2 o
      have := hc.entriesEq; have := hc.exitsEq; have := hc.stValid hl; have := hc.at_rest bi hl
      grind [pendingish]

end PikaVerif.SchedCo
