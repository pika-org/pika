import PikaVerif.Lemmas.Sched3
/-! Two concrete accepted logs that end in a quiescent state (non-vacuity of `Props/C02x.lean`). -/
namespace PikaVerif.Sched

def wNew : W := ⟨sPending, 1, 0⟩

/-- **the race through a helper**: task 1 is in the body of its first phase (it registers itself as
    a waiter there).  The wake-up request follows (`raceLog`), then `racePost`. -/
def racePre : List Ev :=
  [.new 0 1 wNew, .push 0 1, .got 1 1 wNew false, .tagged 1 1 wNew ⟨sActive, 1, 1⟩, .phaseBegin 1 1,
   .setex 1 1 ⟨sActive, 1, 1⟩ ⟨sActive, 1, 1⟩, .bodyEnter 1 1]

/-- … the waker (actor 2, a plain OS thread) issues the wake-up while the task is still active and
    hands it to a helper; the task's worker finishes switching it off (`suspended`); the helper task
    (run by actor 3) finds the state changed, retries, wins the exchange and queues the task;
    worker 1 pops it, activates it again; it runs to its end -/
def racePost : List Ev :=
  [.stsLoad 2 1 ⟨sActive, 1, 1⟩, .stsHelper 2 1,
   .phaseEnd 1 1 sSuspended, .restore1 1 1 ⟨sActive, 1, 1⟩ ⟨sSuspended, 1, 2⟩,
   .sasLoad 3 1 ⟨sSuspended, 1, 2⟩ ⟨sActive, 1, 1⟩, .sasRetry 3 1,
   .stsEnter 3 1 sPending, .stsLoad 3 1 ⟨sSuspended, 1, 2⟩, .restore2 3 1 ⟨sSuspended, 1, 2⟩ ⟨sPending, 1, 3⟩,
   .push 3 1, .stsDone 3 1,
   .got 1 1 ⟨sPending, 1, 3⟩ false, .tagged 1 1 ⟨sPending, 1, 3⟩ ⟨sActive, 1, 4⟩, .phaseBegin 1 1,
   .phaseEnd 1 1 sTerminated, .restore1 1 1 ⟨sActive, 1, 4⟩ ⟨sTerminated, 1, 5⟩]

def raceLog : List Ev := racePre ++ .stsEnter 2 1 sPending :: racePost

theorem raceLog_ok : (runLog step init raceLog).isSome = true := by decide

def sRace : St := (runLog step init raceLog).get raceLog_ok

theorem sRace_run : runLog step init raceLog = some sRace := by simp [sRace]

theorem sRace_eq : sRace = ⟨fun o => if o = 1 then
    { live := true, fresh := false, w := ⟨sTerminated, 1, 5⟩, owner := none, inPhase := false, ranPhase := true,
      result := sTerminated, q := 0, holder := none, hexp := ⟨sPending, 1, 3⟩, pusher := none, helpers := [], epoch := 2 }
    else {}, fun _ => {}⟩ := by
  simp (config := {decide := true}) [sRace, raceLog, racePre, racePost, runLog, step, init, wNew, sSuspended, sActive, sPending, sTerminated]
  constructor <;> funext x <;> simp [upd]

theorem sRace_quiescent : Quiescent sRace := by
  rw [sRace_eq]
  refine quiescent_of_rest _ (fun o hl => ?_) (fun a => ⟨rfl, rfl⟩)
  by_cases ho : o = 1
  · subst ho; exact ⟨rfl, rfl, rfl, rfl, rfl, rfl⟩
  · dsimp only at hl; rw [if_neg ho] at hl; cases hl

/-- **the corner**: task 1 suspends; an interrupt (restart state 4 = `abort`) wakes it; it is activated
    again (`active, 4, tag 4`), restart state not fetched yet; -/
def cornerPre : List Ev :=
  [.new 0 1 wNew, .push 0 1, .got 1 1 wNew false, .tagged 1 1 wNew ⟨sActive, 1, 1⟩, .phaseBegin 1 1,
   .phaseEnd 1 1 sSuspended, .restore1 1 1 ⟨sActive, 1, 1⟩ ⟨sSuspended, 1, 2⟩,
   .stsEnter 2 1 sPending, .stsLoad 2 1 ⟨sSuspended, 1, 2⟩, .restore2 2 1 ⟨sSuspended, 1, 2⟩ ⟨sPending, 4, 3⟩,
   .push 2 1, .stsDone 2 1,
   .got 1 1 ⟨sPending, 4, 3⟩ false, .tagged 1 1 ⟨sPending, 4, 3⟩ ⟨sActive, 4, 4⟩]

/-- … a second waker (actor 3) finds it active in that window and leaves a helper remembering
    `(active, 4, 4)`; the phase starts and fetches the restart state (`sw.setex`: `(active, 1, 4)`);
    the helper task (actor 4) loads `(active, 1, 4)`: same state, same tag, different word — it gives
    up; the task suspends again and nothing is left that would wake it -/
def cornerPost : List Ev :=
  [.stsLoad 3 1 ⟨sActive, 4, 4⟩, .stsHelper 3 1,
   .phaseBegin 1 1, .setex 1 1 ⟨sActive, 4, 4⟩ ⟨sActive, 1, 4⟩,
   .sasLoad 4 1 ⟨sActive, 1, 4⟩ ⟨sActive, 4, 4⟩, .sasAbort 4 1,
   .phaseEnd 1 1 sSuspended, .restore1 1 1 ⟨sActive, 1, 4⟩ ⟨sSuspended, 1, 5⟩]

def cornerLog : List Ev := cornerPre ++ .stsEnter 3 1 sPending :: cornerPost

theorem cornerLog_ok : (runLog step init cornerLog).isSome = true := by decide

def sCorner : St := (runLog step init cornerLog).get cornerLog_ok

theorem sCorner_run : runLog step init cornerLog = some sCorner := by simp [sCorner]

theorem sCorner_eq : sCorner = ⟨fun o => if o = 1 then
    { live := true, fresh := false, w := ⟨sSuspended, 1, 5⟩, owner := none, inPhase := false, ranPhase := true,
      result := sSuspended, q := 0, holder := none, hexp := ⟨sPending, 4, 3⟩, pusher := none, helpers := [], epoch := 2 }
    else {}, fun _ => {}⟩ := by
  simp (config := {decide := true}) [sCorner, cornerLog, cornerPre, cornerPost, runLog, step, init, wNew, sSuspended, sActive, sPending]
  constructor <;> funext x <;> simp [upd]

theorem sCorner_quiescent : Quiescent sCorner := by
  rw [sCorner_eq]
  refine quiescent_of_rest _ (fun o hl => ?_) (fun a => ⟨rfl, rfl⟩)
  by_cases ho : o = 1
  · subst ho; exact ⟨rfl, rfl, rfl, rfl, rfl, rfl⟩
  · dsimp only at hl; rw [if_neg ho] at hl; cases hl

end PikaVerif.Sched
