import PikaVerif.Model.Sched
import PikaVerif.Core.Run
/-! What an accepted event of the scheduler protocol model requires and what it does.  An event
    with a single guard is taken apart by `of_ite_some` as it stands (`obtain ⟨guard, rfl⟩ :=
    of_ite_some h`), one that also needs the actor at a loaded word or in a helper task by
    `of_loaded` / `of_sas`; the events with several outcomes, or that depend on where the actor is, have an
    inversion lemma here, with one disjunct per outcome; of the guard such a lemma states the parts
    that the later proofs read.  Every later proof about `step` starts from these. -/
namespace PikaVerif.Sched

theorem ite_some_cases {α : Type} {p : Prop} [Decidable p] {x y : Option α} {r : α}
    (h : (if p then x else y) = some r) : (p ∧ x = some r) ∨ (¬p ∧ y = some r) := by
  split at h
  · next hp => exact .inl ⟨hp, h⟩
  · next hp => exact .inr ⟨hp, h⟩

/-- an event accepted only from a loaded word (the ways out of `set_thread_state`: `sts.noop`,
    `sts.helper`, `sts.done`) -/
theorem of_loaded {sts : StsPc} {p : Nat → W → Nat → Prop} [∀ o' lw le, Decidable (p o' lw le)]
    {v : Nat → W → Nat → St} {r : St}
    (h : (match sts with
          | .loaded o' lw le => if p o' lw le then some (v o' lw le) else none
          | _ => none) = some r) :
    ∃ o' lw le, sts = .loaded o' lw le ∧ p o' lw le ∧ r = v o' lw le := by
  cases sts with
  | loaded o' lw le => obtain ⟨hp, rfl⟩ := of_ite_some h; exact ⟨o', lw, le, rfl, hp, rfl⟩
  | _ => cases h

/-- an event accepted only from a helper task's record (its decision: `sas.abort`, `sas.retry`) -/
theorem of_sas {sas : Option (Nat × W × W × Nat × Nat)} {p : Nat → W → W → Prop}
    [∀ o' c q, Decidable (p o' c q)] {v r : St}
    (h : (match sas with
          | some (o', cur, prev, _, _) => if p o' cur prev then some v else none
          | none => none) = some r) :
    ∃ o' cur prev he ce, sas = some (o', cur, prev, he, ce) ∧ p o' cur prev ∧ r = v := by
  match sas, h with
  | some (o', cur, prev, he, ce), h =>
    obtain ⟨hp, rfl⟩ := of_ite_some h; exact ⟨o', cur, prev, he, ce, rfl, hp, rfl⟩

variable {s s' : St} {a o : Nat}

/-- a pop: the entry comes from the queue, or it is the thread the popping actor has just made
    pending (`next_thrd`) -/
theorem step_got {e : W} {fromNext : Bool} (h : step s (.got a o e fromNext) = some s') :
    (s.obj o).live = true ∧ e = (s.obj o).w ∧ (s.obj o).holder = none ∧
    ((fromNext = true ∧ (s.obj o).pusher = some a ∧ (s.obj o).w.st = sPending ∧
        s' = { s with obj := upd s.obj o { s.obj o with pusher := none, holder := some a, hexp := e } }) ∨
     (fromNext = false ∧ 0 < (s.obj o).q ∧
        s' = { s with obj := upd s.obj o
                        { s.obj o with q := (s.obj o).q - 1, holder := some a, hexp := e } })) := by
  obtain ⟨hg, h⟩ := Option.ite_none_right_eq_some.1 h
  refine ⟨hg.1, hg.2.1, hg.2.2, ?_⟩
  cases fromNext
  · obtain ⟨hq, rfl⟩ := of_ite_some h
    exact Or.inr ⟨rfl, hq, rfl⟩
  · obtain ⟨hp, rfl⟩ := of_ite_some h
    exact Or.inl ⟨rfl, hp.1, hp.2, rfl⟩

/-- `set_state`: the loop's `pending_boost → pending` before re-queuing (or nothing, if a waker's
    exchange did it first), or `abort_all_suspended_threads` making a suspended thread pending -/
theorem step_set {b af : W} (h : step s (.set a o b af) = some s') :
    (s.obj o).live = true ∧
    (((s.obj o).w.st = sBoost ∧ af = ⟨sPending, (s.obj o).w.ex, (s.obj o).w.tag + 1⟩ ∧
        s' = { s with obj := upd s.obj o { s.obj o with w := af } }) ∨
     ((s.obj o).w.st = sPending ∧ s' = s) ∨
     ((s.obj o).w.st = sSuspended ∧ af.st = sPending ∧
        s' = { s with obj := upd s.obj o
                        { s.obj o with w := af, pusher := some a, epoch := (s.obj o).epoch + 1 } })) := by
  obtain ⟨hg, h⟩ := Option.ite_none_right_eq_some.1 h
  refine ⟨hg.1, ?_⟩
  rcases ite_some_cases h with ⟨h1, h⟩ | ⟨_, h⟩
  · exact .inl ⟨h1.1, h1.2.2, (Option.some.inj h).symm⟩
  rcases ite_some_cases h with ⟨h2, h⟩ | ⟨_, h⟩
  · exact .inr (.inl ⟨h2.1, (Option.some.inj h).symm⟩)
  obtain ⟨h3, rfl⟩ := of_ite_some h
  exact .inr (.inr ⟨h3.1, h3.2.1, rfl⟩)

/-- `previous_state = get_state()`: the first load after the entry, or a reload -/
theorem step_stsLoad {w : W} (h : step s (.stsLoad a o w) = some s') :
    (s.obj o).live = true ∧ w = (s.obj o).w ∧
    ((s.act a).sts = .entered o ∨ ∃ lw le, (s.act a).sts = .loaded o lw le) ∧
    s' = { s with act := upd s.act a { s.act a with sts := .loaded o w (s.obj o).epoch } } := by
  obtain ⟨hg, h⟩ := Option.ite_none_right_eq_some.1 h
  refine ⟨hg.1, hg.2, ?_⟩
  cases hs : (s.act a).sts with
  | entered o' => rw [hs] at h; obtain ⟨rfl, rfl⟩ := of_ite_some h; exact ⟨.inl rfl, rfl⟩
  | loaded o' lw le => rw [hs] at h; obtain ⟨rfl, rfl⟩ := of_ite_some h; exact ⟨.inr ⟨lw, le, rfl⟩, rfl⟩
  | out | won o' => rw [hs] at h; cases h

/-- the exchange of `set_thread_state`: attempted on a loaded word that is `pending_boost` or
    `suspended`; it fails without effect when the word has changed since the load -/
theorem step_restore2 {b af : W} (h : step s (.restore2 a o b af) = some s') :
    ∃ lw le, (s.act a).sts = .loaded o lw le ∧ (s.obj o).live = true ∧
      ((af = b ∧ s' = s) ∨
       ((s.obj o).w = lw ∧ af.st = sPending ∧
        ((lw.st = sBoost ∧
            s' = { obj := upd s.obj o { s.obj o with w := af },
                   act := upd s.act a { s.act a with sts := .loaded o af (s.obj o).epoch } }) ∨
         (lw.st = sSuspended ∧
            s' = { obj := upd s.obj o
                     { s.obj o with w := af, pusher := some a, epoch := (s.obj o).epoch + 1 },
                   act := upd s.act a { s.act a with sts := .won o } })))) := by
  simp only [step] at h
  split at h
  · next o' lw le hs =>
    rcases ite_some_cases h with ⟨⟨rfl, hl, _, hst⟩, h⟩ | ⟨_, h⟩
    · refine ⟨lw, le, hs, hl, ?_⟩
      rcases ite_some_cases h with ⟨hw, h⟩ | ⟨_, h⟩
      · obtain ⟨hg, rfl⟩ := of_ite_some h
        exact .inr ⟨hw, hg.1, .inl ⟨hst, rfl⟩⟩
      · obtain ⟨hg, rfl⟩ := of_ite_some h
        exact .inl ⟨hg, rfl⟩
    · obtain ⟨⟨rfl, hl, _, hst⟩, h⟩ := Option.ite_none_right_eq_some.1 h
      refine ⟨lw, le, hs, hl, ?_⟩
      rcases ite_some_cases h with ⟨hw, h⟩ | ⟨_, h⟩
      · obtain ⟨hg, rfl⟩ := of_ite_some h
        exact .inr ⟨hw, hg.1, .inr ⟨hst, rfl⟩⟩
      · obtain ⟨hg, rfl⟩ := of_ite_some h
        exact .inl ⟨hg, rfl⟩
  · cases h

theorem step_sasLoad {cur prev : W} (h : step s (.sasLoad a o cur prev) = some s') :
    (s.obj o).live = true ∧ cur = (s.obj o).w ∧ (s.act a).sas = none ∧
    ∃ hp, (s.obj o).helpers.find? (fun h => h.1 == prev) = some hp ∧
      s' = { obj := upd s.obj o { s.obj o with helpers := (s.obj o).helpers.erase hp },
             act := upd s.act a { s.act a with sas := some (o, cur, prev, hp.2, (s.obj o).epoch) } } := by
  simp only [step] at h
  split at h
  · next hg =>
    refine ⟨hg.1, hg.2.1, hg.2.2, ?_⟩
    split at h
    · next hp hf => exact ⟨hp, hf, (Option.some.inj h).symm⟩
    · cases h
  · cases h

end PikaVerif.Sched
