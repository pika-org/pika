import PikaVerif.Lemmas.ElasticT
/-! Owed steps of the runtime, maximal states and their characterisation (C19t). -/
namespace PikaVerif.Elastic

/-- the holder of a model hold of `w`'s pu mutex owes its release -/
def owedLk (s : St) (w : Nat) : Option (List Ev) :=
  match (s.wk w).lk with
  | some (a, .sel _) => some [.unl a w]
  | some (a, .susp) => some [.sunl a w]
  | none => none

/-- what worker `w`'s own thread owes: take queued work while it is in its loop (also in
    `pre_sleep`: it drains its own queue), the commit round `top ; qlen = 0 ; chk` once it is asked
    to sleep and sees nothing, the stores / waits of `scheduler_base::suspend`, the wake-up after a
    notify, the CAS back to `running`; the last worker, while `running`, converts the shared
    low-priority queue.  NOT owed: a wake-up without notify, anything of a thread that never started. -/
def owedPc (s : St) (w : Nat) : Option (List Ev) :=
  let x := s.wk w
  match x.pc with
  | .loop =>
    match x.actor with
    | none => none
    | some a =>
      if 0 < x.q then some [.dec a w]
      else if x.st = rsPreSleep then
        (if w = s.cfg.last ∧ 0 < s.lowq then none
         else some [.top w rsPreSleep, .qlen a w 0, .chk w rsPreSleep true])
      else if x.st = rsRunning ∧ w = s.cfg.last ∧ 0 < s.lowq then some [.decLow a]
      else none
  | .commit => some [.sleep w]
  | .stored => some [.wait w]
  | .waiting => if x.notified then some [.woke w] else none
  | .woken => some [.wake w x.st (if x.st = rsSleeping then rsRunning else x.st)]

/-- a refused call owes its return -/
def owedA (s : St) (a : Nat) : Option (List Ev) :=
  match s.apc a with
  | .refused => some [.ret a]
  | .idle => none

/-- nothing is owed by any worker / actor `< N` -/
def Maximal (N : Nat) (s : St) : Prop :=
  ∀ i, i < N → (owedLk s i).isNone = true ∧ (owedPc s i).isNone = true ∧ (owedA s i).isNone = true

instance (N : Nat) (s : St) : Decidable (Maximal N s) := by unfold Maximal; exact inferInstance

/-- `evs` is an owed macro-step in `s`: accepted, at most 3 events about indices `< N`, none of them a
    source, at least one effective -/
def Owed (N : Nat) (s : St) (evs : List Ev) : Prop :=
  ∃ s', runLog step s evs = some s' ∧ 1 ≤ nEff s evs ∧ wsum evs = 0 ∧ evs.length ≤ 3 ∧
    (∀ e, e ∈ evs → inR N e = true)

attribute [local simp] runLog step nEff eff moves b2n wsum weight inR

theorem owedLk_ok (N : Nat) (s : St) (w : Nat) (evs : List Ev) (hw : w < N) (h : owedLk s w = some evs) :
    Owed N s evs := by
  simp only [owedLk] at h
  unfold Owed
  split at h
  · rename_i a g hl
    obtain rfl := Option.some.inj h
    simp [hl, hw]
  · rename_i a hl
    obtain rfl := Option.some.inj h
    simp [hl, hw]
  · simp at h

theorem owedA_ok (N : Nat) (s : St) (a : Nat) (evs : List Ev) (ha : a < N) (h : owedA s a = some evs) :
    Owed N s evs := by
  simp only [owedA] at h
  unfold Owed
  split at h
  · rename_i hp
    obtain rfl := Option.some.inj h
    simp [hp, ha]
  · simp at h

theorem owedPc_ok (N : Nat) (s : St) (w : Nat) (evs : List Ev) (hw : w < N) (h : owedPc s w = some evs) :
    Owed N s evs := by
  simp only [owedPc] at h
  unfold Owed
  split at h
  · rename_i hpc
    split at h
    · simp at h
    · rename_i a ha
      split at h
      · rename_i hq
        obtain rfl := Option.some.inj h
        simp [hq, ha, hw]
      · rename_i hq
        have hq0 : (s.wk w).q = 0 := by omega
        split at h
        · rename_i hst
          split at h
          · simp at h
          · rename_i hlow
            obtain rfl := Option.some.inj h
            by_cases hl : w = s.cfg.last
            · have h0 : s.lowq = 0 := by
                have : ¬ 0 < s.lowq := fun hp => hlow ⟨hl, hp⟩
                omega
              simp [hst, hpc, ha, hq0, upd, hw, ← hl, h0]
            · simp [hst, hpc, ha, hq0, upd, hw, hl]
        · split at h
          · rename_i hg
            obtain rfl := Option.some.inj h
            simp [hg.2.2]
          · simp at h
  · rename_i hpc
    obtain rfl := Option.some.inj h
    simp [hpc, hw]
  · rename_i hpc
    obtain rfl := Option.some.inj h
    simp [hpc, hw]
  · rename_i hpc
    split at h
    · simp only [Option.some.injEq] at h
      subst h
      simp [hpc, hw]
    · simp at h
  · rename_i hpc
    obtain rfl := Option.some.inj h
    simp [hpc, hw]

theorem inv_runLog {s s' : St} {log : List Ev} (hi : Inv s) (h : runLog step s log = some s') : Inv s' :=
  inv_of_runLog Inv (fun _ _ _ => step_inv) hi h

theorem owed_of_not_maximal (N : Nat) (s : St) (hm : ¬ Maximal N s) : ∃ evs, Owed N s evs := by
  obtain ⟨i, hi'⟩ := Classical.not_forall.1 hm
  obtain ⟨hiN, hnot⟩ := Classical.not_imp.1 hi'
  cases h1 : owedLk s i with
  | some evs => exact ⟨evs, owedLk_ok N s i evs hiN h1⟩
  | none =>
    cases h2 : owedPc s i with
    | some evs => exact ⟨evs, owedPc_ok N s i evs hiN h2⟩
    | none =>
      cases h3 : owedA s i with
      | some evs => exact ⟨evs, owedA_ok N s i evs hiN h3⟩
      | none => exact absurd (by simp [h1, h2, h3]) hnot

theorem wsum_append (l1 l2 : List Ev) : wsum (l1 ++ l2) = wsum l1 + wsum l2 := by
  induction l1 with
  | nil => simp [wsum]
  | cons e es ih => simp only [List.cons_append, wsum, ih]; omega

/-- If every state that is not `Max` has an owed macro-step (at most 3 events, none a source, one of
    them effective: it lowers `mu`, `mu_runLog`), then every state extends by such steps to a `Max` one
    within `3 * mu` events. -/
theorem exists_max_of {Max : St → Prop} (N : Nat) (hext : ∀ s, ¬ Max s → ∃ evs, Owed N s evs)
    (s : St) (hi : Inv s) :
    ∃ ext s', runLog step s ext = some s' ∧ Max s' ∧ ext.length ≤ 3 * mu N s ∧ wsum ext = 0 ∧
      (∀ e, e ∈ ext → inR N e = true) := by
  obtain ⟨ext, s', hrun, -, hmax, ⟨hw, hin⟩, hlen⟩ := exists_maximal_run Inv Max (mu N)
    (fun l => wsum l = 0 ∧ ∀ e, e ∈ l → inR N e = true) 3 ⟨rfl, nofun⟩
    (fun a b ha hb => ⟨by rw [wsum_append, ha.1, hb.1], fun e he => (List.mem_append.1 he).elim (ha.2 e) (hb.2 e)⟩)
    (fun s hi hm => by
      obtain ⟨evs, s', hrun, hn, hw, hlen, hin⟩ := hext s hm
      have := mu_runLog N evs s s' hi hin hrun
      exact ⟨evs, s', hrun, inv_runLog hi hrun, ⟨hw, hin⟩, by omega, by omega⟩) s hi
  exact ⟨ext, s', hrun, hmax, by omega, hw, hin⟩

/-- The same from the state an accepted log leads to: the maximal state is again the end of an accepted log, and
    the extension is within three times the weight of the log (`mu` is at most that weight, `mu_runLog`). -/
theorem exists_max_of_log {Max : St → Prop} (N : Nat) (hext : ∀ s, ¬ Max s → ∃ evs, Owed N s evs) {cfg : Cfg}
    {log : List Ev} {s : St} (h : runLog step (init cfg) log = some s) (hN : ∀ e, e ∈ log → inR N e = true) :
    ∃ ext s', runLog step s ext = some s' ∧ (∃ l, runLog step (init cfg) l = some s') ∧ Max s' ∧
      ext.length ≤ 3 * mu N s ∧ ext.length ≤ 3 * wsum log ∧ wsum ext = 0 := by
  obtain ⟨ext, s', hrun, hmax, hlen, hw, -⟩ := exists_max_of N hext s (inv_of_accepted h)
  have hb := mu_runLog N log (init cfg) s (inv_init cfg) hN h
  rw [mu_init] at hb
  exact ⟨ext, s', hrun, ⟨log ++ ext, by rw [runLog_append, h]; exact hrun⟩, hmax, hlen, by omega, hw⟩

structure WFinal (s : St) (w : Nat) : Prop where
  lkFree : (s.wk w).lk = none
  pcFin : (s.wk w).pc = .loop ∨ ((s.wk w).pc = .waiting ∧ (s.wk w).notified = false ∧ (s.wk w).st = rsSleeping)
  /-- a started worker in its loop has taken everything from its own queues -/
  drained : (s.wk w).pc = .loop → (s.wk w).actor ≠ none → (s.wk w).q = 0
  /-- no suspension request is pending — except on the last worker while the shared low-priority
      queue is non-empty (finding `lowprio-last-worker`: it can neither run that work nor sleep) -/
  noPending : (s.wk w).actor ≠ none → (s.wk w).st = rsPreSleep → w = s.cfg.last ∧ 0 < s.lowq
  /-- the last worker, running, has converted the low-priority queue -/
  lowDone : (s.wk w).actor ≠ none → (s.wk w).st = rsRunning → w = s.cfg.last → s.lowq = 0

theorem final_of_maximal (N : Nat) (s : St) (hi : Inv s) (hm : Maximal N s) (w : Nat) (hw : w < N) :
    WFinal s w := by
  obtain ⟨h1, h2, _⟩ := hm w hw
  have hinv := hi w
  have hlk : (s.wk w).lk = none := by
    simp only [owedLk] at h1
    split at h1
    · simp at h1
    · simp at h1
    · assumption
  simp only [owedPc] at h2
  split at h2
  · rename_i hpc
    split at h2
    · rename_i ha
      exact ⟨hlk, Or.inl hpc, fun _ hx => absurd ha hx, fun hx => absurd ha hx, fun hx => absurd ha hx⟩
    · rename_i a ha
      split at h2
      · simp at h2
      · rename_i hq
        have hq0 : (s.wk w).q = 0 := by omega
        split at h2
        · rename_i hst
          split at h2
          · rename_i hlow
            refine ⟨hlk, Or.inl hpc, fun _ _ => hq0, fun _ _ => hlow, ?_⟩
            intro _ h5; rw [hst] at h5; cases h5
          · simp at h2
        · rename_i hst
          split at h2
          · simp at h2
          · rename_i hng
            refine ⟨hlk, Or.inl hpc, fun _ _ => hq0, fun _ h7 => absurd h7 hst, ?_⟩
            intro _ h5 hl
            have : ¬ 0 < s.lowq := fun hp => hng ⟨h5, hl, hp⟩
            omega
  · simp at h2
  · simp at h2
  · rename_i hpc
    split at h2
    · simp at h2
    · rename_i hn
      have hst : (s.wk w).st = rsSleeping := hinv.asleep hpc
      refine ⟨hlk, Or.inr ⟨hpc, by simpa using hn, hst⟩, ?_, ?_, ?_⟩
      · intro h; rw [hpc] at h; cases h
      · intro _ h; rw [hst] at h; cases h
      · intro _ h; rw [hst] at h; cases h
  · simp at h2

end PikaVerif.Elastic
