import PikaVerif.Model.Rw
import PikaVerif.Core.Run
/-! What `step` of the async_rw_mutex model accepts, as a relation with one constructor per accepting
    branch, and what `decRc` and `grant` leave alone. -/
namespace PikaVerif.Rw

/-- `read()` / `readwrite()` has allocated a new shared state for the access `s.na`; `prev_state` is
    not dropped yet. -/
def newGroup (s : St) (t : Nat) (w : Bool) : St :=
  { s with ng := s.ng + 1, rw := upd s.rw s.ng w, head := upd s.head s.ng (some []),
           dn := upd s.dn s.ng (if s.ng = 0 then .pend t else .idle),
           rc := upd s.rc s.ng (if s.ng = 0 then 2 else 3), dead := upd s.dead s.ng false,
           first := upd s.first s.ng s.na, lastRw := w,
           na := s.na + 1, grp := upd s.grp s.na s.ng, acc := upd s.acc s.na .sender }

/-- The accepted events with the annotations the model forces on them, and the states they lead to. -/
inductive Step (s : St) : Ev → St → Prop
  | reqFirst (t : Nat) (w : Bool) (hal : s.alive = true) (hw : w = true ∨ s.lastRw = true)
      (h0 : s.ng = 0) : Step s (.req t s.na w true false) (newGroup s t w)
  | reqNew (t : Nat) (w : Bool) (hal : s.alive = true) (hw : w = true ∨ s.lastRw = true)
      (h0 : 0 < s.ng) :
      Step s (.req t s.na w true (decide (s.rc (s.ng - 1) = 1))) (decRc (newGroup s t w) t (s.ng - 1))
  | reqSame (t : Nat) (hal : s.alive = true) (hl : s.lastRw = false) :
      Step s (.req t s.na false false false)
        { s with rc := upd s.rc (s.ng - 1) (s.rc (s.ng - 1) + 1), na := s.na + 1,
                 grp := upd s.grp s.na (s.ng - 1), acc := upd s.acc s.na .sender }
  | destroy (t : Nat) (hal : s.alive = true) (h0 : 0 < s.ng) :
      Step s (.destroy t (decide (s.rc (s.ng - 1) = 1))) (decRc { s with alive := false } t (s.ng - 1))
  | destroyEmpty (t : Nat) (hal : s.alive = true) (h0 : s.ng = 0) :
      Step s (.destroy t false) { s with alive := false }
  | start (t : Nat) {a : Nat} (det : Bool) (hx : s.acc a = .sender) :
      Step s (.start t a det) { s with acc := upd s.acc a (.starting t det) }
  | loadOpen {t a : Nat} {det : Bool} {q : List Nat} (hx : s.acc a = .starting t det)
      (hq : s.head (s.grp a) = some q) :
      Step s (.load t a (clsOf q) false false) { s with acc := upd s.acc a (.loaded t det q.length) }
  | loadDone {t a : Nat} {det : Bool} (hx : s.acc a = .starting t det) (hq : s.head (s.grp a) = none) :
      Step s (.load t a 2 (!det) (grantDies s a det)) (grant s t a det)
  | casPush {t a : Nat} {det : Bool} {q : List Nat} (cls : Nat) (hx : s.acc a = .loaded t det q.length)
      (hq : s.head (s.grp a) = some q) :
      Step s (.cas t a true cls false false)
        { s with head := upd s.head (s.grp a) (some (a :: q)), acc := upd s.acc a (.queued det) }
  | casRetry {t a h : Nat} {det : Bool} {q : List Nat} (hx : s.acc a = .loaded t det h)
      (hq : s.head (s.grp a) = some q) :
      Step s (.cas t a false (clsOf q) false false) { s with acc := upd s.acc a (.loaded t det q.length) }
  | casDone {t a h : Nat} {det : Bool} (hx : s.acc a = .loaded t det h) (hq : s.head (s.grp a) = none) :
      Step s (.cas t a false 2 (!det) (grantDies s a det)) (grant s t a det)
  | xchg {t g : Nat} {q : List Nat} (hd : s.dn g = .pend t) (hq : s.head g = some q) (hg : g < s.ng) :
      Step s (.xchg t g (clsOf q)) { s with head := upd s.head g none, dn := upd s.dn g (.drain t q) }
  | cont {t g a : Nat} {rest : List Nat} {det : Bool} (hd : s.dn g = .drain t (a :: rest))
      (hx : s.acc a = .queued det) (hga : s.grp a = g) :
      Step s (.cont t g (ackOf det a) (grantDies s a det))
        (grant { s with dn := upd s.dn g (.drain t rest) } t a det)
  | copy (t : Nat) {a c : Nat} (hx : s.acc a = .granted c) (hr : s.rw (s.grp a) = false) :
      Step s (.copy t a) { s with acc := upd s.acc a (.granted (c + 1)),
                                  rc := upd s.rc (s.grp a) (s.rc (s.grp a) + 1) }
  | rel (t : Nat) {a c : Nat} (hx : s.acc a = .granted c) :
      Step s (.rel t a (decide (s.rc (s.grp a) = 1)))
        (decRc { s with acc := upd s.acc a (relAcc c) } t (s.grp a))
  | write (t : Nat) {a c : Nat} (hx : s.acc a = .granted c) (hr : s.rw (s.grp a) = true) :
      Step s (.write t a (s.ver + 1)) { s with ver := s.ver + 1, wr := upd s.wr a (s.wr a + 1) }
  | readv (t : Nat) {a c : Nat} (hx : s.acc a = .granted c) : Step s (.readv t a s.ver) s
  | vfree (t : Nat) (hal : s.alive = false) (hd : s.ng = 0 ∨ s.dead (s.ng - 1) = true)
      (hv : s.vfreed = false) : Step s (.vfree t) { s with vfreed := true }

theorem Step.of_step {s s' : St} {e : Ev} (h : step s e = some s') : Step s e s' := by
  cases e with
  | req t a w newg died =>
    simp only [step, Option.ite_none_right_eq_some] at h
    obtain ⟨⟨hal, rfl⟩, h⟩ := h
    split at h
    · rename_i hw
      simp only [Option.ite_none_right_eq_some, Option.some.injEq] at h
      obtain ⟨⟨rfl, rfl⟩, rfl⟩ := h
      by_cases h0 : 0 < s.ng
      · simp only [h0, decide_true, Bool.true_and, if_true]; exact .reqNew t w hal hw h0
      · simp only [h0, decide_false, Bool.false_and, if_false]; exact .reqFirst t w hal hw (by omega)
    · rename_i hw
      simp only [Option.ite_none_right_eq_some, Option.some.injEq] at h
      obtain ⟨⟨rfl, rfl⟩, rfl⟩ := h
      have : w = false ∧ s.lastRw = false := by cases w <;> cases hl : s.lastRw <;> simp_all
      obtain ⟨rfl, hl⟩ := this
      exact .reqSame t hal hl
  | destroy t died =>
    simp only [step, Option.ite_none_right_eq_some] at h
    obtain ⟨hal, h⟩ := h
    split at h
    · rename_i h0
      simp only [Option.ite_none_right_eq_some, Option.some.injEq] at h
      obtain ⟨rfl, rfl⟩ := h
      exact .destroy t hal h0
    · simp only [Option.ite_none_right_eq_some, Option.some.injEq] at h
      obtain ⟨rfl, rfl⟩ := h
      exact .destroyEmpty t hal (by omega)
  | start t a det =>
    simp only [step] at h
    split at h <;> cases h
    exact .start t det ‹_›
  | load t a cls ack died =>
    simp only [step] at h
    split at h <;> simp only [Option.ite_none_right_eq_some, reduceCtorEq] at h
    obtain ⟨rfl, h⟩ := h
    split at h <;> simp only [Option.ite_none_right_eq_some, Option.some.injEq] at h <;>
      obtain ⟨⟨rfl, rfl, rfl⟩, rfl⟩ := h
    · exact .loadOpen ‹_› ‹_›
    · exact .loadDone ‹_› ‹_›
  | cas t a ok cls ack died =>
    simp only [step] at h
    split at h <;> simp only [Option.ite_none_right_eq_some, reduceCtorEq] at h
    obtain ⟨rfl, h⟩ := h
    split at h
    · split at h <;> simp only [Option.ite_none_right_eq_some, Option.some.injEq] at h <;>
        obtain ⟨⟨rfl, rfl, rfl⟩, rfl⟩ := h
      · subst ‹ok = true›; exact .casPush cls ‹_› ‹_›
      · obtain rfl : ok = false := by simpa using ‹¬ ok = true›
        exact .casRetry ‹_› ‹_›
    · simp only [Option.ite_none_right_eq_some, Option.some.injEq] at h
      obtain ⟨⟨rfl, rfl, rfl, rfl⟩, rfl⟩ := h
      exact .casDone ‹_› ‹_›
  | xchg t g cls =>
    simp only [step] at h
    split at h <;> simp only [Option.ite_none_right_eq_some, Option.some.injEq, reduceCtorEq] at h
    obtain ⟨⟨rfl, hg, rfl⟩, rfl⟩ := h
    exact .xchg ‹_› ‹_› hg
  | cont t g ack died =>
    simp only [step] at h
    split at h
    · split at h <;> simp only [Option.ite_none_right_eq_some, Option.some.injEq, reduceCtorEq] at h
      obtain ⟨⟨rfl, hga, rfl, rfl⟩, rfl⟩ := h
      exact .cont ‹_› ‹_› hga
    · cases h
  | copy t a =>
    simp only [step] at h
    split at h <;> simp only [Option.ite_none_right_eq_some, Option.some.injEq, reduceCtorEq] at h
    obtain ⟨hr, rfl⟩ := h
    exact .copy t ‹_› hr
  | rel t a died =>
    simp only [step] at h
    split at h <;> simp only [Option.ite_none_right_eq_some, Option.some.injEq, reduceCtorEq] at h
    obtain ⟨rfl, rfl⟩ := h
    exact .rel t ‹_›
  | write t a v =>
    simp only [step] at h
    split at h <;> simp only [Option.ite_none_right_eq_some, Option.some.injEq, reduceCtorEq] at h
    obtain ⟨⟨hr, rfl⟩, rfl⟩ := h
    exact .write t ‹_› hr
  | readv t a v =>
    simp only [step] at h
    split at h <;> simp only [Option.ite_none_right_eq_some, Option.some.injEq, reduceCtorEq] at h
    obtain ⟨rfl, rfl⟩ := h
    exact .readv t ‹_›
  | vfree t =>
    simp only [step, Option.ite_none_right_eq_some, Option.some.injEq] at h
    obtain ⟨⟨hal, hd, hv⟩, rfl⟩ := h
    exact .vfree t hal hd hv

theorem Step.step {s s' : St} {e : Ev} (h : Step s e s') : step s e = some s' := by
  cases h <;> simp_all [Rw.step, newGroup]

/-! `decRc` writes `rc`, `dead` and `dn` only; `grant` also the granted access and its `grants`. -/

theorem decRc_fields (s : St) (t g : Nat) :
    (decRc s t g).acc = s.acc ∧ (decRc s t g).na = s.na ∧ (decRc s t g).ng = s.ng ∧
    (decRc s t g).grp = s.grp ∧ (decRc s t g).head = s.head ∧ (decRc s t g).alive = s.alive ∧
    (decRc s t g).vfreed = s.vfreed ∧ (decRc s t g).wr = s.wr ∧ (decRc s t g).ver = s.ver := by
  unfold decRc; split
  · split <;> simp only [and_self]
  · simp only [and_self]

theorem grant_fields (s : St) (t a : Nat) (det : Bool) :
    (grant s t a det).acc = upd s.acc a (if det then .released else .granted 0) ∧
    (grant s t a det).na = s.na ∧ (grant s t a det).ng = s.ng ∧
    (grant s t a det).grp = s.grp ∧ (grant s t a det).head = s.head ∧ (grant s t a det).alive = s.alive ∧
    (grant s t a det).vfreed = s.vfreed ∧ (grant s t a det).wr = s.wr ∧ (grant s t a det).ver = s.ver := by
  cases det <;> simp [grant, decRc_fields]

/-- The only `done()` frame `decRc` can write is the one it opens on the next shared state. -/
theorem decRc_dn (s : St) (t : Nat) {g x : Nat} (h : x ≠ g + 1) : (decRc s t g).dn x = s.dn x := by
  unfold decRc; split
  · split
    · exact upd_other _ _ _ _ h
    · rfl
  · rfl

theorem grant_dn (s : St) (t a : Nat) (det : Bool) {x : Nat} (h : x ≠ s.grp a + 1) :
    (grant s t a det).dn x = s.dn x := by
  cases det
  · rfl
  · exact decRc_dn _ t h

/-- the owner's requests -/
def reqN : Ev → Nat
  | .req .. => 1
  | _ => 0

theorem Step.na {s s' : St} {e : Ev} (h : Step s e s') : s'.na = s.na + reqN e := by
  cases h <;> simp only [decRc_fields, grant_fields, newGroup, reqN, Nat.add_zero]

theorem Step.alive {s s' : St} {e : Ev} (h : Step s e s') (hne : ∀ t d, e ≠ .destroy t d) :
    s'.alive = s.alive := by
  cases h <;> first | exact absurd rfl (hne _ _) | simp only [decRc_fields, grant_fields, newGroup]

end PikaVerif.Rw
