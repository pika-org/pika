import PikaVerif.Lemmas.ElasticFin
/-! Maximal states relative to pending resume calls, with work stealing (C19t). -/
namespace PikaVerif.Elastic

/-- worker `v` can steal: its thread has started, is in its scheduling loop and `running` -/
def thiefAt (s : St) (v : Nat) : Option Nat :=
  match (s.wk v).actor with
  | some b => if (s.wk v).pc = .loop ∧ (s.wk v).st = rsRunning then some b else none
  | none => none

/-- the OS thread of some worker `< N` that can steal -/
def thief (N : Nat) (s : St) : Option Nat := (List.range N).findSome? (thiefAt s)

/-- with `enable_stealing`, a running worker owes the take of work queued on any worker -/
def owedSteal (N : Nat) (s : St) (w : Nat) : Option (List Ev) :=
  if s.cfg.stealing = true ∧ 0 < (s.wk w).q then
    match thief N s with
    | some b => some [.dec b w]
    | none => none
  else none

/-- a pending `resume_processing_unit` call on `w` (the resume loop `while (state == sleeping)
    resume(w)`) owes a notify as long as the worker is inside `wait` un-notified (`step` does not look at the
    actor of a `notify`; `0` stands for the caller) -/
def owedNotify (R : Nat → Bool) (s : St) (w : Nat) : Option (List Ev) :=
  if R w = true ∧ (s.wk w).pc = .waiting ∧ (s.wk w).notified = false then some [.notify 0 w] else none

/-- maximal relative to the set `R` of workers with a pending resume call -/
def MaximalR (N : Nat) (R : Nat → Bool) (s : St) : Prop :=
  Maximal N s ∧ ∀ i, i < N → (owedSteal N s i).isNone = true ∧ (owedNotify R s i).isNone = true

instance (N : Nat) (R : Nat → Bool) (s : St) : Decidable (MaximalR N R s) := by
  unfold MaximalR; exact inferInstance

attribute [local simp] runLog step nEff eff moves b2n wsum weight inR

theorem owedSteal_ok (N : Nat) (s : St) (w : Nat) (evs : List Ev) (hw : w < N) (h : owedSteal N s w = some evs) :
    Owed N s evs := by
  simp only [owedSteal] at h
  unfold Owed
  split at h
  · rename_i hg
    split at h
    · simp only [Option.some.injEq] at h
      subst h
      simp [hg.1, hg.2, hw]
    · simp at h
  · simp at h

theorem owedNotify_ok (N : Nat) (R : Nat → Bool) (s : St) (w : Nat) (evs : List Ev) (hw : w < N)
    (h : owedNotify R s w = some evs) :
    Owed N s evs := by
  simp only [owedNotify] at h
  unfold Owed
  split at h
  · rename_i hg
    obtain rfl := Option.some.inj h
    simp [hg.2.1, hg.2.2, hw]
  · simp at h

theorem owed_of_not_maximalR (N : Nat) (R : Nat → Bool) (s : St) (hm : ¬ MaximalR N R s) :
    ∃ evs, Owed N s evs := by
  by_cases hm0 : Maximal N s
  · obtain ⟨i, hi'⟩ := Classical.not_forall.1 fun h => hm ⟨hm0, h⟩
    obtain ⟨hiN, hnot⟩ := Classical.not_imp.1 hi'
    cases h1 : owedSteal N s i with
    | some evs => exact ⟨evs, owedSteal_ok N s i evs hiN h1⟩
    | none =>
      cases h2 : owedNotify R s i with
      | some evs => exact ⟨evs, owedNotify_ok N R s i evs hiN h2⟩
      | none => exact absurd (by simp [h1, h2]) hnot
  · exact owed_of_not_maximal N s hm0

/-- in a maximal state with stealing and a worker that can steal, every queue is empty -/
theorem stolen_of_maximalR (N : Nat) (R : Nat → Bool) (s : St) (hm : MaximalR N R s)
    (hs : s.cfg.stealing = true) (v : Nat) (hv : v < N) (b : Nat) (ha : (s.wk v).actor = some b)
    (hpc : (s.wk v).pc = .loop) (hst : (s.wk v).st = rsRunning) (w : Nat) (hw : w < N) : (s.wk w).q = 0 := by
  apply Classical.byContradiction
  intro hq
  have h1 := (hm.2 w hw).1
  have hth : thief N s ≠ none := by
    intro hn
    simp only [thief] at hn
    rw [List.findSome?_eq_none_iff] at hn
    have := hn v (List.mem_range.mpr hv)
    simp [thiefAt, ha, hpc, hst] at this
  simp only [owedSteal] at h1
  rw [if_pos ⟨hs, by omega⟩] at h1
  cases ht : thief N s with
  | none => exact hth ht
  | some b' => simp [ht] at h1

/-- a worker with a pending resume call is not asleep in a maximal state -/
theorem resumed_of_maximalR (N : Nat) (R : Nat → Bool) (s : St) (hi : Inv s) (hm : MaximalR N R s)
    (w : Nat) (hw : w < N) (hR : R w = true) : (s.wk w).st ≠ rsSleeping ∧ (s.wk w).pc = .loop := by
  have hf := final_of_maximal N s hi hm.1 w hw
  have h2 := (hm.2 w hw).2
  cases hf.pcFin with
  | inl hl =>
    refine ⟨?_, hl⟩
    intro h8
    exact (hi w).stPc h8 |>.1 hl
  | inr hr =>
    simp [owedNotify, hR, hr.1, hr.2.1] at h2

end PikaVerif.Elastic
