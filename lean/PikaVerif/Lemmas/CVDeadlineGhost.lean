import PikaVerif.Lemmas.CVStep
import PikaVerif.Lemmas.CVGhost
/-! Ghost invariant for the exact characterisation of a `false` result of the timed stop-token wait
    (used by `Props/C07d.lean`): `GB s g` relates the state to the ghost `g` ("this wait has seen its
    deadline expire"), `gb_step_all` carries it over every event, `gb_of_runLog` along a log. -/
namespace PikaVerif.CV

/-- Ghost observation for the timed stop-token wait: `g t` = the current wait operation of `t` has seen
    `reason == timeout` (a `cv.woke` with the entry still linked: the deadline expired and no notifier
    had popped the entry). -/
def obsTO (g : Nat → Bool) (e : Ev) (u : Nat) : Bool :=
  match e with
  | .inv t _ => if u = t then false else g u
  | .cvWoke t still _ => if u = t then (still || g u) else g u
  | _ => g u

/-- What must be true at each program counter of a timed stop-token wait for a `false` result to be
    accounted for: a `should_stop` (`sstop`), a final predicate test or a result `0` occurs only with
    the stop bit set or the deadline seen (`g`). -/
def okB (stopReq sstop g : Bool) : Pc → Bool
  | .post still => !still || g
  | .postS still => (!still || g) && (!sstop || stopReq || g)
  | .relockU _ => !sstop || stopReq || g
  | .predChk final => !final || stopReq || g
  | .sStopped => stopReq
  | .sDtor r | .sRm r | .sRmChk r | .sRmWait r | .retn r => decide (r ≠ 0) || stopReq || g
  | _ => true

def GB (s : St) (g : Nat → Bool) : Prop :=
  ∀ t, s.curOp t = .swait true → okB s.stopReq (s.sstop t) (g t) (s.pc t) = true

theorem setPopped_okB {p p' : Pc} (h : setPopped p = some p') (a b c : Bool) : okB a b c p' = true := by
  rcases setPopped_some h with ⟨tm, _, rfl⟩ | ⟨_, rfl⟩ | ⟨_, rfl⟩ | ⟨tm, _, rfl⟩ <;> rfl

/-- `okB` mentions the stop bit only as an alternative. -/
theorem okB_mono (sr b c : Bool) (p : Pc) (h : okB sr b c p = true) : okB true b c p = true := by
  cases sr
  · cases p <;> simp_all [okB]
  · exact h

theorem obsTO_other {g : Nat → Bool} {e : Ev} {u : Nat} (hu : u ≠ actor e) : obsTO g e u = g u := by
  cases e <;> first | rfl | exact if_neg hu

theorem okB_at {a b c : Bool} {f : Nat → Pc} {t : Nat} {p' : Pc} (h : okB a b c p' = true) :
    okB a b c (upd f t p' t) = true :=
  (congrArg (okB a b c) (upd_same ..)).trans h

theorem gb_step_all (s s' : St) (g : Nat → Bool) (e : Ev) (hi : GB s g) (h : step s e = some s') :
    GB s' (obsTO g e) := by
  intro u hc
  by_cases hne : u ≠ actor e
  · by_cases hg : popTarget e = some u
    · -- the target of a pop: at its new program counter `okB` asks nothing
      rw [obsTO_other hne]
      exact setPopped_okB (step_target h hg hne) ..
    · -- a thread the event does not touch; the stop bit can only have been set
      obtain ⟨h1, h2, _, _, _, _, _, _, h9, hsr⟩ := step_other h hne hg
      have := hi u (h2 ▸ hc)
      rw [obsTO_other hne, h1, h9]
      cases hq : s.stopReq
      · rw [hq] at this
        cases s'.stopReq
        · exact this
        · exact okB_mono _ _ _ _ this
      · rw [hsr hq]; rw [hq] at this; exact this
  obtain rfl : u = actor e := Classical.not_not.1 hne
  obtain ⟨p, p', ht, hp, hloc, hgd, rfl⟩ := Step.of_step h
  cases hloc
  case inv t o => obtain rfl : o = .swait true := (upd_same ..).symm.trans hc; exact okB_at rfl
  case wokeK t still tm =>
    -- a wake-up with the entry still linked is the observation `obsTO` records
    cases still <;> (have h0 := hi t hc; simp only [actor] at hp; rw [hp] at h0; simp_all [okB, obsTO, upd, actor])
  -- at most new program counters `okB` asks nothing (`okB_at rfl`); at the others (`postS`, `relockU`,
  -- `predChk`, the results) what it asks follows from what it asked at the program counter before, by
  -- evaluating `okB` at both
  all_goals first
    | exact okB_at rfl
    | (clear h; simp only [actor, write, Guard] at hp hc hgd ⊢; have h0 := hi _ hc; clear hi; rw [hp] at h0
       simp_all [okB, obsTO, upd, exitPc, isStop, b2n]; done)
    | (clear h; simp only [actor, write, Guard] at hp hc hgd ⊢; have h0 := hi _ hc; clear hi; rw [hp] at h0
       (try unfold exitPc); (repeat' split) <;> simp_all [okB, obsTO, upd, isPred, isStop, isTimed, b2n] <;>
         rcases h0 with h0 | h0 <;> simp [h0])

/-- The ghost after a log. -/
def obsLog (g : Nat → Bool) : List Ev → Nat → Bool
  | [] => g
  | e :: es => obsLog (obsTO g e) es

theorem gb_init (n : Nat) (f : Bool) : GB (init n f) (fun _ => false) :=
  fun _ h => nomatch h

theorem gb_of_runLog (log : List Ev) (s s' : St) (g : Nat → Bool) (hg : GB s g)
    (h : runLog step s log = some s') : GB s' (obsLog g log) :=
  runLog_ghost (fold := obsLog) (fun _ => rfl) (fun _ _ _ => rfl) GB (fun s g e s' => gb_step_all s s' g e) hg h

end PikaVerif.CV
