import PikaVerif.Lemmas.Elastic
import PikaVerif.Core.Run
/-! Lemmas for the refusal clause of C19: the configuration never changes, and while an actor is
`refused` (fixed tree) it cannot come to hold a pu mutex for a suspension. -/
namespace PikaVerif.Elastic

variable {s s' : St} {e : Ev} {w : Nat} {x x' : Wk}

theorem step_cfg (h : step s e = some s') : s'.cfg = s.cfg := by
  cases Step.of_step h <;> rfl

/-- actor `a` holds no pu mutex for a suspension -/
def NoSusp (s : St) (a : Nat) : Prop := ∀ w, (s.wk w).lk ≠ some (a, .susp)

/-- only `slock` hands out a pu mutex for a suspension, and only to an actor that may act -/
theorem WkStep.lk_susp {a : Nat} (h : WkStep s w x e x') (hm : mayAct s a = false)
    (hn : x.lk ≠ some (a, .susp)) : x'.lk ≠ some (a, .susp) := by
  cases h <;> grind

theorem refused_step (a : Nat) (hc : s.cfg.refuseReturns = true)
    (ha : s.apc a = .refused) (hn : NoSusp s a) (h : step s e = some s') :
    NoSusp s' a ∧ (s'.apc a = .refused ∨ e = .ret a) := by
  have hm : mayAct s a = false := by simp [mayAct, ha, hc]
  have hs := Step.of_step h
  refine ⟨hs.forall_wk (P := fun x => x.lk ≠ some (a, .susp)) hn fun hw => hw.lk_susp hm (hn _), ?_⟩
  cases hs <;> grind [upd]

theorem refused_log (a : Nat) (log : List Ev) (s s' : St) (hc : s.cfg.refuseReturns = true)
    (ha : s.apc a = .refused) (hn : NoSusp s a) (h : runLog step s log = some s') (hnot : Ev.ret a ∉ log) :
    s'.apc a = .refused ∧ NoSusp s' a ∧ s'.cfg.refuseReturns = true :=
  inv_of_runLog_where (fun t => t.apc a = .refused ∧ NoSusp t a ∧ t.cfg.refuseReturns = true) (· ≠ .ret a)
    (fun _ _ _ hne ⟨ha, hn, hc⟩ hs =>
      have h1 := refused_step a hc ha hn hs
      ⟨h1.2.resolve_right hne, h1.1, by rw [step_cfg hs]; exact hc⟩)
    ⟨ha, hn, hc⟩ h (fun e he heq => hnot (heq ▸ he))

end PikaVerif.Elastic
