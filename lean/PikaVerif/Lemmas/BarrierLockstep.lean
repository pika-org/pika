import PikaVerif.Lemmas.BarrierProg
/-!
# Lock-step invariant and final states of barrier programs (C09u)

For the programs `awdProg P d` the lock-step invariant `InvD` (every thread is in its phase `ph` or
`ph + 1` operation) holds along all runs, and with `quiescent_progress` it determines the maximal
states (`maximal_final_d`).
-/
namespace PikaVerif.Barrier
open PikaVerif.C09Barrier

def dn (d : Nat → Bool) (t : Nat) : Nat := if d t then 1 else 0
/-- operations thread `t` has invoked so far (its program has `P + dn d t` of them) -/
def avd (P : Nat) (d : Nat → Bool) (prog : Nat → List Op) (t : Nat) : Nat := P + dn d t - (prog t).length

/-- a suffix of `aw … aw [drop]` -/
def okL (dt : Bool) (l : List Op) : Prop :=
  l = [] ∨ ∃ k, l = List.replicate k .aw ++ (if dt then [.drop] else [])

theorem okL_cons {dt : Bool} {o : Op} {rest : List Op} (h : okL dt (o :: rest)) :
    (o = .aw ∧ okL dt rest ∧ (if dt then 1 else 0) ≤ rest.length) ∨ (o = .drop ∧ rest = [] ∧ dt = true) := by
  rcases h with h | ⟨k, h⟩
  · simp at h
  · cases k with
    | zero =>
      cases dt <;> simp at h
      exact Or.inr ⟨h.1, h.2, rfl⟩
    | succ k =>
      simp only [List.replicate_succ, List.cons_append, List.cons.injEq] at h
      refine Or.inl ⟨h.1, Or.inr ⟨k, h.2⟩, ?_⟩
      rw [h.2]; cases dt <;> simp

/-- What the program counter says about a thread that has invoked `a` operations while `ph` phases are
    published: between operations it is level with the phases (or has done its final drop), inside an
    arriving operation it is one ahead, and a waiter's token is that of its operation. -/
def PcD (P ph a tokIdx : Nat) (aw : Bool) : Pc → Prop
  | .idle | .fin | .retn => a = ph ∨ (a = P + 1 ∧ aw = false ∧ P ≤ ph)
  | .wantDrop => aw = false ∧ a = ph + 1 ∧ ph = P
  | .want u | .arr u => u = 1 ∧ a = ph + 1 ∧ (if aw then a ≤ P else ph = P)
  | .try u _ _ _ | .try2 u _ _ _ | .won u _ | .pub u _ => u = 0 ∧ a = ph + 1 ∧ (if aw then a ≤ P else ph = P)
  | .polling => a = tokIdx + 1 ∧ a ≤ P

structure InvD (N P : Nat) (d : Nat → Bool) (s : St) (prog : Nat → List Op) : Prop where
  n_eq : s.n = N
  /-- before the drop phase nobody has dropped: `expected` is still `N` -/
  exp : s.ph < P → s.expected = N ∧ s.adj = 0
  e0le : s.e0 ≤ N
  /-- the expected count of the phase is `N`, except after the drop phase, when all programs are used up -/
  e0 : s.e0 = N ∨ (P < s.ph ∧ ∀ t, t < N → prog t = [])
  lists : ∀ t, t < N → okL (d t) (prog t) ∧ (prog t).length ≤ P + dn d t
  /-- no thread is behind the published phases -/
  lo : ∀ t, t < N → s.ph ≤ avd P d prog t
  /-- the count left of the phase is the number of threads that have not yet invoked their operation of it -/
  cnt : s.count + sumTo N (fun t => avd P d prog t - s.ph) = s.e0
  pcs : ∀ t, t < N → PcD P s.ph (avd P d prog t) (s.tokIdx t) (s.aw t) (s.pc t)

/-- An event that leaves `n`, `ph`, `e0`, `count` and the programs alone and moves only thread `t`
    keeps `InvD` if `t`'s new program counter still fits its position. -/
theorem invD_pc {N P : Nat} {d : Nat → Bool} {s s' : St} {prog : Nat → List Op} (hi : InvD N P d s prog)
    (t : Nat) (hn : s'.n = s.n) (hph : s'.ph = s.ph) (he0 : s'.e0 = s.e0) (hcnt : s'.count = s.count)
    (hexp : s.ph < P → s'.expected = s.expected ∧ s'.adj = s.adj)
    (hoth : ∀ u, u ≠ t → s'.pc u = s.pc u ∧ s'.tokIdx u = s.tokIdx u ∧ s'.aw u = s.aw u)
    (hq : t < N → PcD P s.ph (avd P d prog t) (s.tokIdx t) (s.aw t) (s.pc t) →
      PcD P s.ph (avd P d prog t) (s'.tokIdx t) (s'.aw t) (s'.pc t)) :
    InvD N P d s' prog := by
  obtain ⟨h1, h2, h2a, h2b, h3, h4, h5, h6⟩ := hi
  refine ⟨hn.trans h1, fun h => ?_, he0 ▸ h2a, ?_, h3, hph ▸ h4, ?_, fun u hu => ?_⟩
  · rw [hph] at h; obtain ⟨a, b⟩ := hexp h; rw [a, b]; exact h2 h
  · rw [he0, hph]; exact h2b
  · rw [hcnt, hph, he0]; exact h5
  · rw [hph]
    by_cases hut : u = t
    · subst hut; exact hq hu (h6 u hu)
    · obtain ⟨a, b, c⟩ := hoth u hut
      rw [a, b, c]; exact h6 u hu

/-- Events that change the program counter of `t` (and tickets, `wins`, `win`) only. -/
theorem invD_move {N P : Nat} {d : Nat → Bool} {s : St} {prog : Nat → List Op} (hi : InvD N P d s prog)
    {t : Nat} {p : Pc} (hpc : s.pc t = p) (q : Pc) {tk' : Nat → Nat → Nat} {wins' : Nat} {win' : Option Nat}
    (hq : PcD P s.ph (avd P d prog t) (s.tokIdx t) (s.aw t) p →
      PcD P s.ph (avd P d prog t) (s.tokIdx t) (s.aw t) q) :
    InvD N P d { s with pc := upd s.pc t q, tk := tk', wins := wins', win := win' } prog :=
  invD_pc hi t rfl rfl rfl rfl (fun _ => ⟨rfl, rfl⟩) (fun _ hv => ⟨upd_other _ _ _ _ hv, rfl, rfl⟩)
    (fun _ hp => by dsimp only; rw [upd_same]; exact hq (hpc ▸ hp))

/-- Every event but `inv` and `publish`.  Only three moves change what the program counter says of
    the thread's position: the phase load (the token is now of phase `ph`), the first half of a
    node (the operation's arrival is done: on to `wait`, or back), and the poll that sees the flip. -/
theorem stepD_pc (N P : Nat) (d : Nat → Bool) (s s' : St) (prog : Nat → List Op) (e : Ev) (hb : InvB s)
    (hi : InvD N P d s prog) (h : step s e = some s') (hinv : ∀ t o, e ≠ .inv t o)
    (hpub : ∀ t a b, e ≠ .publish t a b) : InvD N P d s' prog := by
  cases step_iff.mp h with
  | inv t o => exact absurd rfl (hinv t o)
  | publish t u r => exact absurd rfl (hpub t _ _)
  | adj t ht hpc =>
    have hp := hi.pcs t (hi.n_eq ▸ ht)
    rw [hpc] at hp
    exact invD_pc hi t rfl rfl rfl rfl (fun h => by have := hp.2.2; omega)
      (fun u hu => ⟨upd_other _ _ _ _ hu, rfl, rfl⟩)
      (fun _ _ => by dsimp only; rw [upd_same]; exact ⟨rfl, hp.2.1, by rw [hp.1]; exact hp.2.2⟩)
  | load t u ht hpc =>
    refine invD_pc hi t rfl rfl rfl rfl (fun _ => ⟨rfl, rfl⟩)
      (fun v hv => ⟨upd_other _ _ _ _ hv, upd_other _ _ _ _ hv, rfl⟩) (fun _ hp => ?_)
    rw [hpc] at hp
    obtain ⟨rfl, hp⟩ := hp
    dsimp only; rw [upd_same, upd_same]; exact (⟨rfl, hp⟩ : 1 = 1 ∧ _)
  | start t a u ht _ hpc => exact invD_move hi hpc _ (fun hp => ⟨by rw [hp.1], hp.2⟩)
  | casHalf t a r u cur m ht hpc =>
    refine invD_move hi hpc _ (fun hp => ?_)
    obtain ⟨rfl, hav, hp⟩ := hp
    have hti := (hb.tokPhase t (by rw [hpc]; rfl)).2
    cases haw : s.aw t <;> rw [haw] at hp
    · exact .inr ⟨by rw [hav, hp], rfl, by rw [hp]; exact Nat.le_refl _⟩
    · exact ⟨by rw [hav, hti], hp⟩
  | compl t u r ht hpc =>
    exact invD_pc hi t rfl rfl rfl rfl (fun h => by rw [(hi.exp h).2]; exact ⟨rfl, rfl⟩)
      (fun v hv => ⟨upd_other _ _ _ _ hv, rfl, rfl⟩)
      (fun _ hp => by dsimp only; rw [upd_same]; rw [hpc] at hp; exact hp)
  | poll t ht hpc =>
    refine invD_move hi hpc _ (fun hp => ?_)
    have hav : avd P d prog t = s.tokIdx t + 1 := hp.1
    split
    · exact hp
    · next hne =>
      -- the byte has moved, so the token is of the phase before: the operation was that of phase `ph - 1`
      have h1 := hb.tokIdxOk t; have h2 := hb.phaseEq; have h3 := hi.lo t (hi.n_eq ▸ ht)
      refine .inl ?_
      have : s.tokIdx t ≠ s.ph := fun he => hne (by rw [h2, h1.1, he])
      omega
  | _ => exact invD_move hi ‹s.pc _ = _› _ (by exact id)

theorem PcD_le {P ph a ti : Nat} {aw : Bool} {pc : Pc} (h : PcD P ph a ti aw pc) (hti : ti ≤ ph) : a ≤ ph + 1 := by
  cases pc <;> simp [PcD] at h <;> omega

theorem stepD_inv (N P : Nat) (d : Nat → Bool) (s s' : St) (prog : Nat → List Op) (t : Nat) (o : Op) (rest : List Op)
    (hi : InvD N P d s prog) (hp : prog t = o :: rest)
    (h : step s (.inv t o) = some s') : InvD N P d s' (upd prog t rest) := by
  cases step_iff.mp h with
  | inv _ _ ht' hpc hc =>
    obtain ⟨h1, h2, h2a, h2b, h3, h4, h5, h6⟩ := hi
    have ht : t < N := h1 ▸ ht'
    obtain ⟨hok, hlen⟩ := h3 t ht
    rw [hp] at hok hlen; simp only [List.length_cons] at hlen
    have h6t := h6 t ht
    rw [hpc] at h6t
    have hdn : dn d t ≤ 1 := by unfold dn; split <;> omega
    have h6t' : avd P d prog t = s.ph := by
      rcases h6t with h | h
      · exact h
      · simp only [avd, hp, List.length_cons] at h; omega
    have hav : avd P d (upd prog t rest) t = s.ph + 1 := by
      simp only [avd, upd_same, hp, List.length_cons] at h6t' ⊢; omega
    have havo : ∀ u, u ≠ t → avd P d (upd prog t rest) u = avd P d prog u := fun u hu => by
      simp only [avd, upd_other _ _ _ _ hu]
    have hsum := sumTo_change (f := fun u => avd P d prog u - s.ph)
      (f' := fun u => avd P d (upd prog t rest) u - s.ph) ht (fun u _ hu => by simp only [havo u hu])
    have he0 : s.e0 = N := h2b.resolve_right (fun h => by have := h.2 t ht; rw [hp] at this; cases this)
    -- the operation is `arrive_and_wait` or the final `arrive_and_drop`: it claims one arrival, and its
    -- first program counter fits position `ph + 1`
    have hq : opCount o = 1 ∧ okL (d t) rest ∧ rest.length ≤ P + dn d t ∧
        PcD P s.ph (s.ph + 1) (s.tokIdx t) (decide (o = .aw)) (opPc o) := by
      rcases okL_cons hok with ⟨rfl, hr, hdr⟩ | ⟨rfl, rfl, hdt⟩
      · refine ⟨rfl, hr, by omega, rfl, rfl, ?_⟩
        have : dn d t ≤ rest.length := hdr
        show s.ph + 1 ≤ P
        simp only [avd, hp, List.length_cons] at h6t'; omega
      · refine ⟨rfl, .inl rfl, Nat.zero_le _, rfl, rfl, ?_⟩
        have : dn d t = 1 := if_pos hdt
        simp only [avd, hp, List.length_cons, List.length_nil] at h6t'; omega
    obtain ⟨hone, hokr, hlenr, hq⟩ := hq
    have hcnt : 1 ≤ s.count := by
      rcases hc with rfl | hc
      · cases hone
      · omega
    refine ⟨h1, h2, h2a, .inl he0, fun u hu => ?_, fun u hu => ?_, ?_, fun u hu => ?_⟩
    · by_cases hut : u = t
      · subst hut; rw [upd_same]; exact ⟨hokr, hlenr⟩
      · rw [upd_other _ _ _ _ hut]; exact h3 u hu
    · by_cases hut : u = t
      · subst hut; rw [hav]; exact Nat.le_succ _
      · rw [havo u hut]; exact h4 u hu
    · show s.count - opCount o + sumTo N (fun u => avd P d (upd prog t rest) u - s.ph) = s.e0
      omega
    · by_cases hut : u = t
      · subst hut; dsimp only; rw [upd_same, upd_same, hav]; exact hq
      · dsimp only; rw [upd_other _ _ _ _ hut, upd_other _ _ _ _ hut, havo u hut]; exact h6 u hu

/-- The phase store: every thread is in its phase-`ph` operation before, `ph + 1` becomes the phase. -/
theorem stepD_publish (N P : Nat) (d : Nat → Bool) (s s' : St) (prog : Nat → List Op) (t a b : Nat)
    (ha : InvA s) (hb : InvB s) (hi : InvD N P d s prog) (h : step s (.publish t a b) = some s') :
    InvD N P d s' prog := by
  obtain ⟨h1, h2, h2a, h2b, h3, h4, h5, h6⟩ := hi
  cases step_iff.mp h with
  | publish _ u r ht' hpc =>
    have ht : t < N := h1 ▸ ht'
    obtain ⟨hoth, -, -, hcnt, -⟩ := last_arriver hb (hb.known ht' hpc).2.2.1
    have h6t := h6 t ht
    rw [hpc] at h6t; simp only [PcD] at h6t
    obtain ⟨hu0, hat, hawt⟩ := h6t
    have htp := hb.tokPhase t (by simp [inArr, hpc])
    have hdn : ∀ c, dn d c ≤ 1 := fun c => by unfold dn; split <;> omega
    have he0 : s.e0 = N := by
      rcases h2b with h | h
      · exact h
      · have hnil := h.2 t ht; have := hdn t
        simp only [avd] at hat; rw [hnil] at hat; simp only [List.length_nil] at hat; omega
    have hle1 : ∀ c, c < N → avd P d prog c - s.ph ≤ 1 := by
      intro c hc
      have := PcD_le (h6 c hc) (hb.tokIdxOk c).2
      omega
    have hall : ∀ c, c < N → avd P d prog c - s.ph = 1 :=
      sumTo_eq_of_le (g := fun _ => 1) hle1 (by rw [sumTo_const]; omega)
    have hexp := ha.expLe
    refine ⟨h1, ?_, ?_, ?_, h3, ?_, ?_, ?_⟩ <;> try dsimp only
    · intro hlt; exact h2 (by omega)
    · omega
    · by_cases hlt : s.ph < P
      · exact Or.inl (h2 hlt).1
      · refine Or.inr ⟨by omega, fun c hc => ?_⟩
        have h1' := hall c hc
        have h2' := (h3 c hc).2
        have h3' := hdn c
        apply List.eq_nil_of_length_eq_zero
        simp only [avd] at h1'; omega
    · intro c hc; have := hall c hc; omega
    · have : sumTo N (fun c => avd P d prog c - (s.ph + 1)) = 0 :=
        sumTo_eq_zero (fun c hc => by have := hall c hc; omega)
      rw [this]; omega
    · intro c hc
      have hac := hall c hc
      have hac' : avd P d prog c = s.ph + 1 := by omega
      by_cases hct : c = t
      · subst hct; simp only [upd_same, hu0, afterCall, if_true]
        cases haw : s.aw c
        · simp only [PcD]; exact Or.inl hac'
        · rw [haw] at hawt
          simp only [if_true, PcD]
          exact ⟨by omega, hawt⟩
      · simp only [upd_other _ _ _ _ hct]
        have h6c := h6 c hc
        have hna := hoth c (by omega) hct
        rw [hac'] at h6c ⊢
        cases hpcc : s.pc c <;> rw [hpcc] at h6c hna <;> simp [arriving] at hna <;> simp only [PcD] at h6c ⊢
        all_goals first
          | omega
          | exact h6c
          | exact Or.inl trivial

/-- `InvA`, `InvB`, the lock-step invariant and `FinOk`, kept together along program runs -/
structure AllD (N P : Nat) (d : Nat → Bool) (p : PSt) : Prop where
  a : InvA p.s
  b : InvB p.s
  u : InvD N P d p.s p.prog
  f : FinOk p

theorem allD_step (N P : Nat) (d : Nat → Bool) (p p' : PSt) (e : Ev) (hi : AllD N P d p) (h : pstep p e = some p') :
    AllD N P d p' := by
  have hs := pstep_step p p' e h
  refine ⟨stepA _ _ e hi.a hs, stepB _ _ e hi.a hi.b hs, ?_, finOk_step p p' e hi.f h⟩
  obtain ⟨-, ⟨t, o, rest, rfl, hp, hp'⟩ | ⟨hne, hp', -⟩⟩ := layer.sound h <;> rw [hp']
  · exact stepD_inv N P d _ _ _ t o rest hi.u hp hs
  · by_cases hpub : ∃ t a b, e = .publish t a b
    · obtain ⟨t, a, b, rfl⟩ := hpub
      exact stepD_publish N P d _ _ _ t a b hi.a hi.b hi.u hs
    · exact stepD_pc N P d _ _ _ _ hi.b hi.u hs hne (fun t a b he => hpub ⟨t, a, b, he⟩)

theorem len_awd (P : Nat) (d : Nat → Bool) (t : Nat) : (awdProg P d t).length = P + dn d t := by
  simp only [awdProg, dn, List.length_append, List.length_replicate]
  split <;> simp

theorem allD_init (N P : Nat) (d : Nat → Bool) : AllD N P d (pinit N N (awdProg P d)) := by
  refine ⟨invA_init N N, invB_init N N, ⟨rfl, fun _ => ⟨rfl, rfl⟩, Nat.le_refl _, Or.inl rfl, ?_, ?_, ?_, ?_⟩, ?_⟩
  · intro t _; exact ⟨Or.inr ⟨P, rfl⟩, by simp [pinit, len_awd]⟩
  · intro t _; simp [pinit, init]
  · have : sumTo N (fun t => avd P d (pinit N N (awdProg P d)).prog t - (pinit N N (awdProg P d)).s.ph) = 0 :=
      sumTo_eq_zero (fun t _ => by simp [pinit, init, avd, len_awd])
    rw [this]; simp [pinit, init]
  · intro t _; simp [pinit, init, PcD, avd, len_awd]
  · intro t ht; simp [pinit, init] at ht

theorem allD_run (N P : Nat) (d : Nat → Bool) (log : List Ev) (p : PSt)
    (h : runLog pstep (pinit N N (awdProg P d)) log = some p) : AllD N P d p :=
  inv_of_runLog (AllD N P d) (fun p e p' hi hs => allD_step N P d p p' e hi hs) (allD_init N P d) h

/-- **Final states with drops.**  In a maximal reachable state of the program "`N` threads, each
    `P` × `arrive_and_wait`, then `arrive_and_drop` for the threads selected by `d`" every thread
    has ended with an empty list, no last arriver is pending, and the number of completed phases
    is `P + min_t dn t`: `P + 1` if every thread drops, `P` otherwise. -/
theorem maximal_final_d (N P : Nat) (d : Nat → Bool) (p : PSt) (hi : AllD N P d p) (hm : Maximal p) :
    (∀ t, t < N → p.s.pc t = .fin ∧ p.prog t = []) ∧ p.s.win = none ∧
    (1 ≤ N → (∀ t, t < N → p.s.ph ≤ P + dn d t) ∧ ∃ u, u < N ∧ p.s.ph = P + dn d u) := by
  obtain ⟨ha, hb, ⟨hn, hexp, he0le, hE, hlists, hlo, hcnt, hpcs⟩, hf⟩ := hi
  have hq := maximal_quiescent p hm
  have hprog := quiescent_progress hb hq
  rw [hn] at hprog
  have hA : ∀ t, t < N → p.s.pc t = .polling → p.s.phase = p.s.tok t →
      avd P d p.prog t = p.s.ph + 1 ∧ avd P d p.prog t ≤ P := by
    intro t ht hpc hph
    have h1 := hpcs t ht
    rw [hpc] at h1; simp only [PcD] at h1
    have h2 := hb.tokIdxOk t
    have h3 := hb.phaseEq
    have h4 := hlo t ht
    rw [h2.1, h3] at hph
    omega
  have hidle : ∀ t, t < N → p.s.pc t = .idle → p.prog t ≠ [] ∧ p.s.count = 0 := by
    intro t ht hpc
    obtain ⟨o, rest, hl, -, hc⟩ := hm.idle (by rw [hn]; exact ht) hpc
    have hok := (hlists t ht).1
    rw [hl] at hok ⊢
    refine ⟨nofun, ?_⟩
    -- the next operation is `arrive_and_wait` or the final `arrive_and_drop`: it claims one arrival
    rcases okL_cons hok with ⟨rfl, -⟩ | ⟨rfl, -⟩ <;> exact Nat.lt_one_iff.mp (hc (Nat.le_refl 1))
  have hnowin : p.s.win = none := by
    cases hw : p.s.win with
    | none => rfl
    | some t1 =>
      exfalso
      obtain ⟨h1, h2, _⟩ := hb.winConv t1 hw
      rcases hprog t1 (by omega) with h | h | ⟨h, _⟩ <;> rw [h] at h1 <;> simp [isWin, isWon, isPub] at h1
  have hnil : ∀ t, p.prog t = [] → avd P d p.prog t = P + dn d t := by
    intro t h; simp [avd, h]
  by_cases hc0 : p.s.count = 0
  · by_cases he0 : p.s.e0 = 0
    · -- all dropped and the last phase was published
      rcases hE with hE | hE
      · exact ⟨fun t ht => by omega, hnowin, fun h => by omega⟩
      · have hz := zero_of_sumTo_zero (n := N) (f := fun t => avd P d p.prog t - p.s.ph) (by omega)
        have hallfin : ∀ t, t < N → p.s.pc t = .fin := by
          intro t ht
          rcases hprog t ht with h | h | ⟨h, h'⟩
          · exact absurd (hE.2 t ht) (hidle t ht h).1
          · exact h
          · have := (hA t ht h h').1; have hzt : avd P d p.prog t - p.s.ph = 0 := hz t ht; omega
        refine ⟨fun t ht => ⟨hallfin t ht, hE.2 t ht⟩, hnowin, fun hN => ⟨fun t ht => ?_, ⟨0, by omega, ?_⟩⟩⟩
        · have := hlo t ht; rw [hnil t (hE.2 t ht)] at this; exact this
        · have h1 : avd P d p.prog 0 - p.s.ph = 0 := hz 0 (by omega)
          have h2 := hlo 0 (by omega)
          rw [hnil 0 (hE.2 0 (by omega))] at h1 h2; omega
    · exfalso
      apply tree_not_stuck hb
      · intro r; unfold Asum; rw [hn]
        exact sumTo_eq_zero (fun t ht => by
          rcases hprog t ht with h | h | ⟨h, _⟩ <;> rw [h] <;> rfl)
      · unfold Remsum; rw [hn]
        exact sumTo_eq_zero (fun t ht => by
          rcases hprog t ht with h | h | ⟨h, _⟩ <;> rw [h] <;> rfl)
      · exact hc0
      · omega
  · -- not every thread can be ahead of the phases: the count left is part of `e0 ≤ N`
    obtain ⟨u, hu, hau⟩ : ∃ u, u < N ∧ avd P d p.prog u - p.s.ph < 1 :=
      exists_lt_of_sumTo_lt (g := fun _ => 1) (by rw [sumTo_const]; omega)
    have hufin : p.s.pc u = .fin := by
      rcases hprog u hu with h | h | ⟨h, h'⟩
      · exact absurd (hidle u hu h).2 hc0
      · exact h
      · have := (hA u hu h h').1; omega
    have hpu := hf u hufin
    have hphu : p.s.ph = P + dn d u := by
      have := hlo u hu
      rw [hnil u hpu] at hau this; omega
    have hallfin : ∀ t, t < N → p.s.pc t = .fin := by
      intro t ht
      rcases hprog t ht with h | h | ⟨h, h'⟩
      · exact absurd (hidle t ht h).2 hc0
      · exact h
      · have := hA t ht h h'; omega
    refine ⟨fun t ht => ⟨hallfin t ht, hf t (hallfin t ht)⟩, hnowin, fun _ => ⟨fun t ht => ?_, ⟨u, hu, hphu⟩⟩⟩
    have := hlo t ht; rw [hnil t (hf t (hallfin t ht))] at this; exact this

end PikaVerif.Barrier
