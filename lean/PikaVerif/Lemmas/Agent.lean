import PikaVerif.Lemmas.AgentStep
import PikaVerif.Core.CvQueue
import PikaVerif.Core.Run
/-!
Invariant of the `default_agent` hand-shake model (variant `.code`) and its preservation.
-/
namespace PikaVerif.Agent

def b2n (b : Bool) : Nat := if b then 1 else 0

def Pc.isSWait : Pc → Bool
  | .sWait _ => true
  | _ => false

def Pc.isRDone : Pc → Bool
  | .rDone _ => true
  | _ => false

/-- Program counters only the owner of the agent can be at (`suspend`, `sleep_for`). -/
def Pc.ownerOnly : Pc → Bool
  | .sleeping | .sLock | .sHold | .sWait _ | .sHold2 => true
  | _ => false

/-- What a program counter says about `running_`: a thread blocks in `suspend_cv_.wait` /
    `resume_cv_.wait` only after it has read the flag false / true, and a resumer goes on to
    `running_ = true` only after it has read it false (all under the mutex). -/
def runOk (r : Bool) : Pc → Prop
  | .sWait false => r = false
  | .rWait _ false => r = true
  | .rSet _ => r = false
  | _ => True

/-- 1 iff the mutex is held by a resumer that has already executed `running_ = true`. -/
def doneHeld (s : St) : Nat :=
  match s.mtx with
  | some t => b2n (s.pc t).isRDone
  | none => 0

/-- The owner at this pc has been resumed (`r` = `running_`) but has not yet returned from `suspend`. -/
def Pc.resumed (r : Bool) : Pc → Bool
  | .sHold2 => true
  | .sWait _ => r
  | _ => false

def pendRet (s : St) : Nat := b2n ((s.pc s.owner).resumed s.running)

/-- Who is where, who holds the mutex, and what the program counters say about `running_`. -/
structure Shape (s : St) : Prop where
  /-- only the owner suspends or sleeps -/
  own : ∀ t, t ≠ s.owner → (s.pc t).ownerOnly = false
  /-- the owner does not resume itself -/
  ownR : (s.pc s.owner).inResume = false
  mtxIff : ∀ t, s.mtx = some t ↔ (s.pc t).holds = true
  /-- `running_` is false only while the owner is inside `suspend_cv_.wait` -/
  run1 : s.running = false → (s.pc s.owner).isSWait = true
  /-- what each blocked or committed thread has read of `running_` still holds -/
  run : ∀ t, runOk s.running (s.pc t)

structure Inv (s : St) : Prop extends Shape s where
  /-- stores of `true` + [flag is false] = stores of `false` -/
  cnt1 : s.gos + b2n (!s.running) = s.parks
  /-- returns from `suspend` + [one pending] = stores of `true` -/
  cnt2 : s.sRets + pendRet s = s.gos
  /-- returns from `resume`/`abort` + [one holds the mutex after its store] = stores of `true` -/
  cnt3 : s.rRets + doneHeld s = s.gos

theorem inv_init (ow : Nat) : Inv (init ow) where
  own _ _ := rfl
  ownR := rfl
  mtxIff _ := by simp [init, Pc.holds]
  run1 h := nomatch h
  run _ := trivial
  cnt1 := rfl
  cnt2 := rfl
  cnt3 := rfl

theorem Shape.mtx1 {s : St} (hi : Shape s) (t : Nat) (h : (s.pc t).holds = true) : s.mtx = some t :=
  (hi.mtxIff t).2 h

theorem Shape.run2 {s : St} (hi : Shape s) (h : s.pc s.owner = .sWait false) : s.running = false := by
  have := hi.run s.owner; rwa [h] at this

theorem Shape.run3 {s : St} (hi : Shape s) (t : Nat) (ab : Bool) (h : s.pc t = .rWait ab false) :
    s.running = true := by
  have := hi.run t; rwa [h] at this

theorem Shape.run4 {s : St} (hi : Shape s) (t : Nat) (ab : Bool) (h : s.pc t = .rSet ab) :
    s.running = false := by
  have := hi.run t; rwa [h] at this

theorem Shape.isOwner {s : St} (hi : Shape s) {t : Nat} (h : (s.pc t).ownerOnly = true) : t = s.owner :=
  Classical.byContradiction fun hne => nomatch h.symm.trans (hi.own t hne)

theorem Shape.notOwner {s : St} (hi : Shape s) {t : Nat} (h : (s.pc t).inResume = true) : t ≠ s.owner :=
  fun he => by rw [he, hi.ownR] at h; nomatch h

theorem step_owner (v : Variant) (s s' : St) (e : Ev) (h : step v s e = some s') : s'.owner = s.owner := by
  cases e <;> simp only [step] at h <;> (repeat' split at h) <;>
    first | (simp at h; done) | (simp only [Option.some.injEq] at h; subst h; rfl)

/-! ## Preservation -/

theorem Shape.move {s : St} (hi : Shape s) {t : Nat} {p p' : Pc} {m' : Option Nat} (hp : s.pc t = p)
    (hn : p'.ownerOnly = true → p.ownerOnly = true ∨ t = s.owner := by exact nofun)
    (ho : p'.inResume = true → p.inResume = true ∨ t ≠ s.owner := by exact nofun)
    (hm : LockMove Pc.holds t p p' s.mtx m' := by exact .same rfl)
    (hsw : p.isSWait = true → p'.isSWait = true ∨ s.running = true := by exact nofun)
    (hrun : runOk s.running p' := by trivial) :
    Shape { s with pc := upd s.pc t p', mtx := m' } := by
  subst hp
  refine ⟨fun u hu => ?_, ?_, hm.iff hi.mtxIff, fun hr => ?_, forall_upd hi.run hrun⟩
  · have := hi.own u hu; have := hi.own t; grind [upd]
  · have := hi.ownR; grind [upd]
  · have := hi.run1 hr; grind [upd]

theorem Inv.move {s : St} (hi : Inv s) {t : Nat} {p p' : Pc} {m' : Option Nat} (hp : s.pc t = p)
    (hn : p'.ownerOnly = true → p.ownerOnly = true ∨ t = s.owner := by exact nofun)
    (ho : p'.inResume = true → p.inResume = true ∨ t ≠ s.owner := by exact nofun)
    (hm : LockMove Pc.holds t p p' s.mtx m' := by exact .same rfl)
    (hsw : p.isSWait = true → p'.isSWait = true ∨ s.running = true := by exact nofun)
    (hrun : runOk s.running p' := by trivial)
    (hpend : p'.resumed s.running = p.resumed s.running := by rfl)
    (hdone : p'.isRDone = false ∧ p.isRDone = false := by exact ⟨rfl, rfl⟩) :
    Inv { s with pc := upd s.pc t p', mtx := m' } := by
  refine { hi.toShape.move hp hn ho hm hsw hrun with cnt1 := hi.cnt1, cnt2 := ?_, cnt3 := ?_ }
  · have := hi.cnt2; grind [pendRet, upd]
  · -- neither `t` before nor `t` after the move is a holder that has stored `running_ = true`
    have := hi.cnt3; cases hm <;> grind [doneHeld, upd, b2n]

/-- The two notifications rewrite only the `sig` flag of waiting threads: no classification of a
    program counter notices. -/
theorem wakeResumers_apply (pc : Nat → Pc) (u : Nat) :
    (wakeResumers pc u = pc u ∧ ∀ ab sig, pc u ≠ .rWait ab sig) ∨
    ∃ ab sig, pc u = .rWait ab sig ∧ wakeResumers pc u = .rWait ab true := by
  unfold wakeResumers; split
  · next ab sig h => exact .inr ⟨ab, sig, h, rfl⟩
  · next h => exact .inl ⟨rfl, h⟩

theorem wakeOwner_apply (pc : Nat → Pc) (ow u : Nat) :
    wakeOwner pc ow u = pc u ∨ (u = ow ∧ ∃ sig, pc u = .sWait sig ∧ wakeOwner pc ow u = .sWait true) := by
  unfold wakeOwner; split
  · next h =>
    split
    · next sig hp => exact .inr ⟨h, sig, hp, rfl⟩
    · exact .inl rfl
  · exact .inl rfl

theorem step_inv (s : St) (e : Ev) (s' : St) (hi : Inv s) (h : step .code s e = some s') : Inv s' := by
  have hS := hi.toShape
  cases e with
  | yield t => obtain ⟨_, _, rfl⟩ := step_yield_some h; exact hi
  | sleepB t =>
    obtain ⟨ht, hp, rfl⟩ := step_sleepB_some h
    exact hi.move hp (hn := fun _ => .inr ht)
  | sleepE t =>
    obtain ⟨hp, rfl⟩ := step_sleepE_some h
    exact hi.move hp
  | sCall t =>
    obtain ⟨ht, hp, rfl⟩ := step_sCall_some h
    exact hi.move hp (hn := fun _ => .inr ht)
  | sAcq t =>
    obtain ⟨hp, hm, rfl⟩ := step_sAcq_some h
    exact hi.move hp (hn := fun _ => .inl rfl) (hm := .acq hm rfl)
  | sWake t r =>
    obtain ⟨hp, hm, hr, rfl⟩ := step_sWake_some h
    cases r
    · exact hi.move hp (hn := fun _ => .inl rfl) (hsw := fun _ => .inl rfl) (hrun := hr.symm)
    · exact hi.move hp (hn := fun _ => .inl rfl) (hm := .acq hm rfl) (hsw := fun _ => .inr hr.symm)
        (hpend := by rw [← hr]; rfl)
  | rCall t ab =>
    obtain ⟨ht, hp, rfl⟩ := step_rCall_some h
    exact hi.move hp (ho := fun _ => .inr ht)
  | rAcq t =>
    obtain ⟨ab, hp, hm, rfl⟩ := step_rAcq_some h
    exact hi.move hp (ho := fun _ => .inl rfl) (hm := .acq hm rfl)
  | rChk t r =>
    obtain ⟨ab, hp, hr, rfl⟩ := step_rChk_some h
    have hm := hS.mtx1 t (by rw [hp]; rfl)
    cases r
    · exact hi.move hp (ho := fun _ => .inl rfl) (hrun := hr.symm)
    · exact hi.move hp (ho := fun _ => .inl rfl) (hm := .rel hm rfl) (hrun := hr.symm)
  | rWake t =>
    obtain ⟨ab, hp, hm, rfl⟩ := step_rWake_some h
    exact hi.move hp (ho := fun _ => .inl rfl) (hm := .acq hm rfl)
  | spur t =>
    rcases step_spur_some h with ⟨hp, rfl⟩ | ⟨ab, hp, rfl⟩
    · exact hi.move hp (hn := fun _ => .inl rfl) (hsw := fun _ => .inl rfl)
    · exact hi.move hp (ho := fun _ => .inl rfl)
  | sRet t ab =>
    obtain ⟨hp, _, rfl⟩ := step_sRet_some h
    have hm := hS.mtx1 t (by rw [hp]; rfl)
    have hto := hS.isOwner (t := t) (by rw [hp]; rfl)
    refine { hS.move (p' := .idle) (m' := none) hp (hm := .rel hm rfl) with
      cnt1 := hi.cnt1, cnt2 := ?_, cnt3 := ?_ }
    · -- the one pending return is made
      have h2 := hi.cnt2
      unfold pendRet at h2 ⊢
      rw [← hto, hp] at h2
      dsimp only; rw [← hto, upd_same]
      exact (Nat.add_right_comm ..).trans h2
    · have h3 := hi.cnt3
      unfold doneHeld at h3 ⊢
      rw [hm] at h3; dsimp only at h3 ⊢; rw [hp] at h3; exact h3
  | rRel t =>
    obtain ⟨ab, hp, rfl⟩ := step_rRel_some h
    have hm := hS.mtx1 t (by rw [hp]; rfl)
    have hto := hS.notOwner (t := t) (by rw [hp]; rfl)
    refine { hS.move (p' := .idle) (m' := none) hp (hm := .rel hm rfl) with
      cnt1 := hi.cnt1, cnt2 := ?_, cnt3 := ?_ }
    · have h2 := hi.cnt2
      unfold pendRet at h2 ⊢
      dsimp only; rw [upd_other _ _ _ _ (Ne.symm hto)]; exact h2
    · -- the holder that had stored `running_ = true` returns
      have h3 := hi.cnt3
      unfold doneHeld at h3 ⊢
      rw [hm] at h3; dsimp only at h3 ⊢; rw [hp] at h3
      exact (Nat.add_right_comm ..).trans h3
  | sPark t =>
    obtain ⟨hp, rfl⟩ := step_sPark_some h
    have hm := hS.mtx1 t (by rw [hp]; rfl)
    have hto := hS.isOwner (t := t) (by rw [hp]; rfl)
    -- the owner is not in `suspend_cv_.wait`, so `running_` is true
    have hrun : s.running = true := by
      cases hr : s.running with
      | true => rfl
      | false => have := hS.run1 hr; rw [← hto, hp] at this; nomatch this
    have hpc : ∀ u, u ≠ t → ((upd (wakeResumers s.pc) t (.sWait false) u = s.pc u ∧ ∀ ab sig, s.pc u ≠ .rWait ab sig) ∨
        ∃ ab sig, s.pc u = .rWait ab sig ∧ upd (wakeResumers s.pc) t (.sWait false) u = .rWait ab true) :=
      fun u hu => by rw [upd_other _ _ _ _ hu]; exact wakeResumers_apply s.pc u
    refine ⟨⟨fun u hu => ?_, ?_, fun u => ?_, fun _ => ?_, fun u => ?_⟩, ?_, ?_, ?_⟩
    · show (upd (wakeResumers s.pc) t (.sWait false) u).ownerOnly = false
      have := hpc u (hto ▸ hu); have := hS.own u hu; grind [Pc.ownerOnly]
    · show (upd (wakeResumers s.pc) t (.sWait false) s.owner).inResume = false
      rw [← hto, upd_same]; rfl
    · show none = some u ↔ (upd (wakeResumers s.pc) t (.sWait false) u).holds = true
      have := hpc u; have := hS.mtxIff u; grind [Pc.holds, upd]
    · show (upd (wakeResumers s.pc) t (.sWait false) s.owner).isSWait = true
      rw [← hto, upd_same]; rfl
    · show runOk false (upd (wakeResumers s.pc) t (.sWait false) u)
      by_cases hu : u = t
      · rw [hu, upd_same]; exact rfl
      · have old := hS.run u
        rw [hrun] at old
        rcases hpc u hu with ⟨h1, hnw⟩ | ⟨_, _, _, h1⟩ <;> rw [h1]
        · -- `u` is no suspender, was not about to store `true` (the flag was true), and does not wait
          have hno := hS.own u (hto ▸ hu)
          cases hq : s.pc u <;> rw [hq] at old hno <;>
            first | trivial | (cases old; done) | (cases hno; done) | exact absurd hq (hnw _ _)
        · trivial
    · show s.gos + b2n (!false) = s.parks + 1
      have := hi.cnt1; rw [hrun] at this; exact congrArg (· + 1) this
    · have h2 := hi.cnt2
      unfold pendRet at h2 ⊢
      rw [← hto, hp] at h2
      dsimp only; rw [← hto, upd_same]; exact h2
    · have h3 := hi.cnt3
      unfold doneHeld at h3 ⊢
      rw [hm] at h3; dsimp only at h3 ⊢; rw [hp] at h3; exact h3
  | rGo t =>
    obtain ⟨ab, hp, rfl⟩ := step_rGo_some h
    have hm := hS.mtx1 t (by rw [hp]; rfl)
    have hto := hS.notOwner (t := t) (by rw [hp]; rfl)
    have hrun := hS.run4 t ab hp
    have hsw := hS.run1 hrun
    have hpc : ∀ u, u ≠ t → (upd (wakeOwner s.pc s.owner) t (.rDone ab) u = s.pc u ∨
        (u = s.owner ∧ ∃ sig, s.pc u = .sWait sig ∧ upd (wakeOwner s.pc s.owner) t (.rDone ab) u = .sWait true)) :=
      fun u hu => by rw [upd_other _ _ _ _ hu]; exact wakeOwner_apply s.pc s.owner u
    have hown : upd (wakeOwner s.pc s.owner) t (.rDone ab) s.owner = .sWait true := by
      rw [upd_other _ _ _ _ (Ne.symm hto)]
      unfold wakeOwner
      rw [if_pos rfl]
      cases hq : s.pc s.owner <;> rw [hq] at hsw <;> first | (cases hsw; done) | rfl
    refine ⟨⟨fun u hu => ?_, ?_, fun u => ?_, nofun, fun u => ?_⟩, ?_, ?_, ?_⟩
    · show (upd (wakeOwner s.pc s.owner) t (.rDone ab) u).ownerOnly = false
      have := hpc u; have := hS.own u hu; grind [Pc.ownerOnly, upd]
    · show (upd (wakeOwner s.pc s.owner) t (.rDone ab) s.owner).inResume = false
      rw [hown]; rfl
    · show s.mtx = some u ↔ (upd (wakeOwner s.pc s.owner) t (.rDone ab) u).holds = true
      have := hpc u; have := hS.mtxIff u; grind [Pc.holds, upd]
    · show runOk true (upd (wakeOwner s.pc s.owner) t (.rDone ab) u)
      by_cases hut : u = t
      · rw [hut, upd_same]; trivial
      · have old := hS.run u
        rw [hrun] at old
        rcases hpc u hut with h1 | ⟨_, _, _, h1⟩ <;> rw [h1]
        · -- `u` is not blocked on a flag read as true, nor past the test (it does not hold the mutex)
          cases hq : s.pc u <;> rw [hq] at old <;> first | trivial | (cases old; done) | skip
          next sig =>
            cases sig
            · -- the owner's wake-up is pending now
              have hu : u = s.owner := hS.isOwner (by rw [hq]; rfl)
              rw [hu] at h1 hq
              rw [hown, hq] at h1; nomatch h1
            · trivial
          next sig => cases sig <;> first | trivial | (cases old; done)
          next ab' =>
            exact absurd (Option.some.inj (hm.symm.trans (hS.mtx1 u (by rw [hq]; rfl)))).symm hut
        · trivial
    · show s.gos + 1 + b2n (!true) = s.parks
      have := hi.cnt1; rw [hrun] at this; exact this
    · have h2 := hi.cnt2
      unfold pendRet at h2 ⊢
      dsimp only; rw [hown]
      cases hq : s.pc s.owner <;> rw [hq] at hsw h2 <;> first | (cases hsw; done) | skip
      rw [hrun] at h2; exact congrArg (· + 1) h2
    · have h3 := hi.cnt3
      unfold doneHeld at h3 ⊢
      rw [hm] at h3; dsimp only at h3 ⊢; rw [hm]; dsimp only; rw [upd_same]; rw [hp] at h3
      exact congrArg (· + 1) h3

theorem inv_of_accepted {ow : Nat} {log : List Ev} {s : St}
    (h : runLog (step .code) (init ow) log = some s) : Inv s :=
  inv_of_runLog Inv step_inv (inv_init ow) h

/-- (any variant) a state in which every thread is outside the agent or inside an OS wait without a pending
    wake-up is stuck. -/
theorem stuck_of_all_blocked (v : Variant) (s : St)
    (hp : ∀ t, s.pc t = .idle ∨ s.pc t = .sWait false ∨ ∃ ab, s.pc t = .rWait ab false) : Stuck v s := by
  intro e he
  cases e with
  | yield t | sleepB t | sCall t | rCall t ab | spur t => simp [Ev.isStart] at he
  | sleepE t | sAcq t | sPark t | sWake t r | sRet t ab | rAcq t | rChk t r | rWake t | rGo t | rRel t =>
    simp only [step]
    rcases hp t with h | h | ⟨ab, h⟩ <;> simp [h]

end PikaVerif.Agent
