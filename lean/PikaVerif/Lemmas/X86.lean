import PikaVerif.Gen.SwapAsm
/-!
# Symbolic execution of the generated context-switch routine

Stepping lemmas for `X86.run` for the opcodes load, store, mov, push, pop, addi and jmpr (side conditions: the accessed address is aligned and
no 64-bit wrap-around happens) and the resulting closed-form specification `swap_spec` of
`Gen.SwapAsm.prog`.  The proof of `swap_spec` replays the generated instruction list, so any
change of the asm text that alters the routine breaks it (fail closed).
-/
namespace PikaVerif.X86

theorem W_eq : W = 18446744073709551616 := rfl

section step
variable {rest : List Instr} {reg : Reg → Nat} {mem : Nat → Nat} {mx fc : Nat}

theorem ea_eq {s : St} {off : Nat} {b : Reg} {a : Nat} (ha : s.reg b + off = a) (hW : a < W) :
    ea s off b = a := by
  rw [ea, wadd, ha, Nat.mod_eq_of_lt hW]

theorem run_load {off : Nat} {b d : Reg} (a : Nat) (ha : reg b + off = a) (hW : a < W) (h8 : a % 8 = 0) :
    run (.load off b d :: rest) ⟨reg, mem, mx, fc⟩ = run rest ⟨setReg reg d (mem a), mem, mx, fc⟩ := by
  simp only [run, exec, ea_eq (s := ⟨reg, mem, mx, fc⟩) ha hW, h8, if_true]

theorem run_store {src : Reg} {off : Nat} {b : Reg} (a : Nat) (ha : reg b + off = a) (hW : a < W)
    (h8 : a % 8 = 0) :
    run (.store src off b :: rest) ⟨reg, mem, mx, fc⟩ = run rest ⟨reg, upd mem a (reg src), mx, fc⟩ := by
  simp only [run, exec, ea_eq (s := ⟨reg, mem, mx, fc⟩) ha hW, h8, if_true]

theorem run_mov {src d : Reg} :
    run (.mov src d :: rest) ⟨reg, mem, mx, fc⟩ = run rest ⟨setReg reg d (reg src), mem, mx, fc⟩ := rfl

/-- `sp` is the stack pointer after the push -/
theorem run_push {r : Reg} (sp : Nat) (hsp : reg .rsp = sp + 8) (h8 : sp % 8 = 0) :
    run (.push r :: rest) ⟨reg, mem, mx, fc⟩ = run rest ⟨setReg reg .rsp sp, upd mem sp (reg r), mx, fc⟩ := by
  have e : wsub (reg .rsp) 8 = sp := by rw [hsp, wsub, if_pos (Nat.le_add_left 8 sp), Nat.add_sub_cancel]
  simp only [run, exec, e, h8, if_true]

/-- `sp` is the stack pointer before the pop -/
theorem run_pop {r : Reg} (sp : Nat) (hsp : reg .rsp = sp) (h8 : sp % 8 = 0) (h2 : sp + 8 < W) :
    run (.pop r :: rest) ⟨reg, mem, mx, fc⟩ =
      run rest ⟨setReg (setReg reg .rsp (sp + 8)) r (mem sp), mem, mx, fc⟩ := by
  simp only [run, exec, hsp, h8, if_true, wadd, Nat.mod_eq_of_lt h2]

theorem run_addi {imm : Nat} {d : Reg} (v : Nat) (hv : reg d + imm = v) (hW : v < W) :
    run (.addi imm d :: rest) ⟨reg, mem, mx, fc⟩ = run rest ⟨setReg reg d v, mem, mx, fc⟩ := by
  simp only [run, exec, wadd, hv, Nat.mod_eq_of_lt hW]

theorem run_jmpr {r : Reg} : run (.jmpr r :: rest) ⟨reg, mem, mx, fc⟩ = some (⟨reg, mem, mx, fc⟩, reg r) := rfl

end step

open PikaVerif.Gen.SwapAsm

/-- Layout of a suspended context's frame: the byte offset, from the saved stack pointer, of each register
    the routine pushes (offset 64 holds the return address). -/
def slot : Reg → Option Nat
  | .r15 => some 0 | .r14 => some 8 | .r13 => some 16 | .r12 => some 24
  | .rdx => some 32 | .rax => some 40 | .rbx => some 48 | .rbp => some 56
  | _ => none

theorem slot_lt {r : Reg} {k : Nat} (h : slot r = some k) : k < 64 := by
  cases r <;> cases h <;> decide

/-- Memory after the save half: the eight pushed registers in the 64 bytes below the old stack pointer
    and the new stack pointer stored through `rdi` (`*from = rsp`). -/
def savedMem (s : St) : Nat → Nat :=
  let b := s.reg .rsp - 64
  upd (upd (upd (upd (upd (upd (upd (upd (upd s.mem (b + 56) (s.reg .rbp)) (b + 48) (s.reg .rbx)) (b + 40) (s.reg .rax))
    (b + 32) (s.reg .rdx)) (b + 24) (s.reg .r12)) (b + 16) (s.reg .r13)) (b + 8) (s.reg .r14)) b (s.reg .r15))
    (s.reg .rdi) b

/-- What one execution of the routine does (`s` at entry, `s'` when it jumps to `t`). -/
structure SwapPost (s s' : St) (t : Nat) : Prop where
  tgt : t = s.mem (s.reg .rsi + 64)
  mem : s'.mem = savedMem s
  rsp : s'.reg .rsp = s.reg .rsi + 72
  pop : ∀ r k, slot r = some k → s'.reg r = s'.mem (s.reg .rsi + k)
  rdi : s'.reg .rdi = s'.mem (s.reg .rsi + 80)
  rcx : s'.reg .rcx = s.mem (s.reg .rsi + 64)
  rsi : s'.reg .rsi = s.reg .rsi
  r8 : s'.reg .r8 = s.reg .r8
  r9 : s'.reg .r9 = s.reg .r9
  r10 : s'.reg .r10 = s.reg .r10
  r11 : s'.reg .r11 = s.reg .r11
  mxcsr : s'.mxcsr = s.mxcsr
  fcw : s'.fcw = s.fcw

/-- **Specification of the generated routine.**  From any state with an 8-aligned stack pointer
    (at least 64 bytes above 0), 8-aligned `rdi` (`&from.m_sp`, below `W`) and 8-aligned `rsi` (`to.m_sp`)
    whose 88-byte frame does not wrap around, the routine runs to its `jmp` and establishes `SwapPost`. -/
theorem swap_spec (s : St) (hsp : s.reg .rsp % 8 = 0) (hsp1 : 64 ≤ s.reg .rsp)
    (hto : s.reg .rsi % 8 = 0) (hto2 : s.reg .rsi + 88 < W) (hfrom : s.reg .rdi % 8 = 0)
    (hfrom2 : s.reg .rdi < W) :
    ∃ s' t, run prog s = some (s', t) ∧ SwapPost s s' t := by
  obtain ⟨reg, mem, mx, fc⟩ := s
  obtain ⟨b, hb⟩ : ∃ b, reg .rsp = b + 64 := ⟨_, (Nat.sub_add_cancel hsp1).symm⟩
  have hb8 : b % 8 = 0 := by simp only [hb] at hsp; omega
  simp only at hto hto2 hfrom hfrom2
  clear hsp hsp1
  -- `al`: the sum of two aligned offsets is aligned; `lt`: the save area at `rsi` does not wrap around
  have al : ∀ x k, x % 8 = 0 → k % 8 = 0 → (x + k) % 8 = 0 := fun x k hx hk => by omega
  have lt : ∀ k, k ≤ 88 → reg .rsi + k < W := fun k hk => Nat.lt_of_le_of_lt (Nat.add_le_add_left hk _) hto2
  unfold prog
  -- the register read by each instruction is found by evaluation (`rfl`); it is written `by rfl` where
  -- unification would otherwise take the entry register file for the current one
  rw [run_load (reg .rsi + 64) rfl (lt 64 (by decide)) (al _ 64 hto rfl),
    run_push (b + 56) (by exact hb) (al b 56 hb8 rfl), run_push (b + 48) rfl (al b 48 hb8 rfl),
    run_push (b + 40) rfl (al b 40 hb8 rfl), run_push (b + 32) rfl (al b 32 hb8 rfl),
    run_push (b + 24) rfl (al b 24 hb8 rfl), run_push (b + 16) rfl (al b 16 hb8 rfl),
    run_push (b + 8) rfl (al b 8 hb8 rfl), run_push b rfl hb8,
    run_store (reg .rdi) rfl hfrom2 hfrom, run_mov,
    run_pop (reg .rsi) rfl hto (lt 8 (by decide)),
    run_pop (reg .rsi + 8) rfl (al _ 8 hto rfl) (lt 16 (by decide)),
    run_pop (reg .rsi + 16) rfl (al _ 16 hto rfl) (lt 24 (by decide)),
    run_pop (reg .rsi + 24) rfl (al _ 24 hto rfl) (lt 32 (by decide)),
    run_pop (reg .rsi + 32) rfl (al _ 32 hto rfl) (lt 40 (by decide)),
    run_pop (reg .rsi + 40) rfl (al _ 40 hto rfl) (lt 48 (by decide)),
    run_pop (reg .rsi + 48) rfl (al _ 48 hto rfl) (lt 56 (by decide)),
    run_pop (reg .rsi + 56) rfl (al _ 56 hto rfl) (lt 64 (by decide)),
    run_load (reg .rsi + 80) (by rfl) (lt 80 (by decide)) (al _ 80 hto rfl),
    run_addi (reg .rsi + 72) (by rfl) (lt 72 (by decide)), run_jmpr]
  refine ⟨_, _, rfl, rfl, ?_, rfl, fun r k h => ?_, rfl, rfl, rfl, rfl, rfl, rfl, rfl, rfl, rfl⟩
  · simp only [savedMem, hb, Nat.add_sub_cancel]
    rfl
  · cases r <;> cases h <;> rfl

/-- `run` is a function, so `SwapPost` holds of whatever state it returns. -/
theorem swap_post {s s' : St} {t : Nat} (h : run prog s = some (s', t)) (hsp : s.reg .rsp % 8 = 0)
    (hsp1 : 64 ≤ s.reg .rsp) (hto : s.reg .rsi % 8 = 0) (hto2 : s.reg .rsi + 88 < W)
    (hfrom : s.reg .rdi % 8 = 0) (hfrom2 : s.reg .rdi < W) : SwapPost s s' t := by
  obtain ⟨s1, t1, r, p⟩ := swap_spec s hsp hsp1 hto hto2 hfrom hfrom2
  cases h.symm.trans r
  exact p

/-- the routine writes the 64 bytes below the stack pointer and the `from` slot, nothing else -/
theorem savedMem_outside (s : St) (a : Nat) (h64 : 64 ≤ s.reg .rsp)
    (h : a + 64 < s.reg .rsp ∨ s.reg .rsp ≤ a) (hf : a ≠ s.reg .rdi) : savedMem s a = s.mem a := by
  simp only [savedMem, upd]
  grind

theorem savedMem_from (s : St) : savedMem s (s.reg .rdi) = s.reg .rsp - 64 := upd_same _ _ _

/-- the saved frame holds each pushed register at its `slot` -/
theorem savedMem_slot (s : St) (h64 : 64 ≤ s.reg .rsp)
    (hf : s.reg .rdi + 64 < s.reg .rsp ∨ s.reg .rsp ≤ s.reg .rdi) {r : Reg} {k : Nat} (h : slot r = some k) :
    savedMem s (s.reg .rsp - 64 + k) = s.reg r := by
  simp only [savedMem, upd]
  cases r <;> cases h <;> grind

end PikaVerif.X86
