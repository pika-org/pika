import PikaVerif.Lemmas.LifeHist
/-! Termination of life-cycle histories (C05t): the measure `phi` strictly decreases with every accepted
    non-neutral event and is unchanged by neutral ones; hence the bound on the non-neutral events of a
    log, and the extension of every state to a maximal one. -/
namespace PikaVerif.Life

/-- `termF`, `objPotF`: the summand and the sum of `objPot` as functions of the components they read;
    they are `wTerm rem`, `wPotF rem` (`objPotF_rem`) -/
def termF (live : Nat → Bool) (tp : Nat → Nat) (o : Nat) : Nat := if live o = true then rem (tp o) else 0
def objPotF (no : Nat) (live : Nat → Bool) (tp : Nat → Nat) : Nat := sumTo no (termF live tp)

theorem objPot_eq (h : HSt) : objPot h = objPotF h.s.no h.s.live h.tp := rfl

theorem objPotF_rem : objPotF = wPotF rem := rfl

/-- **The measure.**  Every accepted non-neutral event strictly decreases `phi`; a neutral event
    leaves it unchanged. -/
theorem phi_step (h h' : HSt) (e : Ev) (hi : Inv h.s) (hs : hstep h e = some h') :
    (neutral e = false → phi h' < phi h) ∧ (neutral e = true → phi h' = phi h) := by
  obtain ⟨s', l, h1, h2, rfl⟩ := hstep_some hs
  cases e with
  | inc a n =>
    -- a `submit` of the script (10) or a child of a body (10) pays for the unit in flight (7) and for
    -- its possible passage through the staged queue (2)
    obtain ⟨_, rfl⟩ := of_ite_some h1
    refine ⟨fun _ => ?_, nofun⟩
    obtain ⟨_, hc, r, hr, rfl⟩ | ⟨_, _, _, ⟨_, hk⟩, rfl⟩ := led_inc h2
    · simp only [phi, objPot_eq, hr, scost]; omega
    · simp only [phi, objPot_eq, objPotF_rem]; omega
  | dec a n | unstage a =>
    obtain ⟨g, rfl⟩ := of_ite_some h1
    cases (Option.some.inj h2).symm
    exact ⟨fun _ => by simp only [phi, objPot_eq]; omega, nofun⟩
  | new a o =>
    -- the unit in flight (7) becomes a live object with `rem 0 = 6`
    obtain ⟨⟨_, ho, hl, hc⟩, rfl⟩ := of_ite_some h1
    cases (Option.some.inj h2).symm
    have := wPotF_upd rem h.s.no h.s.live h.tp ho true 0
    simp only [wTerm, hl, rem, Bool.false_eq_true, ↓reduceIte] at this
    exact ⟨fun _ => by simp only [phi, objPot_eq, objPotF_rem]; omega, nofun⟩
  | destroy a o =>
    -- a terminated task (`rem 5 = 2`) leaves its object; its `dec` (1) remains
    obtain ⟨⟨_, ho, hl, _⟩, rfl⟩ := of_ite_some h1
    obtain ⟨h5, e⟩ := of_ite_some h2
    subst l
    have := wPotF_upd rem h.s.no h.s.live h.tp ho false (h.tp o)
    rw [upd_self] at this
    simp only [wTerm, hl, h5, rem, Bool.false_eq_true, ↓reduceIte] at this
    exact ⟨fun _ => by simp only [phi, objPot_eq, objPotF_rem]; omega, nofun⟩
  | phaseBegin a o =>
    obtain ⟨⟨_, ho, hl, _⟩, rfl⟩ := of_ite_some h1
    refine ⟨fun _ => ?_, nofun⟩
    obtain ⟨ht, rfl⟩ | ⟨ht, rfl⟩ := led_phaseBegin h2
    · have := wPotF_tp rem h.s.no h.s.live h.tp ho hl 1
      simp only [ht, rem] at this
      simp only [phi, objPot_eq, objPotF_rem]; omega
    · have := wPotF_tp rem h.s.no h.s.live h.tp ho hl 2
      simp only [ht, rem] at this
      simp only [phi, objPot_eq, objPotF_rem]; omega
  | phaseEnd a o =>
    -- a yield raises `rem` from 4 to 5 and spends one of the `yields` (2); the last phase end lowers `rem`
    obtain ⟨⟨_, hc⟩, rfl⟩ := of_ite_some h1
    have hl := (hi.curLive a o hc).1
    have ho := hi.liveBound o hl
    refine ⟨fun _ => ?_, nofun⟩
    obtain ⟨⟨ht, hy⟩, rfl⟩ | ⟨ht, rfl⟩ := led_phaseEnd h2
    · have := wPotF_tp rem h.s.no h.s.live h.tp ho hl 3
      simp only [ht, rem] at this
      simp only [phi, objPot_eq, objPotF_rem]; omega
    · have := wPotF_tp rem h.s.no h.s.live h.tp ho hl 5
      simp only [ht, rem] at this
      simp only [phi, objPot_eq, objPotF_rem]; omega
  | body a o =>
    obtain ⟨⟨_, hc⟩, rfl⟩ := of_ite_some h1
    have hl := (hi.curLive a o hc).1
    have ho := hi.liveBound o hl
    refine ⟨fun _ => ?_, nofun⟩
    obtain ⟨ht, rfl⟩ | ⟨ht, rfl⟩ := led_body h2
    · have := wPotF_tp rem h.s.no h.s.live h.tp ho hl 2
      simp only [ht, rem] at this
      simp only [phi, objPot_eq, objPotF_rem]; omega
    · have := wPotF_tp rem h.s.no h.s.live h.tp ho hl 4
      simp only [ht, rem] at this
      simp only [phi, objPot_eq, objPotF_rem]; omega
  | sample a v w =>
    -- an idle sample lets `wait()` go on to `wait2` or is the drain check of `stop()`; a busy one is the stutter
    simp only [neutral, decide_eq_false_iff_not, decide_eq_true_eq]
    obtain ⟨_, hstep⟩ := step_sample h1
    obtain ⟨rfl, ⟨hc, hle, rfl⟩ | ⟨hc, hle, e⟩ | ⟨hc, hst, e⟩⟩ := led_sample h2
    · rcases hstep with ⟨_, hspc, _, _, rfl⟩ | ⟨_, rfl⟩
      · exact ⟨fun _ => by simp only [phi, objPot_eq, hc, hspc, cpcRank, spcRank]; omega, fun _ => by omega⟩
      · exact ⟨fun _ => by simp only [phi, objPot_eq, hc, cpcRank]; omega, fun _ => by omega⟩
    · subst l
      rcases hstep with ⟨_, _, hle', _⟩ | ⟨_, rfl⟩
      · exact absurd hle' hle
      · exact ⟨fun _ => by omega, fun _ => rfl⟩
    · subst l
      rcases hstep with ⟨_, hspc, _, _, rfl⟩ | ⟨hw, rfl⟩
      · exact ⟨fun _ => by simp only [phi, objPot_eq, hspc, spcRank]; omega, fun _ => by omega⟩
      · exact ⟨fun hn => absurd (Nat.not_lt.1 hn) (hw hst).2, fun _ => rfl⟩
  | rtState a v =>
    simp only [neutral, decide_eq_false_iff_not, decide_eq_true_eq]
    obtain ⟨rfl, _, rfl⟩ | ⟨hv, _, rfl⟩ | ⟨rfl, _, rfl⟩ | ⟨rfl, _, rfl⟩ | ⟨rfl, ⟨_, hspc, _⟩, rfl⟩ :=
      step_rtState h1
    · obtain ⟨hc, rfl⟩ := led_rtState_init h2
      exact ⟨fun _ => by simp only [phi, objPot_eq, hc, cpcRank]; omega, fun hv => absurd hv (by decide)⟩
    · cases led_rtState_noop hv h2
      exact ⟨fun hn => absurd hv hn, fun _ => rfl⟩
    · obtain ⟨hc, rfl⟩ := led_rtState_running h2
      refine ⟨fun _ => ?_, fun hv => absurd hv (by decide)⟩
      rcases hc with hc | hc <;> simp only [phi, objPot_eq, hc, cpcRank] <;> omega
    · obtain ⟨hc, rfl⟩ := led_rtState_sleeping h2
      exact ⟨fun _ => by simp only [phi, objPot_eq, hc, cpcRank]; omega, fun hv => absurd hv (by decide)⟩
    · obtain ⟨_, e⟩ := led_rtState_stopped h2
      subst l
      exact ⟨fun _ => by simp only [phi, objPot_eq, hspc, spcRank]; omega, fun hv => absurd hv (by decide)⟩
  -- the events that issue a call: its price in `scost` covers the event and the rank and budget `issued`
  -- sets up; the model's guard `g` is read for `stopEnter`, which starts at `spc = out`
  | fin a | stopEnter a | suspendEnter a | resumeEnter a | waitEnter a | reqCfg a t p =>
    obtain ⟨g, rfl⟩ := of_ite_some h1
    obtain ⟨_, hc, r, hr, rfl⟩ := led_call rfl h2
    exact ⟨fun _ => by simp only [phi, objPot_eq, issued, hr, hc, g, scost, cpcRank, spcRank]; omega, nofun⟩
  | result a r | seenCfg a t p => obtain ⟨_, rfl⟩ := of_ite_some h1; cases (Option.some.inj h2).symm; exact ⟨nofun, fun _ => rfl⟩
  -- `stage`, `worker`, `sleep`, `wake`, `waitFin`, `waited`, `stopExit`, `waitExit`: a budget or a rank goes down
  | _ =>
    obtain ⟨g1, rfl⟩ := of_ite_some h1
    obtain ⟨g2, rfl⟩ := of_ite_some h2
    exact ⟨fun _ => by simp only [phi, objPot_eq, cpcRank, spcRank, g1, g2]; omega, nofun⟩

theorem runLog_phi (log : List Ev) (h h' : HSt) (hi : Inv h.s) (hr : runLog hstep h log = some h') :
    nMoves log + phi h' ≤ phi h := by
  have := runLog_balance (fun h => Inv h.s) phi nMoves (fun _ => 0) rfl rfl
    (fun _ _ _ hi hs => step_inv _ _ _ hi (hstep_step hs)) (fun h e h₁ es hi hs => by
      have ⟨hlt, heq⟩ := phi_step h h₁ e hi hs
      simp only [nMoves]
      cases hn : neutral e with
      | true => have := heq hn; simp only [if_true]; omega
      | false => have := hlt hn; simp only [Bool.false_eq_true, if_false]; omega) hi hr
  omega

theorem phi_hinit (na no : Nat) (script : List Call) (kids yields : Nat) :
    phi (hinit na no script kids yields) = scost 0 script + 10 * kids + 2 * yields := by
  have h0 : objPot (hinit na no script kids yields) = 0 := by
    simp only [objPot]
    exact sumTo_eq_zero (fun t _ => by simp [hinit, init])
  simp only [phi, h0]
  simp [hinit, init, cpcRank, spcRank]

theorem scost_le (M : Nat) : ∀ (script : List Call) (th : Nat), th ≤ M →
    (∀ t p, Call.start t p ∈ script → t ≤ M) → scost th script ≤ (M + 10) * script.length := by
  intro script
  induction script with
  | nil => intro th _ _; simp [scost]
  | cons c r ih =>
    intro th hth hall
    have hr : ∀ t p, Call.start t p ∈ r → t ≤ M := fun t p hm => hall t p (List.mem_cons_of_mem _ hm)
    simp only [List.length_cons, Nat.mul_succ]
    cases c with
    | start t p =>
      have ht : t ≤ M := hall t p (List.mem_cons_self ..)
      have := ih t ht hr
      simp only [scost]; omega
    | _ => have := ih th hth hr; simp only [scost]; omega

/-- no event that makes progress is accepted (only the stutters are) -/
def Maximal (h : HSt) : Prop := ∀ e h', hstep h e = some h' → neutral e = true

theorem exists_maximal {h : HSt} (hi : Inv h.s) :
    ∃ ext h', runLog hstep h ext = some h' ∧ Maximal h' ∧ (∀ e ∈ ext, neutral e = false) ∧
      ext.length + phi h' ≤ phi h := by
  obtain ⟨ext, h', hrun, _, hmax, hq, hlen⟩ := exists_quiet_run (fun h => Inv h.s) phi (neutral · = false)
    (fun _ _ _ hi hs => step_inv _ _ _ hi (hstep_step hs)) (fun h e h₁ hi hn hs => (phi_step h h₁ e hi hs).1 hn) h hi
  exact ⟨ext, h', hrun, fun e h₁ hs => by simpa using hmax e h₁ hs, hq, hlen⟩

end PikaVerif.Life
