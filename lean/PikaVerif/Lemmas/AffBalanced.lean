import PikaVerif.Lemmas.AffScatter
/-! C15: the two phases of the balanced decoder, on a block of cores `off … off + ncores - 1` (a socket
    of numa-balanced), and the balanced decoder itself as the block at offset 0. -/
namespace PikaVerif.Aff

theorem getD_lt (l : List Nat) {j : Nat} (h : j < l.length) : l.getD j 0 = l[j] := by
  simp [List.getD_eq_getElem?_getD, List.getElem?_eq_getElem h]

/-! ## a block whose cores have the sizes the decoder assumes -/

/-- cores `off … off + ncores - 1` exist and the `c`-th of them has as many PUs as core `c` of
    the machine (what `get_number_of_core_pus(num_core)` — without `core_offset` — returns) -/
def SockOK (cfg : Cfg) (off ncores : Nat) : Prop :=
  ∀ c, c < ncores → c + off < cfg.t.nc ∧ cfg.t.pus (c + off) = cfg.t.pus c

/-- invariant of the first phase on a socket with core offset `off` (the suffix `O` of this and the
    following names: "at an offset") -/
structure BInvO (cfg : Cfg) (off ncores : Nat) (s : BSt) : Prop where
  len : ∀ c, s.cnt c = (s.idx c).length
  mem : ∀ c x, x ∈ s.idx c → c < ncores ∧ x < s.nxt c ∧ x < cfg.t.pus (c + off) ∧
    ind cfg (base cfg.t (c + off) + x) = true
  sorted : ∀ c, (s.idx c).Pairwise (· < ·)
  sum : sumTo ncores s.cnt = s.k

theorem balCore_invO (cfg : Cfg) (off ncores goal : Nat) (hH : SockOK cfg off ncores) {c : Nat}
    (hc : c < ncores) (s : BSt) (h : BInvO cfg off ncores s) :
    CtlP (BInvO cfg off ncores) (fun s => BInvO cfg off ncores s ∧ s.k = goal) False
      (balCore cfg off goal c s) := by
  obtain ⟨hcn, hsame⟩ := hH c hc
  have hc0 : c < cfg.t.nc := by omega
  have hcp : corePus cfg.t c = cfg.t.pus (c + off) := by rw [corePus_eq cfg.t hc0, hsame]
  unfold balCore
  simp only [hcp]
  have sc := scanPu_ok (fun p => inMask cfg (c + off) p) (cfg.t.pus (c + off)) (s.nxt c)
  generalize scanPu (fun p => inMask cfg (c + off) p) (cfg.t.pus (c + off)) (s.nxt c) = r at sc
  obtain ⟨j, u⟩ := r
  simp only at sc
  cases u with
  | false =>
    simp only [Bool.not_false, ↓reduceIte, CtlP]
    refine ⟨h.len, fun c' x hx => ?_, h.sorted, h.sum⟩
    have := h.mem c' x hx
    have := sc.fwd
    simp only [upd]
    grind
  | true =>
    obtain ⟨t1, t2, t3⟩ := sc.found rfl
    have hx : j - 1 < cfg.t.pus (c + off) := by omega
    have hind : ind cfg (base cfg.t (c + off) + (j - 1)) = true := by
      rw [← inMask_eq cfg hcn hx]; exact t3
    simp only [Bool.not_true, Bool.false_eq_true, ↓reduceIte, upd_same]
    have hI : BInvO cfg off ncores (BSt.mk (s.k + 1) (upd s.nxt c j)
        (upd s.idx c (s.idx c ++ [j - 1])) (upd s.cnt c (s.cnt c + 1))) := by
      refine ⟨?_, ?_, ?_, ?_⟩ <;> dsimp only
      · intro c'
        have := h.len c'
        simp only [upd]
        grind
      · intro c' x hx'
        have := h.mem c' x
        simp only [upd] at hx' ⊢
        grind
      · intro c'
        by_cases hcc : c' = c
        · subst hcc
          simp only [upd_same, List.pairwise_append]
          refine ⟨h.sorted c', by simp, ?_⟩
          intro a ha b hb
          simp only [List.mem_singleton] at hb
          have := (h.mem c' a ha).2.1
          omega
        · simp only [upd, hcc, ↓reduceIte]; exact h.sorted c'
      · have e : sumTo ncores (upd s.cnt c (s.cnt c + 1)) =
            sumTo ncores s.cnt - s.cnt c + (s.cnt c + 1) :=
          sumTo_upd_eq ncores (fun x => x) s.cnt c (s.cnt c + 1) hc
        have l := le_sumTo (f := s.cnt) hc
        have hs := h.sum
        rw [e]; omega
    by_cases hn : s.k + 1 = goal
    · simp only [hn, ↓reduceIte, CtlP]
      exact ⟨hn ▸ hI, trivial⟩
    · simp only [hn, ↓reduceIte, CtlP]
      exact hI

theorem balLoop_invO (cfg : Cfg) (off ncores goal : Nat) (hH : SockOK cfg off ncores) :
    ∀ (f : Nat) (s : BSt), BInvO cfg off ncores s →
    ∀ b, balLoop cfg off goal ncores f s = some b → BInvO cfg off ncores b ∧ b.k = goal := by
  intro f
  induction f with
  | zero => intro s _ b h; simp [balLoop] at h
  | succ f ih =>
    intro s hs b h
    simp only [balLoop, balPass] at h
    have hp := forRange_inv (balCore cfg off goal) (fun _ s => BInvO cfg off ncores s) _ False ncores s
      (fun c s hc hs => balCore_invO cfg off ncores goal hH hc s hs) hs
    cases hr : forRange ncores (balCore cfg off goal) s with
    | fin s' =>
      rw [hr] at hp h
      simp only [Option.some.injEq] at h
      subst h; exact hp
    | err => rw [hr] at hp; exact hp.elim
    | run s' =>
      rw [hr] at hp h
      simp only at h
      split at h
      · simp at h
      · exact ih s' hp b h

theorem init_BInvO (cfg : Cfg) (off ncores : Nat) : BInvO cfg off ncores BSt.init :=
  ⟨fun _ => rfl, fun _ _ h => by simp [BSt.init] at h, fun _ => by simp [BSt.init],
   by simp [BSt.init]; exact sumTo_eq_zero (fun _ _ => rfl)⟩

theorem balPhase1_invO (cfg : Cfg) (off ncores goal : Nat) (hH : SockOK cfg off ncores) (b : BSt)
    (h : balPhase1 cfg off goal ncores = some b) : BInvO cfg off ncores b ∧ b.k = goal := by
  unfold balPhase1 at h
  split at h
  · rename_i h0
    simp only [Option.some.injEq] at h
    subst h; exact ⟨init_BInvO cfg off ncores, h0.symm⟩
  · exact balLoop_invO cfg off ncores goal hH _ _ (init_BInvO cfg off ncores) b h

/-- invariant of the second phase on a socket: `k0` threads were placed by earlier sockets, all
    on PUs below `base off` -/
structure PInvO (cfg : Cfg) (b : BSt) (off ncores k0 c j : Nat) (s : ASt) : Prop where
  count : s.k = k0 + sumTo c b.cnt + j
  old : ∀ i, i < k0 → ∃ q, q < base cfg.t off ∧ s.aff i = [q] ∧ ind cfg q = true
  /-- the mask has the core offset, the reported PU number has not: that is the code (the
      `core_offset` is missing in `get_pu_number`) -/
  new : ∀ i, k0 ≤ i → i < s.k → ∃ c' j', c' < ncores ∧ j' < b.cnt c' ∧ (c' < c ∨ (c' = c ∧ j' < j)) ∧
    s.aff i = [base cfg.t (c' + off) + (b.idx c').getD j' 0] ∧
    s.pn i = base cfg.t c' + (b.idx c').getD j' 0
  fresh : ∀ i, s.k ≤ i → s.aff i = []
  distinct : ∀ i i', i < s.k → i' < s.k → i ≠ i' → s.aff i ≠ s.aff i'

theorem idx_mem (cfg : Cfg) (off ncores : Nat) (b : BSt) (hb : BInvO cfg off ncores b) {c j : Nat}
    (hj : j < b.cnt c) : (b.idx c).getD j 0 ∈ b.idx c ∧ j < (b.idx c).length := by
  have hjl : j < (b.idx c).length := by rw [← hb.len c]; exact hj
  exact ⟨by rw [getD_lt _ hjl]; exact List.getElem_mem hjl, hjl⟩

theorem balAssign_invO (cfg : Cfg) (hu : effUsed cfg = 0) (b : BSt) (off ncores k0 : Nat)
    (hH : SockOK cfg off ncores) (hb : BInvO cfg off ncores b) {c j : Nat}
    (hc : c < ncores) (hj : j < b.cnt c) (s : ASt) (h : PInvO cfg b off ncores k0 c j s) :
    CtlP (PInvO cfg b off ncores k0 c (j + 1)) (fun _ => False) False
      (balAssign cfg b (effUsed cfg) (effUsed cfg + off) c j s) := by
  obtain ⟨hcn, hsame⟩ := hH c hc
  have hc0 : c < cfg.t.nc := by omega
  have hf := h.fresh s.k (Nat.le_refl _)
  obtain ⟨hmem, hjl⟩ := idx_mem cfg off ncores b hb hj
  obtain ⟨_, _, hx, hix⟩ := hb.mem c _ hmem
  have hx0 : (b.idx c).getD j 0 < cfg.t.pus c := by rw [← hsame]; exact hx
  unfold balAssign
  simp only [hf, ne_eq, not_true_eq_false, ↓reduceIte, hu, Nat.add_zero, Nat.zero_add, threadMask,
    puNumber_eq cfg.t hcn hx, puNumber_eq cfg.t hc0 hx0, CtlP]
  -- the new PU differs from those of earlier sockets (below `base off`) and, by the order of the
  -- loop and the sortedness of `pu_indexes`, from those placed on this socket so far
  have hd := distinct_upd h.distinct (v := [base cfg.t (c + off) + (b.idx c).getD j 0]) fun i hi he => by
    by_cases hik : i < k0
    · obtain ⟨q, hq, ha, _⟩ := h.old i hik
      rw [ha] at he
      injection he with he
      have := base_mono cfg.t (c := off) (d := c + off) (by omega)
      omega
    · obtain ⟨c', j', h1, h2, h3, h4, _⟩ := h.new i (by omega) hi
      rw [h4] at he
      injection he with he
      obtain ⟨hmem', hjl'⟩ := idx_mem cfg off ncores b hb h2
      obtain ⟨_, _, hx', _⟩ := hb.mem c' _ hmem'
      obtain ⟨e1, e2⟩ := base_inj cfg.t hx' hx he
      have e1' : c' = c := by omega
      subst e1'
      have := (List.pairwise_iff_getElem.1 (hb.sorted c')) j' j hjl' hjl (by omega)
      rw [getD_lt _ hjl', getD_lt _ hjl] at e2
      omega
  refine ⟨by simp only [h.count]; omega, ?_, ?_, fresh_upd h.fresh, hd⟩ <;> dsimp only
  · intro i hi
    have := h.old i hi
    have := h.count
    simp only [upd]
    grind
  · intro i hi1 hi2
    have := h.new i hi1
    simp only [upd]
    grind

theorem balPhase2_invO (cfg : Cfg) (hu : effUsed cfg = 0) (b : BSt) (off ncores k0 : Nat)
    (hH : SockOK cfg off ncores) (hb : BInvO cfg off ncores b) (s : ASt)
    (h : PInvO cfg b off ncores k0 0 0 s) :
    ∃ s', balPhase2 cfg b (effUsed cfg) (effUsed cfg + off) ncores s = .run s' ∧
      PInvO cfg b off ncores k0 ncores 0 s' := by
  unfold balPhase2
  refine (forRange_inv _ (fun c => PInvO cfg b off ncores k0 c 0) (fun _ => False) False ncores s ?_ h).run
  intro c s hc hs
  obtain ⟨s', hr, this⟩ := (forRange_inv (balAssign cfg b (effUsed cfg) (effUsed cfg + off) c)
    (fun j => PInvO cfg b off ncores k0 c j) (fun _ => False) False (b.cnt c) s
    (fun j s hj hs => balAssign_invO cfg hu b off ncores k0 hH hb hc hj s hs) hs).run
  simp only [hr, CtlP]
  refine ⟨by rw [this.count, sumTo_succ]; omega, this.old, ?_, this.fresh, this.distinct⟩
  intro i hi1 hi2
  obtain ⟨c', j', h1, h2, h3, h4⟩ := this.new i hi1 hi2
  exact ⟨c', j', h1, h2, Or.inl (by omega), h4⟩

/-! ## balanced: the block of all cores the decoder looks at, at offset 0 -/

theorem sockOK_zero (cfg : Cfg) : SockOK cfg 0 (effCores cfg) :=
  fun _ hc => ⟨Nat.lt_of_lt_of_le hc (effCores_le cfg), rfl⟩

/-- invariant of the first phase of the balanced decoder -/
structure BInv (cfg : Cfg) (s : BSt) : Prop where
  len : ∀ c, s.cnt c = (s.idx c).length
  mem : ∀ c x, x ∈ s.idx c → c < effCores cfg ∧ x < s.nxt c ∧ x < cfg.t.pus c ∧
    ind cfg (base cfg.t c + x) = true
  sorted : ∀ c, (s.idx c).Pairwise (· < ·)
  sum : sumTo (effCores cfg) s.cnt = s.k

theorem balPhase1_inv (cfg : Cfg) (goal : Nat) (b : BSt)
    (h : balPhase1 cfg 0 goal (effCores cfg) = some b) : BInv cfg b ∧ b.k = goal :=
  have ⟨hb, hk⟩ := balPhase1_invO cfg 0 (effCores cfg) goal (sockOK_zero cfg) b h
  ⟨⟨hb.len, hb.mem, hb.sorted, hb.sum⟩, hk⟩

/-- invariant of the second phase at loop position (core `c`, `j`-th PU of the core) -/
structure PInv (cfg : Cfg) (b : BSt) (c j : Nat) (s : ASt) : Prop where
  count : s.k = sumTo c b.cnt + j
  bound : ∀ i, i < s.k → ∃ c' j', c' < effCores cfg ∧ j' < b.cnt c' ∧ (c' < c ∨ (c' = c ∧ j' < j)) ∧
    s.aff i = [base cfg.t c' + (b.idx c').getD j' 0] ∧
    s.pn i = base cfg.t c' + (b.idx c').getD j' 0
  fresh : ∀ i, s.k ≤ i → s.aff i = []
  distinct : ∀ i i', i < s.k → i' < s.k → i ≠ i' → s.aff i ≠ s.aff i'

theorem balPhase2_inv (cfg : Cfg) (hu : effUsed cfg = 0) (b : BSt) (hb : BInv cfg b) :
    ∃ s, balPhase2 cfg b (effUsed cfg) (effUsed cfg) (effCores cfg) ASt.init = .run s ∧
      PInv cfg b (effCores cfg) 0 s := by
  obtain ⟨s, hr, this⟩ := balPhase2_invO cfg hu b 0 (effCores cfg) 0 (sockOK_zero cfg)
    ⟨hb.len, hb.mem, hb.sorted, hb.sum⟩ ASt.init
    ⟨rfl, nofun, nofun,
     fun _ _ => rfl, nofun⟩
  exact ⟨s, hr, by rw [this.count, Nat.zero_add], fun i hi => this.new i (Nat.zero_le i) hi, this.fresh,
    this.distinct⟩

/-- **balanced** (partial correctness): whatever the decoder returns satisfies C15. -/
theorem balanced_ok (cfg : Cfg) (hu : effUsed cfg = 0) (aff : Nat → List Nat) (pn : Nat → Nat)
    (h : decodeBalanced cfg = .ok aff pn) : Good cfg aff pn := by
  unfold decodeBalanced at h
  split at h
  · simp at h
  · split at h
    · simp at h
    · rename_i b hb1
      obtain ⟨hb, hk⟩ := balPhase1_inv cfg cfg.n b hb1
      obtain ⟨s, hr, hs⟩ := balPhase2_inv cfg hu b hb
      rw [hr] at h
      cases h
      have hkn : s.k = cfg.n := by rw [hs.count, hb.sum, hk]; rfl
      refine ⟨?_, ?_⟩
      · intro i hi
        obtain ⟨c', j', h1, h2, _, h4, h5⟩ := hs.bound i (by omega)
        have hjl' : j' < (b.idx c').length := by rw [← hb.len c']; exact h2
        have hmem' : (b.idx c').getD j' 0 ∈ b.idx c' := by
          rw [getD_lt _ hjl']; exact List.getElem_mem hjl'
        obtain ⟨_, _, hx', hi'⟩ := hb.mem c' _ hmem'
        exact ⟨_, h4, h5,
          base_add_lt_numPus cfg.t (Nat.lt_of_lt_of_le h1 (effCores_le cfg)) hx', hi'⟩
      · intro i i' hi hi'; exact hs.distinct i i' (by omega) (by omega)

end PikaVerif.Aff
