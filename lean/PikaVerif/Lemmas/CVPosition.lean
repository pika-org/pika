import PikaVerif.Lemmas.CVInvLocks
import PikaVerif.Lemmas.CVInner
import PikaVerif.Lemmas.CVGhost
/-!
# Counting `notify_one` calls in log order (C07t)

Ghost state folded over the log: `z t` = the size of the wait queue right after `t`'s last
`cv.enq` (= its position, counted from 1), `k t` = the number of pops (`cv.pop` of a `notify_one`,
`cv.popall` of a `notify_all`) since then.  Pops take the head of the queue and entries are
appended at the tail, so a linked waiter sits at index `< z t - k t`: after `z t` pops it is not
linked any more.
-/
namespace PikaVerif.CV

structure Gk where
  k : Nat → Nat
  z : Nat → Nat

def gk0 : Gk := ⟨fun _ => 0, fun _ => 0⟩

def obsK (g : Gk) : Ev → Gk
  | .cvEnq t z _ => { k := upd g.k t 0, z := upd g.z t z }
  | .popResume _ _ _ _ => { g with k := fun u => g.k u + 1 }
  | .popAll _ _ _ _ => { g with k := fun u => g.k u + 1 }
  | _ => g

def obsKLog (g : Gk) : List Ev → Gk
  | [] => g
  | e :: es => obsKLog (obsK g e) es

/-- a linked waiter's index in the queue plus the pops since its enqueue stays below its
    enqueue position -/
def Cnt (s : St) (g : Gk) : Prop := ∀ t, t ∈ s.queue → s.queue.idxOf t + g.k t < g.z t

theorem idxOf_erase_le (u t : Nat) (hne : u ≠ t) : ∀ l : List Nat, (l.erase t).idxOf u ≤ l.idxOf u := by
  intro l
  induction l with
  | nil => simp
  | cons a l ih =>
    by_cases hat : a = t
    · subst hat
      simp only [List.erase_cons_head, List.idxOf_cons]
      have : (a == u) = false := by simp; exact fun h => hne h.symm
      simp [this]
    · rw [List.erase_cons_tail (by simpa using hat)]
      simp only [List.idxOf_cons]
      cases (a == u) <;> simp <;> omega

/-- A pop takes the head of the queue: every other entry moves up by one. -/
theorem cnt_pop {s : St} {g : Gk} {x : Nat} (hA : Inv s) (hc : Cnt s g) (hh : s.queue.head? = some x) (u : Nat)
    (hu : u ∈ s.queue.tail) : s.queue.tail.idxOf u + (g.k u + 1) < g.z u := by
  have hnd := hA.qNodup
  cases hq : s.queue with
  | nil => rw [hq] at hh; cases hh
  | cons y rest =>
    rw [hq] at hnd hu
    have hne : y ≠ u := fun he => (List.nodup_cons.1 hnd).1 (he ▸ hu)
    have := hc u (by rw [hq]; exact List.mem_cons_of_mem _ hu)
    rw [hq, List.idxOf_cons, (beq_eq_false_iff_ne.2 hne : (y == u) = false), cond_false] at this
    show rest.idxOf u + (g.k u + 1) < g.z u
    omega

theorem cnt_step {s s' : St} {g : Gk} {e : Ev} (hA : Inv s) (hc : Cnt s g) (h : step s e = some s') :
    Cnt s' (obsK g e) := by
  cases hq : onQueue e with
  | false =>
    have hg : obsK g e = g := by cases e <;> first | rfl | nomatch hq
    unfold Cnt
    rw [hg, step_queue h hq]; exact hc
  | true =>
    obtain ⟨p, p', -, hp, hl, hg, rfl⟩ := Step.of_step h
    cases hl <;> first | (cases hq; done) | skip
    case pop1 => exact cnt_pop hA hc hg.2.2.1
    case popA | popC => exact cnt_pop hA hc hg.2.1
    case enq t z tm =>
      have htq : t ∉ s.queue := fun hm => by
        have := (hA.qIff t).1 hm; rw [show s.pc t = .released from hp] at this; nomatch this
      intro u (hu : u ∈ s.queue ++ [t])
      show (s.queue ++ [t]).idxOf u + upd g.k t 0 u < upd g.z t z u
      rw [List.idxOf_append]
      by_cases hut : u = t
      · -- the new entry sits at the end: index `|queue|`, position `|queue| + 1`
        rw [hut, upd_same, upd_same, if_neg htq, hg.2.1]; simp
      · have hm : u ∈ s.queue := by
          rcases List.mem_append.1 hu with h1 | h1
          · exact h1
          · exact absurd (List.mem_singleton.1 h1) hut
        rw [upd_other _ _ _ _ hut, upd_other _ _ _ _ hut, if_pos hm]; exact hc u hm
    case wokeK t still tm =>
      cases still
      · exact hc
      · intro u (hu : u ∈ s.queue.erase t)
        have hm := (hA.qNodup.mem_erase_iff).1 hu
        have := hc u hm.2
        have hle := idxOf_erase_le u t hm.1 s.queue
        show (s.queue.erase t).idxOf u + g.k u < g.z u
        omega

theorem cnt_of_runLog {s s' : St} {g : Gk} {log : List Ev} (hA : Inv s) (hc : Cnt s g)
    (h : runLog step s log = some s') : Cnt s' (obsKLog g log) :=
  (runLog_ghost (fold := obsKLog) (fun _ => rfl) (fun _ _ _ => rfl) (fun s g => Inv s ∧ Cnt s g)
    (fun s _ e s' hi hs => ⟨step_inv s s' e hi.1 hs, cnt_step hi.1 hi.2 hs⟩) ⟨hA, hc⟩ h).2

end PikaVerif.CV
