import PikaVerif.Lemmas.Sched2
import PikaVerif.Model.SchedObl
/-! Scheduler protocol model: lemmas for the end-to-end form of C02 (`Props/C02x.lean`).

* step lemmas about one object: how it can leave a pending state (only by the activation exchange
  `tagged`), what an epoch bump means, what can follow `terminated`, and how the restart state of an
  activation can change (only by the effective `setex` of its running phase);
* forward lemmas: what an accepted step can do to a helper entry and to an actor inside
  `set_active_state`;
* the tracking invariant `Track`: from the moment a wake-up request is issued, the request is
  *served* (an activation exchange or an effective restart-state fetch of the target has been
  logged since), or the target is pending / terminated, or the request still has a *carrier* whose
  observations were all made after the request.  Nothing here adds state to the model: the
  "served" flag and the list of helpers that owe the re-entry into `set_thread_state` are folds
  over the log suffix;
* `Internal`, `Quiescent` (the base-model forms of `C01.Internal`, `C01.Stuck`) and who owes the next
  internal event: the token of a pending object moves one place toward the activation (`token_move`,
  from which the solo runs of `Lemmas/SchedCo3.lean` are built), the carrier of a tracked request moves
  (`Carrier.enabled`); hence `wakeup_progress`, of which `C02_no_lost_wakeup` is the quiescent case;
* the restart state within one activation (`ObsX`, `InvX`, `ex_log`): the helper's abort under an
  equal tag;
* `quiescent_of_rest`. -/
namespace PikaVerif.Sched

variable {s s' : St} {e : Ev}

/-- `e` is an activation exchange (`switch_status`, pending → active) of object `o` -/
def isTagged (o : Nat) : Ev → Bool
  | .tagged _ o' _ _ => o' == o
  | _ => false

/-- `e` is an *effective* fetch-and-reset of the restart state of `o` by its running phase
    (`thread_data::set_state_ex(signaled)` at the start of a phase, changing the word) -/
def isSetex (o : Nat) : Ev → Bool
  | .setex _ o' b a => o' == o && b != a
  | _ => false

theorem W_ext (a b : W) (h1 : a.st = b.st) (h2 : a.ex = b.ex) (h3 : a.tag = b.tag) : a = b := by
  cases a; cases b; simp_all

theorem pend_leave_step (hi : Inv s) (h : step s e = some s') {o : Nat}
    (h1 : pendingish (s.obj o).w = true) (h2 : pendingish (s'.obj o).w = false) : isTagged o e = true := by
  -- an owned object is active, so the fetch and the store do not start from a pending state
  have := (hi o).ownerActive
  cases word_step h o <;> grind [pendingish, isTagged]

theorem epoch_bump_step (h : step s e = some s') {o : Nat}
    (h1 : (s.obj o).epoch < (s'.obj o).epoch) : pendingish (s'.obj o).w = true := by
  cases word_step h o <;> grind [pendingish]

theorem term_step (hi : Inv s) (h : step s e = some s') {o : Nat}
    (h1 : (s.obj o).w.st = sTerminated) :
    (s'.obj o).w.st = sTerminated ∨ (s.obj o).epoch < (s'.obj o).epoch := by
  have := (hi o).ownerActive
  cases word_step h o <;> grind

/-- within an activation the tag stays and the restart state changes only by an effective fetch -/
theorem ex_step (hi : Inv s) (h : step s e = some s') {o : Nat}
    (h1 : pendingish (s.obj o).w = false)
    (h2 : (s'.obj o).w.st = sActive) :
    (s.obj o).w.st = sActive ∧ (s'.obj o).w.tag = (s.obj o).w.tag ∧
      ((s'.obj o).w.ex = (s.obj o).w.ex ∨ isSetex o e = true) := by
  -- the store never stores `active`
  have := (hi o).resNotActive
  cases word_step h o <;> grind [pendingish, isSetex]

/-- an effective `setex` resets a restart state that was not `signaled` to `signaled` -/
theorem setex_eff_step (h : step s e = some s') {o : Nat} (h3 : isSetex o e = true) :
    (s'.obj o).w.ex = exSignaled ∧ (s.obj o).w.ex ≠ exSignaled ∧
    ∃ a, (s.obj o).live = true ∧ (s.obj o).owner = some a ∧ (s.obj o).inPhase = true := by
  cases e with
  | setex a o' b af =>
    simp only [isSetex, Bool.and_eq_true, beq_iff_eq, bne_iff_ne] at h3
    obtain ⟨rfl, hne⟩ := h3
    obtain ⟨⟨hl, ho, hph, rfl, rfl⟩, rfl⟩ := of_ite_some h
    refine ⟨by simp only [upd_same], fun hex => hne (W_ext _ _ rfl hex rfl), a, hl, ho, hph⟩
  | _ => simp [isSetex] at h3

/-- while no activation exchange of `o` is logged, the object stays outside an activation whose
    restart state is still to be fetched, and no effective fetch happens -/
theorem quiet_step (hi : Inv s) (h : step s e = some s') {o : Nat}
    (h0 : (s.obj o).w.st ≠ sActive ∨ (s.obj o).w.ex = exSignaled) (ht : isTagged o e = false) :
    isSetex o e = false ∧ ((s'.obj o).w.st ≠ sActive ∨ (s'.obj o).w.ex = exSignaled) := by
  -- an effective fetch is made by the owner, of an active object whose restart state is not
  -- `signaled`; the store never stores `active`
  have := @setex_eff_step _ _ _ h o
  have := (hi o).ownerActive
  have := (hi o).resNotActive
  constructor
  · grind
  · cases word_step h o <;> grind [isTagged]

theorem sas_fwd_step (h : step s e = some s') {a o : Nat} {cur prev : W} {he ce : Nat}
    (h1 : (s.act a).sas = some (o, cur, prev, he, ce)) :
    (s'.act a).sas = some (o, cur, prev, he, ce) ∨
    ((s'.act a).sas = none ∧ cur.st = prev.st ∧ cur ≠ prev) ∨
    e = .sasRetry a o := by
  cases help_step h with
  | same _ hs | hand _ _ _ _ _ _ hs => exact .inl ((hs a).trans h1)
  | take a' _ _ _ hnone _ hact => rw [hact, upd_apply]; grind
  | decide a' o' _ _ _ _ hsas hwhy _ hact => rw [hact, upd_apply]; grind

theorem helper_fwd_step (h : step s e = some s') {o : Nat} {hp : W × Nat}
    (h1 : hp ∈ (s.obj o).helpers) :
    hp ∈ (s'.obj o).helpers ∨
    ∃ a, (s'.act a).sas = some (o, (s.obj o).w, hp.1, hp.2, (s.obj o).epoch) := by
  cases help_step h with
  | same hh _ | decide _ _ _ _ _ _ _ _ hh _ => exact .inl (by rw [hh]; exact h1)
  | hand a o' _ _ _ hobj _ => rw [hobj, upd_apply]; grind
  | take a o' hp' _ _ hobj hact =>
    by_cases ho : o = o'
    · subst ho
      by_cases hne : hp = hp'
      · subst hne; exact .inr ⟨a, by rw [hact, upd_same]⟩
      · exact .inl (by rw [hobj, upd_same]; exact (List.mem_erase_of_ne hne).2 h1)
    · exact .inl (by rw [hobj, upd_other _ _ _ _ ho]; exact h1)

theorem enter_step {s s' : St} {a o ns : Nat} (h : step s (.stsEnter a o ns) = some s') :
    (s'.act a).sts = .entered o ∧ s'.obj = s.obj ∧ (s.obj o).live = true := by
  obtain ⟨hg, rfl⟩ := of_ite_some h
  exact ⟨by simp only [upd_same], rfl, hg.1⟩

def isServe (o : Nat) (e : Ev) : Bool := isTagged o e || isSetex o e

def ExOk (x : Obj) (sv : Bool) (lw : W) (le : Nat) : Prop :=
  le = x.epoch → lw.st = sActive → x.w.st = sActive → (x.w.ex = lw.ex ∨ sv = true)

def TermOk (x : Obj) (lw : W) (le : Nat) : Prop :=
  lw.st = sTerminated → (x.w.st = sTerminated ∨ le < x.epoch)

theorem exok_step (hi : Inv s) (h : step s e = some s') {o : Nat} {sv : Bool} {lw : W} {le : Nat}
    (hobs : Obs (s.obj o) lw le) (hx : ExOk (s.obj o) sv lw le) :
    ExOk (s'.obj o) (sv || isServe o e) lw le := by
  have := obj_step h o
  have := @ex_step _ _ _ hi h o
  grind [ExOk, Obs, isServe]

theorem termok_step (hi : Inv s) (h : step s e = some s') {o : Nat} {lw : W} {le : Nat}
    (hle : le ≤ (s.obj o).epoch) (hx : TermOk (s.obj o) lw le) : TermOk (s'.obj o) lw le := by
  have := obj_step h o
  have := @term_step _ _ _ hi h o
  grind [TermOk]

/-- what still carries a wake-up request for `o` issued at epoch `ie0` (all observations of a
    carrier were made after the request): an actor that has entered `set_thread_state` and not
    loaded yet; an actor holding a load made after the request; a helper entry created from such a
    load; a helper task that has loaded and not decided yet; a helper task that decided to retry and
    owes the re-entry into `set_thread_state` (list `ow`, a fold over the log) -/
inductive Carrier (s : St) (sv : Bool) (ow : List (Nat × Nat)) (o ie0 : Nat) : Prop
  | entered (a : Nat) (hs : (s.act a).sts = .entered o)
  | loaded (a : Nat) (lw : W) (le : Nat) (hs : (s.act a).sts = .loaded o lw le) (hge : ie0 ≤ le)
      (hnp : le = ie0 → pendingish lw = false) (htk : TermOk (s.obj o) lw le)
      (hxk : ExOk (s.obj o) sv lw le)
  | helper (hp : W × Nat) (hm : hp ∈ (s.obj o).helpers) (hge : ie0 ≤ hp.2)
      (hxk : ExOk (s.obj o) sv hp.1 hp.2)
  | task (a : Nat) (cur prev : W) (he ce : Nat) (hs : (s.act a).sas = some (o, cur, prev, he, ce))
      (hgood : cur.st = prev.st → cur ≠ prev → (sv = true ∨ ie0 < (s.obj o).epoch))
  | owing (a : Nat) (hm : (a, o) ∈ ow)

/-- the tracking invariant of one wake-up request (target `o`, not pending when the request was
    issued at epoch `ie0`) -/
structure Track (s : St) (sv : Bool) (ow : List (Nat × Nat)) (o ie0 : Nat) : Prop where
  inv : Inv2 s
  mono : ie0 ≤ (s.obj o).epoch
  /-- while the epoch is still that of the request, the target is still not pending -/
  R : (s.obj o).epoch = ie0 → pendingish (s.obj o).w = false
  /-- a later epoch means the target became pending after the request: still pending, or served -/
  Q : ie0 < (s.obj o).epoch → (sv = true ∨ pendingish (s.obj o).w = true)
  /-- the request is served, or the target will run or has ended, or somebody still carries it -/
  P : sv = true ∨ pendingish (s.obj o).w = true ∨ (s.obj o).w.st = sTerminated ∨ Carrier s sv ow o ie0

theorem track_step {sv : Bool} {ow : List (Nat × Nat)} {o ie0 : Nat}
    (ht : Track s sv ow o ie0) (h : step s e = some s') :
    Track s' (sv || isServe o e) (owStep ow e) o ie0 := by
  have hI := ht.inv.obj
  have hob := obj_step h o
  have hmono : ie0 ≤ (s'.obj o).epoch := Nat.le_trans ht.mono hob.1
  have hR : (s'.obj o).epoch = ie0 → pendingish (s'.obj o).w = false := by
    have := ht.R; have := ht.mono; grind
  -- leaving a pending state is an activation; a new epoch starts pending
  have hleave : pendingish (s.obj o).w = true →
      (sv || isServe o e) = true ∨ pendingish (s'.obj o).w = true := by
    have := @pend_leave_step _ _ _ hI h o; grind [isServe]
  have hQ : ie0 < (s'.obj o).epoch → ((sv || isServe o e) = true ∨ pendingish (s'.obj o).w = true) := by
    have := @epoch_bump_step _ _ _ h o; have := ht.Q; grind
  refine ⟨step_inv2 ht.inv h, hmono, hR, hQ, ?_⟩
  -- the ways to the goal: served or pending, terminated before the step, a carrier after it
  have hP' : ((sv || isServe o e) = true ∨ pendingish (s'.obj o).w = true) → _ ∨ _ ∨
      (s'.obj o).w.st = sTerminated ∨ Carrier s' (sv || isServe o e) (owStep ow e) o ie0 :=
    fun hh => hh.elim .inl (.inr ∘ .inl)
  have hterm : (s.obj o).w.st = sTerminated → (sv || isServe o e) = true ∨ pendingish (s'.obj o).w = true ∨
      (s'.obj o).w.st = sTerminated ∨ Carrier s' (sv || isServe o e) (owStep ow e) o ie0 := fun h1 =>
    (term_step hI h h1).elim (.inr ∘ .inr ∘ .inl) (fun h2 => .inr (.inl (epoch_bump_step h h2)))
  have carry : Carrier s' (sv || isServe o e) (owStep ow e) o ie0 → (sv || isServe o e) = true ∨
      pendingish (s'.obj o).w = true ∨ (s'.obj o).w.st = sTerminated ∨
      Carrier s' (sv || isServe o e) (owStep ow e) o ie0 := .inr ∘ .inr ∘ .inr
  -- an actor that holds the target's current word and epoch
  have fresh : ∀ a, (s'.act a).sts = .loaded o (s'.obj o).w (s'.obj o).epoch → _ := fun a hs =>
    carry (.loaded a _ _ hs hmono hR (fun hx => .inl hx) (fun _ _ _ => .inl rfl))
  rcases ht.P with h1 | h1 | h1 | h1
  · left; simp [h1]
  · exact hP' (hleave h1)
  · exact hterm h1
  · cases h1 with
    | entered a hs =>
      cases sts_step h a with
      | same hs' _ => exact carry (.entered a (hs'.trans hs))
      | reload o' htg hs' _ => rw [hs] at htg; cases htg; exact fresh a hs'
      | enter _ _ hs0 _ _ | win _ _ _ hs0 _ _ _ _ | leave _ _ _ hs0 _ _ _ => rw [hs] at hs0; cases hs0
    | loaded a lw le hs hge hnp htk hxk =>
      have hobs := ht.inv.loaded a o lw le hs
      have hxk' := exok_step hI h hobs hxk
      have htk' := termok_step hI h hobs.1 htk
      -- a pending word loaded after the request: the target became pending since the request
      have late : pendingish lw = true → _ := fun hp =>
        have : ie0 < le := Nat.lt_of_le_of_ne hge fun heq => by rw [hnp heq.symm] at hp; cases hp
        hP' (hQ (by have := hobs.1; omega))
      cases sts_step h a with
      | same hs' _ => exact carry (.loaded a lw le (hs'.trans hs) hge hnp htk' hxk')
      | enter _ _ hs0 _ _ => rw [hs] at hs0; cases hs0
      | reload o' htg hs' _ => rw [hs] at htg; cases htg; exact fresh a hs'
      | win o' _ _ hs0 _ _ hp _ => rw [hs] at hs0; cases hs0; exact .inr (.inl hp)
      | leave o' _ _ hs0 _ _ hwhy =>
        rw [hs] at hs0; cases hs0
        rcases hwhy with ⟨_, h2 | h2⟩ | ⟨_, _, h3⟩ | ⟨_, h2⟩
        · exact late (pendingish_of_pending h2)
        · exact (htk h2).elim hterm fun h3 => hP' (hQ (by omega))
        · exact carry (.helper (lw, le) h3 hge hxk')
        · exact late h2
    | helper hp hm hge hxk =>
      have hobs := ht.inv.helpers o hp hm
      have hact := (hI o).helpersActive hp hm
      rcases helper_fwd_step h hm with h2 | ⟨a, h2⟩
      · exact carry (.helper hp h2 hge (exok_step hI h hobs hxk))
      · -- same epoch: the words agree in state, tag (`Obs`) and restart state (`ExOk`) unless served
        have := W_ext (s.obj o).w hp.1
        exact carry (.task a _ _ _ _ h2 (by grind [ExOk, Obs]))
    | task a cur prev he ce hs hgood =>
      rcases sas_fwd_step h hs with h2 | ⟨_, h2, h3⟩ | rfl
      · exact carry (.task a cur prev he ce h2 (by grind))
      · exact (hgood h2 h3).elim (fun h4 => .inl (by simp [h4])) (fun h4 => hP' (hQ (by omega)))
      · exact carry (.owing a (by simp [owStep]))
    | owing a hm =>
      by_cases hev : ∃ ns, e = .stsEnter a o ns
      · obtain ⟨ns, rfl⟩ := hev
        exact carry (.entered a (enter_step h).1)
      · refine carry (.owing a ?_)
        cases e <;> simp only [owStep] <;> first | exact hm | skip
        · rename_i a' o' ns
          refine (List.mem_erase_of_ne fun hc => ?_).2 hm
          simp only [Prod.mk.injEq] at hc
          exact hev ⟨ns, by rw [hc.1, hc.2]⟩
        · exact List.mem_cons_of_mem _ hm

theorem track_log {o ie0 : Nat} {post : List Ev} {s s' : St} {sv : Bool} {ow : List (Nat × Nat)}
    (ht : Track s sv ow o ie0) (h : runLog step s post = some s') :
    Track s' (sv || post.any (isServe o)) (owing ow post) o ie0 := by
  induction post generalizing s sv ow with
  | nil => cases h; simpa [owing] using ht
  | cons e es ih =>
    obtain ⟨s1, hs, h1⟩ := runLog_cons_some h
    simpa [owing, Bool.or_assoc] using ih (track_step ht hs) h1

theorem pend_leave_log {o : Nat} {seg : List Ev} {s s' : St} (hi : Inv s) (h : runLog step s seg = some s')
    (hp : pendingish (s.obj o).w = true) :
    pendingish (s'.obj o).w = true ∨ seg.any (isTagged o) = true :=
  (runLog_until Inv (fun s => pendingish (s.obj o).w = true) (fun e => isTagged o e = true)
    (fun _ _ _ => step_inv) (fun _ _ _ hi hp hs => by have := @pend_leave_step _ _ _ hi hs o; grind)
    hi hp h).symm.imp (·.2) (List.any_eq_true.2 ·)

/-- an effective restart-state fetch needs an activation first, unless the object is in an
    activation that has not fetched its restart state yet -/
theorem setex_needs_tagged {o : Nat} {seg : List Ev} {s s' : St} (hi : Inv s)
    (h : runLog step s seg = some s')
    (h0 : (s.obj o).w.st ≠ sActive ∨ (s.obj o).w.ex = exSignaled)
    (hx : seg.any (isSetex o) = true) : seg.any (isTagged o) = true := by
  induction seg generalizing s with
  | nil => cases hx
  | cons e es ih =>
    obtain ⟨s1, hs, h1⟩ := runLog_cons_some h
    have := @quiet_step _ _ _ hi hs o
    have := ih (step_inv hi hs) h1
    simp only [List.any_cons, Bool.or_eq_true] at hx ⊢
    grind

/-- internal events of the protocol model: they continue an operation in progress (same
    classification as `C01.Internal`, which is stated for the model with the coroutine layer).
    Not internal: creation / recycling / destruction of a thread object, the entry of a new wake-up
    request, `abort_all_suspended_threads` (`sw.set` on a suspended thread), the fetch of the restart
    state and the harness' body notes. -/
def Internal : Ev → Bool
  | .new _ _ _ => false
  | .rebind _ _ _ => false
  | .destroy _ _ _ => false
  | .stsEnter _ _ _ => false
  | .setex _ _ _ _ => false
  | .set _ _ before _ => before.st != sSuspended
  | .bodyEnter _ _ => false
  | .bodyExit _ _ => false
  | _ => true

def Quiescent (s : St) : Prop := ∀ e, Internal e = true → step s e = none

/-- events left until a pending object is activated: the `pending_boost → pending` store and the
    queue insertion its pusher owes, the pop, the exchange -/
def dist (x : Obj) : Nat :=
  if x.holder.isSome then 1 else if 0 < x.q then 2 else if x.w.st = sPending then 3 else 4

theorem dist_le (x : Obj) : dist x ≤ 4 := by unfold dist; split <;> (try split) <;> (try split) <;> omega

/-- one move of the token of `x` toward the activation by `a`: the exchange itself, or one place nearer -/
def TokStep (a : Nat) (x x' : Obj) : Prop :=
  x'.live = true ∧
  ((x'.w.st = sActive ∧ x'.owner = some a ∧ dist x = 1) ∨
   (pendingish x'.w = true ∧ (∀ h, x'.holder = some h → h = a) ∧ dist x' + 1 = dist x))

/-- The token of a constructed pending object can move one place toward the activation, by an
    internal event that the coroutine layer does not guard: the pusher's store and insertion, the
    pop (by any actor `a`), the holder's exchange. -/
theorem token_move (hi : Inv s) {o : Nat} (hl : (s.obj o).live = true)
    (hp : pendingish (s.obj o).w = true) {a : Nat} (ha : ∀ h, (s.obj o).holder = some h → h = a) :
    ∃ e s', Internal e = true ∧ (∀ a o r, e ≠ .phaseEnd a o r) ∧ step s e = some s' ∧
      TokStep a (s.obj o) (s'.obj o) := by
  rcases (hi o).token_cases hl hp with ⟨hf, hst, hq, hh⟩ | ⟨p, hpu, hh⟩ | ⟨hst, hpu, ⟨h, hh, he⟩ | ⟨hh, hq⟩⟩
  · exact ⟨.push 0 o, _, rfl, fun _ _ _ => nofun, by simp [step, hl, hst, hf, hq]; rfl, by simp,
      .inr (by simp [dist, hh, hq, hst, pendingish])⟩
  · have hq := ((hi o).sole_pusher hl hpu).2.2.1
    rcases pendingish_iff.1 hp with h | h
    · exact ⟨.push p o, _, rfl, fun _ _ _ => nofun, by simp [step, hl, h, hpu]; rfl, by simp,
        .inr (by simp [dist, hh, hq, h, pendingish])⟩
    · exact ⟨.set p o (s.obj o).w ⟨sPending, (s.obj o).w.ex, (s.obj o).w.tag + 1⟩,
        _, by simp [Internal, h, sBoost, sSuspended], fun _ _ _ => nofun, by simp [step, hl, h, hpu]; rfl, by simp,
        .inr (by simp [dist, hh, hq, h, pendingish, sBoost, sPending])⟩
  · obtain rfl := ha h hh
    exact ⟨.tagged h o (s.obj o).w ⟨sActive, (s.obj o).w.ex, (s.obj o).w.tag + 1⟩, _, rfl, fun _ _ _ => nofun,
      by simp [step, hl, hh, he, hst]; rfl, by simp, .inl (by simp [dist, hh])⟩
  · exact ⟨.got a o (s.obj o).w false, _, rfl, fun _ _ _ => nofun, by simp [step, hl, hh, hq]; rfl, by simp,
      .inr (by simp [dist, hh, hq, hp])⟩

theorem token_enabled (hi : Inv s) {o : Nat} (hl : (s.obj o).live = true)
    (hp : pendingish (s.obj o).w = true) : ∃ e, Internal e = true ∧ (step s e).isSome = true := by
  obtain ⟨e, s', hI, _, hs, _⟩ := token_move hi hl hp (a := (s.obj o).holder.getD 0) fun _ hh => by rw [hh]; rfl
  exact ⟨e, hI, by rw [hs]; rfl⟩

/-- Whoever carries a wake-up request can take an internal step, unless it is a helper that owes the
    re-entry: an actor inside `set_thread_state` (re)loads the target's word, a helper task decides,
    and an outstanding helper entry is taken by any actor (here actor 0, which first decides if it is
    inside a helper task itself). -/
theorem Carrier.enabled {sv : Bool} {ow : List (Nat × Nat)} {o ie0 : Nat} (hl : (s.obj o).live = true)
    (hc : Carrier s sv ow o ie0) :
    (∃ a, (a, o) ∈ ow) ∨ ∃ e, Internal e = true ∧ (step s e).isSome = true := by
  have decide : ∀ {a o' cur prev he ce}, (s.act a).sas = some (o', cur, prev, he, ce) →
      ∃ e, Internal e = true ∧ (step s e).isSome = true := fun {a o' cur prev _ _} hs => by
    by_cases hc : cur.st = prev.st ∧ cur ≠ prev
    · exact ⟨.sasAbort a o', rfl, by simp [step, hs, hc]⟩
    · exact ⟨.sasRetry a o', rfl, by simp only [step, hs]; simp [hc]⟩
  have load : ∀ {a}, ((s.act a).sts = .entered o ∨ ∃ lw le, (s.act a).sts = .loaded o lw le) →
      ∃ e, Internal e = true ∧ (step s e).isSome = true := fun {a} hs =>
    ⟨.stsLoad a o (s.obj o).w, rfl, by rcases hs with hs | ⟨lw, le, hs⟩ <;> simp [step, hl, hs]⟩
  cases hc with
  | entered a hs => exact .inr (load (.inl hs))
  | loaded a lw le hs => exact .inr (load (.inr ⟨lw, le, hs⟩))
  | task a cur prev he ce hs => exact .inr (decide hs)
  | owing a hm => exact .inl ⟨a, hm⟩
  | helper hp hm =>
    right
    cases h0 : (s.act 0).sas with
    | some r => obtain ⟨o2, cur, prev, he, ce⟩ := r; exact decide h0
    | none =>
      refine ⟨.sasLoad 0 o (s.obj o).w hp.1, rfl, ?_⟩
      simp only [step, hl, h0, and_self, ↓reduceIte]
      cases hf : (s.obj o).helpers.find? (fun h => h.1 == hp.1) with
      | some h => simp
      | none => simpa using List.find?_eq_none.1 hf hp hm

/-- A tracked wake-up request is served, or its target has ended, or a helper owes the re-entry, or
    the model accepts an internal event: the target's token moves, or the request's carrier does. -/
theorem Track.enabled {sv : Bool} {ow : List (Nat × Nat)} {o ie0 : Nat} (ht : Track s sv ow o ie0)
    (hl : (s.obj o).live = true) :
    sv = true ∨ (s.obj o).w.st = sTerminated ∨ (∃ a, (a, o) ∈ ow) ∨
      ∃ e, Internal e = true ∧ (step s e).isSome = true := by
  rcases ht.P with h | h | h | h
  · exact .inl h
  · exact .inr (.inr (.inr (token_enabled ht.inv.obj hl h)))
  · exact .inr (.inl h)
  · exact .inr (.inr (h.enabled hl))

/-- **A wake-up request is never dropped.**  At every state after the request an activation exchange of
    the target or an effective fetch of its restart state has been logged since, or the target is
    terminated, or a helper owes the re-entry, or the model accepts an internal event. -/
theorem wakeup_progress {pre post : List Ev} {a o ns : Nat}
    (h : runLog step init (pre ++ .stsEnter a o ns :: post) = some s) :
    post.any (isTagged o) = true ∨ post.any (isSetex o) = true ∨ (s.obj o).w.st = sTerminated ∨
      (∃ b, (b, o) ∈ owing [] post) ∨ ∃ e, Internal e = true ∧ (step s e).isSome = true := by
  obtain ⟨s0, h0, h1⟩ := runLog_prefix h
  obtain ⟨s1, hs, h1⟩ := runLog_cons_some h1
  obtain ⟨hent, hobj, hl0⟩ := enter_step hs
  have hi1 : Inv2 s1 := step_inv2 (inv2_of_accepted h0) hs
  have hlS : (s.obj o).live = true := inv_of_runLog (fun t => (t.obj o).live = true)
    (fun _ _ _ hl ht => live_step ht o hl) (by rw [hobj]; exact hl0) h1
  cases hp1 : pendingish (s1.obj o).w with
  | true =>
    -- pending at the request: still pending (its token can move), or activated since
    exact (pend_leave_log hi1.obj h1 hp1).elim (fun h2 => .inr (.inr (.inr (.inr
      (token_enabled (inv_of_runLog Inv (fun _ _ _ => step_inv) hi1.obj h1) hlS h2))))) .inl
  | false =>
    have ht1 : Track s1 false [] o (s1.obj o).epoch :=
      ⟨hi1, Nat.le_refl _, fun _ => hp1, fun hlt => absurd hlt (Nat.lt_irrefl _),
       .inr (.inr (.inr (.entered a hent)))⟩
    rcases (track_log ht1 h1).enabled hlS with h2 | h2 | h2 | h2
    · simp only [Bool.false_or, List.any_eq_true] at h2
      obtain ⟨e, hm, he⟩ := h2
      simp only [isServe, Bool.or_eq_true] at he
      exact he.elim (fun he => .inl (List.any_eq_true.2 ⟨e, hm, he⟩))
        (fun he => .inr (.inl (List.any_eq_true.2 ⟨e, hm, he⟩)))
    · exact .inr (.inr (.inl h2))
    · exact .inr (.inr (.inr (.inl h2)))
    · exact .inr (.inr (.inr (.inr h2)))

/-- `ObsX x lw le`: like `Obs`, for the restart state: if no transition into pending happened since
    the word `lw` (active) was observed and the object is still active (so, by `Obs`, in the very
    same activation), its restart state is the observed one, or the observed one was still to be
    fetched (not `signaled`) and has been reset since -/
def ObsX (x : Obj) (lw : W) (le : Nat) : Prop :=
  le = x.epoch → lw.st = sActive → x.w.st = sActive →
    (x.w.ex = lw.ex ∨ (lw.ex ≠ exSignaled ∧ x.w.ex = exSignaled))

theorem obsx_now (x : Obj) : ObsX x x.w x.epoch := fun _ _ _ => Or.inl rfl

theorem obsx_step (hi : Inv s) (h : step s e = some s') {o : Nat} {lw : W} {le : Nat}
    (hobs : Obs (s.obj o) lw le) (hx : ObsX (s.obj o) lw le) : ObsX (s'.obj o) lw le := by
  -- within the activation only an effective fetch changes the restart state, to `signaled`
  have := obj_step h o
  have := @ex_step _ _ _ hi h o
  have := @setex_eff_step _ _ _ h o
  grind [ObsX, Obs]

structure InvX (s : St) : Prop where
  helpers : ∀ o h, h ∈ (s.obj o).helpers → ObsX (s.obj o) h.1 h.2
  loaded : ∀ a o lw le, (s.act a).sts = .loaded o lw le → ObsX (s.obj o) lw le
  sas : ∀ a o cur prev he ce, (s.act a).sas = some (o, cur, prev, he, ce) → he = ce → cur.st = sActive →
      (cur.ex = prev.ex ∨ (prev.ex ≠ exSignaled ∧ cur.ex = exSignaled))

theorem invx_init : InvX init := by
  refine ⟨?_, ?_, ?_⟩
  · intro o h hm; simp [init] at hm
  · intro a o lw le hm; simp [init] at hm
  · intro a o c p he ce hm; simp [init] at hm

theorem step_invx (hi : Inv2 s) (hx : InvX s) (h : step s e = some s') : InvX s' := by
  refine ⟨?_, ?_, ?_⟩
  · intro o hp hm
    rcases helpers_step h hm with hk | ⟨a, hk⟩
    · exact obsx_step hi.obj h (hi.helpers o hp hk) (hx.helpers o hp hk)
    · exact obsx_step hi.obj h (hi.loaded a o hp.1 hp.2 hk) (hx.loaded a o hp.1 hp.2 hk)
  · intro a o lw le hm
    rcases loaded_step h hm with hk | ⟨h1, h2⟩
    · exact obsx_step hi.obj h (hi.loaded a o lw le hk) (hx.loaded a o lw le hk)
    · subst h1; subst h2; exact obsx_now _
  · intro a o cur prev he ce hm heq hc
    rcases sas_step h hm with hk | ⟨h1, h2, h3⟩
    · exact hx.sas a o cur prev he ce hk heq hc
    · have hact := (hi.obj o).helpersActive (prev, he) h1
      subst h2; subst h3
      exact hx.helpers o (prev, he) h1 heq hact hc

theorem invx_of_accepted {log : List Ev} {s : St} (h : runLog step init log = some s) : Inv2 s ∧ InvX s :=
  inv_of_runLog (fun s => Inv2 s ∧ InvX s)
    (fun _ _ _ hh hs => ⟨step_inv2 hh.1 hs, step_invx hh.1 hh.2 hs⟩) ⟨inv2_init, invx_init⟩ h

/-- within one activation (no transition into pending, target not pending at the start and active
    at the end) the tag is constant and the restart state changes only by an effective `setex` -/
theorem ex_log {o : Nat} {seg : List Ev} {s s' : St} (hi : Inv s) (h : runLog step s seg = some s')
    (heq : (s'.obj o).epoch = (s.obj o).epoch) (hnp : pendingish (s.obj o).w = false)
    (hact : (s'.obj o).w.st = sActive) :
    (s.obj o).w.st = sActive ∧ (s'.obj o).w.tag = (s.obj o).w.tag ∧
      ((s'.obj o).w.ex = (s.obj o).w.ex ∨ seg.any (isSetex o) = true) := by
  induction seg generalizing s with
  | nil => cases h; exact ⟨hact, rfl, .inl rfl⟩
  | cons e es ih =>
    -- the epoch stays over the first step and over the rest (`obj_step`, `obj_log`)
    obtain ⟨s1, hs, h1⟩ := runLog_cons_some h
    have := obj_step hs o
    have := obj_log h1 o
    have := @ex_step _ _ _ hi hs o
    have := ih (step_inv hi hs) h1
    simp only [List.any_cons, Bool.or_eq_true]
    grind

/-- a state in which every constructed object is at rest (scheduled once, no queue entry, holder,
    pusher, owner, no outstanding helper) and no actor is inside `set_thread_state` or
    `set_active_state` is quiescent -/
theorem quiescent_of_rest (s : St)
    (hobj : ∀ o, (s.obj o).live = true → (s.obj o).fresh = false ∧ (s.obj o).q = 0 ∧ (s.obj o).holder = none ∧
      (s.obj o).pusher = none ∧ (s.obj o).owner = none ∧ (s.obj o).helpers = [])
    (hact : ∀ a, (s.act a).sts = .out ∧ (s.act a).sas = none) : Quiescent s := by
  intro e hI
  cases e with
  | set a o b af =>
    simp only [Internal, bne_iff_ne, ne_eq] at hI
    cases hl : (s.obj o).live with
    | false => simp [step, hl]
    | true =>
      obtain ⟨h1, h2, h3, h4, h5, h6⟩ := hobj o hl
      by_cases hb : b = (s.obj o).w
      · subst hb; simp [step, hl, h4, hI]
      · simp [step, hl, hb]
  | push a o | got a o w f | tagged a o b af | phaseBegin a o | phaseEnd a o r | restore1 a o b af
  | sasLoad a o c p =>
    cases hl : (s.obj o).live with
    | false => simp [step, hl]
    | true =>
      obtain ⟨h1, h2, h3, h4, h5, h6⟩ := hobj o hl
      simp [step, hl, h1, h2, h3, h4, h5, h6, (hact a).2]
  | stsLoad a o w | restore2 a o b af | stsNoop a o | stsHelper a o | stsDone a o | sasAbort a o | sasRetry a o =>
    simp [step, (hact a).1, (hact a).2]
  | _ => cases hI

end PikaVerif.Sched
