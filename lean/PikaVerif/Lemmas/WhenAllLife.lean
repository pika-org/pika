import PikaVerif.Model.WhenAllLife
import PikaVerif.Lemmas.WhenAll
import PikaVerif.Core.Run
/-!
Invariants of the life-cycle layer of `when_all` / `when_all_vector` (C03w).  Of the protocol model itself:
the start loop versus the children (`StartLoop`), and that no thread is in a child call once the counter is
zero.  Of the layer: what a layer step does (`step_proj`, `step_other`, `step_rcv`), its history fields versus
the protocol state (`LInv`), who may still touch the operation state (`touch_after_zero`, `touch_own`), all of
it together with `uaf = false` (`Full`), the projection of accepted logs, and the `n = 0` branch of
`when_all_vector` (`ZInv`).
-/
namespace PikaVerif.WhenAll

theorem advance_ge (p : Nat → Option (Nat × Int)) (n : Nat) : ∀ fuel j, j ≤ advance p n j fuel
  | 0, j => Nat.le_refl _
  | fuel + 1, j => by
    simp only [advance]
    split
    · split
      · omega
      · have := advance_ge p n fuel (j + 1); omega
    · omega

theorem advance_le (p : Nat → Option (Nat × Int)) (n : Nat) : ∀ fuel j, j ≤ n → advance p n j fuel ≤ n
  | 0, j, h => h
  | fuel + 1, j, h => by
    simp only [advance]
    split
    · split
      · omega
      · exact advance_le p n fuel (j + 1) (by omega)
    · omega

theorem armedAfter_ge (s : St) (cx : Ctx) : s.armedTo ≤ armedAfter s cx := by
  cases cx
  · exact Nat.le_refl _
  · exact advance_ge _ _ _ _

theorem armedAfter_le (s : St) (cx : Ctx) (h : s.armedTo ≤ s.n) : armedAfter s cx ≤ s.n := by
  cases cx
  · exact h
  · exact advance_le _ _ _ _ h

/-- The start loop versus the children: a child completes only after it was started. -/
structure StartLoop (s : St) : Prop where
  armedLe : s.armedTo ≤ s.n
  firedArmed : ∀ i, s.firedI i = true → i < s.armedTo

theorem a_init (n : Nat) : StartLoop (init n) := by
  constructor <;> simp [init]

/- The values an event may give to fields that the invariant at hand does not read. -/
variable {a r d lt : Nat} {pd co : Nat → Option (Nat × Int)} {l : Bool}
  {e : Option Int} {sl : Nat → Option Int} {res : Option (Nat × Int)} {st w : Nat → Nat}
  {f : Option (Nat × Nat × Int)} {pc : Nat → Pc}

theorem StartLoop.armed {s : St} (ha : StartLoop s) (h1 : s.armedTo ≤ a) (h2 : a ≤ s.n) :
    StartLoop { s with armedTo := a, pending := pd, remaining := r, latch := l, err := e, slots := sl, pc := pc,
                        delivered := d, result := res, compl := co, stage := st, who := w, first := f,
                        lastT := lt } :=
  ⟨h2, fun i hi => Nat.lt_of_lt_of_le (ha.firedArmed i hi) h1⟩

theorem StartLoop.frame {s : St} (ha : StartLoop s) :
    StartLoop { s with pending := pd, remaining := r, latch := l, err := e, slots := sl, pc := pc,
                        delivered := d, result := res, compl := co, stage := st, who := w, first := f,
                        lastT := lt } :=
  ha.armed (Nat.le_refl _) ha.armedLe

theorem step_a (s s' : St) (e : Ev) (ha : StartLoop s) (h : step s e = some s') : StartLoop s' := by
  cases Step.of_step h with
  | invStart _ h0 => exact ha.armed (by rw [h0]; exact Nat.zero_le _) (advance_le _ _ _ _ (Nat.zero_le _))
  | @fire t i ch arg cx _ hi _ _ =>
    refine ⟨ha.armedLe, fun j hj => ?_⟩
    by_cases hji : j = i
    · exact hji ▸ hi
    · dsimp only at hj; rw [upd_other _ _ _ _ hji] at hj; exact ha.firedArmed j hj
  | @dec t i cx a k lt p' _ _ _ hd =>
    rcases hd with ⟨_, rfl, _⟩ | ⟨_, rfl, _⟩
    · exact ha.armed (Nat.le_refl _) ha.armedLe
    · exact ha.armed (armedAfter_ge s cx) (armedAfter_le s cx ha.armedLe)
  | @rcv t ch v cx _ _ => exact ha.armed (armedAfter_ge s cx) (armedAfter_le s cx ha.armedLe)
  | _ => exact ha.frame

theorem stOf_lt (p : Pc) : stOf p < 3 := by cases p <;> simp [stOf]

theorem no_call_after_zero {s : St} (h1 : W1 s) (hc : Cnt s) (hz : s.remaining = 0) (t : Nat) :
    curOf (s.pc t) = none := by
  cases hcur : curOf (s.pc t) with
  | none => rfl
  | some i =>
    obtain ⟨_, hst, hi, _⟩ := h1.curStage t i hcur
    rw [all_decremented s hc hz i hi] at hst
    cases hp : s.pc t <;> rw [hp] at hst hcur <;> cases hst <;> cases hcur

end PikaVerif.WhenAll

namespace PikaVerif.WhenAllLife
open PikaVerif.WhenAll

variable {a : Nat} {pd co : Nat → Option (Nat × Int)} {fi : Nat → Bool} {l : Bool} {e : Option Int}
  {sl : Nat → Option Int} {res : Option (Nat × Int)} {f : Option (Nat × Nat × Int)} {sd u : Bool}
  {stt : Nat}

/-- History fields of the layer versus the protocol state (`n > 0`). -/
structure LInv (s : St) : Prop where
  npos : s.b.n ≠ 0
  curCall : ∀ t i, curOf (s.b.pc t) = some i → s.cur t = some i
  curLast : ∀ t, isLast (s.b.pc t) = true → s.cur t = s.lastC
  curNone : ∀ t, curOf (s.b.pc t) = none → isLast (s.b.pc t) = false → s.cur t = none
  lastSome : s.lastC ≠ none ↔ s.b.remaining = 0
  lastStage : ∀ c, s.lastC = some c → s.b.stage c = 3 ∧ c < s.b.n ∧ s.b.who c = s.b.lastT
  issued : s.b.delivered = 1 → s.issuer = s.lastC ∧ s.issuerT = some s.b.lastT
  notIssued : s.b.delivered = 0 → s.issuer = none ∧ s.issuerT = none ∧ s.freed = false
  freedIff : s.freed = true ↔ (s.cfg.selfdel = true ∧ s.b.delivered = 1)
  nfreeEq : s.nfree = b2n s.freed

theorem linv_init (c : Cfg) (n : Nat) (hn : n ≠ 0) : LInv (init c n) := by
  constructor <;> simp [init, WhenAll.init, curOf, isLast, b2n, hn]

/-- The protocol step underneath a layer step. -/
theorem step_proj {s s' : St} {e : Ev} (hn : s.b.n ≠ 0) (h : step s e = some s') :
    WhenAll.step s.b e = some s'.b ∧ s'.cfg = s.cfg ∧ s'.lastC = lastAfter s e ∧
    s'.uaf = (s.uaf || (s.freed && touches e)) := by
  simp only [step, hn, if_false] at h
  split at h
  · cases h
  · next b' hb => cases h; exact ⟨hb, rfl, rfl, rfl⟩

theorem step_other {s s' : St} {e : Ev} (hn : s.b.n ≠ 0) (h : step s e = some s') (hr : isRcv e = false) :
    ∃ b', WhenAll.step s.b e = some b' ∧
      s' = { s with b := b', started := true, starterT := starterAfter s e, cur := curAfter s e,
                    lastC := lastAfter s e, uaf := s.uaf || (s.freed && touches e) } := by
  simp only [step, hn, if_false] at h
  split at h
  · cases h
  · next b' hb => cases h; exact ⟨b', hb, by simp [hr, b2n]⟩

/-- The downstream completion: the caller's child is the issuer; a self-deleting receiver destroys the
    operation state. -/
theorem step_rcv {s s' : St} {t ch : Nat} {v : Int} (hn : s.b.n ≠ 0) (h : step s (.rcv t ch v) = some s') :
    ∃ b', WhenAll.step s.b (.rcv t ch v) = some b' ∧
      s' = { s with b := b', started := true, cur := upd s.cur t none, issuer := s.cur t, issuerT := some t,
                    freed := s.freed || s.cfg.selfdel, nfree := s.nfree + b2n s.cfg.selfdel,
                    uaf := s.uaf || s.freed } := by
  simp only [step, hn, if_false] at h
  split at h
  · cases h
  · next b' hb =>
    cases h
    exact ⟨b', hb, by simp [isRcv, tidOf, touches, starterAfter, curAfter, lastAfter]⟩

theorem LInv.move {s : St} (hl : LInv s) {t : Nat} {p p' : Pc} (hp : s.b.pc t = p)
    (hc : curOf p' = curOf p) (hla : isLast p' = isLast p) :
    LInv { s with b := { s.b with armedTo := a, pending := pd, firedI := fi, latch := l, err := e, slots := sl,
                                  pc := upd s.b.pc t p', result := res, compl := co, first := f },
                  started := sd, starterT := stt, uaf := u } := by
  subst hp
  have ec := apply_upd_of_eq curOf hc
  have el := apply_upd_of_eq isLast hla
  exact { hl with
    curCall := fun u i h => hl.curCall u i ((ec u).symm.trans h)
    curLast := fun u h => hl.curLast u ((el u).symm.trans h)
    curNone := fun u h1 h2 => hl.curNone u ((ec u).symm.trans h1) ((el u).symm.trans h2) }

/-- Thread `t`, not the last caller, is in the call of child `i`, which has not decremented (so
    is not the last child): stage and caller of `i` may change. -/
theorem LInv.call {s : St} (hl : LInv s) {t i : Nat} {p' : Pc} (hc : curOf p' = some i) (hlp' : isLast p' = false) (h3 : s.b.stage i ≠ 3)
    {cur' : Nat → Option Nat} {st' w' : Nat → Nat} (hct : cur' t = some i)
    (hco : ∀ u, u ≠ t → cur' u = s.cur u) (hst : ∀ c, c ≠ i → st' c = s.b.stage c)
    (hw : ∀ c, c ≠ i → w' c = s.b.who c) :
    LInv { s with b := { s.b with armedTo := a, pending := pd, firedI := fi, latch := l, err := e, slots := sl,
                                  pc := upd s.b.pc t p', result := res, compl := co, stage := st',
                                  who := w', first := f },
                  started := sd, starterT := stt, cur := cur', uaf := u } := by
  refine ⟨hl.npos, fun u j h => ?_, fun u h => ?_, fun u h1 h2 => ?_, hl.lastSome, fun c h => ?_,
    hl.issued, hl.notIssued, hl.freedIff, hl.nfreeEq⟩ <;> dsimp only at *
  · by_cases hu : u = t
    · subst hu; rw [upd_same, hc] at h; rw [← Option.some.inj h]; exact hct
    · rw [upd_other _ _ _ _ hu] at h; rw [hco u hu]; exact hl.curCall u j h
  · by_cases hu : u = t
    · subst hu; rw [upd_same, hlp'] at h; cases h
    · rw [upd_other _ _ _ _ hu] at h; rw [hco u hu]; exact hl.curLast u h
  · by_cases hu : u = t
    · subst hu; rw [upd_same, hc] at h1; cases h1
    · rw [upd_other _ _ _ _ hu] at h1 h2; rw [hco u hu]; exact hl.curNone u h1 h2
  · obtain ⟨x, y, z⟩ := hl.lastStage c h
    have : c ≠ i := fun hci => h3 (hci ▸ x)
    rw [hst c this, hw c this]; exact ⟨x, y, z⟩

theorem step_linv (s s' : St) (e : Ev) (h1 : W1 s.b) (h2 : W2 s.b) (hl : LInv s) (h : step s e = some s') :
    LInv s' := by
  cases hr : isRcv e with
  | true =>
    cases e with
    | rcv t ch v =>
      obtain ⟨b', hb, rfl⟩ := step_rcv hl.npos h
      cases Step.of_step hb with | @rcv _ _ _ cx hp _ => ?_
      have hla : isLast (s.b.pc t) = true := by rw [hp]; rfl
      obtain ⟨ht, hz, hd⟩ := h2.lastPc t hla
      have hni := hl.notIssued hd
      refine ⟨hl.npos, fun u i hu => ?_, fun u hu => ?_, fun u hu _ => ?_, hl.lastSome, hl.lastStage,
        fun _ => ⟨hl.curLast t hla, by rw [← ht]⟩, fun hd' => ?_, ?_, ?_⟩ <;> dsimp only at *
      · have hut : u ≠ t := by rintro rfl; rw [upd_same, curOf_retPc] at hu; cases hu
        rw [upd_other _ _ _ _ hut] at hu ⊢; exact hl.curCall u i hu
      · have hut : u ≠ t := by rintro rfl; rw [upd_same, isLast_retPc] at hu; cases hu
        rw [upd_other _ _ _ _ hut] at hu
        exact absurd ((h2.lastPc u hu).1.trans ht.symm) hut
      · by_cases hut : u = t
        · subst hut; exact upd_same _ _ _
        · rw [upd_other _ _ _ _ hut] at hu ⊢
          cases hlu : isLast (s.b.pc u) with
          | false => exact hl.curNone u hu hlu
          | true => exact absurd ((h2.lastPc u hlu).1.trans ht.symm) hut
      · omega
      · rw [hni.2.2, Bool.false_or, hd]; simp
      · rw [hl.nfreeEq, hni.2.2, Bool.false_or]; simp [b2n]
    | _ => cases hr
  | false =>
    obtain ⟨b', hb, rfl⟩ := step_other hl.npos h hr
    cases Step.of_step hb with
    | rcv => cases hr
    | @fire t i ch arg cx hfi =>
      have h0 := h1.stage_eq_zero hfi
      exact hl.call (by rfl) (by rfl) (by omega) (upd_same _ _ _)
        (fun u hu => upd_other _ _ _ _ hu) (fun c hc => upd_other _ _ _ _ hc)
        (fun c hc => upd_other _ _ _ _ hc)
    | @sig t ch i arg cx sl l er f note hp _ =>
      have hcur : curOf (s.b.pc t) = some i := by rw [hp]; rfl
      have h3 : s.b.stage i ≠ 3 := by rw [(h1.curStage t i hcur).2.1, hp]; simp [stOf]
      exact hl.call (by rfl) (by rfl) h3 (hl.curCall t i hcur) (fun _ _ => rfl)
        (fun c hc => upd_other _ _ _ _ hc) (fun _ _ => rfl)
    | @dec t i cx a k lt p' hp h0 hk hs =>
      subst hk
      have hcur : curOf (s.b.pc t) = some i := by rw [hp]; rfl
      obtain ⟨hw, _, hi, _⟩ := h1.curStage t i hcur
      have hct := hl.curCall t i hcur
      -- the counter is not zero yet: no last child, no last caller, nothing delivered
      have hlc : s.lastC = none := Decidable.byContradiction fun hne => h0 (hl.lastSome.mp hne)
      have hnl : ∀ u, isLast (s.b.pc u) ≠ true := fun u hu => h0 (h2.lastPc u hu).2.1
      have hd : s.b.delivered = 0 := by rcases h2.delOnce with hd | ⟨_, hz⟩ <;> omega
      rcases hs with ⟨hr, rfl, hlt, rfl⟩ | ⟨hr, rfl, hlt, rfl⟩ <;> obtain rfl := hlt.symm
      · -- this decrement reaches zero: child `i` is the last child, `t` the last caller
        simp only [curAfter, lastAfter, hr, if_true]
        refine ⟨hl.npos, fun u j hu => ?_, fun u hu => ?_, fun u hu hu' => ?_, ⟨fun _ => rfl, fun _ => by simp [hct]⟩,
          fun c hc => ?_, fun hd' => (by dsimp only at hd'; omega), fun _ => hl.notIssued hd, hl.freedIff,
          hl.nfreeEq⟩ <;> dsimp only at *
        · have hut : u ≠ t := by rintro rfl; rw [upd_same] at hu; cases hu
          rw [upd_other _ _ _ _ hut] at hu; exact hl.curCall u j hu
        · by_cases hut : u = t
          · rw [hut]
          · rw [upd_other _ _ _ _ hut] at hu; exact absurd hu (hnl u)
        · have hut : u ≠ t := by rintro rfl; rw [upd_same] at hu'; cases hu'
          rw [upd_other _ _ _ _ hut] at hu hu'; exact hl.curNone u hu hu'
        · obtain rfl : i = c := Option.some.inj (hct.symm.trans hc)
          exact ⟨upd_same _ _ _, hi, hw⟩
      · -- the call returns
        have hr' : ¬ s.b.remaining = 1 := hr
        simp only [curAfter, lastAfter, hr', if_false]
        refine ⟨hl.npos, fun u j hu => ?_, fun u hu => ?_, fun u hu hu' => ?_, ?_,
          fun c hc => (by rw [hlc] at hc; cases hc), fun hd' => (by dsimp only at hd'; omega),
          fun _ => hl.notIssued hd, hl.freedIff, hl.nfreeEq⟩ <;> dsimp only at *
        · have hut : u ≠ t := by rintro rfl; rw [upd_same, curOf_retPc] at hu; cases hu
          rw [upd_other _ _ _ _ hut] at hu ⊢; exact hl.curCall u j hu
        · have hut : u ≠ t := by rintro rfl; rw [upd_same, isLast_retPc] at hu; cases hu
          rw [upd_other _ _ _ _ hut] at hu; exact absurd hu (hnl u)
        · by_cases hut : u = t
          · subst hut; exact upd_same _ _ _
          · rw [upd_other _ _ _ _ hut] at hu hu' ⊢; exact hl.curNone u hu hu'
        · rw [hlc]; exact ⟨fun h => absurd rfl h, fun h => by omega⟩
    | _ => exact hl.move (by assumption) (by rfl) (by rfl)

/-- Once the counter is zero, the only events that still read or write the operation state are
    those of the receiver call whose decrement reached zero. -/
theorem touch_after_zero (s : St) (b' : WhenAll.St) (e : Ev) (h1 : W1 s.b) (hc : Cnt s.b)
    (ha : StartLoop s.b) (hl : LInv s) (hb : WhenAll.step s.b e = some b') (ht : touches e = true)
    (hz : s.b.remaining = 0) :
    isLast (s.b.pc (tidOf e)) = true ∧ actor s e = s.lastC := by
  have hall := all_decremented s.b hc hz
  have hno : ∀ {t p}, s.b.pc t = p → curOf p = none := fun hp => hp ▸ no_call_after_zero h1 hc hz _
  have hlast : ∀ {t p}, s.b.pc t = p → isLast p = true →
      isLast (s.b.pc t) = true ∧ s.cur t = s.lastC := fun hp hla => by
    subst hp; exact ⟨hla, hl.curLast _ hla⟩
  cases Step.of_step hb with
  | invCompleteArmed | invCompleteEarly | retC | retS | tdone => cases ht
  | invStart _ h0 =>
    -- child 0 has completed, so the start loop has begun
    have hn : 0 < s.b.n := Nat.pos_of_ne_zero hl.npos
    have := ha.firedArmed 0 ((h1.firedStage 0).mpr (by rw [hall 0 hn]; decide))
    omega
  | @fire t i ch arg cx hfi _ hi _ =>
    have := h1.stage_eq_zero hfi
    rw [hall i hi] at this; cases this
  | sig hp _ | store hp | latch hp | dec hp _ _ _ => cases hno hp
  | zero hp | rcv hp _ => exact hlast hp rfl

/-- A child reads or writes the operation state only before its own decrement, unless it is the child
    whose decrement reached zero. -/
theorem touch_own (s : St) (b' : WhenAll.St) (e : Ev) (h1 : W1 s.b) (hl : LInv s)
    (hb : WhenAll.step s.b e = some b') (ht : touches e = true) (i : Nat)
    (hact : actor s e = some i) : s.b.stage i < 3 ∨ s.lastC = some i := by
  have hin : ∀ {t p}, s.b.pc t = p → s.cur t = some i → ∀ j, curOf p = some j → s.b.stage i < 3 :=
    fun hp hct j hj => by
      subst hp
      obtain rfl : j = i := Option.some.inj ((hl.curCall _ j hj).symm.trans hct)
      rw [(h1.curStage _ j hj).2.1]; exact stOf_lt _
  have hlast : ∀ {t p}, s.b.pc t = p → s.cur t = some i → isLast p = true → s.lastC = some i :=
    fun hp hct hla => by subst hp; exact (hl.curLast _ hla).symm.trans hct
  cases Step.of_step hb with
  | invCompleteArmed | invCompleteEarly | retC | retS | tdone => cases ht
  | invStart => cases hact
  | fire hfi =>
    obtain rfl := Option.some.inj hact
    exact .inl (by rw [h1.stage_eq_zero hfi]; decide)
  | sig hp _ | store hp | latch hp | dec hp _ _ _ => exact .inl (hin hp hact _ rfl)
  | zero hp | rcv hp _ => exact .inr (hlast hp hact rfl)

/-- The complete invariant for `n > 0`. -/
structure Full (s : St) : Prop where
  winv : WInv s.b
  a : StartLoop s.b
  linv : LInv s
  noUaf : s.uaf = false

theorem full_init (c : Cfg) (n : Nat) (hn : n ≠ 0) : Full (init c n) :=
  ⟨winv_init n, a_init n, linv_init c n hn, rfl⟩

theorem step_full (s s' : St) (e : Ev) (hf : Full s) (h : step s e = some s') : Full s' := by
  obtain ⟨hw, ha, hl, hu⟩ := hf
  obtain ⟨hb, _, _, huaf⟩ := step_proj hl.npos h
  refine ⟨step_winv _ _ e hw hb, step_a _ _ e ha hb, step_linv s s' e hw.w1 hw.w2 hl h, ?_⟩
  rw [huaf, hu, Bool.false_or]
  cases hfr : s.freed with
  | false => rfl
  | true =>
    cases ht : touches e with
    | false => rfl
    | true =>
      -- the operation state is gone only after the delivery, and then the last caller has left
      exfalso
      have hd := (hl.freedIff.mp hfr).2
      have hz : s.b.remaining = 0 := by rcases hw.w2.delOnce with h0 | ⟨_, hz⟩ <;> omega
      have hlast := (touch_after_zero s s'.b e hw.w1 hw.cnt ha hl hb ht hz).1
      have := (hw.w2.lastPc _ hlast).2.2
      omega

/-- Projection: an accepted log of the layer is an accepted log of the protocol model (`n > 0`). -/
theorem runLog_proj : ∀ (log : List Ev) (s0 s : St), s0.b.n ≠ 0 →
    runLog step s0 log = some s → runLog WhenAll.step s0.b log = some s.b
  | [], s0, s, _, h => by cases h; rfl
  | e :: es, s0, s, h0, h => by
    obtain ⟨s1, hs, hr⟩ := runLog_cons_some h
    have hb := (step_proj h0 hs).1
    simp only [runLog, hb]
    exact runLog_proj es s1 s (by rw [step_n hb]; exact h0) hr

theorem n_init (c : Cfg) (n : Nat) : (init c n).b.n = n := rfl

/-! ### `when_all_vector` without predecessors -/

/-- `when_all_vector` without predecessors: `start()` itself, on thread `starterT`, completes the downstream
    receiver, with the empty vector; no child, no start loop. -/
structure ZInv (s : St) : Prop where
  nz : s.b.n = 0
  vec : s.cfg.vector = true
  del : s.b.delivered = 0 ∨ s.b.delivered = 1
  delRes : s.b.delivered = 1 → s.b.result = some (0, 0) ∧ s.started = true ∧ s.issuerT = some s.starterT
  startedPc : s.started = true → s.b.delivered = 0 → s.b.pc s.starterT = .starting
  pcStarted : ∀ t, s.b.pc t = .starting → s.started = true ∧ t = s.starterT
  freedIff : s.freed = true ↔ (s.cfg.selfdel = true ∧ s.b.delivered = 1)
  nfreeEq : s.nfree = b2n s.freed
  noChild : s.lastC = none ∧ s.issuer = none
  pcKinds : ∀ t, s.b.pc t = .idle ∨ s.b.pc t = .starting ∨ s.b.pc t = .fin
  armed0 : s.b.armedTo = 0
  noUaf : s.uaf = false

theorem zinv_init (c : Cfg) (hv : c.vector = true) : ZInv (init c 0) := by
  constructor <;> simp [init, WhenAll.init, b2n, hv]

theorem step_zinv (s s' : St) (e : Ev) (hz : ZInv s) (h : step s e = some s') : ZInv s' := by
  obtain ⟨z0, z1, z2, z3, z4, z5, z6, z7, z8, z9, z10, z11⟩ := hz
  simp only [step, z0, z1, if_true] at h
  cases e <;> simp only [step0] at h <;> (try cases h) <;> split at h <;> cases h
  all_goals constructor <;> dsimp only <;> grind [upd, b2n]

theorem zinv_of_accepted {c : Cfg} (hv : c.vector = true) {log : List Ev} {s : St}
    (h : runLog step (init c 0) log = some s) : ZInv s :=
  inv_of_runLog ZInv (fun s e s' => step_zinv s s' e) (zinv_init c hv) h

/-- the configuration never changes -/
theorem cfg_of_accepted {c : Cfg} {n : Nat} {log : List Ev} {s : St}
    (h : runLog step (init c n) log = some s) : s.cfg = c := by
  refine inv_of_runLog (fun s => s.cfg = c) (fun s e s' hc hs => ?_) rfl h
  by_cases hn : s.b.n = 0
  · simp only [step, hn, if_true] at hs
    split at hs
    · cases e <;> simp only [step0] at hs <;> (try cases hs) <;> split at hs <;> cases hs <;> exact hc
    · cases hs
  · exact (step_proj hn hs).2.1.trans hc

/-- Once set, `lastC` never changes (the counter is zero: no further decrement is accepted). -/
theorem lastC_stable (s s' : St) (e : Ev) (hl : LInv s) (h : step s e = some s') (k : Nat)
    (hk : s.lastC = some k) : s'.lastC = some k := by
  have hz : s.b.remaining = 0 := hl.lastSome.mp (by rw [hk]; simp)
  rw [(step_proj hl.npos h).2.2.1]
  cases e <;> simp only [lastAfter, hk]
  rw [hz]; simp

theorem n_of_reach {c : Cfg} {n : Nat} {s : St} (hr : ∃ log, runLog step (init c n) log = some s)
    (hn : 0 < n) : s.b.n = n := by
  obtain ⟨log, hl⟩ := hr
  exact WhenAll.n_of_accepted (runLog_proj log _ s (by simp [init, WhenAll.init]; omega) hl)

theorem full_of_reach {c : Cfg} {n : Nat} {s : St} (hr : ∃ log, runLog step (init c n) log = some s)
    (hn : 0 < n) : Full s := by
  obtain ⟨log, hl⟩ := hr
  exact inv_of_runLog Full (fun s e s' => step_full s s' e) (full_init c n (by omega)) hl

end PikaVerif.WhenAllLife
