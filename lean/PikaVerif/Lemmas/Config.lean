import PikaVerif.Model.Config
/-! Helper lemmas for the configuration model: inversion of the `Except` pipelines, the
    assoc-list configuration tree, facts about the generated tables (re-checked by `decide`
    against the regenerated `Gen/Settings.lean` on every build), the tokenizer and `store`
    (which command lines are accepted, where positionals and adjacent forms go), and the quoting
    of the late re-parse (`splitU` reads back what `escQ` / `wrapIf` wrote). -/
namespace PikaVerif.Config
open PikaVerif.Gen.Settings

theorem bind_ok {ε α β : Type} (a : Except ε α) (f : α → Except ε β) (y : β) :
    (a >>= f) = .ok y ↔ ∃ x, a = .ok x ∧ f x = .ok y := by
  cases a <;> simp [bind, Except.bind]

theorem check_ok (c : Bool) (e : Err) (u : Unit) : check c e = .ok u ↔ c = false := by
  cases c <;> simp [check, fail, pure, Except.pure]

theorem checkU_ok (c : Bool) (w : String) (u : Unit) : checkU c w = .ok u ↔ c = false := by
  cases c <;> simp [checkU, unsup, pure, Except.pure]

theorem pure_ok {α : Type} (a b : α) : (pure a : M α) = .ok b ↔ a = b := by
  simp [pure, Except.pure]


theorem find_setKey_same (cfg : List (String × String)) (k v : String) :
    (setKey cfg k v).find? (fun p => p.1 == k) = some (k, v) := by
  induction cfg with
  | nil => simp [setKey]
  | cons a t ih => by_cases ha : a.1 == k <;> simp [setKey, ha, ih]

theorem find_setKey_other (cfg : List (String × String)) (k k' v : String) (hne : k' ≠ k) :
    (setKey cfg k v).find? (fun p => p.1 == k') = cfg.find? (fun p => p.1 == k') := by
  induction cfg with
  | nil => simp [setKey, Ne.symm hne]
  | cons a t ih => by_cases ha : a.1 == k <;> by_cases hb : a.1 == k' <;> simp_all [setKey]

theorem cfgLookup_setKey_same (cfg : List (String × String)) (k v : String) :
    cfgLookup (setKey cfg k v) k = v := by
  simp [cfgLookup, find_setKey_same]

theorem cfgLookup_setKey_other (cfg : List (String × String)) (k k' v : String) (hne : k' ≠ k) :
    cfgLookup (setKey cfg k v) k' = cfgLookup cfg k' := by
  simp [cfgLookup, find_setKey_other _ _ _ _ hne]

/-- keys `handle_arguments` writes back -/
def writtenKeys : List String :=
  ["pika.ignore_process_mask", "pika.process_mask", "pika.scheduler", "pika.affinity", "pika.bind",
   "pika.pu_step", "pika.pu_offset", "pika.numa_sensitive", "pika.os_threads", "pika.cores",
   "pika.thread_queue.high_priority_queues"]

/-- the hand-written list agrees with what the translator found in `handle_arguments` -/
theorem writtenKeys_generated : writtenKeys = written.map (·.1) := rfl

theorem writeBack_other (cfg : List (String × String)) (r : Resolved) (k : String)
    (hk : k ∉ writtenKeys) : cfgLookup (writeBack cfg r) k = cfgLookup cfg k := by
  simp only [writtenKeys, List.mem_cons, List.not_mem_nil, or_false, not_or] at hk
  obtain ⟨h1, h2, h3, h4, h5, h6, h7, h8, h9, h10, h11⟩ := hk
  unfold writeBack
  simp only []
  split <;> split <;> simp [cfgLookup_setKey_other, *]

theorem writeBack_threads (cfg : List (String × String)) (r : Resolved) :
    cfgLookup (writeBack cfg r) "pika.os_threads" = natStr r.threads := by
  unfold writeBack
  simp only []
  split <;> simp [cfgLookup_setKey_other, cfgLookup_setKey_same]

theorem writeBack_cores (cfg : List (String × String)) (r : Resolved) :
    cfgLookup (writeBack cfg r) "pika.cores" = natStr r.cores := by
  unfold writeBack
  simp only []
  split <;> simp [cfgLookup_setKey_other, cfgLookup_setKey_same]

theorem writeBack_scheduler (cfg : List (String × String)) (r : Resolved) :
    cfgLookup (writeBack cfg r) "pika.scheduler" = r.scheduler := by
  unfold writeBack
  simp only []
  split <;> split <;> simp [cfgLookup_setKey_other, cfgLookup_setKey_same]

theorem writeBack_affinity (cfg : List (String × String)) (r : Resolved) :
    cfgLookup (writeBack cfg r) "pika.affinity" = r.affinity := by
  unfold writeBack
  simp only []
  split <;> split <;> simp [cfgLookup_setKey_other, cfgLookup_setKey_same]

theorem writeBack_puStep (cfg : List (String × String)) (r : Resolved) :
    cfgLookup (writeBack cfg r) "pika.pu_step" = natStr r.puStep := by
  unfold writeBack
  simp only []
  split <;> simp [cfgLookup_setKey_other, cfgLookup_setKey_same]

theorem writeBack_bind (cfg : List (String × String)) (r : Resolved) (h : r.bind ≠ "") :
    cfgLookup (writeBack cfg r) "pika.bind" = r.bind := by
  have : r.bind.isEmpty = false := by
    cases hb : r.bind.isEmpty with
    | false => rfl
    | true => exact absurd (by simpa using hb) h
  unfold writeBack
  simp only [this]
  split <;> simp [cfgLookup_setKey_other, cfgLookup_setKey_same]

theorem applyInis_lookup (inis : List String) : ∀ (cfg cfg' : List (String × String)) (k : String),
    applyInis cfg inis = .ok cfg' → cfgLookup cfg' k = (lastIni inis k).getD (cfgLookup cfg k) := by
  induction inis with
  | nil => intro cfg cfg' k h; simp [applyInis, pure, Except.pure] at h; subst h; simp [lastIni]
  | cons s rest ih =>
    intro cfg cfg' k h
    unfold applyInis at h
    split at h
    · simp [fail] at h
    · rename_i k0 v hs
      simp only [] at h
      split at h
      · simp [unsup] at h
      · split at h
        · simp [unsup] at h
        · split at h
          · simp [fail] at h
          · have := ih _ _ k h
            rw [this]
            simp only [lastIni, hs]
            cases hl : lastIni rest k with
            | some w => simp
            | none =>
              simp only [Option.getD_none]
              by_cases hk : (stripBang k0).1 == k
              · have : (stripBang k0).1 = k := by simpa using hk
                simp [← this, cfgLookup_setKey_same]
              · have hne : k ≠ (stripBang k0).1 := by
                  intro he; apply hk; simp [he]
                simp [hk, cfgLookup_setKey_other _ _ _ _ hne]

theorem cfgLookup_baseCfg (env : String → Option String) (s : Setting) (hs : s ∈ settings) :
    cfgLookup (baseCfg env) s.key = rtGet env s.key := by
  unfold baseCfg cfgLookup
  have : ∀ (l : List Setting), s ∈ l →
      ((l.map (fun s => (s.key, rtGet env s.key))).find? (fun p => p.1 == s.key)).map (·.2) = some (rtGet env s.key) := by
    intro l
    induction l with
    | nil => intro h; simp at h
    | cons a t ih =>
      intro h
      simp only [List.map_cons, List.find?_cons]
      by_cases ha : a.key == s.key
      · have : a.key = s.key := by simpa using ha
        simp [this]
      · simp only [ha]
        have : s ∈ t := by
          cases h with
          | head => simp at ha
          | tail _ h => exact h
        exact ih this
  rw [this settings hs]; rfl


theorem lastIni_none_of_cfgGet_none (inis : List String) (k : String)
    (h : cfgGet inis k = none) : lastIni inis k = none := by
  induction inis with
  | nil => rfl
  | cons s rest ih =>
    unfold cfgGet at h
    simp only [List.filterMap_cons] at h
    cases hs : splitIni s with
    | none =>
      simp only [hs] at h
      simp only [lastIni, hs]
      rw [ih (by unfold cfgGet; exact h)]
    | some kv =>
      obtain ⟨k0, v⟩ := kv
      simp only [hs, List.findSome?_cons] at h
      by_cases hk : (stripBang k0).1 == k
      · simp [hk] at h
      · simp only [hk] at h
        simp only [lastIni, hs, hk]
        rw [ih (by unfold cfgGet; exact h)]
        simp

theorem rt_second (vm : Vm) (k : String) (h : cfgGet (vm.multi "pika:ini") k = none) :
    vm.second.rt k = rtGet vm.env k := by
  simp [Vm.second, rtFinal, lastIni_none_of_cfgGet_none _ _ h]

theorem second_opt (vm : Vm) : vm.second.opt = vm.opt := rfl
theorem second_multi (vm : Vm) : vm.second.multi = vm.multi := rfl
theorem second_env (vm : Vm) : vm.second.env = vm.env := rfl
theorem mkVm_rt (occ env : List (String × String)) (k : String) :
    (mkVm occ env).rt k = rtGet (mkVm occ env).env k := rfl


theorem handleArguments_ok {m : Machine} {vm : Vm} {r : Resolved} (h : handleArguments m vm = .ok r) :
    r.scheduler = handleStr vm "pika:scheduler" "pika.scheduler" ∧
    r.affinity = handleStr vm "pika:affinity" "pika.affinity" ∧
    handleThreads m vm r.useMask = .ok r.threads ∧
    handleCores m vm r.useMask r.threads = .ok r.cores := by
  unfold handleArguments at h
  simp only [bind_ok, check_ok, checkU_ok, pure_ok] at h
  obtain ⟨_, _, _, _, _, _, _, _, _, _, _, _, _, _, _, _, _, _, _, _, t, ht, c, hc, hr⟩ := h
  subst hr
  exact ⟨rfl, rfl, ht, hc⟩

theorem handleHp_ok {vm : Vm} {r0 r : Resolved} (h : handleHp vm r0 = .ok r) :
    r.threads = r0.threads ∧ r.scheduler = r0.scheduler ∧ r.affinity = r0.affinity ∧ r.cores = r0.cores ∧
    r.useMask = r0.useMask := by
  unfold handleHp at h
  split at h
  · simp only [bind_ok, check_ok, pure_ok] at h
    obtain ⟨_, _, _, _, _, _, hr⟩ := h
    subst hr
    simp
  · simp only [pure_ok] at h
    subst h
    simp

theorem configure_ok {m : Machine} {vm : Vm} {r : Resolved} {cfg : List (String × String)}
    (h : configure m vm = .ok (r, cfg)) :
    ∃ r0 cfg0, applyInis (baseCfg vm.env) (vm.multi "pika:ini") = .ok cfg0 ∧
      handleArguments m vm.second = .ok r0 ∧
      handleHp vm r0 = .ok r ∧ cfg = writeBack cfg0 r := by
  unfold configure at h
  simp only [bind_ok, pure_ok] at h
  obtain ⟨_, _, cfg0, h1, r0, h0', r2, h2, h3⟩ := h
  simp only [Prod.mk.injEq] at h3
  obtain ⟨h3, h4⟩ := h3
  subst h3
  exact ⟨r0, cfg0, h1, h0', h2, h4.symm⟩

theorem startStage_ok {m : Machine} {pre argv : List String} {p : Parsed} {r : Resolved}
    {cfg : List (String × String)} {rep : Report} (h : startStage m pre argv p r cfg = .ok rep) :
    rep.cfg = cfg ∧
    rep.workers = workersOf m (cfgLookup cfg "pika.bind") r.threads ∧
    schedulerPolicy (cfgLookup cfg "pika.scheduler") = some rep.policy ∧
    rep.argv = entryArgv (cfgLookup cfg "pika.commandline.allow_unknown" != "0") p ∧
    (!p.unreg.isEmpty && !(cfgLookup cfg "pika.commandline.allow_unknown" != "0")) = false := by
  unfold startStage at h
  simp only [bind_ok, check_ok, checkU_ok, pure_ok] at h
  obtain ⟨_, _, _, _, _, _, _, _, pol, hpol, _, _, _, _, _, _, _, hunk, hr⟩ := h
  subst hr
  refine ⟨rfl, rfl, ?_, rfl, hunk⟩
  split at hpol
  · rename_i p' hp'
    simp only [pure_ok] at hpol
    subst hpol
    exact hp'
  · simp [fail] at hpol

theorem resolveM_ok {m : Machine} {inp : Input} {rep : Report} (h : resolveM m inp = .ok rep) :
    ∃ pre p r cfg, parseStage inp = .ok (pre, p) ∧
      configure m (mkVm p.occ inp.env) = .ok (r, cfg) ∧
      startStage m pre inp.argv p r cfg = .ok rep := by
  unfold resolveM at h
  simp only [bind_ok] at h
  obtain ⟨⟨pre, p⟩, h1, ⟨r, cfg⟩, h2, h3⟩ := h
  exact ⟨pre, p, r, cfg, h1, h2, h3⟩


/-- Sanity of the generated tables, re-established by `decide` whenever the tables change:
    every row of the settings table has its default-ini line (same environment variable and
    default), every `handle_*` function's option is a declared option, its key is a settings
    row carrying that option, and the key is written back to the configuration. -/
def tableOk : Bool :=
  settings.all (fun s => match findRow s.key with
    | some r => r.env == s.env && r.dflt == s.dflt
    | none => false) &&
  handlers.all (fun h => cliOpts.any (fun o => o.name == h.opt) && written.any (fun w => w.1 == h.key) &&
    settings.any (fun s => s.key == h.key && s.opt == some h.opt))

theorem table_ok : tableOk = true := by decide +kernel

theorem rtGet_setting (env : String → Option String) (s : Setting) (hs : s ∈ settings) :
    rtGet env s.key = match s.env with
      | some e => (env e).getD s.dflt
      | none => s.dflt := by
  have h := table_ok
  simp only [tableOk, Bool.and_eq_true, List.all_eq_true] at h
  have h1 := h.1 s hs
  unfold rtGet
  split at h1
  · rename_i r hr
    simp only [Bool.and_eq_true, beq_iff_eq] at h1
    simp only [hr, h1.1, h1.2]
    cases s.env <;> rfl
  · simp at h1


theorem natOr_of_natThrow {s : String} {n d : Nat} (h : natThrow s = .ok n) : natOr s d = .ok n := by
  unfold natThrow at h
  unfold natOr
  cases hp : parseNat s <;> simp_all [pure, Except.pure, fail, unsup]

/-- A thread-count keyword that resolves to `n` is not a numeral, so `natOr` falls back to the
    default handed to it. -/
theorem keyword_natOr {m : Machine} {um : Bool} {s : String} {n : Nat}
    (h : keywordThreads m um s = .ok n) : natOr s n = .ok n := by
  by_cases h1 : s = "cores"
  · subst h1; rfl
  · by_cases h2 : s = "all"
    · subst h2; rfl
    · simp only [keywordThreads, beq_iff_eq, h1, h2, if_false] at h
      exact natOr_of_natThrow h

theorem perm_short_eq {α : Type} {l l' : List α} (hp : l.Perm l') (hl : l.length ≤ 1) : l = l' := by
  match l, hl with
  | [], _ => exact hp.nil_eq
  | [a], _ => exact (List.perm_singleton.1 hp.symm).symm

/-- what `store` does with one occurrence -/
theorem storeCheck_cons {seen : List String} {n v : String} {rest : List (String × String)} :
    storeCheck seen ((n, v) :: rest) = .ok () ↔
      ¬ (composing n = false ∧ n ∈ seen) ∧ valueCheck n v = .ok () ∧ storeCheck (n :: seen) rest = .ok () := by
  rw [storeCheck]
  split
  · simp_all [fail]
  · simp_all [bind_ok]
    exact fun _ => ⟨fun ⟨(), h⟩ => h, fun h => ⟨(), h⟩⟩

/-- `store` accepts a command line only if every value passes the check of its option -/
theorem storeCheck_values : ∀ {occ : List (String × String)} {seen : List String},
    storeCheck seen occ = .ok () → ∀ p ∈ occ, valueCheck p.1 p.2 = .ok ()
  | (_, _) :: _, _, h, _, .head _ => (storeCheck_cons.1 h).2.1
  | (_, _) :: _, _, h, p, .tail _ hp => storeCheck_values (storeCheck_cons.1 h).2.2 p hp

/-- `store` accepts a command line only if every single-valued option occurs at most once (second
    conjunct: and not at all once it is among the options `seen`, which carries the induction) -/
theorem storeCheck_unique (occ : List (String × String)) : ∀ (seen : List String),
    storeCheck seen occ = .ok () → ∀ n, composing n = false →
      (occ.filter (fun p => p.1 == n)).length ≤ 1 ∧
      (n ∈ seen → (occ.filter (fun p => p.1 == n)).length = 0) := by
  induction occ with
  | nil => intro seen _ n _; simp
  | cons a rest ih =>
    intro seen h n hn
    obtain ⟨n', v'⟩ := a
    obtain ⟨hdup, -, hrest⟩ := storeCheck_cons.1 h
    have ih' := ih (n' :: seen) hrest n hn
    by_cases he : n' = n
    · subst he
      have h0 := ih'.2 (by simp)
      simp only [List.filter_cons, beq_self_eq_true, if_true, List.length_cons]
      exact ⟨by omega, fun hs => absurd ⟨hn, hs⟩ hdup⟩
    · simp only [List.filter_cons, beq_iff_eq, he, if_false]
      exact ⟨ih'.1, fun hs => ih'.2 (by simp [hs])⟩

def isPositional (tok : String) : Bool :=
  match tok.toList with
  | c :: _ => c != '-' && c != '@'
  | [] => false

/-- `--name=value` in one token -/
def isAdjacentForm (tok : String) : Bool :=
  match tok.toList with
  | '-' :: '-' :: body => (splitEq body).2.isSome
  | _ => false

theorem tokStep_positional (table : List OptRow) (acc : Parsed) (tok : String) (rest : List String)
    (h : isPositional tok = true) :
    tokStep table acc tok rest =
      .ok ({ acc with pos := acc.pos ++ [tok], mixed := acc.mixed ++ [tok] }, rest) := by
  unfold isPositional at h
  unfold tokStep
  split at h
  · rename_i c cs hc
    simp only [Bool.and_eq_true, bne_iff_ne, ne_eq] at h
    simp only [hc]
    split
    · rename_i heq; simp at heq; exact absurd heq.1 h.1
    · rename_i heq; simp at heq; exact absurd heq.1 h.1
    · rename_i heq; simp at heq; exact absurd heq.1 h.2
    · rename_i heq; simp at heq
    · rfl
  · simp at h

theorem tokStep_adjacent (table : List OptRow) (acc acc' : Parsed) (tok : String) (rest rest' : List String)
    (hf : isAdjacentForm tok = true) (h : tokStep table acc tok rest = .ok (acc', rest')) :
    rest' = rest ∧ acc'.pos = acc.pos := by
  unfold isAdjacentForm at hf
  split at hf
  · rename_i body hb
    unfold tokStep at h
    simp only [hb] at h
    cases hs : splitEq body with
    | mk n adj =>
      simp only [hs, Option.isSome_iff_exists] at hf
      obtain ⟨v, hv⟩ := hf
      subst hv
      simp only [hs] at h
      repeat' split at h
      all_goals first
        | (simp [unsup] at h; done)
        | (simp [fail] at h; done)
        | (simp only [pure_ok, Prod.mk.injEq] at h; obtain ⟨h1, h2⟩ := h; subst h1; exact ⟨h2.symm, rfl⟩)
  · simp at hf

theorem tokenize_positionals (table : List OptRow) (args : List String) :
    ∀ (acc : Parsed) (fuel : Nat), args.length < fuel → (∀ a ∈ args, isPositional a = true) →
    tokenize table fuel acc args =
      .ok { acc with pos := acc.pos ++ args, mixed := acc.mixed ++ args } := by
  induction args with
  | nil => intro acc fuel _ _; cases fuel <;> simp [tokenize, pure, Except.pure]
  | cons a t ih =>
    intro acc fuel hf hall
    cases fuel with
    | zero => simp at hf
    | succ f =>
      simp only [tokenize, tokStep_positional table acc a t (hall a (by simp)), bind, Except.bind]
      rw [ih _ f (by simpa using hf) (fun x hx => hall x (by simp [hx]))]
      simp [List.append_assoc]



theorem splitU_escaped (q : Bool) (cur rest : List Char) (c : Char)
    (hc : (isEscC c || isQuoteC c) = true) : splitU q cur ('\\' :: c :: rest) = splitU q (c :: cur) rest := by
  have hn : (c == 'n') = false := by
    simp only [isEscC, isQuoteC, Bool.or_eq_true, beq_iff_eq] at hc
    rcases hc with hc | hc | hc <;> subst hc <;> decide
  rw [splitU.eq_def]
  simp_all [isEscC]

theorem splitU_plain (q : Bool) (cur rest : List Char) (c : Char)
    (he : isEscC c = false) (hq : isQuoteC c = false) (hs : isSepC c = false) :
    splitU q cur (c :: rest) = splitU q (c :: cur) rest := by
  rw [splitU.eq_def]; simp [he, hq, hs]

theorem splitU_sep_in (cur rest : List Char) (c : Char) (he : isEscC c = false) (hs : isSepC c = true) :
    splitU true cur (c :: rest) = splitU true (c :: cur) rest := by
  rw [splitU.eq_def]; simp [he, hs]

theorem splitU_escQ (s : List Char) : ∀ (q : Bool) (cur rest : List Char),
    (q = true ∨ s.any isSepC = false) →
    splitU q cur (escQ s ++ rest) = splitU q (s.reverse ++ cur) rest := by
  induction s with
  | nil => intro q cur rest _; simp [escQ]
  | cons c r ih =>
    intro q cur rest h
    have h' : q = true ∨ r.any isSepC = false := by
      rcases h with h | h
      · exact Or.inl h
      · right; simp only [List.any_cons, Bool.or_eq_false_iff] at h; exact h.2
    by_cases hc : (isEscC c || isQuoteC c) = true
    · simp only [escQ, hc, if_true, List.cons_append]
      rw [splitU_escaped q cur _ c hc, ih q (c :: cur) rest h']
      simp
    · have hc' : (isEscC c || isQuoteC c) = false := by simpa using hc
      simp only [escQ, hc', Bool.false_eq_true, if_false, List.cons_append]
      have he : isEscC c = false := by simp only [Bool.or_eq_false_iff] at hc'; exact hc'.1
      have hq : isQuoteC c = false := by simp only [Bool.or_eq_false_iff] at hc'; exact hc'.2
      by_cases hs : isSepC c = true
      · rcases h with h | h
        · subst h
          rw [splitU_sep_in cur _ c he hs, ih true (c :: cur) rest h']; simp
        · simp [List.any_cons, hs] at h
      · have hs' : isSepC c = false := by simpa using hs
        rw [splitU_plain q cur _ c he hq hs', ih q (c :: cur) rest h']; simp


theorem any_escQ_sep (s : List Char) : (escQ s).any isSepC = s.any isSepC := by
  induction s with
  | nil => rfl
  | cons c r ih =>
    by_cases hc : (isEscC c || isQuoteC c) = true
    · simp [escQ, hc, ih, isSepC]
    · simp_all [escQ]

/-- a double quote toggles the quoting state (the single quote likewise, not needed here) -/
theorem splitU_quote (q : Bool) (cur rest : List Char) :
    splitU q cur ('"' :: rest) = splitU (!q) cur rest := by
  rw [splitU.eq_def]; simp [isEscC, isSepC, isQuoteC]

/-- an escaped value, wrapped in quotes whenever it contains a separator, is read back unchanged -/
theorem splitU_wrapIf (w : Bool) (s cur rest : List Char) (h : w = true ∨ s.any isSepC = false) :
    splitU false cur (wrapIf w (escQ s) ++ rest) = splitU false (s.reverse ++ cur) rest := by
  cases w with
  | false =>
    have h' : s.any isSepC = false := by rcases h with h | h; exact absurd h (by decide); exact h
    simp only [wrapIf, Bool.false_eq_true, if_false]
    exact splitU_escQ s false cur rest (Or.inr h')
  | true =>
    simp only [wrapIf, if_true, List.cons_append, List.append_assoc, List.nil_append]
    rw [splitU_quote, Bool.not_false, splitU_escQ s true cur _ (Or.inl rfl), splitU_quote]
    rfl

theorem splitU_plainPrefix (pre : List Char) (hp : ∀ c ∈ pre, isEscC c = false ∧ isQuoteC c = false ∧ isSepC c = false) :
    ∀ (q : Bool) (cur rest : List Char), splitU q cur (pre ++ rest) = splitU q (pre.reverse ++ cur) rest := by
  induction pre with
  | nil => intro q cur rest; rfl
  | cons c r ih =>
    intro q cur rest
    obtain ⟨he, hq, hs⟩ := hp c (by simp)
    rw [List.cons_append, splitU_plain q cur _ c he hq hs, ih (fun d hd => hp d (by simp [hd]))]
    simp

/-- outside quotes the end of the input closes the current token -/
theorem splitU_nil (cur : List Char) : splitU false cur [] = some [cur.reverse] := by
  rw [splitU.eq_def]

/-- outside quotes a blank closes the current token -/
theorem splitU_blank (cur rest : List Char) :
    splitU false cur (' ' :: rest) = (splitU false [] rest).map (cur.reverse :: ·) := by
  rw [splitU.eq_def]; simp [isEscC, isSepC]

/-- **round trip**: tokens `pre ++ f a`, joined by blanks, are split back into `pre ++ a`, for every
    encoding `f` of the shape "escape, wrap in quotes if it contains a separator" -/
theorem splitU_joinWith (pre : List Char) (hp : ∀ c ∈ pre, isEscC c = false ∧ isQuoteC c = false ∧ isSepC c = false)
    (w : List Char → Bool) (hw : ∀ a, w a = true ∨ a.any isSepC = false) (args : List (List Char))
    (hne : args ≠ []) :
    splitU false [] (joinWith pre (fun a => wrapIf (w a) (escQ a)) args) = some (args.map (pre ++ ·)) := by
  induction args with
  | nil => exact absurd rfl hne
  | cons a t ih =>
    cases t with
    | nil =>
      simp only [joinWith]
      have := splitU_wrapIf (w a) a (pre.reverse ++ []) [] (hw a)
      rw [splitU_plainPrefix pre hp, ← List.append_nil (wrapIf (w a) (escQ a)), this, splitU_nil]
      simp
    | cons b r =>
      simp only [joinWith, List.append_assoc]
      rw [splitU_plainPrefix pre hp, splitU_wrapIf (w a) a _ _ (hw a), splitU_blank, ih (by simp)]
      simp


theorem posPrefix_plain : ∀ c ∈ posPrefix, isEscC c = false ∧ isQuoteC c = false ∧ isSepC c = false := by
  decide

theorem helperArgs_cons_pos (a : List Char) (t : List (List Char)) :
    helperArgs ((posPrefix ++ a) :: t) = a :: helperArgs t := by
  simp [helperArgs, posPrefix, dropThroughEq]

theorem helperArgs_positional (pos : List (List Char)) :
    helperArgs (pos.map (posPrefix ++ ·)) = pos := by
  induction pos with
  | nil => rfl
  | cons a t ih => rw [List.map_cons, helperArgs_cons_pos, ih]

theorem filter_nonempty_prefixed (pos : List (List Char)) :
    (pos.map (posPrefix ++ ·)).filter (fun t => !t.isEmpty) = pos.map (posPrefix ++ ·) := by
  induction pos with
  | nil => rfl
  | cons a t ih => simp [posPrefix]

theorem any_or_left {α : Type} (l : List α) (f g : α → Bool) (h : l.any f = true) :
    l.any (fun c => f c || g c) = true := by
  simp only [List.any_eq_true] at h ⊢
  obtain ⟨c, hc, hf⟩ := h
  exact ⟨c, hc, by simp [hf]⟩

end PikaVerif.Config
