import PikaVerif.Lemmas.OnceU4
/-!
# C09u, call_once: every run of `k` callers extends to a maximal one

A state in which only spins (`evLoad t true`) are accepted is not final: the status is not
`running` there (the winner would have an enabled event), so after the spin the caller either wins
the CAS (`onceLoad, onceWon, stored false`) or sees `complete` and returns (`onceLoad, ret, done`);
these four events together lower `phi`.
-/
namespace PikaVerif.Once
open PikaVerif.C09

def PReach (thr : Nat → Bool) (k : Nat) (p : PSt) : Prop :=
  ∃ log, runLog pstep (pinit k (callers thr)) log = some p

theorem PReach.extend {thr : Nat → Bool} {k : Nat} {p p' : PSt} (hr : PReach thr k p) (ext : List Ev)
    (h : runLog pstep p ext = some p') : PReach thr k p' := by
  obtain ⟨log, hl⟩ := hr
  exact ⟨log ++ ext, by rw [runLog_append, hl]; exact h⟩

theorem spin_facts (p p1 : PSt) (t : Nat) (v : Bool) (h : pstep p (.evLoad t v) = some p1) :
    p1.s.status = p.s.status ∧ p1.s.n = p.s.n ∧ p1.prog = p.prog := by
  obtain ⟨_, _, _, _, hs⟩ := step_evLoad (pstep_step h)
  exact ⟨by rw [hs], by rw [hs], (pstep_other h nofun).1⟩

theorem ex_onceLoad (p : PSt) (t : Nat) (th : Bool) (htn : t < p.s.n) (hpc : p.s.pc t = .cLoad th) :
    ∃ p', pstep p (.onceLoad t) = some p' ∧
      p'.s.pc t = (if p.s.status = .complete then .retn 0 else .cCas th) ∧
      p'.s.status = p.s.status ∧ p'.s.n = p.s.n ∧ p'.prog = p.prog :=
  ⟨⟨{ p.s with pc := upd p.s.pc t (if p.s.status = .complete then .retn 0 else .cCas th) }, p.prog, p.res⟩,
    by simp [pstep, step, htn, hpc], by simp, rfl, rfl, rfl⟩

theorem ex_onceWon (p : PSt) (t : Nat) (th : Bool) (htn : t < p.s.n) (hpc : p.s.pc t = .cCas th)
    (hz : p.s.status = .zero) :
    ∃ p', pstep p (.onceWon t) = some p' ∧ p'.s.pc t = .cReset th ∧ p'.s.n = p.s.n :=
  ⟨⟨{ p.s with status := .running, wins := p.s.wins + 1, pc := upd p.s.pc t (.cReset th) }, p.prog, p.res⟩,
    by simp [pstep, step, htn, hpc, hz], by simp, rfl⟩

theorem ex_storedReset (p : PSt) (t : Nat) (th : Bool) (htn : t < p.s.n) (hpc : p.s.pc t = .cReset th) :
    ∃ p', pstep p (.stored t false) = some p' :=
  ⟨_, by simp [pstep, step, htn, hpc]; rfl⟩

theorem ex_body (p : PSt) (t : Nat) (th : Bool) (htn : t < p.s.n) (hpc : p.s.pc t = .cBody th) :
    ∃ p', pstep p (.body t th) = some p' :=
  ⟨_, by simp [pstep, step, htn, hpc]; rfl⟩

theorem ex_onceStored (p : PSt) (t : Nat) (th : Bool) (htn : t < p.s.n) (hpc : p.s.pc t = .cRan th) :
    ∃ p', pstep p (.onceStored t (!th)) = some p' :=
  ⟨_, by simp [pstep, step, htn, hpc]; rfl⟩

theorem ex_ret0 (p : PSt) (t : Nat) (htn : t < p.s.n) (hpc : p.s.pc t = .retn 0) :
    ∃ p', pstep p (.ret t 0) = some p' ∧ p'.s.pc t = .idle ∧ p'.s.n = p.s.n ∧ p'.prog = p.prog :=
  ⟨⟨{ p.s with pc := upd p.s.pc t .idle }, p.prog, upd p.res t (some 0)⟩,
    by simp [pstep, step, htn, hpc], by simp, rfl, rfl⟩

theorem ex_done (p : PSt) (t : Nat) (htn : t < p.s.n) (hpc : p.s.pc t = .idle) (hp : p.prog t = []) :
    ∃ p', pstep p (.done t) = some p' :=
  ⟨_, by simp [pstep, step, htn, hpc, hp]; rfl⟩


/-- **Progress modulo spins.**  From a reachable state of `k` callers that is not maximal there is
    a non-empty accepted continuation (one non-spin event, or a spin followed by three non-spin
    events of the same caller) that lowers `phi`. -/
theorem progress (thr : Nat → Bool) (k : Nat) (p : PSt) (hr : PReach thr k p) (hns : ¬ PStuck p) :
    ∃ ext p1, ext.length ≤ 4 ∧ runLog pstep p ext = some p1 ∧ phi p1 < phi p := by
  obtain ⟨log, hlog⟩ := hr
  obtain ⟨hA, hP, hJ⟩ := J_of_accepted thr k log p hlog
  by_cases hq : ∃ e p1, (∀ t, e ≠ .evLoad t true) ∧ pstep p e = some p1
  · obtain ⟨e, p1, hne, he⟩ := hq
    exact ⟨[e], p1, by simp, by simp [runLog, he], phi_step he hne⟩
  · have hq' : ∀ e p1, (∀ t, e ≠ .evLoad t true) → pstep p e ≠ some p1 :=
      fun e p1 hne he => hq ⟨e, p1, hne, he⟩
    have : ∃ e, pstep p e ≠ none := Classical.byContradiction (fun hc => hns (fun e =>
      Classical.byContradiction (fun hn => hc ⟨e, hn⟩)))
    obtain ⟨e, he⟩ := this
    cases hp1 : pstep p e with
    | none => exact absurd hp1 he
    | some p1 =>
      have hspin : ∃ t, e = .evLoad t true := Classical.byContradiction (fun hc =>
        hq' e p1 (fun t het => hc ⟨t, het⟩) hp1)
      obtain ⟨t, het⟩ := hspin
      subst het
      obtain ⟨hpc, hf, hpc1⟩ := callers_spin_ctx thr p p1 t hA hJ hp1
      obtain ⟨hst1, hn1, hprog1⟩ := spin_facts p p1 t true hp1
      have htn : t < p.s.n := (step_evLoad (pstep_step hp1)).choose_spec.1
      have htn1 : t < p1.s.n := hn1 ▸ htn
      have h1 := phi_spin hp1
      obtain ⟨p2, e2, hpc2, hst2, hn2, hprog2⟩ := ex_onceLoad p1 t (thr t) htn1 hpc1
      have h2 := phi_step e2 nofun
      have htn2 : t < p2.s.n := hn2 ▸ htn1
      cases hstat : p.s.status with
      | running =>
        exfalso
        have hrs := hP.runOne
        rw [hstat] at hrs
        simp [rsum] at hrs
        obtain ⟨u, hu, hpos⟩ := exists_pos_of_sumTo_pos (f := fun t => runW (p.s.pc t)) (by rw [hrs]; exact Nat.one_pos)
        cases hpcu : p.s.pc u <;> simp only [hpcu, runW] at hpos <;> try omega
        · obtain ⟨q, hq1⟩ := ex_storedReset p u _ hu hpcu
          exact hq' _ q (by intro _ he; cases he) hq1
        · obtain ⟨q, hq1⟩ := ex_body p u _ hu hpcu
          exact hq' _ q (by intro _ he; cases he) hq1
        · obtain ⟨q, hq1⟩ := ex_onceStored p u _ hu hpcu
          exact hq' _ q (by intro _ he; cases he) hq1
      | zero =>
        rw [hst1, hstat] at hpc2
        simp only [reduceCtorEq, if_false] at hpc2
        obtain ⟨p3, e3, hpc3, hn3⟩ := ex_onceWon p2 t (thr t) htn2 hpc2 (by rw [hst2, hst1, hstat])
        have h3 := phi_step e3 nofun
        obtain ⟨p4, e4⟩ := ex_storedReset p3 t (thr t) (hn3 ▸ htn2) hpc3
        have h4 := phi_step e4 nofun
        exact ⟨[.evLoad t true, .onceLoad t, .onceWon t, .stored t false], p4, by simp,
          by simp [runLog, hp1, e2, e3, e4], by omega⟩
      | complete =>
        rw [hst1, hstat] at hpc2
        simp only [if_true] at hpc2
        obtain ⟨p3, e3, hpc3, hn3, hprog3⟩ := ex_ret0 p2 t htn2 hpc2
        have h3 := phi_step e3 nofun
        have hpt : p.prog t = [] := by
          rcases hJ.st t with ⟨_, a2, _⟩ | ⟨b1, _⟩
          · rw [hpc] at a2; cases a2
          · exact b1
        obtain ⟨p4, e4⟩ := ex_done p3 t (hn3 ▸ htn2) hpc3 (by rw [hprog3, hprog2, hprog1]; exact hpt)
        have h4 := phi_step e4 nofun
        exact ⟨[.evLoad t true, .onceLoad t, .ret t 0, .done t], p4, by simp,
          by simp [runLog, hp1, e2, e3, e4], by omega⟩

theorem exists_maximal (thr : Nat → Bool) (k : Nat) (p : PSt) (hr : PReach thr k p) :
    ∃ ext p', runLog pstep p ext = some p' ∧ PStuck p' := by
  obtain ⟨ext, p', he, _, hs, _⟩ := exists_maximal_run (step := pstep) (PReach thr k) PStuck phi
    (fun _ => True) 4 trivial (fun _ _ _ _ => trivial)
    (fun p hr hns => by
      obtain ⟨ext, p1, hl, he, hlt⟩ := progress thr k p hr hns
      exact ⟨ext, p1, he, hr.extend ext he, trivial, hlt, by omega⟩) p hr
  exact ⟨ext, p', he, hs⟩

end PikaVerif.Once
