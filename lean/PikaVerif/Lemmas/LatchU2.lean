import PikaVerif.Lemmas.LatchU
/-!
# Accounting of the decrements of a latch program (C09u)

`total l` = sum of the updates of the `count_down(k)` / `arrive_and_wait(k)` of a thread's list,
`free l` = the part of it that is **not behind a wait of the same thread** (updates up to and
including the first `wait` / `arrive_and_wait`), `hasWait l` = the list contains a `wait` or an
`arrive_and_wait`.

* `cover_log`: `decSum` + decrements still to come = `progTotal` (exact), and
  `decSum` + free decrements still to come ≥ `progFree` (monotone);
* `wt_step`: while the counter stays positive a thread whose program contains a waiting operation
  is still in front of it or inside it on the blocking side;
* `finOk_step`: a finished thread has no operation left.
-/
namespace PikaVerif.Latch

def total : List Op → Nat
  | [] => 0
  | o :: l => decOf o + total l

def free : List Op → Nat
  | [] => 0
  | o :: l => if isWaitOp o then decOf o else decOf o + free l

def hasWait : List Op → Bool
  | [] => false
  | o :: l => isWaitOp o || hasWait l

theorem free_le_total : ∀ l, free l ≤ total l
  | [] => Nat.le_refl _
  | o :: l => by
    have := free_le_total l
    simp only [free, total]; split <;> omega

/-- inside `wait` / `arrive_and_wait` on the blocking side, no wake-up under way -/
def waitingPc : Pc → Bool
  | .want .wait | .want (.aw _) | .wLocked | .awLocked _ | .mustEnq | .enq | .unl false | .susp false => true
  | _ => false

set_option hygiene false in
macro "lacc_step" t:term : tactic => `(tactic| (
  simp only [step] at h
  split at h
  case isFalse => simp at h
  rename_i hg
  have htn : $t < s.n := by grind
  repeat' split at h
  all_goals first | (simp at h; done) | skip
  all_goals (
    simp only [Option.some.injEq] at h
    subst h
    refine ⟨$t, htn, ?_, ?_, ?_⟩
    · intro u hu; simp [upd, hu]
    · simp only [upd_same]; grind
    · simp only [upd_same]; grind)))

variable {s s' : St} {t : Nat} {e : Ev}

/-- decrements thread `t` still has to apply -/
def remTot (p : PSt) (t : Nat) : Nat := pend (p.s.pc t) + total (p.prog t)

/-- free decrements thread `t` will still apply (lower bound) -/
def remFree (p : PSt) (t : Nat) : Nat :=
  pend (p.s.pc t) + (if inWait (p.s.pc t) = true then 0 else free (p.prog t))

def totSum (p : PSt) : Nat := p.s.decSum + sumTo p.s.n (remTot p)
def freeSum (p : PSt) : Nat := p.s.decSum + sumTo p.s.n (remFree p)

theorem cover_step {p p' : PSt} (h : pstep p e = some p') :
    totSum p' = totSum p ∧ freeSum p ≤ freeSum p' := by
  obtain ⟨hs, ⟨t, o, rest, rfl, hp, hp'⟩ | ⟨hne, hp', _⟩⟩ := layer.sound h
  · -- the decrement of `o` passes from the list to the program counter
    obtain ⟨htn, hidle, hs⟩ := step_inv hs
    have hpc : p'.s.pc = upd p.s.pc t (.want o) := by rw [hs]
    have c1 := sumTo_change (f := remTot p) (f' := remTot p') htn (by
      intro u _ hu; simp only [remTot, hpc, hp', upd, hu, if_false])
    have c2 := sumTo_change (f := remFree p) (f' := remFree p') htn (by
      intro u _ hu; simp only [remFree, hpc, hp', upd, hu, if_false])
    have e1 : remTot p' t = remTot p t := by
      simp only [remTot, hpc, hp', upd_same, hp, hidle, pend, total]; omega
    have e2 : remFree p' t = remFree p t := by
      simp only [remFree, hpc, hp', upd_same, hp, hidle, pend, free, inWait]
      cases o <;> simp [isWaitOp, decOf]
    simp only [totSum, freeSum, hs]
    omega
  · obtain ⟨t, htn, ho, -, hd, hw, -⟩ := acc_step hne hs
    have c1 := sumTo_change (f := remTot p) (f' := remTot p') htn (by
      intro u _ hu; simp only [remTot, hp', (ho u hu).2.1])
    have c2 := sumTo_change (f := remFree p) (f' := remFree p') htn (by
      intro u _ hu; simp only [remFree, hp', (ho u hu).2.1, (ho u hu).2.2.1])
    simp only [totSum, freeSum, (step_n hs).1]
    have e1 : p'.s.decSum + remTot p' t = p.s.decSum + remTot p t := by
      simp only [remTot, hp']; omega
    have e2 : p.s.decSum + remFree p t ≤ p'.s.decSum + remFree p' t := by
      simp only [remFree, hp']
      by_cases hw' : inWait (p'.s.pc t) = true
      · rw [if_pos hw', if_pos (hw hw')]; omega
      · rw [if_neg hw']; split <;> omega
    omega

theorem cover_log {log : List Ev} {p p' : PSt} (h : runLog pstep p log = some p') :
    totSum p' = totSum p ∧ freeSum p ≤ freeSum p' :=
  inv_of_runLog (fun q => totSum q = totSum p ∧ freeSum p ≤ freeSum q)
    (fun _ _ _ hi hs => ⟨(cover_step hs).1.trans hi.1, Nat.le_trans hi.2 (cover_step hs).2⟩)
    ⟨rfl, Nat.le_refl _⟩ h

def progTotal (n : Nat) (prog : Nat → List Op) : Nat := sumTo n (fun t => total (prog t))
def progFree (n : Nat) (prog : Nat → List Op) : Nat := sumTo n (fun t => free (prog t))

theorem cover_pinit (n : Nat) (c : Int) (prog : Nat → List Op) :
    totSum (pinit n c prog) = progTotal n prog ∧ freeSum (pinit n c prog) = progFree n prog := by
  constructor
  · simp only [totSum, pinit, init, progTotal, Nat.zero_add]
    exact sumTo_congr (fun t _ => by simp [remTot, pend])
  · simp only [freeSum, pinit, init, progFree, Nat.zero_add]
    exact sumTo_congr (fun t _ => by simp [remFree, pend, inWait])

def FinOk (p : PSt) : Prop := ∀ t, p.s.pc t = .fin → p.prog t = []

theorem finOk_step {p p' : PSt} (hf : FinOk p) (h : pstep p e = some p') : FinOk p' :=
  layer.finished_step (fin := fun s t => s.pc t = .fin) step_fin hf h

def Wt (prog0 : Nat → List Op) (p : PSt) : Prop :=
  ∀ t, hasWait (prog0 t) = true → hasWait (p.prog t) = true ∨ waitingPc (p.s.pc t) = true

theorem waiting_move {s₁ : St} {p' : Pc} (hpc : s₁.pc = upd s.pc t p')
    (hw : waitingPc (s.pc t) = true → waitingPc p' = true) (u : Nat)
    (hu : waitingPc (s.pc u) = true) : waitingPc (s₁.pc u) = true := by
  rw [hpc]
  by_cases hut : u = t
  · subst hut; rw [upd_same]; exact hw hu
  · rwa [upd_other _ _ _ _ hut]

/-- model level: with the counter positive after the step, a thread on the blocking side of a
    wait stays there.  The ways out are closed: `nowait` and the notify loop need the counter at
    or below zero, the last arrival of `arrive_and_wait` brings it there, `woke` needs a token. -/
theorem waiting_step (hi : Inv s) (hc : 0 < s'.counter) (hne : ∀ t o, e ≠ .inv t o)
    (h : step s e = some s') : ∀ u, waitingPc (s.pc u) = true → waitingPc (s'.pc u) = true := by
  cases e with
  | inv t o => exact absurd rfl (hne t o)
  | suspend t =>
    obtain ⟨_, p, hp, rfl⟩ := step_suspend h
    exact waiting_move rfl (by cases p <;> simp [hp, waitingPc])
  | woke t =>
    obtain ⟨_, htok, p, hp, rfl⟩ := step_woke h
    have := hi.tokInv t
    exact waiting_move rfl (by cases p <;> simp_all [waitingPc, tokOf, b2n])
  | popResume t z g =>
    obtain ⟨_, _, hp, _, _, _, _, rfl⟩ := step_popResume h
    have := hi.notifiedZero (hi.ntf t (by rw [hp]; rfl))
    exact absurd hc (by simp only; omega)
  | _ =>
    simp only [step] at h
    repeat' split at h
    all_goals cases h
    all_goals refine waiting_move rfl ?_
    all_goals simp_all [waitingPc]
    all_goals omega

theorem wt_step (prog0 : Nat → List Op) {p p' : PSt} (hi : Inv p.s) (hc : 0 < p'.s.counter)
    (hw : Wt prog0 p) (h : pstep p e = some p') : Wt prog0 p' := by
  intro u hu
  obtain ⟨hs, ⟨t, o, rest, rfl, hp, hp'⟩ | ⟨hne, hp', _⟩⟩ := layer.sound h
  · obtain ⟨_, hidle, hs⟩ := step_inv hs
    rw [hs, hp']
    by_cases hut : u = t
    · subst hut
      simp only [upd_same]
      rcases hw u hu with h1 | h1
      · rw [hp] at h1
        simp only [hasWait, Bool.or_eq_true] at h1
        rcases h1 with h1 | h1
        · right; cases o <;> simp [isWaitOp] at h1 <;> simp [waitingPc]
        · left; exact h1
      · rw [hidle] at h1; simp [waitingPc] at h1
    · simp only [upd_other _ _ _ _ hut]; exact hw u hu
  · rw [hp']
    exact (hw u hu).imp id (waiting_step hi hc hne hs u)

end PikaVerif.Latch
