import PikaVerif.Lemmas.X86
import PikaVerif.Model.Rebind
import PikaVerif.Lemmas.StackClass
/-!
# C12 — A task's context survives suspension, migration and recycling

Three parts.  (b), further down: a recycled thread object starts clean (the generated tables of
`Gen/Rebind.lean`).  (c), at the end: a recycled object is only rebound to a task of the same physical
stack size (`Model/StackClass.lean`).  Part (a): the context-switch routine.  `Gen.SwapAsm.prog` is the instruction list of
`swapcontext_stack` / `swapcontext_stack2`, regenerated from the asm text on every run, together
with `contextSize`, `cbIdx`, `funpIdx` from `context_linux_x86.hpp`.  The theorems are about
*every* machine state that satisfies the stated alignment/disjointness hypotheses — any register
contents, any stack depth, any memory contents, any code running in between.

Nothing in the statements refers to a worker: `s2` in `C12_swap_roundtrip` is an arbitrary machine
state (any hardware thread, any register file), only memory is shared.  That is migration.
-/
namespace PikaVerif.C12
open PikaVerif.X86 PikaVerif.Gen.SwapAsm

/-- The situation of `swap A→B ; … ; swap →A`.
* `s0`: task A (or the scheduler) calls the routine: `rsp` points at the return address, A's stack
  region is `[lo, hi)`, `rdi = &from.m_sp` lies outside it, `rsi` is the target's saved `m_sp`.
* `s1`: state at the routine's `jmp`.
* `s2`: *any* later state in which some context switches back to A — its `rsi` is the value the first
  switch stored through `rdi`; whatever ran in between left A's region `[lo, hi)` alone; the stack
  and the `from` slot of the context that is now switching out do not overlap A's region.
* `s3`: state at the second `jmp`. -/
structure Roundtrip (s0 s1 s2 s3 : St) (t1 t3 lo hi : Nat) : Prop where
  sp_al : s0.reg .rsp % 8 = 0
  sp_lo : lo + 64 ≤ s0.reg .rsp
  sp_hi : s0.reg .rsp + 8 ≤ hi
  hi_W : hi + 16 < W
  from_al : s0.reg .rdi % 8 = 0
  from_W : s0.reg .rdi < W
  from_out : s0.reg .rdi + 8 ≤ lo ∨ hi ≤ s0.reg .rdi
  to_al : s0.reg .rsi % 8 = 0
  to_W : s0.reg .rsi + 88 < W
  run1 : run prog s0 = some (s1, t1)
  preserved : ∀ a, lo ≤ a → a < hi → s2.mem a = s1.mem a
  back : s2.reg .rsi = s1.mem (s0.reg .rdi)
  sp2_al : s2.reg .rsp % 8 = 0
  sp2_64 : 64 ≤ s2.reg .rsp
  sp2_out : s2.reg .rsp ≤ lo ∨ hi + 64 ≤ s2.reg .rsp
  from2_al : s2.reg .rdi % 8 = 0
  from2_W : s2.reg .rdi < W
  from2_out : s2.reg .rdi + 8 ≤ lo ∨ hi ≤ s2.reg .rdi
  run3 : run prog s2 = some (s3, t3)

/-- **Round trip.**  After `swap A→B`, anything that preserves A's stack region, and a swap back to
    A: control returns to A's return address with `rsp` as after a `ret`, the callee-saved registers
    `rbx rbp r12 r13 r14 r15` have the values A had when it called the routine, and every byte of A's
    stack at or above its stack pointer is untouched. -/
theorem C12_swap_roundtrip {s0 s1 s2 s3 : St} {t1 t3 lo hi : Nat} (h : Roundtrip s0 s1 s2 s3 t1 t3 lo hi) :
    t3 = s0.mem (s0.reg .rsp) ∧ s3.reg .rsp = s0.reg .rsp + 8 ∧
    s3.reg .rbx = s0.reg .rbx ∧ s3.reg .rbp = s0.reg .rbp ∧ s3.reg .r12 = s0.reg .r12 ∧
    s3.reg .r13 = s0.reg .r13 ∧ s3.reg .r14 = s0.reg .r14 ∧ s3.reg .r15 = s0.reg .r15 ∧
    ∀ a, s0.reg .rsp ≤ a → a < hi → s3.mem a = s0.mem a := by
  obtain ⟨sp_al, sp_lo, sp_hi, hi_W, from_al, from_W, from_out, to_al, to_W, run1, pres, back, sp2_al, sp2_64,
    sp2_out, from2_al, from2_W, from2_out, run3⟩ := h
  have h64 : 64 ≤ s0.reg .rsp := by omega
  have p1 := swap_post run1 sp_al h64 to_al to_W from_al from_W
  have hback : s2.reg .rsi = s0.reg .rsp - 64 := by rw [back, p1.mem, savedMem_from]
  have p3 := swap_post run3 sp2_al sp2_64 (by omega) (by omega) from2_al from2_W
  -- what the second switch leaves in A's region is what the first one wrote there
  have rd : ∀ a, lo ≤ a → a < hi → s3.mem a = savedMem s0 a := by
    intro a h1 h2
    rw [p3.mem, savedMem_outside s2 a sp2_64 (by omega) (by omega), pres a h1 h2, p1.mem]
  have out : ∀ a, s0.reg .rsp ≤ a → a < hi → savedMem s0 a = s0.mem a := fun a h1 h2 =>
    savedMem_outside s0 a h64 (Or.inr h1) (by omega)
  -- every pushed register (also `rax`, `rdx`) is popped from the slot it was pushed to
  have hr : ∀ r k, slot r = some k → s3.reg r = s0.reg r := by
    intro r k hk
    have := slot_lt hk
    rw [p3.pop r k hk, hback, rd _ (by omega) (by omega), savedMem_slot s0 h64 (by omega) hk]
  refine ⟨?_, ?_, hr .rbx 48 rfl, hr .rbp 56 rfl, hr .r12 24 rfl, hr .r13 16 rfl, hr .r14 8 rfl, hr .r15 0 rfl,
    fun a h1 h2 => ?_⟩
  · rw [p3.tgt, hback, Nat.sub_add_cancel h64, pres _ (by omega) (by omega), p1.mem, out _ (Nat.le_refl _) (by omega)]
  · rw [p3.rsp, hback]; omega
  · rw [rd a (by omega) h2, out a h1 h2]

/-- **Frame locality.**  One execution of the routine writes only the 64 bytes below the caller's
    stack pointer and the `from` slot: any region `[lo, hi)` that contains neither (another task's
    stack) is left untouched.  This discharges the `preserved` hypothesis of `Roundtrip` for every
    context switch performed by *other* contexts while A is suspended. -/
theorem C12_swap_frame_local (s s' : St) (t lo hi : Nat)
    (hsp : s.reg .rsp % 8 = 0) (hsp1 : 64 ≤ s.reg .rsp)
    (hto : s.reg .rsi % 8 = 0) (hto2 : s.reg .rsi + 88 < W) (hfrom : s.reg .rdi % 8 = 0)
    (hfrom2 : s.reg .rdi < W)
    (hstack : s.reg .rsp ≤ lo ∨ hi + 64 ≤ s.reg .rsp) (hslot : s.reg .rdi + 8 ≤ lo ∨ hi ≤ s.reg .rdi)
    (h : run prog s = some (s', t)) : ∀ a, lo ≤ a → a < hi → s'.mem a = s.mem a := by
  intro a h1 h2
  rw [(swap_post h hsp hsp1 hto hto2 hfrom hfrom2).mem, savedMem_outside s a hsp1 (by omega) (by omega)]

/-- a switch performed by a context whose stack and `from` slot lie outside `[lo, hi)` -/
structure Foreign (lo hi : Nat) (s s' : St) (t : Nat) : Prop where
  sp_al : s.reg .rsp % 8 = 0
  sp_64 : 64 ≤ s.reg .rsp
  to_al : s.reg .rsi % 8 = 0
  to_W : s.reg .rsi + 88 < W
  from_al : s.reg .rdi % 8 = 0
  from_W : s.reg .rdi < W
  stack_out : s.reg .rsp ≤ lo ∨ hi + 64 ≤ s.reg .rsp
  slot_out : s.reg .rdi + 8 ≤ lo ∨ hi ≤ s.reg .rdi
  run : X86.run prog s = some (s', t)

/-- A history of the rest of the system while A is suspended: any number of switches by other
    contexts; before each switch, arbitrary code has run that did not write `[lo, hi)`. -/
def OtherActivity (lo hi : Nat) : (Nat → Nat) → List (St × St × Nat) → Prop
  | _, [] => True
  | m, (s, s', t) :: rest =>
    (∀ a, lo ≤ a → a < hi → s.mem a = m a) ∧ Foreign lo hi s s' t ∧ OtherActivity lo hi s'.mem rest

/-- the memory after the last of the switches `steps` (the given memory if there is none) -/
def finalMem : (Nat → Nat) → List (St × St × Nat) → (Nat → Nat)
  | m, [] => m
  | _, (_, s', _) :: rest => finalMem s'.mem rest

/-- **Any number of switches by other contexts** (with arbitrary non-interfering code in between)
    leaves A's region as it was — the `preserved` hypothesis of `Roundtrip` follows from stack
    disjointness alone, for histories of any length. -/
theorem C12_region_preserved_by_other_switches (lo hi : Nat) :
    ∀ (steps : List (St × St × Nat)) (m : Nat → Nat), OtherActivity lo hi m steps →
      ∀ a, lo ≤ a → a < hi → finalMem m steps a = m a := by
  intro steps
  induction steps with
  | nil => intro m _ a _ _; rfl
  | cons x rest ih =>
    obtain ⟨s, s', t⟩ := x
    intro m h a h1 h2
    obtain ⟨hm, hf, hr⟩ := h
    simp only [finalMem]
    rw [ih s'.mem hr a h1 h2,
      C12_swap_frame_local s s' t lo hi hf.sp_al hf.sp_64 hf.to_al hf.to_W hf.from_al hf.from_W hf.stack_out
        hf.slot_out hf.run a h1 h2, hm a h1 h2]

/-- The routine is total on aligned states: it always reaches its `jmp` (never the `ud2`, never a
    misaligned access). -/
theorem C12_swap_defined (s : St) (hsp : s.reg .rsp % 8 = 0) (hsp1 : 64 ≤ s.reg .rsp)
    (hto : s.reg .rsi % 8 = 0) (hto2 : s.reg .rsi + 88 < W) (hfrom : s.reg .rdi % 8 = 0)
    (hfrom2 : s.reg .rdi < W) : ∃ s' t, run prog s = some (s', t) := by
  obtain ⟨s', t, h, _⟩ := swap_spec s hsp hsp1 hto hto2 hfrom hfrom2
  exact ⟨s', t, h⟩

/-- **First entry.**  A context whose frame was built by `init()` / `rebind_stack()` on a stack
    `[stack, stack+size)` whose top is 16-byte aligned (`mmap` gives page alignment, `check_stack_size`
    a page-multiple size) and that has not been written since: switching to it (from a context whose
    own stack and `from` slot lie outside the new stack) jumps to the trampoline `funp` with
    `rdi = cb` (the coroutine object), with the stack pointer inside the new stack and aligned as the
    System V ABI requires at function entry (`rsp + 8` is a multiple of 16). -/
theorem C12_first_entry (s s' : St) (t stack size cb funp : Nat) (m : Nat → Nat)
    (hsz : 8 * contextSize ≤ size) (htop : (stack + size) % 16 = 0) (hW : stack + size < W)
    (hmem : ∀ a, stack ≤ a → a < stack + size →
      s.mem a = initFrame m stack size contextSize cbIdx funpIdx cb funp a)
    (hto : s.reg .rsi = frameSp stack size contextSize)
    (hsp : s.reg .rsp % 8 = 0) (hsp64 : 64 ≤ s.reg .rsp)
    (hout : s.reg .rsp ≤ stack ∨ stack + size + 64 ≤ s.reg .rsp)
    (hfrom : s.reg .rdi % 8 = 0) (hfromW : s.reg .rdi < W)
    (hfrom_out : s.reg .rdi + 8 ≤ stack ∨ stack + size ≤ s.reg .rdi)
    (h : run prog s = some (s', t)) :
    t = funp ∧ s'.reg .rdi = cb ∧ (s'.reg .rsp + 8) % 16 = 0 ∧
    stack ≤ s'.reg .rsp ∧ s'.reg .rsp + 16 ≤ stack + size := by
  -- `f`: the frame pointer `m_sp` the constructor left, 12 words below the top of the stack
  obtain ⟨f, hf⟩ : ∃ f, stack + size = f + 96 :=
    ⟨_, (Nat.sub_add_cancel (Nat.le_trans hsz (Nat.le_add_left _ _))).symm⟩
  have hsf : stack ≤ f := by simp only [contextSize] at hsz; omega
  have hto : s.reg .rsi = f := by rw [hto, frameSp, hf]; exact Nat.add_sub_cancel f 96
  simp only [initFrame, frameSp, hf, contextSize, cbIdx, funpIdx, Nat.add_sub_cancel] at hmem
  rw [hf] at htop hW hout hfrom_out
  have p1 := swap_post h hsp hsp64 (by omega) (by omega) hfrom hfromW
  refine ⟨?_, ?_, ?_, ?_, ?_⟩
  · rw [p1.tgt, hto, hmem _ (by omega) (by omega)]
    exact upd_same _ _ _
  · rw [p1.rdi, p1.mem, hto, savedMem_outside s _ hsp64 (by omega) (by omega), hmem _ (by omega) (by omega),
      upd_other _ _ _ _ (by omega)]
    exact upd_same _ _ _
  · rw [p1.rsp, hto]; omega
  · rw [p1.rsp, hto]; omega
  · rw [hf, p1.rsp, hto]; omega

/-! ### Floating-point control state is *not* part of the saved context

The property text asks that the floating-point register state survive a yield.  The data registers
(xmm/x87 stack) are caller-saved in the System V ABI and are dead across the call of the routine; but
the *control* state — `MXCSR` (SSE rounding mode, exception masks) and the x87 control word — is
callee-saved by the ABI and is neither stored nor reloaded by the generated instruction list.  So the
round-trip theorem cannot be extended to it: -/

/-- no instruction of the list loads `MXCSR` / the x87 control word -/
def noFpLoad : List Instr → Bool
  | [] => true
  | .ldmxcsr _ _ :: _ => false
  | .fldcw _ _ :: _ => false
  | _ :: l => noFpLoad l

/-- an instruction other than `ldmxcsr` / `fldcw` (that is what `noFpLoad [i]` says) leaves the FP control state -/
theorem exec_fp (i : Instr) (s s' : St) (hi : noFpLoad [i] = true) (h : exec i s = some s') :
    s'.mxcsr = s.mxcsr ∧ s'.fcw = s.fcw := by
  -- every instruction other than the two loads writes registers or memory only
  cases i <;> simp only [exec, noFpLoad] at h hi <;> (try split at h) <;> cases h <;>
    first | exact ⟨rfl, rfl⟩ | cases hi

/-- a routine without `ldmxcsr` / `fldcw` leaves the FP control state -/
theorem run_fp (l : List Instr) : ∀ (s s' : St) (t : Nat), noFpLoad l = true → run l s = some (s', t) →
    s'.mxcsr = s.mxcsr ∧ s'.fcw = s.fcw := by
  induction l with
  | nil => intro s s' t _ h; simp [run] at h
  | cons i l ih =>
    intro s s' t hn h
    cases i
    case jmpr r => simp only [run, Option.some.injEq, Prod.mk.injEq] at h; obtain ⟨rfl, _⟩ := h; exact ⟨rfl, rfl⟩
    case ret =>
      simp only [run] at h; split at h
      · simp only [Option.some.injEq, Prod.mk.injEq] at h; obtain ⟨rfl, _⟩ := h; exact ⟨rfl, rfl⟩
      · simp at h
    case ud2 => simp [run] at h
    case ldmxcsr => simp [noFpLoad] at hn
    case fldcw => simp [noFpLoad] at hn
    all_goals
      simp only [run] at h
      split at h
      · simp at h
      · rename_i s1 he
        have h1 := exec_fp _ s s1 (by simp [noFpLoad]) he
        have h2 := ih s1 s' t (by simpa [noFpLoad] using hn) h
        exact ⟨h2.1.trans h1.1, h2.2.trans h1.2⟩

/-- The routine leaves `MXCSR` and the x87 control word exactly as the switching-out context left them:
    the context that is switched *to* continues with the rounding mode, exception masks and precision
    control of whatever ran before it on this hardware thread. -/
theorem C12_swap_keeps_fp_control (s s' : St) (t : Nat) (h : run prog s = some (s', t)) :
    s'.mxcsr = s.mxcsr ∧ s'.fcw = s.fcw :=
  run_fp prog s s' t (by decide) h

/-- registers of the witness: task A about to yield -/
def wA : Reg → Nat := fun r => match r with | .rsp => 4096 | .rdi => 8192 | .rsi => 16384 | _ => 7
/-- registers of the witness: the other task switching back to A (its stack at 32768, its `from`
    slot at 8200, `rsi` = A's saved stack pointer) -/
def wB : Reg → Nat := fun r => match r with | .rsp => 32768 | .rdi => 8200 | .rsi => 4032 | _ => 9

/-- **Counterexample to "FP control state survives a yield".**  There is a round trip (all hypotheses
    of `C12_swap_roundtrip` hold: A's stack is left alone) in which A had `MXCSR = 0x5F80` / x87 CW
    `0x0B7F` (round upward) when it yielded, the task that ran in between set round-downward
    (`0x3F80` / `0x077F`), and A resumes with the other task's values. -/
theorem C12_fp_control_not_preserved :
    ∃ (s0 s1 s2 s3 : St) (t1 t3 lo hi : Nat), Roundtrip s0 s1 s2 s3 t1 t3 lo hi ∧
      s0.mxcsr = 0x5F80 ∧ s0.fcw = 0x0B7F ∧ s3.mxcsr = 0x3F80 ∧ s3.fcw = 0x077F := by
  obtain ⟨s1, t1, run1, p1⟩ := swap_spec ⟨wA, fun _ => 0, 0x5F80, 0x0B7F⟩
    (by decide) (by decide) (by decide) (by decide) (by decide) (by decide)
  have hb : s1.mem 8192 = 4032 := by rw [p1.mem]; exact savedMem_from ⟨wA, fun _ => 0, 0x5F80, 0x0B7F⟩
  obtain ⟨s3, t3, run3, p3⟩ := swap_spec ⟨wB, s1.mem, 0x3F80, 0x077F⟩
    (by show wB .rsp % 8 = 0; decide) (Nat.le_of_ble_eq_true rfl) (by show wB .rsi % 8 = 0; decide)
    (by show wB .rsi + 88 < W; decide) (by show wB .rdi % 8 = 0; decide) (by show wB .rdi < W; decide)
  refine ⟨⟨wA, fun _ => 0, 0x5F80, 0x0B7F⟩, s1, ⟨wB, s1.mem, 0x3F80, 0x077F⟩, s3, t1, t3, 1024, 4200, ?_, rfl, rfl, ?_, ?_⟩
  · exact {
      sp_al := by decide
      sp_lo := by decide
      sp_hi := by decide
      hi_W := by decide
      from_al := by decide
      from_W := by decide
      from_out := by decide
      to_al := by decide
      to_W := by decide
      run1 := run1
      preserved := fun _ _ _ => rfl
      back := by show wB .rsi = s1.mem (wA .rdi); exact hb.symm
      sp2_al := by show wB .rsp % 8 = 0; decide
      sp2_64 := Nat.le_of_ble_eq_true rfl
      sp2_out := Or.inr (Nat.le_of_ble_eq_true rfl)
      from2_al := by show wB .rdi % 8 = 0; decide
      from2_W := by show wB .rdi < W; decide
      from2_out := Or.inr (Nat.le_of_ble_eq_true rfl)
      run3 := run3 }
  · exact (C12_swap_keeps_fp_control _ s3 t3 run3).1
  · exact (C12_swap_keeps_fp_control _ s3 t3 run3).2

/-! ## Part (b): a recycled thread object starts clean

`Gen/Rebind.lean` lists every data member of `thread_data` and of the coroutine (`context_base`,
`coroutine_impl`) with the assignments made by the constructors, by `rebind_base` / `rebind`, and by
the reset the trampoline loop performs before a terminated task returns to the scheduler.  The
theorems are closed (`decide`) statements about these generated tables: adding a member that is not
reset, dropping a reset, or resetting to a value different from the constructor's breaks them. -/
open PikaVerif.Rebind PikaVerif.Gen.Rebind

/-- Members of `thread_data` that are properties of the *object*, not of the task it currently
    represents, and are deliberately kept across recycling:
    `is_stackless_` (declared `const`), `stacksize_` (physical size of the attached stack — objects
    are only reused for requests of the same size, `C12_heap_by_size`), `queue_` (the queue whose
    heaps own the object). -/
def tdImmutable : List String := ["is_stackless_", "stacksize_", "queue_"]

/-- **Every per-task member of `thread_data` is reset by `rebind_base`, to the constructor's value.**
    (interruption request/enable flags, exit-callback list and its `ran` flag, state word, priority,
    scheduler, last worker, stack-size class, description, parent reference, marked state, backtrace,
    timer data — under whatever preprocessor configuration they exist.) -/
theorem C12_rebind_resets_all :
    ∀ m ∈ tdMembers, m.name ∈ tdImmutable ∨ sameAsFresh tdCtor tdRebind m = true := by decide +kernel

/-- the members kept across recycling exist and the one declared `const` in the source is among them -/
theorem C12_immutable_declared :
    (∀ n ∈ tdImmutable, ∃ m ∈ tdMembers, m.name = n) ∧
    (∀ m ∈ tdMembers, m.isConst = true → m.name ∈ tdImmutable) := by decide +kernel

/-- Coroutine members that are not reset between tasks, with the reason:
    `m_caller` is the *scheduler-side* saved stack pointer; every `do_invoke` stores it (the routine's
    `movq %rsp, (%rdi)`) before anything reads it.
    `continuation_recursion_count_` is not reset anywhere (constructor only).  In the pinned tree
    nothing reads or writes it except through the accessor `get_continuation_recursion_count()`, which
    has no caller; it is listed here so that the exemption is visible (see notes/C12.md). -/
def coNotReset : List String := ["m_caller", "continuation_recursion_count_"]

/-- **Every other coroutine member of a recycled object has, after the exit reset
    (`reset_tss(); reset()`) followed by `rebind`, the value the constructors give it** — thread-local
    data pointer / task data word null, phase 0, fresh id, fresh function, no stale result, no stale
    exception, exit flags cleared. -/
theorem C12_coroutine_resets_all :
    ∀ m ∈ coMembers, m.name ∈ coNotReset ∨
      (finalValue (coExit ++ coRebind) m).isSome = true ∧
      finalValue (coExit ++ coRebind) m = finalValue coCtor m := by decide +kernel

/-- what `context_base::rebind_base` *asserts* about the incoming object (task data / TSS pointer null,
    phase 0) is exactly what the exit reset established -/
theorem C12_rebind_assumptions_established :
    ∀ a ∈ coRebindAsserts, ∀ m ∈ coMembers, m.name = a.name → guardCovers m.guard a.guard = true →
      finalValue coExit m = some a.value := by decide +kernel

/-! ## Part (c): a recycled object is only rebound to a task of the same physical stack size -/
open PikaVerif.StackClass PikaVerif.Gen.Heaps

/-- `thread_queue` (all schedulers except shared-priority) with configured sizes `P` -/
def tqCfg (P : String → Nat) : Cfg := ⟨P, classParam, tqCreate, tqRecycle, tqPrefill⟩
/-- `queue_holder_thread` (shared-priority scheduler) -/
def qhCfg (P : String → Nat) : Cfg := ⟨P, classParam, qhCreate, qhRecycle, qhPrefill⟩

/-- **Heap by size.**  For every configuration of the four stack sizes (equal sizes allowed), every
    order of task creations, terminations (recycling) and the initial pre-allocation, and for both
    queue implementations: whenever a recycled object is rebound to a new task, the stack it carries
    was mapped with exactly the size configured for the new task's stack-size class. -/
theorem C12_heap_by_size (P : String → Nat) (c : Cfg) (hc : c = tqCfg P ∨ c = qhCfg P) (log : List StackClass.Ev) (s : StackClass.St)
    (h : runLog (step c) StackClass.init log = some s) :
    ∀ x ∈ s.rebinds, x.1.size = x.2.2 ∧ ∃ p, classParam.lookup x.2.1 = some p ∧ x.2.2 = P p := by
  -- `rfl`: the generated chains are consistent, by evaluation (`P` plays no part in it)
  rcases hc with rfl | rfl <;> exact rebinds_sized rfl h

/-- non-vacuity: with small = medium = 64 KiB, a medium object is filed, then taken by a small task
    (both classes share the first heap of the chain) — accepted, and the sizes agree -/
example : ∃ s, runLog (step (tqCfg (fun p => if p = "large_stacksize_" then 131072 else 65536))) StackClass.init
    [.recycle ⟨1, 65536⟩, .create "small_" (some ⟨1, 65536⟩)] = some s ∧ s.rebinds.length = 1 := by
  refine ⟨_, rfl, rfl⟩

/-- a queue whose `recycle_thread` filed medium stacks in the small heap would violate it: the
    consistency condition the theorem rests on fails for such a table -/
example : consistent ⟨fun _ => 0, classParam, tqCreate,
    [("small_stacksize_", "thread_heap_small_"), ("medium_stacksize_", "thread_heap_small_")], []⟩ = false := by
  decide

end PikaVerif.C12
