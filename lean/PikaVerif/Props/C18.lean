import PikaVerif.Lemmas.EraseExec
/-!
# C18 — Type-erased senders and functions behave like what they wrap

Property theorems about the model `PikaVerif.Erase` (`function`, `unique_function`,
`unique_any_sender`, `any_sender`; shipped configuration `sbo = false`, and `basic_function` with
the repair `fix: basic_function …`: `pinned = false`).  The theorems with these two hypotheses
quantify over *all* histories `ops : List Op` (any length, any slot count, any wrapper kinds, any
payload classes and values) run from the initial state (all slots unconstructed), or over every
state such a history reaches.  `C18_copies_frame`, `C18_default_empty` and
`C18_failed_construction_constructs_nothing` hold of one operation on any state in any
configuration.  The last section has counterexamples for the pinned tree and for `sbo = true`.
-/
namespace PikaVerif.C18
open PikaVerif.Erase

/-- `s` is the state after some history. -/
def Reachable (c : Cfg) (s : St) : Prop := ∃ ops, finalSt c init ops = s

/-- results of a history, in order -/
def results (c : Cfg) (ops : List Op) : List Res := (runOps c init ops).2.map (·.1)

/-- all ledger events of a history, in order -/
def events (c : Cfg) (ops : List Op) : List LEv := ((runOps c init ops).2.map (·.2)).flatten

theorem reach_inv {c : Cfg} {s : St} (hc : c.sbo = false) (hpin : c.pinned = false) (hr : Reachable c s) : Inv c s := by
  obtain ⟨ops, rfl⟩ := hr
  exact (run_sound c hc hpin ops init (inv_init c)).1

/-! ## Transparency -/

theorem sim_run (c : Cfg) (hc : c.sbo = false) (hpin : c.pinned = false) (ops : List Op) : ∀ s, Inv c s →
    (runOps c s ops).2.map (fun p => p.1.core) = specRun c (absSt s) ops :=
  fun s hi => (run_sound c hc hpin ops s hi).2.1

/-- **Transparency.**  For every history, every result a wrapper gives — the return value or
    exception of a call, the completion (value / error / stopped / exception from `connect`) of a
    connected and started sender, `empty()`, `bad_function_call` — is exactly the result the
    value-semantics reference `specRun` gives, i.e. what the wrapped object itself would have
    produced had it been stored, copied, moved and used directly. -/
theorem C18_transparent (c : Cfg) (hc : c.sbo = false) (hpin : c.pinned = false) (ops : List Op) :
    (results c ops).map Res.core = specRun c ASt.init ops := by
  rw [results, List.map_map]
  exact sim_run c hc hpin ops init (inv_init c)

theorem no_ub_step (c : Cfg) (s : St) (hc : c.sbo = false) (hpin : c.pinned = false) (hi : Inv c s) (op : Op) :
    (exec c s op).res ≠ .ub := fun hu =>
  spec_ne_ub c _ op (by rw [← sim_res c s hc hpin hi op, hu]; rfl)

/-- **No undefined behaviour.**  No operation of any history reaches a point where the C++ would
    dereference a null / dangling object pointer or dispatch through a vtable that does not
    match the stored object (`Res.ub` in the model). -/
theorem C18_no_ub (c : Cfg) (hc : c.sbo = false) (hpin : c.pinned = false) (ops : List Op) : ∀ r ∈ results c ops, r ≠ .ub := by
  intro r hr hu
  exact specRun_ne_ub c ops ASt.init r.core (C18_transparent c hc hpin ops ▸ List.mem_map_of_mem hr) (by rw [hu]; rfl)

/-! ## Ledger: every contained object is destroyed exactly once -/

/-- The counts of a history from any state of the invariant, read off its accepted trace. -/
theorem counts_run (c : Cfg) (hc : c.sbo = false) (hpin : c.pinned = false) (id : Nat) (ops : List Op) (s : St)
    (hi : Inv c s) :
    ctorsOf id (((runOps c s ops).2.map (·.2)).flatten) =
      (if s.next ≤ id ∧ id < (finalSt c s ops).next then 1 else 0) ∧
    (finalSt c s ops).dtor id = s.dtor id + dtorsOf id (((runOps c s ops).2.map (·.2)).flatten) :=
  have h := led_counts (run_sound c hc hpin ops s hi).2.2 id
  ⟨h.2.2, h.1⟩

/-- **Ledger.**  In the event trace of every history: an object id has exactly one construction
    event if it was handed out (`id < next`) and none otherwise; it has at most one destruction
    event; and it has *no* destruction event exactly when it is the object currently held by
    some constructed wrapper — so every object that left the wrappers (overwritten, reset,
    moved-from temporaries, consumed by `connect &&`, wrapper destroyed) was destroyed exactly
    once, and no held object was destroyed. -/
theorem C18_ledger (c : Cfg) (hc : c.sbo = false) (hpin : c.pinned = false) (ops : List Op) (id : Nat) :
    let s := finalSt c init ops
    ctorsOf id (events c ops) = (if id < s.next then 1 else 0) ∧
    dtorsOf id (events c ops) ≤ 1 ∧
    (id < s.next →
      (dtorsOf id (events c ops) = 0 ↔
        ∃ i o, i < c.n ∧ (s.slot i).live = true ∧ (s.slot i).obj = some o ∧ o.id = id)) := by
  intro s
  have hi : Inv c s := reach_inv hc hpin ⟨ops, rfl⟩
  have e2 : s.dtor id = 0 + dtorsOf id (events c ops) := (counts_run c hc hpin id ops init (inv_init c)).2
  have e1 : ctorsOf id (events c ops) = if 0 ≤ id ∧ id < s.next then 1 else 0 :=
    (counts_run c hc hpin id ops init (inv_init c)).1
  obtain ⟨-, hdt, -, hown⟩ := hi.ledger id
  simp only [Nat.zero_add, Nat.zero_le, true_and] at e1 e2
  rw [e1, ← e2, hdt]
  refine ⟨rfl, by split <;> omega, fun hlt => ⟨fun h0 => ?_, ?_⟩⟩
  · cases ho : s.owner id with
    | none => rw [if_pos ⟨hlt, ho⟩] at h0; cases h0
    | some i =>
      obtain ⟨o, hobj, hid⟩ := (hown i).1 ho
      exact ⟨i, o, ((hi.slots i).of_obj hobj).1, ((hi.slots i).of_obj hobj).2, hobj, hid⟩
  · rintro ⟨i, o, _, _, hobj, rfl⟩
    simp [(hi.held hobj).1]

/-- **The trace is well formed at every point.**  The ledger acceptor `ledStep` — object ids are
    constructed in order; the source of every copy/move construction, of every failed construction,
    every connected sender and every destroyed object is *alive at that moment* (constructed, not
    yet destroyed) — accepts the complete event trace of every history, and ends in the model's
    ledger.  So no wrapper operation ever copies from, moves from, connects or destroys an object
    that is already destroyed, at any point of any history (not only in the final counts). -/
theorem C18_trace_well_formed (c : Cfg) (hc : c.sbo = false) (hpin : c.pinned = false) (ops : List Op) :
    runLog ledStep { next := 0, dt := fun _ => 0 } (events c ops) =
      some (ledOf (finalSt c init ops)) :=
  (run_sound c hc hpin ops init (inv_init c)).2.2

/-- **Exactly once at the end.**  When every wrapper has been destroyed, every object that was
    ever constructed — wrapped objects, their copies, the temporaries they were made from — has
    exactly one construction and exactly one destruction event. -/
theorem C18_all_destroyed_exactly_once (c : Cfg) (hc : c.sbo = false) (hpin : c.pinned = false) (ops : List Op)
    (hdead : ∀ i, ((finalSt c init ops).slot i).live = false) (id : Nat)
    (hid : id < (finalSt c init ops).next) :
    ctorsOf id (events c ops) = 1 ∧ dtorsOf id (events c ops) = 1 := by
  have h := C18_ledger c hc hpin ops id
  simp only [hid, if_true] at h
  refine ⟨h.1, ?_⟩
  have h2 := h.2.2 (by simp)
  have hne : dtorsOf id (events c ops) ≠ 0 := by
    intro h0
    obtain ⟨i, o, _, hl, _, _⟩ := h2.1 h0
    rw [hdead i] at hl; simp at hl
  have := h.2.1
  omega

/-! ## Copies are independent -/

/-- the slots an operation names -/
def Op.slots : Op → List Nat
  | .new i | .newp i _ _ _ | .del i | .set i _ _ _ | .reset i | .empty i | .call i _ | .run i
  | .runc i => [i]
  | .copy i j | .move i j | .cctor i j | .mctor i j | .swap i j => [i, j]
  | .arm _ => []

/-- **No sharing.**  Two different wrappers never hold the same object: after any history the
    objects held by distinct slots have distinct identities (a copy owns its own object). -/
theorem C18_copies_no_sharing (c : Cfg) (hc : c.sbo = false) (hpin : c.pinned = false) (s : St) (hr : Reachable c s)
    (i j : Nat) (oi oj : Obj) (hij : i ≠ j) (hi : (s.slot i).obj = some oi)
    (hj : (s.slot j).obj = some oj) : oi.id ≠ oj.id := by
  exact (reach_inv hc hpin hr).noShare hij hi hj

/-- **Frame.**  An operation changes only the wrappers it names: every other slot (its state,
    its object, hence everything it will ever return) is untouched. -/
theorem C18_copies_frame (c : Cfg) (s : St) (op : Op) (k : Nat) (hk : k ∉ Op.slots op) :
    (exec c s op).st.slot k = s.slot k := by
  apply exec_frame
  cases op <;> simp_all [Op.slots, Erase.Op.writes]

theorem spec_copy_ok (c : Cfg) (a : ASt) (i j : Nat) (hij : i ≠ j) (op : Op)
    (hop : op = .copy i j ∨ op = .cctor i j) (h : (specExec c a op).2 = .ok) :
    (specExec c a op).1.slots i = a.slots j := by
  rcases hop with rfl | rfl <;> simp only [specExec, hij, if_false] at h ⊢ <;> split at h
  any_goals cases h
  all_goals
    rw [if_pos ‹_›]
    cases hj : a.slots j
    case full => rw [hj] at h; exact construct_ok h
    all_goals simp [ASt.set]

/-- **A copy has the source's content and leaves the source alone.**  After a successful
    copy-assignment or copy-construction `i ← j` (`i ≠ j`) the two wrappers hold equal payloads
    (class and value) in different objects, and slot `j` is unchanged. -/
theorem C18_copy_equal_content (c : Cfg) (hc : c.sbo = false) (hpin : c.pinned = false) (s : St) (hr : Reachable c s)
    (i j : Nat) (hij : i ≠ j) (op : Op) (hop : op = .copy i j ∨ op = .cctor i j)
    (hok : (exec c s op).res = .ok) :
    absSlot ((exec c s op).st.slot i) = absSlot (s.slot j) ∧ (exec c s op).st.slot j = s.slot j := by
  have inv := reach_inv hc hpin hr
  refine ⟨?_, exec_frame _ _ _ (by rcases hop with rfl | rfl <;> simpa [Erase.Op.writes] using hij.symm)⟩
  have hres : (specExec c (absSt s) op).2 = .ok := by rw [← sim_res c s hc hpin inv _, hok]; rfl
  have := spec_copy_ok c (absSt s) i j hij op hop hres
  rwa [← sim_st c s hc hpin inv _] at this

/-! ## Moved-from and default-constructed wrappers are empty; empty use throws -/

/-- **Default-constructed wrappers are empty.** -/
theorem C18_default_empty (c : Cfg) (s : St) (i : Nat) (hok : (exec c s (.new i)).res = .ok) :
    (exec c s (.new i)).st.slot i = Slot.emptyW := by
  simp only [exec] at hok ⊢
  split
  · simp [St.put]
  · rename_i h; simp [h, inval] at hok

/-- a slot whose abstraction is "constructed, no payload" is exactly the default-constructed slot -/
theorem slot_emptyW_of_abs (c : Cfg) (s : St) (j : Nat) (inv : Inv c s)
    (habs : (absSt s).slots j = ASlot.empty) : s.slot j = Slot.emptyW := by
  have hl : (s.slot j).live = true := by
    cases h : (s.slot j).live with
    | true => rfl
    | false => rw [absSt_dead h] at habs; cases habs
  have ho : (s.slot j).obj = none := by
    cases h : (s.slot j).obj with
    | none => rfl
    | some o => rw [absSt_full hl h] at habs; cases habs
  have hv := (inv.slots j).holds.fnN ho
  cases hsl : s.slot j
  rw [hsl] at hl ho hv
  cases hl; cases ho; cases hv; rfl

/-- **Moved-from wrappers are empty.**  After a successful move-assignment or move-construction
    `i ← std::move(j)` (`i ≠ j`), or an r-value `connect` of sender wrapper `j`, wrapper `j` is in
    exactly the default-constructed state (live, no object, empty vtable). -/
theorem C18_moved_from_empty (c : Cfg) (hc : c.sbo = false) (hpin : c.pinned = false) (s : St) (hr : Reachable c s)
    (i j : Nat) (hij : i ≠ j) (op : Op)
    (hop : op = .move i j ∨ op = .mctor i j ∨ op = .run j)
    (hok : (exec c s op).res ≠ .invalid) :
    (exec c s op).st.slot j = Slot.emptyW := by
  have inv := reach_inv hc hpin hr
  have hcore : (specExec c (absSt s) op).2 ≠ .invalid := by
    rw [← sim_res c s hc hpin inv _]
    intro h; apply hok; cases hr : (exec c s op).res <;> simp [hr, Res.core] at h ⊢
  apply slot_emptyW_of_abs c _ j (exec_inv c s hc hpin inv op)
  rw [sim_st c s hc hpin inv _]
  rcases hop with rfl | rfl | rfl <;> simp only [specExec] at hcore ⊢ <;> split at hcore
  any_goals exact absurd rfl hcore
  all_goals rw [if_pos ‹_›]
  · simp [hij, ASt.set, upd, Ne.symm hij]
  · simp [ASt.set, upd, Ne.symm hij]
  · next hg =>
    cases ha : (absSt s).slots j with
    | dead => have := hg.2.1; rw [ha] at this; cases this
    | empty => exact ha
    | full ty v => simp [ASt.set]

/-- **A failed assignment leaves an empty wrapper** (basic exception guarantee).  When the copy
    or move constructor of the payload throws while a payload is being assigned (`set`) or a
    wrapper is being copy-assigned (`copy`), the exception propagates (`Res.perr`), and the target
    wrapper is in exactly the default-constructed state: it reports empty and throws
    `bad_function_call` when used (by `C18_empty_use_throws`); its previous object was destroyed
    once (by `C18_ledger`). -/
theorem C18_failed_assignment_leaves_empty (c : Cfg) (hc : c.sbo = false) (hpin : c.pinned = false)
    (s : St) (hr : Reachable c s) (i : Nat) (op : Op) (v : Int)
    (hop : (∃ ty w cp, op = .set i ty w cp) ∨ (∃ j, op = .copy i j))
    (hthrow : (exec c s op).res = .perr v) :
    (exec c s op).st.slot i = Slot.emptyW := by
  have inv := reach_inv hc hpin hr
  have hres : (specExec c (absSt s) op).2 = .perr v := by rw [← sim_res c s hc hpin inv _, hthrow]; rfl
  apply slot_emptyW_of_abs c _ i (exec_inv c s hc hpin inv op)
  rw [sim_st c s hc hpin inv _]
  rcases hop with ⟨ty, w, cp, rfl⟩ | ⟨j, rfl⟩ <;> simp only [specExec] at hres ⊢ <;> split at hres
  any_goals cases hres
  · rw [if_pos ‹_›]; exact construct_perr hres
  · rw [if_pos ‹_›]
    split at hres
    · cases hres
    · rw [if_neg ‹_›]
      cases hj : (absSt s).slots j <;> rw [hj] at hres
      case full => exact construct_perr hres
      all_goals cases hres

/-- **A failed construction constructs nothing.**  When the payload's constructor throws while a
    wrapper is being constructed from a payload or copy-constructed, no wrapper comes into being
    (the slot stays unconstructed) and no object is left behind. -/
theorem C18_failed_construction_constructs_nothing (c : Cfg) (s : St) (i : Nat) (op : Op) (v : Int)
    (hop : (∃ ty w cp, op = .newp i ty w cp) ∨ (∃ j, op = .cctor i j))
    (hthrow : (exec c s op).res = .perr v) :
    (exec c s op).st.slot i = s.slot i ∧ (s.slot i).live = false := by
  rcases hop with ⟨ty, w, cp, rfl⟩ | ⟨j, rfl⟩
  · exact store_perr hthrow
  · simp only [exec] at hthrow ⊢
    split at hthrow
    next hG =>
      rw [if_pos hG]
      split at hthrow
      next oj hoj =>
        split at hthrow
        next ha => rw [if_pos ha]; exact ⟨rfl, hG.2.2.1⟩
        · cases hthrow
      · cases hthrow
    · cases hthrow

/-- **Empty wrappers report empty and throw the defined error when used.**  In every reachable
    state, a constructed wrapper without an object (default-constructed, moved-from, reset,
    consumed by `connect &&`) answers `empty() = true`; calling it (function wrappers) or
    connecting it (sender wrappers, r-value and l-value) raises `pika::error::bad_function_call`;
    and none of these changes the state. -/
theorem C18_empty_use_throws (c : Cfg) (hc : c.sbo = false) (hpin : c.pinned = false) (s : St) (hr : Reachable c s) (i : Nat)
    (hin : i < c.n) (hl : (s.slot i).live = true) (he : (s.slot i).obj = none) :
    (exec c s (.empty i)).res = .bool true ∧
    ((c.kind i).isFn = true → ∀ x, (exec c s (.call i x)).res = .badcall ∧
        (exec c s (.call i x)).st.slot = s.slot) ∧
    ((c.kind i).isFn = false → (exec c s (.run i)).res = .badcall ∧ (exec c s (.run i)).st.slot = s.slot) ∧
    (c.kind i = .as → (exec c s (.runc i)).res = .badcall ∧ (exec c s (.runc i)).st.slot = s.slot) := by
  have inv := reach_inv hc hpin hr
  have hv := (inv.slots i).holds.fnN he
  refine ⟨?_, ?_, ?_, ?_⟩
  · simp [exec, hin, hl, he]
  · intro hf x; simp [exec, hin, hl, hf, hv]
  · intro hf; simp [exec, hin, hl, hf, he]
  · intro hk; simp [exec, hin, hl, hk, he]

/-- Conversely a wrapper that holds an object reports non-empty, and a call (function wrappers) or
    an r-value `connect` (sender wrappers) reaches the object; the l-value `connect` is not covered. -/
theorem C18_full_use_reaches_object (c : Cfg) (hc : c.sbo = false) (hpin : c.pinned = false) (s : St) (hr : Reachable c s)
    (i : Nat) (o : Obj) (hin : i < c.n) (ho : (s.slot i).obj = some o) :
    (exec c s (.empty i)).res = .bool false ∧
    ((c.kind i).isFn = true → ∀ x, (exec c s (.call i x)).res.core = aCall o.ty o.val x) ∧
    ((c.kind i).isFn = false → (exec c s (.run i)).res = aCompl o.ty o.val) := by
  have inv := reach_inv hc hpin hr
  have hl := ((inv.slots i).of_obj ho).2
  refine ⟨by simp [exec, hin, hl, ho], ?_, ?_⟩
  · intro hf x
    have hv := ((inv.slots i).holds.fnV o ho hf).1
    simp [exec, hin, hl, hf, hv, ho, callRes_core]
  · intro hf
    have hh := (inv.slots i).holds.sndH o ho hf
    simp [exec, hin, hl, hf, ho, hh]
    rfl

/-! ## Address stability of the wrapped callable (partial) -/

/-- **Heap-stored callables keep their address** (`_partial`).  A call reports `reloc = true`
    (the callable runs at an address different from the one its constructor ran at, without
    a move constructor in between) only for objects living in the inline buffer.

    Full statement (false of the code, see the counterexample below): *no* call of any history
    reports `reloc = true` — `∀ ops v, Res.ret v true ∉ results c ops`.  `function_base`'s move
    constructor and `swap` relocate inline objects with `memcpy` / byte swap. -/
theorem C18_address_stable_partial (c : Cfg) (hc : c.sbo = false) (hpin : c.pinned = false) (s : St) (hr : Reachable c s)
    (i : Nat) (x v : Int) (h : (exec c s (.call i x)).res = .ret v true) :
    ∃ o, (s.slot i).obj = some o ∧ o.heap = false ∧ o.ty.big = false ∧ o.home ≠ i := by
  have H := ((reach_inv hc hpin hr).slots i).holds
  cases ho : (s.slot i).obj <;> cases hv : (s.slot i).vptr <;>
    simp only [exec, ho, hv] at h <;> split at h <;> simp [inval, callRes] at h
  rename_i o _ hg
  repeat' split at h
  all_goals simp at h
  exact ⟨o, rfl, h.2.1, (H.fnV o ho hg.2.2).2 ▸ h.2.1, h.2.2⟩

/-! ## Non-vacuity and machine-checked witnesses -/

def cfg4 : Cfg := { n := 4, kind := fun i => if i < 2 then .fn else if i = 2 then .as else .uas }

def tySmall : PTy := { big := false, copyable := true, mode := 0 }
def tyBig : PTy := { big := true, copyable := true, mode := 0 }
def tyErr : PTy := { big := false, copyable := true, mode := 1 }

/-- a history exercising construction, same-type reassignment, copy, move, swap, calls, sender
    copy, l-value and r-value connect, any→unique conversion, and empty use -/
def exampleOps : List Op :=
  [.newp 0 tySmall 7 false, .call 0 5, .set 0 tySmall 9 true, .new 1, .copy 1 0, .call 1 1,
   .set 1 tyBig 3 false, .move 0 1, .call 0 0, .call 1 0, .swap 0 1, .empty 0,
   .newp 2 tyErr 6 true, .runc 2, .mctor 3 2, .run 2, .run 3, .run 3,
   .del 0, .del 1, .del 2, .del 3]

example : results cfg4 exampleOps =
    [.ok, .ret 12 false, .ok, .ok, .ok, .ret 10 false, .ok, .ok, .ret 3 false, .badcall, .ok,
     .bool true, .ok, .error 6, .ok, .badcall, .error 6, .badcall, .ok, .ok, .ok, .ok] := by decide

/-- the ledger of that history: 9 objects, all destroyed exactly once -/
example : (finalSt cfg4 init exampleOps).next = 9 ∧
    (List.range 9).all (fun id => ctorsOf id (events cfg4 exampleOps) = 1 ∧
      dtorsOf id (events cfg4 exampleOps) = 1) = true := by decide

/-- **Counterexample to full address stability**: a small callable move-assigned to another
    wrapper is called at a different address although no move constructor ran. -/
theorem C18_address_stable_counterexample :
    Res.ret 7 true ∈ results cfg4 [.newp 0 tySmall 7 false, .new 1, .move 1 0, .call 1 0] ∧
    events cfg4 [.newp 0 tySmall 7 false, .new 1, .move 1 0, .call 1 0] = [.C 0 7, .M 1 0, .D 0] := by
  decide

/-! ### The pinned tree (before `fix: basic_function …`): machine-checked counterexamples

`Cfg.pinned = true` models `basic_function::assign` / `function_base::op_assign` as they are in
the pinned tree: when the payload's constructor throws, `object` keeps pointing at the already
destroyed target (and, on the other-type path, `vptr` already names the new type). -/

def cfgPinned : Cfg := { n := 2, kind := fun _ => .fn, pinned := true }

/-- pinned tree: copy-assigning between two functions of the same target type with a throwing
    copy constructor destroys the old target (object 1) twice -/
theorem C18_pinned_double_destruction :
    let ops := [Op.newp 0 tyBig 1 false, .newp 1 tyBig 2 false, .arm 1, .copy 0 1, .del 0, .del 1]
    results cfgPinned ops = [.ok, .ok, .ok, .perr 2, .ok, .ok] ∧
    dtorsOf 1 (events cfgPinned ops) = 2 := by decide

/-- pinned tree: after a throwing assignment into an empty function the wrapper reports
    `empty() = true`, yet a call dispatches through the new type's vtable on a null object
    (undefined behaviour instead of `bad_function_call`) -/
theorem C18_pinned_empty_call_ub :
    results cfgPinned [.new 0, .arm 1, .set 0 tySmall 5 false, .empty 0, .call 0 1] =
      [.ok, .ok, .perr 5, .bool true, .ub] := by decide

/-- the same two histories on the repaired code: one destruction each, `bad_function_call` -/
example :
    let c : Cfg := { cfgPinned with pinned := false }
    let ops := [Op.newp 0 tyBig 1 false, .newp 1 tyBig 2 false, .arm 1, .copy 0 1, .del 0, .del 1]
    dtorsOf 1 (events c ops) = 1 ∧
    results c [.new 0, .arm 1, .set 0 tySmall 5 false, .empty 0, .call 0 1] =
      [.ok, .ok, .perr 5, .bool true, .badcall] := by decide

def cfgSbo : Cfg := { n := 2, kind := fun _ => .uas, sbo := true }
def tySnd : PTy := { big := false, copyable := false, mode := 0 }

/-- **Opt-in embedded sender storage (not the shipped configuration)**: with `sbo = true` a
    small sender moved between two `unique_any_sender`s leaves its moved-from shell
    undestroyed — after all wrappers are gone object 1 has no destruction event. -/
theorem C18_sbo_optin_leaks :
    let ops := [Op.newp 0 tySnd 4 false, .new 1, .move 1 0, .del 0, .del 1]
    (∀ i, ((finalSt cfgSbo init ops).slot i).live = false) ∧
    ctorsOf 1 (events cfgSbo ops) = 1 ∧ dtorsOf 1 (events cfgSbo ops) = 0 := by
  refine ⟨fun i => ?_, by decide, by decide⟩
  by_cases h : i = 0 ∨ i = 1
  · rcases h with rfl | rfl <;> decide
  · -- no operation of the history writes any other slot
    rw [finalSt_frame _ _ _ (by simp [Erase.Op.writes]; omega)]; rfl

end PikaVerif.C18
