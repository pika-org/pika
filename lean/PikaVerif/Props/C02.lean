import PikaVerif.Lemmas.Sched2
import PikaVerif.Props.C01
/-!
# C02 — no lost wake-up: a resumed task always runs again

Theorems about the protocol model `PikaVerif.Sched`, for the part of the property that is
protocol logic: `set_thread_state(thrd, pending)` issued by any actor (worker or plain OS
thread), the helper task `set_active_state` used when the target is still active, and the
scheduling token created by a successful suspended→pending exchange.  Loads and exchanges in
the E2 log are exact (performed under the log lock), so "the word the actor loaded" is the true
word at that moment.

Reading: a wake-up request can only end in one of three ways, each justified by an exact
observation (`C02_request_endings`); a successful wake creates the task's scheduling token and
the waker cannot leave before it has queued the task (`C02_wake_creates_token`,
`C02_winner_must_queue`); a task that is pending always carries its token
(`C01.C01_no_drop`), so it is popped and run again; and between a moment when the target was not
pending and a later moment when it is observed pending a transition into pending has happened
(`C02_observed_pending_implies_transition`).  With the ghost epochs of `Lemmas/Sched2.lean`
(epoch = number of transitions into pending) the endings are proved *effective*:
`C02_noop_effective` / `C02_done_effective` (when a request ends, the target was pending at
the moment it was issued, or has become pending since, or is terminated) and
`C02_helper_abort_sound` (a helper that gives up because the target is active with a different tag
has seen the target go through pending since the observation it was created from).  A helper
aborts also when only `state_ex` differs (same tag): that case, and the end-to-end theorem
`C02_no_lost_wakeup` composed from these pieces, are in `Props/C02x.lean`.
-/
namespace PikaVerif.C02
open PikaVerif.Sched

/-- **A successful wake creates the scheduling token.**  After an accepted suspended→pending
    exchange by actor `a`, the object is pending, its token is with `a` (who owes the queue
    insertion), and `a` is in the `won` state. -/
theorem C02_wake_creates_token (s s' : St) (a o : Nat) (b af : W)
    (h : step s (.restore2 a o b af) = some s') (hchg : af ≠ b) (hsusp : (s.obj o).w.st = sSuspended) :
    (s'.obj o).w.st = sPending ∧ (s'.obj o).pusher = some a ∧ (s'.act a).sts = .won o ∧
    (s'.obj o).epoch = (s.obj o).epoch + 1 := by
  obtain ⟨lw, le, _, _, ⟨hab, _⟩ | ⟨hw, haf, ⟨hst, _⟩ | ⟨_, rfl⟩⟩⟩ := step_restore2 h
  · exact absurd hab hchg
  · rw [← hw, hsusp] at hst; cases hst
  · simpa only [upd_same, and_true] using haf

/-- **The winner must queue the task before it can leave.**  While an actor is in the `won`
    state (its exchange made the target pending) the model accepts none of the events by which
    `set_thread_state` returns or continues — only the queue insertion moves it on. -/
theorem C02_winner_must_queue (s : St) (a o : Nat) (hw : (s.act a).sts = .won o) :
    step s (.stsDone a o) = none ∧ step s (.stsNoop a o) = none ∧ step s (.stsHelper a o) = none ∧
    (∀ ns, step s (.stsEnter a o ns) = none) := by
  refine ⟨?_, ?_, ?_, ?_⟩ <;> simp [step, hw]

/-- The queue insertion by the winner is accepted (the model cannot get stuck there). -/
theorem C02_winner_can_queue (s : St) (hr : C01.Reachable s) (a o : Nat)
    (hl : (s.obj o).live = true) (hst : (s.obj o).w.st = sPending) (hp : (s.obj o).pusher = some a) :
    (step s (.push a o)).isSome = true := by
  simp [step, hl, hst, hp]

/-- **How a wake-up request can end.**  If an accepted event takes actor `a` from inside
    `set_thread_state` to outside, then `a` had loaded a word `lw` of the target `o` and either
    (1) `lw` was pending or terminated and nothing is done, (2) `lw` was active and a helper
    remembering `lw` now exists, or (3) `lw` is the pending word after `a`'s own successful exchange
    and queue insertion. -/
theorem C02_request_endings (s s' : St) (e : Ev) (a : Nat) (h : step s e = some s')
    (h1 : (s.act a).sts ≠ .out) (h2 : (s'.act a).sts = .out) :
    ∃ o lw le, (s.act a).sts = .loaded o lw le ∧
      ((e = .stsNoop a o ∧ (lw.st = sPending ∨ lw.st = sTerminated)) ∨
       (e = .stsHelper a o ∧ lw.st = sActive ∧ (lw, le) ∈ (s'.obj o).helpers) ∨
       (e = .stsDone a o ∧ pendingish lw = true)) := by
  cases sts_step h a with
  | same hs _ => exact absurd (hs ▸ h2) h1
  | leave o lw le hs _ _ hwhy => exact ⟨o, lw, le, hs, hwhy⟩
  | enter _ _ _ hs' _ | reload _ _ hs' _ | win _ _ _ _ hs' _ _ _ => rw [hs'] at h2; cases h2

/-- **Observed pending ⇒ a transition into pending happened.**  Over any accepted log segment,
    if the target was not pending at the start and is pending at the end, its epoch (the count of
    transitions into a pending state) has grown. -/
theorem C02_observed_pending_implies_transition (seg : List Ev) (s1 s2 : St)
    (h : runLog step s1 seg = some s2) (o : Nat)
    (h1 : pendingish (s1.obj o).w = false) (h2 : pendingish (s2.obj o).w = true) :
    (s1.obj o).epoch < (s2.obj o).epoch := by
  obtain ⟨hle, hp⟩ := obj_log h o
  rcases Nat.lt_or_ge (s1.obj o).epoch (s2.obj o).epoch with hlt | hge
  · exact hlt
  · have := hp (Nat.le_antisymm hge hle) h2; rw [h1] at this; cases this

/-- A noop return is only accepted on an exact observation of `pending` or `terminated`. -/
theorem C02_noop_condition (s s' : St) (a o : Nat) (h : step s (.stsNoop a o) = some s') :
    ∃ lw le, (s.act a).sts = .loaded o lw le ∧ (lw.st = sPending ∨ lw.st = sTerminated) := by
  obtain ⟨o, lw, le, hs, ⟨rfl, hg⟩, _⟩ := of_loaded h
  exact ⟨lw, le, hs, hg⟩

/-- A helper gives up exactly under the code's condition on the words it loaded / remembers. -/
theorem C02_helper_abort_condition (s s' : St) (a o : Nat) (h : step s (.sasAbort a o) = some s') :
    ∃ cur prev he ce, (s.act a).sas = some (o, cur, prev, he, ce) ∧ cur.st = prev.st ∧ cur ≠ prev := by
  obtain ⟨o, cur, prev, he, ce, hs, ⟨rfl, h1, h2⟩, _⟩ := of_sas h
  exact ⟨cur, prev, he, ce, hs, h1, h2⟩


/-- **A request that ends with "nothing to do" was effective.**  If `set_thread_state` returns
    through the noop branch, the word it loaded was `terminated`, or the target was already
    pending (or terminated) when the request was issued (`issue = none`), or the target has made
    a transition into pending between the issue and that load (`ie < le`). -/
theorem C02_noop_effective (s s' : St) (hr : C01.Reachable s) (a o : Nat)
    (h : step s (.stsNoop a o) = some s') :
    ∃ lw le, (s.act a).sts = .loaded o lw le ∧
      (lw.st = sTerminated ∨ (s.act a).issue = none ∨ ∃ ie, (s.act a).issue = some ie ∧ ie < le) := by
  obtain ⟨log, hlog⟩ := hr
  obtain ⟨lw, le, hst, hc⟩ := C02_noop_condition s s' a o h
  refine ⟨lw, le, hst, ?_⟩
  cases hiss : (s.act a).issue with
  | none => exact .inr (.inl rfl)
  | some ie => have := ((inv2_of_accepted hlog).issue a ie hiss).ld o lw le hst; grind [pendingish]

/-- **A request that ends after its own exchange was effective** (same statement for the normal
    return: the loaded word is the pending word the actor itself produced and queued). -/
theorem C02_done_effective (s s' : St) (hr : C01.Reachable s) (a o : Nat)
    (h : step s (.stsDone a o) = some s') :
    ∃ lw le, (s.act a).sts = .loaded o lw le ∧ pendingish lw = true ∧
      ((s.act a).issue = none ∨ ∃ ie, (s.act a).issue = some ie ∧ ie < le) := by
  obtain ⟨log, hlog⟩ := hr
  obtain ⟨o, lw, le, hs, ⟨rfl, hp⟩, _⟩ := of_loaded h
  refine ⟨lw, le, hs, hp, ?_⟩
  cases hiss : (s.act a).issue with
  | none => exact .inl rfl
  | some ie => have := ((inv2_of_accepted hlog).issue a ie hiss).ld o lw le hs; grind

/-- **A helper that gives up on a tag change is sound.**  The helper was created from an exact
    observation `prev` (active) made at epoch `he`; it loaded `cur` at epoch `ce`.  If it aborts
    with `cur.tag ≠ prev.tag`, then `he < ce`: the target has made a transition into pending
    (and hence carried a token, `C01_no_drop`, and could be run again, `C01_token_runnable`) since that observation. -/
theorem C02_helper_abort_sound (s s' : St) (hr : C01.Reachable s) (a o : Nat)
    (h : step s (.sasAbort a o) = some s') :
    ∃ cur prev he ce, (s.act a).sas = some (o, cur, prev, he, ce) ∧ prev.st = sActive ∧
      cur.st = sActive ∧ (cur.tag ≠ prev.tag → he < ce) := by
  obtain ⟨log, hlog⟩ := hr
  obtain ⟨o, cur, prev, he, ce, hs, ⟨rfl, hst, hne⟩, _⟩ := of_sas h
  have := (inv2_of_accepted hlog).sas a o cur prev he ce hs
  exact ⟨cur, prev, he, ce, hs, by grind⟩

/-! ## Non-vacuity: a wake-up aimed at a suspended task, and one aimed at an active task -/

def wS : W := ⟨sSuspended, 1, 2⟩

/-- task 1 suspended; actor 2 resumes it: load, exchange, queue, return; worker 1 runs it again -/
def wakeLog : List Ev :=
  C01.exampleLog ++
  [.stsEnter 2 1 sPending, .stsLoad 2 1 wS, .restore2 2 1 wS ⟨sPending, 1, 3⟩, .push 2 1, .stsDone 2 1,
   .got 1 1 ⟨sPending, 1, 3⟩ false, .tagged 1 1 ⟨sPending, 1, 3⟩ ⟨sActive, 1, 4⟩, .phaseBegin 1 1]

example : (runLog step init wakeLog).isSome = true := by decide

/-- the target is still active when the waker looks: helper; the target then suspends; the helper
    re-issues the request, which now finds it suspended -/
def helperLog : List Ev :=
  [.new 0 1 C01.w0, .push 0 1, .got 1 1 C01.w0 false, .tagged 1 1 C01.w0 ⟨sActive, 1, 1⟩, .phaseBegin 1 1,
   .stsEnter 2 1 sPending, .stsLoad 2 1 ⟨sActive, 1, 1⟩, .stsHelper 2 1,
   .phaseEnd 1 1 sSuspended, .restore1 1 1 ⟨sActive, 1, 1⟩ ⟨sSuspended, 1, 2⟩,
   .sasLoad 3 1 ⟨sSuspended, 1, 2⟩ ⟨sActive, 1, 1⟩, .sasRetry 3 1,
   .stsEnter 3 1 sPending, .stsLoad 3 1 ⟨sSuspended, 1, 2⟩, .restore2 3 1 ⟨sSuspended, 1, 2⟩ ⟨sPending, 1, 3⟩,
   .push 3 1, .stsDone 3 1]

example : (runLog step init helperLog).isSome = true := by decide

end PikaVerif.C02
