import PikaVerif.Props.C09
import PikaVerif.Lemmas.OnceU5
/-!
# C09u (call_once part) — termination modulo the spin round, final states of maximal runs

Model: `PikaVerif.Once` (`Model/Once.lean`).  Program layer (`Lemmas/OnceU2.lean`):
`Once.pstep` = the model's `step` restricted to a program (`callers thr`: each of the `k` threads
calls `call_once` once on the same flag, `thr t` = the callable of caller `t` throws), plus the
observation `res t` = the value the call of `t` returned (0 normally, 2 = exception).

**Stutter.**  No single accepted event leaves the state unchanged (`C09u_once_no_stutter_event`).
What repeats is the *spin round* of the spin window (`C09.onceSpinLog`,
`C09.once_spin_window_reachable`): a caller that lost the
CAS while the status is `running` and the flag of `event_` is still `true` (left by the `set` of an
earlier failed attempt; the re-elected winner has not yet executed `event_.reset()`, or that late
`set` landed after the reset) goes `onceLoad t, onceLost t false, evLoad t true` and the model is
back in exactly the same state (`C09u_once_spin_round`).  The event closing the round — the
fast-path return `evLoad t true` of `event_.wait()` inside `call_once` — is the only accepted
event that does not decrease the measure (`C09u_once_measure`); in a program of callers every
`evLoad _ true` is of this kind (`C09u_once_spin_is_retry`).

**Termination modulo spins.**  `log.length ≤ 21 k² + 12 k + 3 · spins log`
(`C09u_once_bounded_modulo_spins`; `spins` = number of `evLoad _ true`; 3 = events of a round).
Quadratic: a throwing winner makes the others retry, so up to `k` attempts, and the `event_.set()`
ending an attempt may wake up to `k` waiters (`21 k + 11` per caller: its own possible set costs
`7 k` for raising waiters that will now see the flag + `14 k` for the tokens of `notify_all`).
The unit that has to be discounted is the whole round (3 events), not only its closing event:
without the qualification, and also when only the `evLoad _ true` events are left out of the
count, the statement is false (`C09u_once_unbounded_spin`: 3 callers, `19 + 3 m` events of which
`2 + m` are spins, so `17 + 2 m` non-spin events, for every `m`).

**Final states.**  A run is maximal when no event at all is accepted (`Once.PStuck`; a state in
which only a spin is enabled is *not* final: after the spin the caller is at the status load,
whose event is not a spin: `C09u_once_progress_modulo_spins`).  Every run extends to a maximal
one (`C09u_once_maximal_exists`).  `C09u_once_final_states`,
`C09u_once_normal_return_after_completion`.
-/
namespace PikaVerif.C09uOnce
open PikaVerif PikaVerif.Once PikaVerif.C09

/-- **No stutter event.**  Every accepted event changes the model state. -/
theorem C09u_once_no_stutter_event (s s' : St) (e : Ev) (h : step s e = some s') : s' ≠ s :=
  step_ne s s' e h

/-- **The spin round is the stutter.**  In any state where thread `t` is at the status load of
    `call_once`, the status is `running` and the event flag is `true`, the three events
    `onceLoad t, onceLost t false, evLoad t true` are accepted and lead back to the same state
    (so they can be repeated any number of times). -/
theorem C09u_once_spin_round (s : St) (t : Nat) (thr : Bool) (htn : t < s.n)
    (hpc : s.pc t = .cLoad thr) (hst : s.status = .running) (hf : s.flag = true) :
    runLog step s [.onceLoad t, .onceLost t false, .evLoad t true] = some s :=
  spin_round s t thr htn hpc hst hf

/-- the hypotheses of `C09u_once_spin_round` hold in a reachable state (the finding's witness) -/
example : ∃ s, runLog step (init 3) onceSpinLog = some s ∧ 2 < s.n ∧ s.pc 2 = .cLoad false ∧
    s.status = .running ∧ s.flag = true := by
  refine ⟨_, rfl, ?_⟩
  decide

/-- **The measure.**  For every accepted event `e` (any state): an invocation adds the price of
    the operation; the fast-path return of `event_.wait()` inside `call_once` (`evLoad t true` at
    `wWant (once _)`) raises `mu` by exactly 2; the same event in a stand-alone `wait` and every
    other event strictly decrease `mu`. -/
theorem C09u_once_measure (s s' : St) (e : Ev) (h : step s e = some s') :
    (∀ t o, e = .inv t o → mu s' + 1 = mu s + rank s.n false (entry o)) ∧
    ((∀ t o, e ≠ .inv t o) → (∀ t, e ≠ .evLoad t true) → mu s' < mu s) ∧
    (∀ t, e = .evLoad t true →
      (∀ thr, s.pc t = .wWant (.once thr) → mu s' = mu s + 2) ∧
      (s.pc t = .wWant .top → mu s' < mu s)) := by
  refine ⟨?_, fun h1 h2 => mu_step h1 h2 h, ?_⟩
  · intro t o he; subst he; exact mu_inv h
  · intro t he; subst he
    have := mu_evLoad h
    exact ⟨fun thr hpc => this.2 rfl thr hpc, fun hpc => this.1 (Or.inr hpc)⟩

/-- **Termination modulo spins, `k` callers.**  Every accepted log of `k` callers of `call_once`
    (any throwing pattern, any interleaving) has at most `21 k² + 12 k` events plus 3 per
    fast-path return (`spins log`); in particular a log without spin has at most `21 k² + 12 k`
    events. -/
theorem C09u_once_bounded_modulo_spins (thr : Nat → Bool) (k : Nat) (log : List Ev) (p : PSt)
    (h : runLog pstep (pinit k (callers thr)) log = some p) :
    log.length ≤ 21 * k * k + 12 * k + 3 * spins log ∧
    log.length - 3 * spins log ≤ 21 * k * k + 12 * k ∧
    (spins log = 0 → log.length ≤ 21 * k * k + 12 * k) := by
  have := runLog_phi h
  rw [phi_pinit, bound_callers] at this
  refine ⟨by omega, by omega, ?_⟩
  intro h0; omega

/-- the same for any finite program over the event / call_once operations (`bound n prog` =
    `n` + Σ price of the operations: `wait` 8, `set` `21 n + 6`, `reset` 3, `occurred` 2,
    `call_once` `21 n + 11`) -/
theorem C09u_once_bounded_modulo_spins_prog (n : Nat) (prog : Nat → List Op) (log : List Ev) (p : PSt)
    (h : runLog pstep (pinit n prog) log = some p) :
    log.length ≤ bound n prog + 3 * spins log := by
  have := runLog_phi h
  rw [phi_pinit] at this
  omega

/-- **Every counted spin is the retry of a loser.**  In a run of `k` callers every accepted
    `evLoad t true` is the fast-path return of `event_.wait()` called from inside `call_once`: the
    caller had lost the CAS, the flag is `true`, and the caller is back at the status load. -/
theorem C09u_once_spin_is_retry (thr : Nat → Bool) (k : Nat) (log : List Ev) (p p' : PSt) (t : Nat)
    (h : runLog pstep (pinit k (callers thr)) log = some p)
    (he : pstep p (.evLoad t true) = some p') :
    p.s.pc t = .wWant (.once (thr t)) ∧ p.s.flag = true ∧ p'.s.pc t = .cLoad (thr t) := by
  obtain ⟨hA, _, hJ⟩ := J_of_accepted thr k log p h
  exact callers_spin_ctx thr p p' t hA hJ he

/-- three callers; the callable of caller 0 throws -/
def thrSpin : Nat → Bool := fun t => decide (t = 0)

/-- **The unqualified statement is false.**  Three callers: for every `m` there is an accepted log
    with `19 + 3 m` events (`onceSpinLog` of the finding followed by `m` spin rounds of caller 2,
    while winner 1 sits in its callable). -/
theorem C09u_once_unbounded_spin (m : Nat) :
    ∃ p, runLog pstep (pinit 3 (callers thrSpin)) (onceSpinLog ++ rounds 2 m) = some p ∧
      (onceSpinLog ++ rounds 2 m).length = 19 + 3 * m ∧ spins (onceSpinLog ++ rounds 2 m) = 2 + m := by
  obtain ⟨p0, hp0, h1, h2, h3, h4⟩ : ∃ p0, runLog pstep (pinit 3 (callers thrSpin)) onceSpinLog = some p0 ∧
      2 < p0.s.n ∧ p0.s.pc 2 = .cLoad false ∧ p0.s.status = .running ∧ p0.s.flag = true := by
    refine ⟨_, rfl, ?_⟩
    decide
  refine ⟨p0, ?_, ?_, ?_⟩
  · rw [runLog_append, hp0]
    exact pspin_rounds p0 2 false h1 h2 h3 h4 m
  · rw [List.length_append, rounds_length]; rfl
  · have : ∀ l, spins (onceSpinLog ++ l) = 2 + spins l := by
      intro l; simp [onceSpinLog, spins]; omega
    rw [this, rounds_spins]

/-- **Final states of maximal runs of `k` callers.**  Let `log` be an accepted log of `k` callers
    after which no event at all is accepted.  Then
    * every caller has called, returned and finished, with result 0 (normal) or 2 (exception), and
      an exception only if its own callable throws;
    * if at least one callable does not throw: the status is `complete`, exactly one non-throwing
      callable was entered and exactly one `complete` stored in the whole run (exactly one
      successful execution), nobody is inside the winner's section, and every caller whose
      callable does not throw returned normally;
    * if every callable throws: every caller returned with its (own) exception, no non-throwing
      callable was entered and `complete` was never stored. -/
theorem C09u_once_final_states (thr : Nat → Bool) (k : Nat) (log : List Ev) (p' : PSt)
    (h : runLog pstep (pinit k (callers thr)) log = some p') (hst : PStuck p') :
    (∀ t, t < k → p'.s.pc t = .fin ∧ p'.prog t = [] ∧
      ∃ r, p'.res t = some r ∧ (r = 0 → p'.s.status = .complete) ∧ (r = 0 ∨ (r = 2 ∧ thr t = true))) ∧
    ((∃ t, t < k ∧ thr t = false) →
      p'.s.status = .complete ∧ okBodies log = 1 ∧ completes log = 1 ∧ rsum p'.s = 0 ∧
      ∀ t, t < k → thr t = false → p'.res t = some 0) ∧
    ((∀ t, t < k → thr t = true) →
      (∀ t, t < k → p'.res t = some 2) ∧ okBodies log = 0 ∧ completes log = 0 ∧
      p'.s.status ≠ .complete) :=
  ⟨callers_final thr k log p' h hst, callers_some_ok thr k log p' h hst,
   callers_all_throw thr k log p' h hst⟩

/-- **Normal returns come after the successful execution.**  In every accepted log of `k` callers
    (maximal or not), in front of every normal return `ret t 0` the log contains exactly one entry
    of a non-throwing callable and exactly one store of `complete`: the unique successful
    execution has finished before any caller returns normally. -/
theorem C09u_once_normal_return_after_completion (thr : Nat → Bool) (k : Nat) (log1 log2 : List Ev)
    (t : Nat) (p' : PSt)
    (h : runLog pstep (pinit k (callers thr)) (log1 ++ .ret t 0 :: log2) = some p') :
    okBodies log1 = 1 ∧ completes log1 = 1 :=
  callers_ret_after thr k log1 log2 t p' h

/-- **A state where only spins are enabled is not final; progress modulo spins.**  From every
    reachable state of `k` callers in which some event is accepted there is an accepted
    continuation of at most 4 events that lowers `phi` (one non-spin event if one is enabled;
    otherwise only spins `evLoad t true` are enabled, then the status is not `running` and the
    spinning caller continues `onceLoad, onceWon, stored false` or `onceLoad, ret 0, done`). -/
theorem C09u_once_progress_modulo_spins (thr : Nat → Bool) (k : Nat) (log : List Ev) (p : PSt)
    (h : runLog pstep (pinit k (callers thr)) log = some p) (hns : ¬ PStuck p) :
    ∃ ext p1, ext.length ≤ 4 ∧ runLog pstep p ext = some p1 ∧ phi p1 < phi p :=
  progress thr k p ⟨log, h⟩ hns

/-- **Maximal runs exist.**  Every accepted log of `k` callers extends to a maximal one (so
    `C09u_once_final_states` speaks about the end of every run that is not cut short and does not
    spin forever). -/
theorem C09u_once_maximal_exists (thr : Nat → Bool) (k : Nat) (log : List Ev) (p : PSt)
    (h : runLog pstep (pinit k (callers thr)) log = some p) :
    ∃ ext p', runLog pstep (pinit k (callers thr)) (log ++ ext) = some p' ∧ PStuck p' := by
  obtain ⟨ext, p', he, hs⟩ := exists_maximal thr k p ⟨log, h⟩
  exact ⟨ext, p', by rw [runLog_append, h]; exact he, hs⟩

/-! ### Non-vacuity -/

/-- two callers, the callable of caller 1 throws -/
def thr2 : Nat → Bool := fun t => decide (t = 1)

/-- a maximal run of two callers: caller 1 wins, throws; caller 0 lost the CAS, blocked, is woken
    by the failed winner's `set`, retries, wins, completes; results 0 and 2 -/
example : ∃ p', runLog pstep (pinit 2 (callers thr2)) (onceExampleLog ++ [.done 0, .done 1]) = some p' ∧
    PStuck p' ∧ p'.res 0 = some 0 ∧ p'.res 1 = some 2 ∧ p'.s.status = .complete := by
  refine ⟨_, rfl, fin_stuck _ ?_, rfl, rfl, rfl⟩
  intro t ht
  have : t = 0 ∨ t = 1 := by simp only [pinit, init] at ht; omega
  rcases this with rfl | rfl <;> rfl

/-- a maximal run of two callers whose callables both throw: both return with the exception -/
example : ∃ p', runLog pstep (pinit 2 (callers (fun _ => true)))
      [.inv 0 (.call true), .onceLoad 0, .onceWon 0, .stored 0 false, .body 0 true, .onceStored 0 false,
       .stored 0 true, .slAcq 0, .notifyAll 0 [], .slRel 0, .ret 0 2, .done 0,
       .inv 1 (.call true), .onceLoad 1, .onceWon 1, .stored 1 false, .body 1 true, .onceStored 1 false,
       .stored 1 true, .slAcq 1, .notifyAll 1 [], .slRel 1, .ret 1 2, .done 1] = some p' ∧
    PStuck p' ∧ p'.res 0 = some 2 ∧ p'.res 1 = some 2 ∧ p'.s.status = .zero := by
  refine ⟨_, rfl, fin_stuck _ ?_, rfl, rfl, rfl⟩
  intro t ht
  have : t = 0 ∨ t = 1 := by simp only [pinit, init] at ht; omega
  rcases this with rfl | rfl <;> rfl

/-- the bound for 3 callers is 225; the finding's spin log (19 events, 2 spins) is within
    `225 + 3 * 2` -/
example : 21 * 3 * 3 + 12 * 3 = 225 ∧ onceSpinLog.length = 19 ∧ spins onceSpinLog = 2 := by decide

end PikaVerif.C09uOnce
