import PikaVerif.Props.C09
import PikaVerif.Lemmas.LatchU3
/-!
# C09u — termination of `pika::latch` programs

`Props/C09.lean` states progress of the latch as "no stuck state except blocked waiters"
(`C09_latch_stuck_only_when_blocked`, `C09_latch_all_released`).  This file strengthens it to
**termination** with an explicit bound and a characterisation of the final states of maximal runs.

**Stutter.**  The model `PikaVerif.Latch` has **no stutter** (`C09u_latch_no_stutter`): a failed
attempt on the internal spinlock is not an event of the model (`slAcq` is accepted only when the
lock is free; the spinning thread's `sl.lock` / `ag.yield` lines are dropped by the driver before
the acceptor), `try_wait` is one `ret`, `wait` calls `cond_.wait` once (no loop).  For the real code
the bounds below are bounds *modulo spinning on the internal lock*.

* `Latch.mu` (sum of a rank of every program counter + 3 per queued cv entry) strictly decreases
  with every accepted event other than the invocation of a new operation
  (`C09u_latch_measure_decreases`); the `notify_one` loop is paid for by the entries it pops.
* A *program* gives each of the `n` threads a finite list of `count_down(k)` / `arrive_and_wait(k)` /
  `wait` / `try_wait` (`Latch.PSt`, `Latch.pstep`).  Every accepted log of a program has at most
  `Latch.bound n prog` ≤ `n + 14 · #operations` events (`C09u_latch_bounded`), every accepted log
  extends to a maximal one (`C09u_latch_maximal_exists`), in the final state of a maximal log every
  thread has finished its whole program or is parked in `wait` / `arrive_and_wait`, the latter only
  with a non-zero counter (`C09u_latch_final_state`).
* **Covered programs** (`C09u_latch_covered_all_return`): if the updates of the program respect the
  precondition of the latch (`progTotal ≤ count`) and the updates that are *not sequenced behind a
  wait of their own thread* reach the count (`count ≤ progFree`), every maximal run ends with the
  counter at zero and **every** thread finished: all waiters returned.  The two qualifications are
  necessary: `C09u_latch_naive_false_self_wait` (latch(1), one thread `wait ; count_down(1)`: the
  updates sum to the count, the thread blocks for ever) and `C09u_latch_naive_false_overshoot`
  (latch(1), `count_down(2)`: the counter jumps from 1 to -1, `notified_` is never set, the waiter
  blocks for ever — a violation of the precondition of `count_down`, not a defect).
* **Short programs** (`C09u_latch_short_all_waiters_blocked`): if the updates sum to less than the
  count, in the final state of every maximal run the counter is positive, every thread whose list
  contains a `wait` / `arrive_and_wait` is parked in it, and every other thread has finished.
-/
namespace PikaVerif.C09uLatch
open PikaVerif PikaVerif.Latch PikaVerif.C09

/-- **The measure decreases.**  Every accepted event that is not the invocation of a new operation
    strictly decreases `mu`; an invocation of `o` adds exactly `opRank o - 1` (in any state, reachable
    or not). -/
theorem C09u_latch_measure_decreases (s s' : St) (e : Ev) (he : step s e = some s') :
    (∀ t o, e = .inv t o → mu s' + 1 = mu s + opRank o) ∧
    ((∀ t o, e ≠ .inv t o) → mu s' < mu s) := by
  refine ⟨?_, fun hne => mu_step hne he⟩
  intro t o heq; subst heq; exact mu_inv he

/-- **No stutter.**  No accepted event leaves the state unchanged. -/
theorem C09u_latch_no_stutter (s s' : St) (e : Ev) (he : step s e = some s') : s' ≠ s := by
  intro heq
  subst heq
  obtain ⟨h1, h2⟩ := C09u_latch_measure_decreases s' s' e he
  by_cases hinv : ∃ t o, e = .inv t o
  · obtain ⟨t, o, rfl⟩ := hinv
    have := h1 t o rfl
    have : 2 ≤ opRank o := by cases o <;> simp [opRank]
    omega
  · have := h2 (fun t o h => hinv ⟨t, o, h⟩)
    omega

/-- **Every accepted event of a program strictly decreases the program measure `phi`.** -/
theorem C09u_latch_program_measure_decreases (p p' : PSt) (e : Ev) (h : pstep p e = some p') :
    phi p' < phi p := layer.phi_lt potential trivial h

/-- **Bounded runs.**  Any accepted log of a finite program (`n` threads, initial count `c`, `prog t`
    the operations of thread `t`) has at most `bound n prog` events — whatever the interleaving —
    and `bound n prog ≤ n + 14 · (number of operations)`. -/
theorem C09u_latch_bounded (n : Nat) (c : Int) (prog : Nat → List Op) (log : List Ev) (p : PSt)
    (h : runLog pstep (pinit n c prog) log = some p) :
    log.length ≤ bound n prog ∧ bound n prog ≤ n + 14 * sumTo n (fun t => (prog t).length) := by
  have : log.length + phi p ≤ phi (pinit n c prog) := layer.length_le potential trivial h
  rw [phi_pinit] at this
  exact ⟨by omega, bound_le n prog⟩

/-- the logs of a program are logs of the model: everything proved in `Props/C09.lean` about
    accepted logs applies -/
theorem C09u_latch_program_refines (n : Nat) (c : Int) (prog : Nat → List Op) (log : List Ev) (p : PSt)
    (h : runLog pstep (pinit n c prog) log = some p) :
    runLog step (init n c) log = some p.s := layer.run h

/-- **Maximal runs exist and are finite.**  Every accepted log of a program extends to a maximal
    one (a state in which no event at all is accepted), still within the bound. -/
theorem C09u_latch_maximal_exists (n : Nat) (c : Int) (prog : Nat → List Op) (log : List Ev) (p : PSt)
    (h : runLog pstep (pinit n c prog) log = some p) :
    ∃ ext p', runLog pstep (pinit n c prog) (log ++ ext) = some p' ∧ PStuck p' ∧
      (log ++ ext).length ≤ bound n prog :=
  phi_pinit n c prog ▸ layer.maximal_exists potential trivial h

/-- **Final states.**  In the final state of a maximal run every thread has finished its whole
    program or is parked in `wait` / `arrive_and_wait` without a pending wake-up; if any thread is
    parked the counter is not zero. -/
theorem C09u_latch_final_state (n : Nat) (c : Int) (prog : Nat → List Op) (log : List Ev) (p : PSt)
    (h : runLog pstep (pinit n c prog) log = some p) (hst : PStuck p) :
    (∀ t, t < n → (p.s.pc t = .fin ∧ p.prog t = []) ∨ LBlocked p.s t) ∧
    ((∃ t, t < n ∧ LBlocked p.s t) → p.s.counter ≠ 0) ∧
    p.s.counter = c - (p.s.decSum : Int) ∧ progFree n prog ≤ p.s.decSum ∧ p.s.decSum ≤ progTotal n prog := by
  have hi := pinv_of_run h
  have hacc := hi.inv.account
  rw [hi.initEq] at hacc
  refine ⟨final_fin_or_blocked hi hst, ?_, hacc, final_decSum_ge hi hst,
    by have := counter_ge hi; omega⟩
  rintro ⟨t, _, hb⟩
  exact C09_latch_all_released p.s hi.reach (complete.stuck hst) t hb

/-- **Covered programs: all waiters return.**  If the updates of the program do not exceed the
    count (precondition of `count_down` / `arrive_and_wait`) and the updates that are not sequenced
    behind a `wait` / `arrive_and_wait` of their own thread reach it, then in the final state of
    **every** maximal run the counter is zero and every thread has finished its whole program: every
    `wait` and `arrive_and_wait` returned. -/
theorem C09u_latch_covered_all_return (n : Nat) (c : Int) (prog : Nat → List Op) (log : List Ev) (p : PSt)
    (h : runLog pstep (pinit n c prog) log = some p) (hst : PStuck p)
    (hpre : (progTotal n prog : Int) ≤ c) (hcov : c ≤ (progFree n prog : Int)) :
    p.s.counter = 0 ∧ ∀ t, t < n → p.s.pc t = .fin ∧ p.prog t = [] :=
  final_covered (pinv_of_run h) hst hpre hcov

/-- **Short programs: every waiter is blocked** (the converse).  If the updates of the program sum
    to less than the count, then in the final state of every maximal run the counter is positive,
    every thread whose list contains a `wait` or an `arrive_and_wait` is parked in it, and every
    thread without one has finished its whole program. -/
theorem C09u_latch_short_all_waiters_blocked (n : Nat) (c : Int) (prog : Nat → List Op) (log : List Ev)
    (p : PSt) (h : runLog pstep (pinit n c prog) log = some p) (hst : PStuck p)
    (hshort : (progTotal n prog : Int) < c) :
    0 < p.s.counter ∧ ∀ t, t < n →
      (hasWait (prog t) = true → LBlocked p.s t) ∧
      (hasWait (prog t) = false → p.s.pc t = .fin ∧ p.prog t = []) :=
  final_short h hst hshort

/-! ### The naive statement "updates sum to at least the count ⇒ all waiters return" is false -/

/-- one thread: `wait ; count_down(1)` on latch(1) -/
def progSelf : Nat → List Op := fun t => if t = 0 then [.wait, .cd 1] else []

/-- thread 0 `wait`, thread 1 `count_down(2)` on latch(1) -/
def progOver : Nat → List Op := fun t => if t = 0 then [.wait] else if t = 1 then [.cd 2] else []

/-- the updates sum to the count, but the only `count_down` is sequenced behind the thread's own
    `wait`: a maximal run ends with the thread parked (so `progFree`, not `progTotal`, is the right
    quantity in `C09u_latch_covered_all_return`) -/
theorem C09u_latch_naive_false_self_wait :
    (progTotal 1 progSelf : Int) ≥ 1 ∧ progFree 1 progSelf = 0 ∧
    ∃ log p, runLog pstep (pinit 1 1 progSelf) log = some p ∧ PStuck p ∧ LBlocked p.s 0 := by
  refine ⟨by decide, by decide, [.inv 0 .wait, .slAcq 0, .mustwait 0 1 false, .cvEnq 0 1, .slRel 0, .suspend 0],
    _, rfl, ?_, ?_⟩
  · apply pstuck_of_rest
    · rfl
    · intro t ht
      have : t = 0 := by simp [pinit, init] at ht; omega
      subst this; right; simp [upd, pinit, init]
  · simp [LBlocked, upd, pinit, init]

/-- the updates exceed the count in one step (precondition of `count_down` violated): the counter
    goes 1 → -1, is never seen at zero, `notified_` stays false and the waiter is parked for ever
    (so `progTotal ≤ count` is needed in `C09u_latch_covered_all_return`) -/
theorem C09u_latch_naive_false_overshoot :
    (progFree 2 progOver : Int) ≥ 1 ∧
    ∃ log p, runLog pstep (pinit 2 1 progOver) log = some p ∧ PStuck p ∧ LBlocked p.s 0 ∧
      p.s.counter = -1 := by
  refine ⟨by decide, [.inv 0 .wait, .slAcq 0, .mustwait 0 1 false, .cvEnq 0 1, .slRel 0, .suspend 0,
      .inv 1 (.cd 2), .dec 1 (-1) 2, .ret 1 false, .done 1],
    _, rfl, ?_, ?_, rfl⟩
  · apply pstuck_of_rest
    · rfl
    · intro t ht
      have : t = 0 ∨ t = 1 := by simp [pinit, init] at ht; omega
      rcases this with rfl | rfl
      · right; simp [upd, pinit, init]
      · left; simp [upd]
  · simp [LBlocked, upd, pinit, init]

/-! ### Non-vacuity -/

/-- latch(2), three threads: `wait`, `count_down(1) ; wait`, `arrive_and_wait(1)` — covered -/
def progOk : Nat → List Op := fun t =>
  if t = 0 then [.wait] else if t = 1 then [.cd 1, .wait] else if t = 2 then [.aw 1] else []

example : (progTotal 3 progOk : Int) ≤ 2 ∧ (2 : Int) ≤ progFree 3 progOk := by decide
example : bound 3 progOk = 52 := by decide

/-- a complete accepted run of `progOk` in which thread 0 blocks, thread 2 blocks in
    `arrive_and_wait`, thread 1's `count_down` reaches zero and its notify loop wakes both -/
def runOk : List Ev :=
  [.inv 0 .wait, .slAcq 0, .mustwait 0 2 false, .cvEnq 0 1, .slRel 0, .suspend 0,
   .inv 2 (.aw 1), .slAcq 2, .dec 2 1 1, .cvEnq 2 2, .slRel 2, .suspend 2,
   .inv 1 (.cd 1), .dec 1 0 1, .slAcq 1, .notified 1 false, .popResume 1 1 0, .slRel 1,
   .slAcq 1, .popResume 1 0 2, .slRel 1, .ret 1 false,
   .inv 1 .wait, .slAcq 1, .nowait 1 0 true, .slRel 1, .ret 1 false, .done 1,
   .woke 0, .slAcq 0, .cvWoke 0 false, .slRel 0, .ret 0 false, .done 0,
   .woke 2, .slAcq 2, .cvWoke 2 false, .slRel 2, .ret 2 false, .done 2]

example : (runLog pstep (pinit 3 2 progOk) runOk).isSome = true := by decide
example : runOk.length = 40 := by decide

/-- the hypotheses of `C09u_latch_covered_all_return` are satisfiable by a real maximal run -/
example : ∃ log p, runLog pstep (pinit 3 2 progOk) log = some p ∧ PStuck p ∧
    (progTotal 3 progOk : Int) ≤ 2 ∧ (2 : Int) ≤ progFree 3 progOk := by
  obtain ⟨ext, p', h, hst, _⟩ := C09u_latch_maximal_exists 3 2 progOk [] _ rfl
  exact ⟨_, p', h, hst, by decide, by decide⟩

/-- a short program: latch(2), `wait` and `count_down(1)` -/
def progShort : Nat → List Op := fun t => if t = 0 then [.wait] else if t = 1 then [.cd 1] else []

example : ∃ log p, runLog pstep (pinit 2 2 progShort) log = some p ∧ PStuck p ∧
    (progTotal 2 progShort : Int) < 2 ∧ hasWait (progShort 0) = true ∧ hasWait (progShort 1) = false := by
  obtain ⟨ext, p', h, hst, _⟩ := C09u_latch_maximal_exists 2 2 progShort [] _ rfl
  exact ⟨_, p', h, hst, by decide, by decide, by decide⟩

/-- the measure of the model along the notify loop: popping a queued waiter pays for the iteration -/
example : mu (init 2 1) = 2 := by decide

end PikaVerif.C09uLatch
