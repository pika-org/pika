import PikaVerif.Lemmas.JoinCatch
import PikaVerif.Props.C13
/-!
# C13j: joins of a task whose user code handled an earlier `thread_interrupted`

Model `JoinCatch` (`Model/JoinCatch.lean`): the join acceptor (every hook event is judged by `Join.step`,
the code as it is) plus the event `caught o` — a handler of the USER code swallows the exception and the
task carries on inside its thread function.  The theorems quantify over every log accepted by that model
(`Reachable`): any number of tasks, handles, joins, interruptions and handlers, any interleaving.

What `thread::join` does with an interruption request that is already pending when it is entered:
`lock; joinable?; self?; interruption_point()` — the request is found **before**
`add_thread_exit_callback`, it is cleared, the lock is released by the unwinding, the exception leaves
`join`: nothing was registered on the target.  The theorems below say that this is what keeps every later
join of the same task sound; `C13j_register_first_releases_join_early` is the machine-checked failing log of
the variant that registers first (seeded change C13f).
-/
namespace PikaVerif.C13j
open PikaVerif PikaVerif.Join PikaVerif.JoinCatch

def Reachable (s : JoinCatch.St) : Prop := ∃ log, runLog JoinCatch.step JoinCatch.init log = some s

theorem Reachable.cinv {s : JoinCatch.St} (h : Reachable s) : CInv s := by
  obtain ⟨log, hl⟩ := h
  exact cinv_of_accepted hl

/-! ## A join that ends with `thread_interrupted` at its entry leaves nothing behind -/

/-- **Callbacks registered = joins currently waiting, per target and joiner.**  In every reachable state, for
    every task `j` and target `o`: if `j` is inside `join` on `o` past the registration and before its wake-up,
    then exactly one of {its callback in `o`'s list, its callback taken out by `o`'s exit loop, the wake-up
    token} exists; otherwise no callback of `j` is on `o` (nor in `o`'s exit loop), and a task that is not
    waiting at all has no wake-up token — whatever interruptions `j` handled before. -/
theorem C13j_callbacks_eq_waiting_joins (s : JoinCatch.St) (hr : Reachable s) (j o : Nat) :
    (waitsB (s.base.jpc j) o = true →
        s.base.tok j + (cntL (s.base.funcs o) j + runCnt (s.base.phase o) j) = 1) ∧
    (waitsB (s.base.jpc j) o = false → cntL (s.base.funcs o) j + runCnt (s.base.phase o) j = 0) ∧
    (waitsAny (s.base.jpc j) = false → s.base.tok j = 0) := by
  have hi := hr.cinv.base
  refine ⟨hi.balance j o, fun hw => Nat.eq_zero_of_not_pos fun h => ?_, fun hw => (hi.no_stale j hw).1⟩
  rw [hi.cbOwner j o h] at hw; cases hw

/-- **A join that ends with `thread_interrupted` at its entry registers nothing.**  When the interruption
    point at the entry of `join` (task `j`, handle `h`, target `o`) finds the request, the task is outside
    `join`, `mtx_` of the handle is free again, the handle still refers to what it referred to (it stays
    joinable), no callback list and no token changed, and **no exit callback of `j` is registered on any
    target, none is in any exit loop, and `j` has no wake-up token**. -/
theorem C13j_entry_interruption_registers_nothing (s s' : JoinCatch.St) (hr : Reachable s) (j h o : Nat)
    (thr : Bool) (hp : s.base.jpc j = .checked h o)
    (hs : JoinCatch.step s (.base (.ipHit j thr)) = some s') :
    s'.base.jpc j = .out ∧ s'.base.mtx h = none ∧ s'.base.hid = s.base.hid ∧ s'.base.funcs = s.base.funcs ∧
      s'.base.tok = s.base.tok ∧ s'.entryIntr j = s.entryIntr j + 1 ∧
      s'.base.tok j = 0 ∧ ∀ o', cntL (s'.base.funcs o') j + runCnt (s'.base.phase o') j = 0 := by
  have hi' := (step_cinv s s' _ hr.cinv hs).base
  have shape : s'.base.jpc j = .out ∧ s'.base.mtx h = none ∧ s'.base.hid = s.base.hid ∧
      s'.base.funcs = s.base.funcs ∧ s'.base.tok = s.base.tok ∧ s'.entryIntr j = s.entryIntr j + 1 := by
    obtain ⟨b, hb, rfl⟩ := step_base hs
    cases Step.of_step hb with
    | ipHit _ _ _ hq => rw [hp] at hq; cases hq
    | ipHitJoin _ _ _ hq => rw [hp] at hq; cases hq; simp [note, hp, atEntry]
  obtain ⟨a1, a2, a3, a4, a5, a6⟩ := shape
  have := hi'.no_stale j (by simp [a1])
  exact ⟨a1, a2, a3, a4, a5, a6, this.1, this.2⟩

/-! ## Every wake-up of a joiner comes from the target of its current join, after that target's function returned -/

/-- **`resume_thread(j)` is only ever run by the target of `j`'s CURRENT join**, from that target's exit-callback
    loop (so after its thread function returned), while `j` is waiting for exactly that target and has no other
    wake-up pending — also when `j` handled interruptions of earlier joins (`s.handled j` is arbitrary). -/
theorem C13j_resume_from_current_target (s s' : JoinCatch.St) (hr : Reachable s) (j r : Nat)
    (hs : JoinCatch.step s (.base (.resume j r)) = some s') :
    waitsB (s.base.jpc j) r = true ∧ started (s.base.phase r) = true ∧ afterBody (s.base.phase r) = true ∧
      s.base.tok j = 0 ∧ s'.base.tok j = 1 := by
  have hi := hr.cinv.base
  obtain ⟨b, hb, rfl⟩ := step_base hs
  cases Step.of_step hb with
  | resume hp =>
    obtain ⟨hw, ht, _⟩ := hi.running hp
    refine ⟨hw, by simp [hp], by simp [hp], ht, ?_⟩
    show upd s.base.tok j (s.base.tok j + 1) j = 1
    rw [upd_same, ht]

/-- **The suspension inside `join` only returns after the target of that join left its thread function**:
    when `jn.woke` is accepted for `j`, `j` is suspended in a join on some `o` and `o`'s exit-callback
    processing has begun. -/
theorem C13j_woke_by_current_target (s s' : JoinCatch.St) (hr : Reachable s) (h j : Nat)
    (hs : JoinCatch.step s (.base (.jnWoke h j)) = some s') :
    ∃ o, s.base.jpc j = .susp h o ∧ started (s.base.phase o) = true ∧ afterBody (s.base.phase o) = true := by
  obtain ⟨b, hb, rfl⟩ := step_base hs
  cases Step.of_step hb with
  | @jnWoke _ _ o hp ht =>
    have hst := hr.cinv.base.tokStarted j o (by simp [hp]) ht
    exact ⟨o, hp, hst, started_afterBody _ hst⟩

/-- **join-after-exit, also for joiners that handled an earlier interruption.**  Whenever a `join` completes
    (`jn.done`), its own target has left its thread function and its exit-callback processing has begun — for
    every reachable state of `JoinCatch`, i.e. however many interrupted joins the task handled before. -/
theorem C13j_join_after_exit (s s' : JoinCatch.St) (hr : Reachable s) (h j : Nat)
    (hs : JoinCatch.step s (.base (.jnDone h j)) = some s') :
    ∃ o, (s.base.jpc j = .refused h o ∨ s.base.jpc j = .woke h o) ∧ started (s.base.phase o) = true ∧
      afterBody (s.base.phase o) = true ∧ s'.base.lastJoin j = some (h, o) := by
  obtain ⟨b, hb, rfl⟩ := step_base hs
  exact hr.cinv.base.join_after_body hb

/-- A completed join stays justified: the target recorded by the last completed join of any task is past its function. -/
theorem C13j_joined_target_finished (s : JoinCatch.St) (hr : Reachable s) (j h o : Nat)
    (hl : s.base.lastJoin j = some (h, o)) : started (s.base.phase o) = true ∧ afterBody (s.base.phase o) = true := by
  have hst := hr.cinv.base.lastJoinOk j h o hl
  exact ⟨hst, started_afterBody _ hst⟩

/-! ## The interruption request is consumed exactly once -/

/-- **Every delivery consumes its own request.**  Per task: deliveries completed + the delivery in progress + the
    request still pending ≤ requests stored; interruptions handled by user code (or still propagating) ≤ deliveries.
    So one `interrupt()` gives at most one `thread_interrupted`: after the join entered with the pending request
    threw, the next join of the task (and every other interruption point) passes unless `interrupt()` is called
    again. -/
theorem C13j_request_consumed_once (s : JoinCatch.St) (hr : Reachable s) (t : Nat) :
    s.ndel t + hitN (s.base.phase t) + pendN (s.base.req t) (s.base.phase t) ≤ s.nreq t ∧
    s.handled t + unwN (s.base.phase t) ≤ s.ndel t :=
  ⟨hr.cinv.once t, hr.cinv.handledLe t⟩

/-- **The delivery consumes the request**: it clears `requested_interrupt_` and is counted once. -/
theorem C13j_delivery_clears_request (s s' : JoinCatch.St) (o : Nat)
    (hs : JoinCatch.step s (.base (.ipClear o)) = some s') :
    s.base.phase o = .hit ∧ s'.base.phase o = .unwinding ∧ s'.base.req o = false ∧ s'.ndel o = s.ndel o + 1 := by
  obtain ⟨b, hb, rfl⟩ := step_base hs
  cases Step.of_step hb with
  | ipClear hp => exact ⟨hp, upd_same .., upd_same .., upd_same ..⟩

/-- **A pending request is delivered**: an interruption point that finds interruption enabled and a request
    stored cannot pass (`ip.test` miss is not accepted). -/
theorem C13j_pending_request_is_delivered (s : JoinCatch.St) (o : Nat) (he : s.base.en o = true)
    (hq : s.base.req o = true) : JoinCatch.step s (.base (.ipMiss o)) = none := by
  simp [JoinCatch.step, Join.step, he, hq]

/-- the handler of the user code puts the task back into its thread function and changes nothing else of the join
    state (no callback, token, handle or lock is touched) -/
theorem C13j_caught_effect (s s' : JoinCatch.St) (o : Nat) (hs : JoinCatch.step s (.caught o) = some s') :
    s.base.phase o = .unwinding ∧ s.base.jpc o = .out ∧ s'.base.phase o = .body ∧ s'.handled o = s.handled o + 1 ∧
      s'.base.jpc = s.base.jpc ∧ s'.base.funcs = s.base.funcs ∧ s'.base.tok = s.base.tok ∧ s'.base.hid = s.base.hid ∧
      s'.base.mtx = s.base.mtx ∧ s'.base.req = s.base.req ∧ ∀ t, t ≠ o → s'.base.phase t = s.base.phase t := by
  simp only [JoinCatch.step] at hs
  split at hs
  · rename_i hg
    simp only [Option.some.injEq] at hs; subst hs
    refine ⟨hg.1, hg.2, by simp, by simp, rfl, rfl, rfl, rfl, rfl, rfl, ?_⟩
    intro t ht; simp [upd, ht]
  · simp at hs

/-! ## Join always returns, also after handled interruptions -/

/-- the environment's choices are those of the join model (`C13.External`); an exception that propagates is never at
    rest (it reaches a handler of the user code — `caught` — or the one of `thread_function_nullary`) -/
def External (s : JoinCatch.St) : JoinCatch.Ev → Prop
  | .base e => C13.External s.base e
  | .caught _ => False

def Stuck (s : JoinCatch.St) : Prop := ∀ e, JoinCatch.step s e ≠ none → External s e

/-- **join always returns (progress), for tasks that handled interruptions as well.**  The statement of
    `C13_join_returns` over the reachable states of `JoinCatch`: in a stuck state every task is outside `join` or
    suspended in `join` without a wake-up token while ITS target has not left its thread function; no task is inside its
    exit-callback processing, at an interruption delivery or in an unhandled unwinding. -/
theorem C13j_join_returns (s : JoinCatch.St) (hr : Reachable s) (hs : Stuck s) :
    (∀ j, s.base.jpc j = .out ∨ ∃ h o, s.base.jpc j = .susp h o ∧ s.base.tok j = 0 ∧
        (s.base.phase o = .fresh ∨ s.base.phase o = .body)) ∧
    (∀ o, s.base.phase o = .fresh ∨ s.base.phase o = .body ∨ s.base.phase o = .exited) := by
  have hs' : C13.Stuck s.base := by
    intro e he
    refine hs (.base e) ?_
    simp only [JoinCatch.step]
    cases h : Join.step s.base e with
    | none => exact absurd h he
    | some b => exact Option.some_ne_none _
  exact Join.join_returns_of_inv s.base hr.cinv.base fun e hc => Classical.not_not.mp fun h =>
    (by cases e <;> simp_all [C13.External, Continues] : ¬ C13.External s.base e) (hs' e h)

/-! ## The variant that registers before testing (seeded change C13f) -/

/-- tasks: 1 = creator, 2 = first target (handle 1), 3 = second target (handle 2), 4 = J (handle 3).  J is interrupted
    before it runs; `join(1)`: registered, unlocked, suspending: the interruption point inside `suspend` throws; J's
    handler; `join(2)`: registered, suspended; target 2 exits and runs the callback LEFT BEHIND; J's `join(2)` returns. -/
def rfWitness : List JoinCatch.Ev :=
  [.base (.body 1), .base (.start 1 2 1), .base (.start 2 3 1), .base (.start 3 4 1), .base (.ipReq 4 true),
   .base (.body 2), .base (.body 3), .base (.body 4),
   .base (.jnLock 1 4), .base (.jnChecked 1 4 2), .base (.ecAdd 2 4 1), .base (.jnUnlock 1 4), .base (.jnSusp 1 4),
   .base (.ipHit 4 true), .base (.ipClear 4), .caught 4,
   .base (.jnLock 2 4), .base (.jnChecked 2 4 3), .base (.ecAdd 3 4 1), .base (.jnUnlock 2 4), .base (.jnSusp 2 4),
   .base (.bodyDone 2), .base (.ecBegin 2 1), .base (.ecTake 2 0), .base (.resume 4 2), .base (.ecNext 2 0),
   .base (.ecRan 2), .base (.jnWoke 2 4), .base (.jnDone 2 4)]

/-- **Counterexample for the variant that registers first** (machine-checked, the log of the seeded tree
    `e2_join 1 0 joinpend 1 --pika:threads=1` with small numbers): the log is accepted by `stepRF`, and at its end
    J's second join (handle 2, target 3) has returned **while target 3 is still inside its thread function**; J handled
    exactly one interruption.  So `C13j_join_after_exit` / `C13j_joined_target_finished` are false of that variant. -/
theorem C13j_register_first_releases_join_early :
    ∃ s, runLog JoinCatch.stepRF JoinCatch.init rfWitness = some s ∧ s.base.lastJoin 4 = some (2, 3) ∧
      s.base.phase 3 = .body ∧ afterBody (s.base.phase 3) = false ∧ s.handled 4 = 1 ∧ s.base.hid 1 = some 2 := by
  refine ⟨_, rfl, ?_⟩
  decide

/-- the model of the code as it is rejects that log — at the `ec.add` that follows `jn.checked` without an
    interruption point in between (prefix of 10 events accepted, the 11th rejected) -/
theorem C13j_code_rejects_register_first :
    runLog JoinCatch.step JoinCatch.init rfWitness = none ∧
    (runLog JoinCatch.step JoinCatch.init (rfWitness.take 10)).isSome = true ∧
    runLog JoinCatch.step JoinCatch.init (rfWitness.take 11) = none := by
  decide

/-! ## Non-vacuity -/

/-- the `joinpend` program on the code as it is: J (task 4) interrupted before it runs, `join(1)` throws at its entry,
    J's handler, `join(2)` suspends; the creator joins target 2, which exits: only the creator is resumed -/
def pendLog : List JoinCatch.Ev :=
  [.base (.body 1), .base (.start 1 2 1), .base (.start 2 3 1), .base (.start 3 4 1), .base (.ipReq 4 true),
   .base (.body 2), .base (.body 3), .base (.body 4),
   .base (.jnLock 1 4), .base (.jnChecked 1 4 2), .base (.ipHit 4 true), .base (.ipClear 4), .caught 4,
   .base (.jnLock 2 4), .base (.jnChecked 2 4 3), .base (.ipMiss 4), .base (.ecAdd 3 4 1), .base (.jnUnlock 2 4),
   .base (.jnSusp 2 4),
   .base (.jnLock 1 1), .base (.jnChecked 1 1 2), .base (.ipMiss 1), .base (.ecAdd 2 1 1), .base (.jnUnlock 1 1),
   .base (.jnSusp 1 1), .base (.bodyDone 2), .base (.ecBegin 2 1), .base (.ecTake 2 0), .base (.resume 1 2),
   .base (.ecNext 2 0), .base (.ecRan 2), .base (.exited 2), .base (.term 2), .base (.jnWoke 1 1), .base (.jnDone 1 1)]

/-- after the first target exited J is still suspended in its second join, without a token; it handled one interruption,
    one join ended at its entry, the request was stored once and delivered once, the first handle is no longer joinable
    (the creator joined it), the second still is -/
example : ∃ s, runLog JoinCatch.step JoinCatch.init pendLog = some s ∧ s.base.jpc 4 = .susp 2 3 ∧ s.base.tok 4 = 0 ∧
    s.handled 4 = 1 ∧ s.entryIntr 4 = 1 ∧ s.nreq 4 = 1 ∧ s.ndel 4 = 1 ∧ s.base.req 4 = false ∧
    s.base.phase 3 = .body ∧ s.base.hid 1 = none ∧ s.base.hid 2 = some 3 := by
  refine ⟨_, rfl, ?_⟩
  decide

/-- continuing `pendLog`: the second join completes once its own target exits -/
example : ∃ s, runLog JoinCatch.step JoinCatch.init (pendLog ++
    [.base (.bodyDone 3), .base (.ecBegin 3 1), .base (.ecTake 3 0), .base (.resume 4 3), .base (.ecNext 3 0),
     .base (.ecRan 3), .base (.jnWoke 2 4), .base (.jnDone 2 4), .base (.bodyDone 4)]) = some s ∧
    s.base.lastJoin 4 = some (2, 3) ∧ started (s.base.phase 3) = true ∧ s.base.phase 4 = .finished ∧
    s.base.interrupted 4 = false := by
  refine ⟨_, rfl, ?_⟩
  decide

/-- the state right after the interrupted entry: handle 1 still joinable, its lock free, nothing registered on target 2 -/
example : ∃ s, runLog JoinCatch.step JoinCatch.init (pendLog.take 12) = some s ∧ s.base.phase 4 = .unwinding ∧
    s.base.hid 1 = some 2 ∧ s.base.mtx 1 = none ∧ s.base.funcs 2 = [] ∧ s.base.jpc 4 = .out := by
  refine ⟨_, rfl, ?_⟩
  decide

/-- without a handler in the user code the same interruption ends the thread as in the main model (`jn.interrupted`) -/
example : (runLog JoinCatch.step JoinCatch.init (pendLog.take 12 ++
    [.base (.interrupted 4), .base (.bodyDone 4), .base (.ecBegin 4 0), .base (.ecRan 4)])).isSome = true := by
  decide

/-- a second `interrupt()` after the handler is delivered at the entry of the next join: two requests, two deliveries -/
example : ∃ s, runLog JoinCatch.step JoinCatch.init (pendLog.take 13 ++
    [.base (.ipReq 4 true), .base (.jnLock 2 4), .base (.jnChecked 2 4 3), .base (.ipHit 4 true), .base (.ipClear 4),
     .caught 4]) = some s ∧ s.handled 4 = 2 ∧ s.entryIntr 4 = 2 ∧ s.nreq 4 = 2 ∧ s.ndel 4 = 2 ∧
     s.base.hid 2 = some 3 ∧ s.base.funcs 3 = [] := by
  refine ⟨_, rfl, ?_⟩
  decide

/-- a stuck state with J legitimately blocked in its second join (after the handled interruption) exists: `pendLog`
    ends in one when nobody releases target 3 (J suspended, no token, target 3 in its body) -/
example : ∃ s, runLog JoinCatch.step JoinCatch.init (pendLog ++ [.base (.joinable 1 1 false)]) = some s ∧
    s.base.jpc 4 = .susp 2 3 ∧ s.base.tok 4 = 0 ∧ s.base.phase 3 = .body ∧ s.base.phase 2 = .exited ∧ s.handled 4 = 1 := by
  refine ⟨_, rfl, ?_⟩
  decide

/-- a handler cannot be entered by a task that is not unwinding -/
example : JoinCatch.step JoinCatch.init (.caught 1) = none := by decide

end PikaVerif.C13j
