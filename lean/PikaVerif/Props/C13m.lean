import PikaVerif.Props.C13
import PikaVerif.Lemmas.JoinOwn
/-!
# C13m — handle operations of `pika::thread` / `pika::jthread`

Move construction, move assignment, `swap`, `detach`, destruction of `pika::thread` handles and the
`jthread` destructor's `joinable()` test, over *all* accepted logs of the model `PikaVerif.Join`
(its events `mvCtor mvAssign mvTerm swap dtorOk dtorTerm jtSkip` and its ghost map
`owner : task ↦ handle`).  `std::terminate` (destroying, or move-assigning onto, a joinable handle) is
an *error event* (`dtorTerm`, `mvTerm`, counted in `errs`); the harness must never see one on a legal
program (the driver reports it).

Second part: interruption of a task that is blocked inside `thread::join` (model `IJ` below, with the
machine-checked counterexample for the pinned code and the theorems for what does hold).  The two models
are complementary: `Join.step` accepts an interruption-point hit (`ipHit`) only outside `join` or at its
entry (`jpc = .out` / `.checked`); the interruption points inside `this_thread::suspend` are not events of
that model, so the theorems of C13 (`C13_join_after_body`, `C13_no_stale_wakeup`, `C13_join_returns`) say
nothing about runs in which a suspended joiner is interrupted.  `IJ` models exactly those runs, and there
join-after-exit fails (`C13m_interrupted_join_stale_wake`).
-/
namespace PikaVerif.C13m
open PikaVerif PikaVerif.Join PikaVerif.C13

theorem own_of_reachable {s : St} (h : Reachable s) : OwnInv s := by
  obtain ⟨log, hl⟩ := h
  exact own_of_accepted hl

/-! ## exactly one handle owns a running thread -/

/-- **At most one handle refers to a thread**, at any time, whatever moves / swaps / joins happened. -/
theorem C13m_unique_owner (s : St) (hr : Reachable s) (h1 h2 o : Nat)
    (a : s.hid h1 = some o) (b : s.hid h2 = some o) : h1 = h2 := by
  have ha := (own_of_reachable hr).ownHid h1 o a
  have hb := (own_of_reachable hr).ownHid h2 o b
  rw [ha] at hb
  exact Option.some.inj hb

/-- **A thread that has an owner keeps one**: a thread that is owned by a handle stays owned by (exactly) one handle
    — possibly another one after a move or swap — until the owning handle is joined, detached or
    destroyed while joinable (the error event).  Together with `C13m_unique_owner` and
    `C13m_start_owns`: from its creation to its release a thread has exactly one owner. -/
theorem C13m_owner_kept (s s' : St) (e : Ev) (hr : Reachable s) (hs : step s e = some s') (h o : Nat)
    (ho : s.hid h = some o) : (∃ h', s'.hid h' = some o) ∨ Releases h e := by
  have hi := own_of_reachable hr
  refine (owner_kept s s' e hi hs h o (hi.ownHid h o ho)).imp_left fun h1 => ?_
  obtain ⟨h', hw⟩ := Option.isSome_iff_exists.mp h1
  exact ⟨h', (step_own s s' e hi hs).hidOwn o h' hw⟩

/-- `start_thread` binds the new thread to the constructing handle; nobody owned it before. -/
theorem C13m_start_owns (s s' : St) (hr : Reachable s) (h o p : Nat) (hs : step s (.start h o p) = some s') :
    s'.hid h = some o ∧ s.hid h = none ∧ ∀ h', s.hid h' ≠ some o := by
  cases Step.of_step hs with
  | start hn _ hw =>
    refine ⟨upd_same .., hn, fun h' hc => ?_⟩
    rw [(own_of_reachable hr).ownHid h' o hc] at hw
    cases hw

/-- **A thread is not joinable after join or detach — through any handle**: when `join` completes on
    (or `detach` is applied to) the handle that refers to thread `o`, no handle refers to `o` afterwards. -/
theorem C13m_released_not_joinable (s s' : St) (hr : Reachable s) (h j o : Nat) (ho : s.hid h = some o) :
    (step s (.jnDone h j) = some s' → ∀ h', s'.hid h' ≠ some o) ∧
    (∀ r, step s (.detach h j r) = some s' → ∀ h', s'.hid h' ≠ some o) := by
  -- each of the rules `jnDoneRefused`, `jnDoneWoke`, `detach` sets `hid h` to `none`, and no other handle refers to `o`
  have key : ∀ h', upd s.hid h none h' ≠ some o := fun h' hc => by
    by_cases he : h' = h
    · subst he; rw [upd_same] at hc; cases hc
    · rw [upd_other _ _ _ _ he] at hc; exact he (C13m_unique_owner s hr h' h o hc ho)
  refine ⟨fun hs => ?_, fun r hs => ?_⟩
  · cases Step.of_step hs <;> exact key
  · cases Step.of_step hs; exact key

/-- the events that can make handle `h` joinable -/
def Rebinds (h : Nat) : Ev → Prop
  | .start h' _ _ | .mvCtor h' _ _ | .mvAssign h' _ _ => h' = h
  | .swap h' h1 _ => h' = h ∨ h1 = h
  | _ => False

/-- **A handle that is not joinable stays so** until a thread is explicitly bound to it again
    (construction, move construction / assignment into it, swap with it). -/
theorem C13m_stays_not_joinable (s s' : St) (e : Ev) (hs : step s e = some s') (h : Nat)
    (hn : s.hid h = none) : s'.hid h = none ∨ Rebinds h e := by
  cases Step.of_step hs with
  | start | jnDoneRefused | jnDoneWoke | detach | mvCtor | mvAssign | swap | dtorTerm =>
    simp only [Rebinds]; grind [upd]
  | _ => exact .inl hn

/-- **Move construction / assignment transfers the thread**: the source becomes not joinable, the
    destination (which must not be joinable) refers to what the source referred to, nothing else changes. -/
theorem C13m_move_transfers (s s' : St) (h h1 : Nat) (o : Option Nat)
    (hs : step s (.mvCtor h h1 o) = some s' ∨ step s (.mvAssign h h1 o) = some s') :
    s.hid h = none ∧ o = s.hid h1 ∧ s'.hid h = s.hid h1 ∧ s'.hid h1 = none ∧
    (∀ h', h' ≠ h → h' ≠ h1 → s'.hid h' = s.hid h') ∧ s'.errs = s.errs ∧ s'.phase = s.phase ∧
    s'.jpc = s.jpc ∧ s'.funcs = s.funcs ∧ s'.tok = s.tok ∧ s'.mtx = s.mtx := by
  rcases hs with hs | hs <;> cases Step.of_step hs <;> rename_i g2 g1 <;>
    exact ⟨g2, rfl, by simp, by simp [upd, Ne.symm g1], fun h' a b => by simp [upd, a, b], rfl, rfl, rfl, rfl, rfl, rfl⟩

/-- `swap` exchanges the two ids and nothing else. -/
theorem C13m_swap_exchanges (s s' : St) (h h1 : Nat) (o : Option Nat) (hs : step s (.swap h h1 o) = some s') :
    s'.hid h = s.hid h1 ∧ s'.hid h1 = s.hid h ∧ (∀ h', h' ≠ h → h' ≠ h1 → s'.hid h' = s.hid h') ∧
    s'.errs = s.errs ∧ s'.phase = s.phase ∧ s'.jpc = s.jpc ∧ s'.funcs = s.funcs ∧ s'.tok = s.tok := by
  cases Step.of_step hs with
  | swap g1 =>
    exact ⟨by simp, by simp [upd, Ne.symm g1], fun h' a b => by simp [upd, a, b], rfl, rfl, rfl, rfl, rfl⟩

/-- the error events: `std::terminate` -/
def IsTerminate : Ev → Prop
  | .mvTerm _ _ | .dtorTerm _ _ => True
  | _ => False

/-- **Destroying a joinable `pika::thread` is the error event** (termination handler / `std::terminate`),
    destroying one that is not joinable is silent. -/
theorem C13m_dtor_terminates_iff_joinable (s : St) (h j : Nat) (hm : s.mtx h = none) :
    ((s.hid h).isSome = true → step s (.dtorOk h j) = none ∧ (step s (.dtorTerm h j)).isSome = true) ∧
    (s.hid h = none → step s (.dtorTerm h j) = none ∧ step s (.dtorOk h j) = some s) := by
  refine ⟨?_, ?_⟩
  · intro hj
    cases hh : s.hid h with
    | none => rw [hh] at hj; simp at hj
    | some o => simp [step, hh, hm]
  · intro hn
    simp [step, hn, hm]

/-- **Move-assigning onto a joinable handle is the error event** (`operator=` is `noexcept` and throws):
    the model accepts no transfer, only `mvTerm`. -/
theorem C13m_assign_onto_joinable_terminates (s : St) (h h1 : Nat) (hj : (s.hid h).isSome = true) :
    (∀ o, step s (.mvAssign h h1 o) = none) ∧
    (h ≠ h1 → s.mtx h = none → s.mtx h1 = none → (step s (.mvTerm h h1)).isSome = true) := by
  cases hh : s.hid h with
  | none => rw [hh] at hj; simp at hj
  | some t =>
    refine ⟨?_, ?_⟩
    · intro o; simp [step, hh]
    · intro a b c; simp [step, hh, a, b, c]

/-- `errs` counts exactly the error events; an error event is accepted only on a joinable handle. -/
theorem C13m_terminate_counted (s s' : St) (e : Ev) (hs : step s e = some s') :
    (¬ IsTerminate e ∧ s'.errs = s.errs) ∨ (IsTerminate e ∧ s'.errs = s.errs + 1) := by
  cases Step.of_step hs with
  | mvTerm | dtorTerm => exact .inr ⟨trivial, rfl⟩
  | _ => exact .inl ⟨id, rfl⟩

/-- A log without error events ends with `errs = 0` (what the driver checks on every run). -/
theorem C13m_legal_no_terminate (log : List Ev) (s : St) (hl : runLog step init log = some s)
    (hlegal : ∀ e ∈ log, ¬ IsTerminate e) : s.errs = 0 := by
  refine inv_of_runLog_where (fun s => s.errs = 0) (fun e => ¬ IsTerminate e) ?_ rfl hl hlegal
  intro s e s' he h0 hs
  rcases C13m_terminate_counted s s' e hs with ⟨_, h2⟩ | ⟨h2, _⟩
  · rw [h2, h0]
  · exact absurd h2 he

/-! ## jthread -/

/-- **The jthread destructor requests stop and joins iff the jthread is joinable**: the branch
    `request_stop(); join()` is entered only with a joinable handle, the other branch (`jt.skip`) only with
    one that is not joinable and changes nothing.  What happens inside the first branch is
    `C13_jthread_stop_before_join` / `C13_jthread_dtor` (stop request, then join on this handle, which
    returns after the thread function of the thread the handle referred to). -/
theorem C13m_jthread_dtor_iff_joinable (s s' : St) (h j : Nat) :
    (step s (.jtDtor h j) = some s' → (s.hid h).isSome = true ∧ s'.dt j = some (h, false)) ∧
    (step s (.jtSkip h j) = some s' → s.hid h = none ∧ s' = s) := by
  refine ⟨fun hs => ?_, fun hs => ?_⟩
  · cases Step.of_step hs with
    | jtDtor hj => exact ⟨hj, upd_same ..⟩
  · cases Step.of_step hs with
    | jtSkip hn => exact ⟨hn, rfl⟩

/-- **jthread move**: after `jthread(jthread&&)` (= move construction of the `thread_` member) the
    destructor of the moved-from jthread cannot enter the stop-and-join branch, the destructor of the
    moved-to jthread enters it iff a thread was transferred. -/
theorem C13m_jthread_moved_from_skips (s s' : St) (h h1 : Nat) (o : Option Nat)
    (hs : step s (.mvCtor h h1 o) = some s') (j : Nat) :
    step s' (.jtDtor h1 j) = none ∧ (o = none → step s' (.jtDtor h j) = none) := by
  have ht := C13m_move_transfers s s' h h1 o (Or.inl hs)
  obtain ⟨_, g2, g3, g4, _⟩ := ht
  refine ⟨by simp [step, g4], ?_⟩
  intro ho
  rw [ho] at g2
  simp [step, g3, ← g2]

/-! ## Interruption of a task that is blocked inside `thread::join`

`thread::join` suspends with `this_thread::suspend(suspended)`, which tests for an interruption before
and after the context switch; `interrupt()` on the joiner sets the request and wakes it
(`set_thread_state(pending, abort)`), so a joiner blocked in `join` is interrupted there: the exception
leaves `join` before `detach_locked()` (the handle stays joinable).  **The callback
`resume_thread(joiner)` that `join` registered on the target is not withdrawn** (and holds the raw, not
reference-counted id of the joiner).  `IJ` is the model of exactly this protocol for one joiner task
and any number of targets, following the code as it is. -/
namespace IJ

inductive JSt where
  | idle                       -- running user code (outside join)
  | waiting (o a : Nat)        -- suspended in `join` on target `o`, attempt number `a`
  deriving DecidableEq, Repr

structure St where
  j : JSt := .idle
  att : Nat := 0                        -- number of join attempts started
  running : Nat → Bool := fun _ => true -- the target's thread function has not returned
  cb : Nat → Bool := fun _ => false     -- the joiner's exit callback is registered on the target
  joinable : Nat → Bool := fun _ => true -- the target's handle
  tok : Nat := 0                        -- wake-ups aimed at the joiner and not yet consumed
  req : Bool := false                   -- `requested_interrupt_` of the joiner
  completed : List Nat := []            -- history: attempts that returned normally
  abandoned : List Nat := []            -- history: attempts that ended with `thread_interrupted`
  early : Bool := false                 -- history: a join returned while its target was still running

inductive Ev where
  | joinReg (o : Nat)      -- lock, joinable, callback accepted, unlock, suspend
  | joinRefused (o : Nat)  -- callback refused (target done): join returns at once
  | reqIntr                -- `interrupt()` on the joiner
  | intr                   -- the interruption point inside `suspend` throws
  | exit (o : Nat)         -- target `o` returns and runs its exit callbacks
  | wake                   -- the suspension returns normally; `detach_locked()`
  deriving Repr

def step (s : St) : Ev → Option St
  | .joinReg o =>
    if s.j = .idle ∧ s.joinable o = true ∧ s.running o = true ∧ s.req = false then
      some { s with j := .waiting o s.att, att := s.att + 1, cb := upd s.cb o true }
    else none
  | .joinRefused o =>
    if s.j = .idle ∧ s.joinable o = true ∧ s.running o = false ∧ s.req = false then
      some { s with att := s.att + 1, completed := s.att :: s.completed, joinable := upd s.joinable o false }
    else none
  | .reqIntr => some { s with req := true }
  | .intr =>
    match s.j with
    | .waiting _ a => if s.req = true then
        -- the callback stays registered (code as it is)
        some { s with j := .idle, req := false, abandoned := a :: s.abandoned }
      else none
    | .idle => none
  | .exit o =>
    if s.running o = true then
      some { s with running := upd s.running o false, cb := upd s.cb o false,
                    tok := if s.cb o then s.tok + 1 else s.tok }
    else none
  | .wake =>
    match s.j with
    | .waiting o a => if 0 < s.tok ∧ s.req = false then
        some { s with j := .idle, tok := s.tok - 1, completed := a :: s.completed,
                      joinable := upd s.joinable o false, early := s.early || s.running o }
      else none
    | .idle => none

def waitsOn : JSt → Nat → Bool
  | .waiting o _, o' => o == o'
  | .idle, _ => false

/-- the number of the join attempt in progress -/
def attOf : JSt → Option Nat
  | .waiting _ a => some a
  | .idle => none

/-- attempt numbers are below `att`; `completed` and `abandoned` are disjoint, and the attempt in progress is
    in neither (so an attempt ends in exactly one of the two lists) -/
structure Inv (s : St) : Prop where
  cLt : ∀ x ∈ s.completed, x < s.att
  aLt : ∀ x ∈ s.abandoned, x < s.att
  disj : ∀ x, x ∈ s.completed → x ∈ s.abandoned → False
  cur : ∀ a, attOf s.j = some a → a < s.att ∧ a ∉ s.completed ∧ a ∉ s.abandoned

/-- invariant of the runs in which no join was interrupted -/
structure Clean (s : St) : Prop where
  cbWait : ∀ o, s.cb o = true → waitsOn s.j o = true ∧ s.running o = true
  tokLe : s.tok ≤ 1
  tokWait : s.tok = 1 → ∃ o, waitsOn s.j o = true ∧ s.running o = false
  notEarly : s.early = false

end IJ

theorem IJ.inv_step (s s' : IJ.St) (e : IJ.Ev) (hi : IJ.Inv s) (hs : IJ.step s e = some s') : IJ.Inv s' := by
  obtain ⟨h1, h2, h3, h4⟩ := hi
  cases e <;> simp only [IJ.step] at hs
  case reqIntr => cases hs; exact ⟨h1, h2, h3, h4⟩
  case exit => split at hs <;> cases hs; exact ⟨h1, h2, h3, h4⟩
  case joinReg | joinRefused => split at hs <;> cases hs; constructor <;> grind [IJ.attOf]
  all_goals
    split at hs
    case h_2 => cases hs
    split at hs <;> cases hs
    constructor <;> grind [IJ.attOf]

theorem IJ.inv_of_accepted {log : List IJ.Ev} {s : IJ.St} (h : runLog IJ.step {} log = some s) : IJ.Inv s :=
  inv_of_runLog IJ.Inv (fun s e s' => IJ.inv_step s s' e)
    ⟨by simp, by simp, by simp, by simp [IJ.attOf]⟩ h

/-- **The joiner either observes the interruption or completes the join, never both**: over all
    accepted logs no join attempt is recorded both as completed and as abandoned. -/
theorem C13m_intr_xor_complete (log : List IJ.Ev) (s : IJ.St) (h : runLog IJ.step {} log = some s) (a : Nat) :
    ¬ (a ∈ s.completed ∧ a ∈ s.abandoned) := fun ⟨h1, h2⟩ => (IJ.inv_of_accepted h).disj a h1 h2

/-- **An interrupted join leaves the handle joinable and changes nothing else** (the exception leaves
    `join` before `detach_locked()`); in the code as it is the callback stays registered, too. -/
theorem C13m_intr_keeps_joinable (s s' : IJ.St) (hs : IJ.step s .intr = some s') :
    ∃ o a, s.j = .waiting o a ∧ s.req = true ∧ s'.j = .idle ∧ s'.joinable = s.joinable ∧ s'.completed = s.completed ∧
      s'.abandoned = a :: s.abandoned ∧ s'.cb = s.cb ∧ s'.tok = s.tok := by
  simp only [IJ.step] at hs
  split at hs
  · rename_i o a hj
    split at hs
    · rename_i hr
      simp only [Option.some.injEq] at hs; subst hs
      exact ⟨o, a, hj, hr, rfl, rfl, rfl, rfl, rfl, rfl⟩
    · simp at hs
  · simp at hs

/-- the failing history, as reproduced on the real code (`e2_join 1 0 joinintr 1 --pika:threads=3`,
    findings/C13m-interrupted-join-stale-callback.json): join on 1 interrupted, join on 2 started, 1 exits
    and runs the callback left behind, the join on 2 returns although 2 is still running -/
def IJ.witness : List IJ.Ev := [.joinReg 1, .reqIntr, .intr, .joinReg 2, .exit 1, .wake]

/-- **Counterexample for the code as it is** (machine-checked): the exit callback left behind by an
    interrupted join is *not* harmless — it releases a later join of the same task whose target is still
    running.  The full statement "∀ accepted log, `early = false`" (join returns only after the thread
    function returned, also after interrupted joins) is therefore false of the pinned tree; what holds is
    the `_partial` below. -/
theorem C13m_interrupted_join_stale_wake :
    ∃ s, runLog IJ.step {} IJ.witness = some s ∧ s.early = true ∧ s.running 2 = true ∧
      s.completed = [1] ∧ s.abandoned = [0] ∧ s.joinable 2 = false := by
  refine ⟨_, rfl, ?_⟩
  decide

theorem IJ.clean_step (s s' : IJ.St) (e : IJ.Ev) (hne : e ≠ .intr) (hi : IJ.Clean s)
    (hs : IJ.step s e = some s') : IJ.Clean s' := by
  obtain ⟨h1, h2, h3, h4⟩ := hi
  cases e <;> simp only [IJ.step] at hs
  case intr => exact absurd rfl hne
  case reqIntr => cases hs; exact ⟨h1, h2, h3, h4⟩
  case joinRefused => split at hs <;> cases hs; exact ⟨h1, h2, h3, h4⟩
  case joinReg o =>
    split at hs <;> cases hs
    constructor <;> grind [upd, IJ.waitsOn]
  case exit o =>
    split at hs <;> cases hs
    -- a pending wake-up is for a target that has returned, so it is not for `o`
    have : s.cb o = true → s.tok = 0 := fun hc => by cases hj : s.j <;> grind [IJ.waitsOn]
    constructor <;> grind [upd, IJ.waitsOn]
  case wake =>
    split at hs
    case h_2 => cases hs
    split at hs <;> cases hs
    constructor <;> grind [upd, IJ.waitsOn]

/-- **`_partial`: without an interrupted join, join returns only after the thread function returned**
    (logs that contain no `intr` event: every join that completed found its target finished, no wake-up
    is left over).  FULL statement (false, see `C13m_interrupted_join_stale_wake`):
    `∀ log s, runLog IJ.step {} log = some s → s.early = false`.  Missing: the callback of an abandoned
    join is neither withdrawn nor made ineffective by `thread::join`. -/
theorem C13m_join_after_exit_partial (log : List IJ.Ev) (s : IJ.St) (h : runLog IJ.step {} log = some s)
    (hclean : ∀ e ∈ log, e ≠ .intr) : s.early = false ∧ (s.j = .idle → s.tok = 0 ∧ ∀ o, s.cb o = false) := by
  have hc : IJ.Clean s := inv_of_runLog_where IJ.Clean (· ≠ .intr) (fun s e s' he h0 => IJ.clean_step s s' e he h0)
    ⟨by simp, by simp, by simp, rfl⟩ h hclean
  -- an idle joiner waits on nothing: `tokWait` and `cbWait` leave it no token and no callback
  obtain ⟨h1, h2, h3, h4⟩ := hc
  refine ⟨h4, fun hj => ⟨?_, fun o => ?_⟩⟩ <;> grind [IJ.waitsOn]

/-! ## Non-vacuity -/

/-- move construction, then join through the new handle; the old one reports `invalid_status` -/
example : (runLog step init
    [.body 1, .start 1 2 1, .body 2, .mvCtor 2 1 (some 2), .joinable 1 1 false, .dtorOk 1 1, .jnLock 2 1,
     .jnChecked 2 1 2, .ipMiss 1, .ecAdd 2 1 1, .jnUnlock 2 1, .jnSusp 2 1, .bodyDone 2, .ecBegin 2 1,
     .ecTake 2 0, .resume 1 2, .ecNext 2 0, .ecRan 2, .jnWoke 2 1, .jnDone 2 1, .joinable 2 1 false,
     .dtorOk 2 1]).isSome = true := by decide

/-- swap of a joinable and an empty handle, move assignment back -/
example : (runLog step init
    [.body 1, .start 1 2 1, .swap 1 3 none, .joinable 1 1 false, .joinable 3 1 true, .mvAssign 1 3 (some 2),
     .detach 1 1 true, .dtorOk 1 1, .dtorOk 3 1]).isSome = true := by decide

/-- the error events are reachable in the model (a program that destroys a joinable thread) -/
example : ∃ s, runLog step init [.body 1, .start 1 2 1, .joinable 1 1 true, .dtorTerm 1 1] = some s ∧
    s.errs = 1 ∧ s.hid 1 = none := by
  refine ⟨_, rfl, ?_⟩
  decide

/-- a handle moved away while another task is suspended in `join` on it: the join completes, the new
    handle is still joinable and a second join through it returns at once -/
example : (runLog step init
    [.body 1, .body 3, .start 1 2 1, .body 2, .jnLock 1 1, .jnChecked 1 1 2, .ipMiss 1, .ecAdd 2 1 1,
     .jnUnlock 1 1, .jnSusp 1 1, .mvCtor 2 1 (some 2), .bodyDone 2, .ecBegin 2 1, .ecTake 2 0, .resume 1 2,
     .ecNext 2 0, .ecRan 2, .jnWoke 1 1, .jnDone 1 1, .joinable 2 3 true, .jnLock 2 3, .jnChecked 2 3 2,
     .ipMiss 3, .ecAdd 2 3 0, .jnDone 2 3]).isSome = true := by decide

end PikaVerif.C13m
