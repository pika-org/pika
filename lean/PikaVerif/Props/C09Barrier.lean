import PikaVerif.Lemmas.BarrierFine
/-!
# C09 (barrier part) — `pika::barrier` releases exactly when due

Two models, two parts.  First part (`C09B_…`): property theorems about the coarse model
`PikaVerif.Barrier` (tournament-tree barrier with `uint8` phase tickets; the completion step is
one atomic step, `wait` only polls).  Second part (`C09T_…`, from "The fine model" on): the fine
model `PikaVerif.BarrierT` (timed busy-wait path of `wait`, completion step in three steps)
refines the coarse one, so the `C09B_…` theorems hold of its abstraction, plus what is specific to
it.  Every theorem quantifies over *all* accepted event logs of the model: every
number of threads `n`, every expected count `N`, every well-formed client program (the
acceptor enforces only the standard's preconditions of `arrive` / `arrive_and_drop`), every
starting node of every arrival, and every interleaving.  `Reachable s` = `s` is the state
after some accepted log from `init n N`.
-/
namespace PikaVerif.C09Barrier
open PikaVerif.Barrier
open PikaVerif.BarrierT (FInv refines)

theorem Reachable.inv {s : St} (h : Reachable s) : InvA s ∧ InvB s :=
  inv_of_reachable h

/-! ## The last arriver -/

/-- **`base.arrive` returns `true` only after all expected arrivals of the phase.**
    If `base.arrive` has returned `true` to thread `t` (and the phase is not yet published) then
    the whole expected count of the phase has been claimed by invoked operations (`count = 0`),
    no other thread is still inside an arriving operation — i.e. each of the other `expected − 1`
    calls of `base.arrive` of this phase has returned (`false`) — `t` itself has no further call
    to make, and every ticket of every round of the tree is full. -/
theorem C09B_last_only_after_all (s : St) (hr : Reachable s) (t : Nat) (ht : t < s.n)
    (hl : isWin (s.pc t) = true) :
    s.count = 0 ∧ rem (s.pc t) = 0 ∧
    (∀ t', t' < s.n → t' ≠ t → arriving (s.pc t') = false) ∧
    (∀ k c, c < nodes s.e0 k → s.tk k c = fullB s.phase) := by
  obtain ⟨h1, h2, -, h3, -, h4⟩ := last_arriver hr.inv.2 (hr.inv.2.winOk t hl)
  exact ⟨h3, h2, h1, h4⟩

/-- **At most one arriver per phase gets `true`**: two threads are never both between the
    `true` return of `base.arrive` and the phase store. -/
theorem C09B_last_unique (s : St) (hr : Reachable s) (t t' : Nat)
    (h : isWin (s.pc t) = true) (h' : isWin (s.pc t') = true) : t = t' := by
  obtain ⟨_, hb⟩ := hr.inv
  have := hb.winOk t h
  have := hb.winOk t' h'
  simp_all

/-- **Exactly one `true` return and exactly one completion call per phase, completion before
    the release.**  In every accepted log the number of `true` returns of `base.arrive` equals
    the number of published phases, plus one exactly while a last arriver is between its `true`
    return and the phase store; the number of completion-function calls equals the number of
    published phases, plus one exactly while that thread is between the completion call and the
    phase store.  (A phase store is accepted only from that program point, so every phase store is
    preceded by the one completion call of its phase.) -/
theorem C09B_completion_once_before_release (n N : Nat) (log : List Ev) (s : St)
    (h : runLog step (init n N) log = some s) :
    ((∃ t, isWin (s.pc t) = true) → lasts log = publishes log + 1) ∧
    ((¬ ∃ t, isWin (s.pc t) = true) → lasts log = publishes log) ∧
    ((∃ t, isPub (s.pc t) = true) → complCalls log = publishes log + 1) ∧
    ((¬ ∃ t, isPub (s.pc t) = true) → complCalls log = publishes log) := by
  obtain ⟨_, hb⟩ := inv_of_accepted h
  have hc := counters_log log _ s h
  simp only [init, Nat.zero_add] at hc
  obtain ⟨hc1, hc2, hc3, _⟩ := hc
  cases hw : s.win with
  | none =>
    obtain ⟨_, _, h3, h4⟩ := hb.noWin hw
    have n1 : ¬ ∃ t, isWin (s.pc t) = true := fun ⟨t, ht⟩ => by
      rw [isWin_of_win_none hb hw t] at ht; cases ht
    have n2 : ¬ ∃ t, isPub (s.pc t) = true := fun ⟨t, ht⟩ => by
      rw [(isWin_false (isWin_of_win_none hb hw t)).2] at ht; cases ht
    exact ⟨fun h => absurd h n1, fun _ => by omega, fun h => absurd h n2, fun _ => by omega⟩
  | some t =>
    obtain ⟨h1, _, h3⟩ := hb.winConv t hw
    refine ⟨fun _ => by omega, fun h => absurd ⟨t, h1⟩ h, ?_⟩
    -- the last arriver is the only thread that can be at `pub`
    have only : ∀ t', isPub (s.pc t') = true → t' = t := fun t' ht' =>
      Option.some.inj ((hb.winOk t' (by simp [isWin, ht'])).symm.trans hw)
    cases hp : isPub (s.pc t)
    · have hwon : isWon (s.pc t) = true := by simpa [isWin, hp] using h1
      have := (hb.wonF t hwon).2.2
      exact ⟨fun ⟨t', ht'⟩ => (by rw [only t' ht', hp] at ht'; cases ht'), fun _ => by omega⟩
    · have := (hb.pubF t hp).1
      exact ⟨fun _ => by omega, fun h => absurd ⟨t, hp⟩ h⟩

/-! ## Waiters -/

/-- **Nobody leaves `wait` of phase `k` before phase `k` was published** (which happens after
    all its arrivals and its one completion call, by the theorems above).  If the model accepts a
    poll of thread `t` that ends its wait, then the phase in which `t` obtained its token
    (`tokIdx t`) is strictly below the number of published phases, and the completion function has
    run for it. -/
theorem C09B_no_early_leave (s s' : St) (hr : Reachable s) (t tok seen : Nat)
    (h : step s (.poll t tok seen) = some s') (hleft : s'.pc t = .retn) :
    s.tokIdx t < s.ph ∧ s.tokIdx t < s.compls := by
  obtain ⟨_, hb⟩ := hr.inv
  cases step_iff.mp h
  rw [show ({ s with pc := upd s.pc t _ } : St).pc t = _ from upd_same ..] at hleft
  have hne : s.phase ≠ s.tok t := fun he => by rw [if_pos he] at hleft; cases hleft
  have h1 := hb.tokIdxOk t
  have hlt : s.tokIdx t < s.ph := by
    by_cases hq : s.tokIdx t = s.ph
    · exact absurd (by rw [hb.phaseEq, h1.1, hq]) hne
    · omega
  refine ⟨hlt, ?_⟩
  cases hw : s.win with
  | none => have := (hb.noWin hw).2.2.1; omega
  | some t1 =>
    obtain ⟨hwin, _, _⟩ := hb.winConv t1 hw
    simp only [isWin, Bool.or_eq_true] at hwin
    rcases hwin with hwin | hwin
    · have := (hb.wonF t1 hwin).2.2; omega
    · have := (hb.pubF t1 hwin).1; omega

/-- **A waiter whose phase is published is released by its next poll**, as long as fewer than
    128 phases were published since it obtained its token (the standard's precondition of `wait`
    allows only the current or the immediately preceding phase; after exactly 128 further phases
    the `uint8` phase byte would be equal again). -/
theorem C09B_waiter_released (s : St) (hr : Reachable s) (t : Nat) (ht : t < s.n)
    (hpc : s.pc t = .polling) (hdone : s.tokIdx t < s.ph) (hnear : s.ph - s.tokIdx t < 128) :
    ∃ s', step s (.poll t (s.tok t) s.phase) = some s' ∧ s'.pc t = .retn :=
  ⟨_, poll_leaves ht hpc (hr.inv.2.phase_ne_tok hdone hnear), upd_same ..⟩

/-! ## Reusability across phases, including the `uint8` wrap-around -/

/-- **The phase byte is `2 · (number of published phases) mod 256`, and every ticket in range
    for the phase's expected count is `phase`, `phase+1` or `phase+2` (mod 256)** — in every
    reachable state, hence also after the byte has wrapped around. -/
theorem C09B_tickets_in_phase (s : St) (hr : Reachable s) :
    s.phase = (2 * s.ph) % 256 ∧
    ∀ r c, c < nodes s.e0 r → s.tk r c = s.phase ∨ s.tk r c = halfB s.phase ∨ s.tk r c = fullB s.phase := by
  obtain ⟨_, hb⟩ := hr.inv
  refine ⟨hb.phaseEq, ?_⟩
  intro r c hc
  rcases hb.tix r c hc with h | h | h
  · exact Or.inl h
  · exact Or.inr (Or.inl h.1)
  · exact Or.inr (Or.inr h)

/-- **Reusable: at the start of a phase every in-range ticket equals the phase byte.**  In every
    reachable state in which no participant of the current phase has invoked its arrival yet
    (`count = e0`: the whole expected count is still outstanding) — in particular right after a
    phase store, with the new (possibly smaller, after `arrive_and_drop`) expected count, and
    after any number of phases (wrap-around of the byte included) — all tickets of all rounds that
    are in range for the expected count equal the phase byte, so the tree is in the same condition
    as a freshly constructed one. -/
theorem C09B_reusable (s : St) (hr : Reachable s) (hfresh : s.count = s.e0) :
    ∀ r c, c < nodes s.e0 r → s.tk r c = s.phase :=
  hr.inv.2.fresh hfresh

/-- A phase store starts the next phase with the whole (adjusted) expected count outstanding:
    together with `C09B_reusable` the barrier is reusable after every phase. -/
theorem C09B_publish_fresh (s s' : St) (t np ne : Nat) (h : step s (.publish t np ne) = some s') :
    s'.count = s'.e0 ∧ s'.e0 = s.expected ∧ s'.expected = s.expected ∧ s'.ph = s.ph + 1 ∧
    s'.phase = fullB (s.tok t) := by
  cases step_iff.mp h; exact ⟨rfl, rfl, rfl, rfl, rfl⟩

/-! ## `arrive_and_drop` -/

/-- **The expected count shrinks by the number of drops of the phase, at the phase end.**  The
    completion step of a phase sets `expected` to the phase's expected count minus the number of
    `arrive_and_drop` calls of that phase (`drops` counts the `fetch_sub`s since the last phase
    store); it is the only event that changes `expected`. -/
theorem C09B_drop (s s' : St) (hr : Reachable s) (t : Nat) (h : step s (.compl t) = some s') :
    s'.expected = s.e0 - s.drops ∧ s.expected = s.e0 := by
  cases step_iff.mp h with
  | compl _ u r ht hpc =>
    obtain ⟨-, -, -, h1, h2, -⟩ := hr.inv.2.known ht hpc
    exact ⟨by show s.expected - s.adj = _; rw [h1, h2], h1⟩

/-- **The drops of a phase never exceed its expected count**: the signed update
    `expected += expected_adjustment` of the code never goes below zero, so the natural-number
    subtraction in `C09B_drop` is exact, and the next phase expects exactly `e0 − drops`
    participants. -/
theorem C09B_drops_bounded (s : St) (hr : Reachable s) : s.drops + s.count ≤ s.e0 := by
  obtain ⟨n, N, log, hl⟩ := hr
  have := (invC_of_accepted hl).dropB
  omega

/-! ## Progress of the search loop -/

/-- **A searching arriver always has a free slot in its round.**  Whenever a thread is in the
    ticket search of round `r` (at `bar.try` / `bar.try2`), some node of that round still accepts
    an arrival: its ticket is either untouched (a CAS `old → half`, or `old → full` on the odd
    last node, succeeds there) or half-taken on a two-slot node (the CAS `half → full` succeeds).
    So the `while (true) … ++current` loop cannot spin forever on its own: the round never holds
    more arrivals than it has capacity. -/
theorem C09B_slot_available (s : St) (hr : Reachable s) (t : Nat) (ht : t < s.n) (r : Nat)
    (hin : inR r (s.pc t) = 1) (hm : 1 < mr s.e0 r) :
    ∃ c, c < nodes s.e0 r ∧ (s.tk r c = s.phase ∨ (s.tk r c = halfB s.phase ∧ cap s.e0 r c = 2)) :=
  slot_available hr.inv.2 ht hin hm

/-- **Progress: no thread is ever stuck inside an arriving operation.**  In every reachable
    quiescent state every thread is between operations, finished, or polling in `wait` for a phase
    whose byte still equals its token (the phase is not yet complete — or the token is a multiple
    of 128 phases old, which the precondition of `wait` excludes).  In particular every thread
    inside `arrive` / `arrive_and_drop` / the completion step always has an enabled step
    (together with `C09B_slot_available`: its ticket search always has a free slot), and a waiter
    whose phase byte has moved is released by its next poll. -/
theorem C09B_progress (s : St) (hr : Reachable s) (hq : Quiescent s) :
    ∀ t, t < s.n → s.pc t = .idle ∨ s.pc t = .fin ∨ (s.pc t = .polling ∧ s.phase = s.tok t) :=
  quiescent_progress hr.inv.2 hq

/-! ## Non-vacuity: concrete accepted logs -/

/-- one participant, two phases (arrive_and_wait, then arrive + wait) -/
example : (runLog step (init 1 1)
    [.inv 0 .aw, .load 0 0 1, .start 0 0, .last 0 0 1, .compl 0, .publish 0 2 1, .poll 0 0 2, .ret 0,
     .inv 0 (.arrive 1), .load 0 2 1, .start 0 0, .last 0 2 1, .compl 0, .publish 0 4 1, .ret 0]).isSome = true := by
  decide

/-- three participants on two threads (thread 1 stands for two), one of them drops: a CAS that
    observes a half-taken ticket, the odd last node, a second round, the last arriver, completion,
    publication with the expected count reduced to 2, and the release of a waiter -/
def exampleLog : List Ev :=
  [.inv 0 .aw, .load 0 0 3, .start 0 0, .cas 0 0 0 .half,
   .inv 1 .drop, .adj 1, .load 1 0 3, .start 1 0, .cas 1 0 0 .seen, .poll 0 0 0, .cas2 1 0 0 .up,
   .cas 1 0 1 .half, .ret 1,
   .inv 1 (.arrive 1), .load 1 0 3, .start 1 1, .cas 1 1 0 .up, .cas 1 0 1 .seen, .cas2 1 0 1 .up,
   .last 1 0 3, .compl 1, .publish 1 2 2, .ret 1, .poll 0 0 2, .ret 0]

example : (runLog step (init 2 3) exampleLog).isSome = true := by decide

/-- a state with a last arriver exists (`C09B_last_only_after_all` is not vacuous) -/
example : ∃ s, runLog step (init 2 3) (exampleLog.take 20) = some s ∧ isWin (s.pc 1) = true := by
  refine ⟨_, rfl, ?_⟩
  decide

/-- the events of phase `k` of a one-participant barrier -/
def soloPhase (k : Nat) : List Ev :=
  let p := (2 * k) % 256
  [.inv 0 (.arrive 1), .load 0 p 1, .start 0 0, .last 0 p 1, .compl 0, .publish 0 ((p + 2) % 256) 1, .ret 0]

def soloLog : Nat → List Ev
  | 0 => []
  | k + 1 => soloLog k ++ soloPhase k

/-- 130 phases are accepted and the phase byte has wrapped around (130 · 2 mod 256 = 4): the
    reachable states of the theorems above include states beyond the `uint8` wrap -/
example : ((runLog step (init 1 1) (soloLog 130)).map (fun s => (s.ph, s.phase))) = some (130, 4) := by
  rw [eq_flatMap_range soloLog soloPhase rfl (fun _ => rfl)]; decide +kernel

/-- why `C09B_waiter_released` needs `ph − tokIdx < 128`: a thread that waits with a token that is
    exactly 128 phases old (here: the never-used initial token 0 after 128 phases) sees the same
    byte and keeps polling — the precondition of `wait` (token of the current or the immediately
    preceding phase) excludes this -/
example : ((runLog step (init 2 1) (soloLog 128 ++ [.inv 1 .wait, .poll 1 0 0])).map
    (fun s => (s.ph, s.phase, decide (s.pc 1 = .polling)))) = some (128, 0, true) := by
  rw [eq_flatMap_range soloLog soloPhase rfl (fun _ => rfl)]; decide +kernel

/-! # The fine model: the timed busy-wait path of `wait`, and the completion step as the code does it

The theorems below are about the *fine* model `PikaVerif.BarrierT` (`Model/BarrierT.lean`):
`wait` / `arrive_and_wait` with a non-zero `busy_wait_timeout` (busy-wait phase
`yield_while_timeout`, then the blocking phase `yield_while`; the time-out may fire at any
iteration), and the completion step as three separate atomic steps (completion function;
`expected += expected_adjustment.load()`; `expected_adjustment.store(0)`) with the `fetch_sub` of
`arrive_and_drop` *not* excluded in between by the model.  `FReachable s` = `s` is the state after
some accepted log of the fine model: every `n`, `N`, program, interleaving, every choice of
time-outs. -/

def FReachable (s : BarrierT.St) : Prop :=
  ∃ n N log, runLog BarrierT.step (BarrierT.init n N) log = some s

theorem FReachable.finv {s : BarrierT.St} (h : FReachable s) : FInv s := by
  obtain ⟨n, N, log, hl⟩ := h
  exact (refines hl).2

/-- **Refinement.**  Every log the fine model accepts projects — event by event, `invT ↦ inv`,
    `spinok ↦ poll`, the adjustment load / store and the entry into the blocking phase dropped —
    to a log the coarse model accepts, ending in the abstraction of the fine final state.  Hence
    every `C09B_…` theorem (stated for `Reachable`) holds for `abs s` of every
    state of the fine model (`C09T_reachable_abs`), in particular with `wait`s that time out of
    their busy-wait phase and with the load and the store of the adjustment as separate steps. -/
theorem C09T_refines (n N : Nat) (log : List BarrierT.Ev) (s : BarrierT.St)
    (h : runLog BarrierT.step (BarrierT.init n N) log = some s) :
    runLog step (init n N) (BarrierT.projLog log) = some (BarrierT.abs s) :=
  (refines h).1

theorem C09T_reachable_abs (s : BarrierT.St) (hr : FReachable s) : Reachable (BarrierT.abs s) := by
  obtain ⟨n, N, log, hl⟩ := hr
  exact ⟨n, N, BarrierT.projLog log, (refines hl).1⟩

/-! ## Release exactly when due, on both paths of `wait` -/

/-- **Nobody leaves `wait` early, on either path.**  If thread `t` leaves its wait — by a poll of
    the blocking phase (`c (.poll …)`) or by a poll of the busy-wait phase that makes
    `yield_while_timeout` return `true` (`spinok`) — then the phase of its token has been published
    and its completion function has run. -/
theorem C09T_no_early_leave (s s' : BarrierT.St) (hr : FReachable s) (t tok seen : Nat)
    (h : BarrierT.step s (.c (.poll t tok seen)) = some s' ∨ BarrierT.step s (.spinok t tok seen) = some s')
    (hleft : s'.c.pc t = .retn) : s.c.tokIdx t < s.c.ph ∧ s.c.tokIdx t < s.c.compls :=
  C09B_no_early_leave (BarrierT.abs s) (BarrierT.abs s') (C09T_reachable_abs s hr) t tok seen
    (BarrierT.poll_abs hr.finv h) hleft

/-- **A spinning waiter observes the phase flip.**  A waiter in its busy-wait phase whose phase is
    published (fewer than 128 phases ago, the precondition of `wait`) leaves at its next poll:
    `yield_while_timeout` returns `true`. -/
theorem C09T_spinning_waiter_released (s : BarrierT.St) (hr : FReachable s) (t : Nat) (ht : t < s.c.n)
    (hpc : s.c.pc t = .polling) (htm : s.timed t = true) (hb : s.blk t = false)
    (hdone : s.c.tokIdx t < s.c.ph) (hnear : s.c.ph - s.c.tokIdx t < 128) :
    ∃ s', BarrierT.step s (.spinok t (s.c.tok t) s.c.phase) = some s' ∧ s'.c.pc t = .retn := by
  have hne : s.c.phase ≠ s.c.tok t := hr.finv.b.phase_ne_tok hdone hnear
  exact ⟨_, (BarrierT.step_pass_iff rfl).mpr ⟨⟨htm, hb, hne⟩, _, poll_leaves ht hpc hne, rfl⟩, upd_same ..⟩

/-- **A waiter in the blocking phase is released** by its next poll after the flip (the task
    re-polls after every `yield_k`; there is no notification to lose). -/
theorem C09T_blocked_waiter_released (s : BarrierT.St) (hr : FReachable s) (t : Nat) (ht : t < s.c.n)
    (hpc : s.c.pc t = .polling) (hb : s.blk t = true)
    (hdone : s.c.tokIdx t < s.c.ph) (hnear : s.c.ph - s.c.tokIdx t < 128) :
    ∃ s', BarrierT.step s (.c (.poll t (s.c.tok t) s.c.phase)) = some s' ∧ s'.c.pc t = .retn := by
  have hne : s.c.phase ≠ s.c.tok t := hr.finv.b.phase_ne_tok hdone hnear
  exact ⟨_, (BarrierT.step_pass_iff rfl).mpr ⟨.inl hb, _, poll_leaves ht hpc hne, rfl⟩, upd_same ..⟩

/-- **The flip cannot be missed, whatever happens in between.**  Once the phase of a waiter's token
    is published, every accepted step of *any* thread — further phase stores, the waiter's own
    unsuccessful or late polls, its time-out (`block`), yields — leaves it published, and leaves
    the waiter's token unchanged, as long as the waiter is still in `wait`. -/
theorem C09T_flip_never_missed (s s' : BarrierT.St) (e : BarrierT.Ev) (h : BarrierT.step s e = some s')
    (t : Nat) (hpc : s.c.pc t = .polling) (hdone : s.c.tokIdx t < s.c.ph) :
    s'.c.tokIdx t < s'.c.ph ∧ s'.c.tok t = s.c.tok t ∧ s'.c.tokIdx t = s.c.tokIdx t := by
  obtain ⟨h1, h2, h3⟩ := BarrierT.fine_flip_stable h t hpc
  exact ⟨by omega, h2, h1⟩

/-- **A waiter that times out of the busy-wait phase and then blocks does not miss a flip that
    happened in between.**  In a state where the phase of a spinning waiter's token is already
    published (e.g. the phase store fell between its last unsuccessful poll and the time check that
    fires), the time-out is accepted, and the first poll of the blocking phase ends the wait. -/
theorem C09T_timeout_cannot_miss_flip (s : BarrierT.St) (hr : FReachable s) (t : Nat) (ht : t < s.c.n)
    (hpc : s.c.pc t = .polling) (htm : s.timed t = true) (hb : s.blk t = false)
    (hdone : s.c.tokIdx t < s.c.ph) (hnear : s.c.ph - s.c.tokIdx t < 128) :
    ∃ s1 s2, BarrierT.step s (.block t true) = some s1 ∧
      BarrierT.step s1 (.c (.poll t (s.c.tok t) s.c.phase)) = some s2 ∧ s2.c.pc t = .retn := by
  have hne : s.c.phase ≠ s.c.tok t := hr.finv.b.phase_ne_tok hdone hnear
  exact ⟨_, _, BarrierT.step_block_iff.mpr ⟨ht, hpc, hb, htm.symm, rfl⟩,
    (BarrierT.step_pass_iff rfl).mpr ⟨.inl (upd_same ..), _, poll_leaves ht hpc hne, rfl⟩, upd_same ..⟩

/-! ## The completion step in three steps -/

/-- **Nothing can interleave with the adjustment.**  While a thread is between its completion call
    and the store `expected_adjustment = 0` (sub-states `cdone`, `adjd`), the expected count of the
    phase is used up, no other thread is inside an arriving operation (so nobody reads the plain
    member `expected` that is being written), and in particular no thread is at the `fetch_sub` of
    `arrive_and_drop`: the event `adj` is not enabled for any thread.  The coarse model
    takes this for granted ("one atomic block by the client preconditions"); here it is a theorem
    about the model in which load and store are separate steps. -/
theorem C09T_adjust_window_exclusive (s : BarrierT.St) (hr : FReachable s) (t : Nat)
    (hx : s.wx t ≠ .none) :
    t < s.c.n ∧ s.c.count = 0 ∧ (∀ t', t' < s.c.n → t' ≠ t → arriving (s.c.pc t') = false) ∧
    (∀ t', BarrierT.step s (.c (.adj t')) = none) := by
  have hi := hr.finv
  have hpub := hi.j.wxPub t hx
  have hwin := BarrierT.win_of_wx hi hx
  have htn : t < s.c.n := (hi.b.winConv t (by simpa using hwin)).2.1
  obtain ⟨hc, _, hoth, _⟩ := C09B_last_only_after_all (BarrierT.abs s) (C09T_reachable_abs s hr) t htn
    (by simp [isWin, hpub])
  refine ⟨htn, hc, hoth, ?_⟩
  intro t'
  cases h : BarrierT.step s (.c (.adj t')) with
  | none => rfl
  | some s'' =>
    obtain ⟨-, c', hc, -⟩ := (BarrierT.step_pass_iff rfl).mp h
    cases step_iff.mp hc with
    | adj _ ht' hpc' =>
      by_cases he : t' = t
      · subst he; rw [hpc'] at hpub; cases hpub
      · have := hoth t' ht' he
        rw [show (BarrierT.abs s).pc t' = .wantDrop from hpc'] at this; cases this

/-- **No drop is ever lost**: the ghost counting `fetch_sub`s overwritten by the store of `0`
    stays zero in every reachable state. -/
theorem C09T_no_lost_drop (s : BarrierT.St) (hr : FReachable s) : s.lost = 0 := hr.finv.j.lost0

/-- **The load sees all drops of the phase and nothing else.**  The adjustment load of the
    completion step reads exactly the number of `arrive_and_drop` calls of the phase, `expected`
    still is the phase's expected count, and the new value is their difference. -/
theorem C09T_adjust_exact (s s' : BarrierT.St) (hr : FReachable s) (t a e : Nat)
    (h : BarrierT.step s (.adjLoad t a e) = some s') :
    a = s.c.drops ∧ s.c.expected = s.c.e0 ∧ e = s.c.e0 - s.c.drops := by
  obtain ⟨-, hx, ha, he, -⟩ := BarrierT.step_adjLoad_iff.mp h
  obtain ⟨h1, h2⟩ := hr.finv.j.cdoneEq t hx
  exact ⟨by omega, h1, by rw [he, ha, h1, h2]⟩

/-- **The store overwrites exactly what was loaded**: at `expected_adjustment.store(0)` the
    variable still holds the loaded value (the drops of the phase), `expected` is the phase's count
    minus its drops, and afterwards the adjustment is zero for the next phase. -/
theorem C09T_drop (s s' : BarrierT.St) (hr : FReachable s) (t : Nat)
    (h : BarrierT.step s (.adjStore t) = some s') :
    s.c.adj = s.c.drops ∧ s'.c.expected = s.c.e0 - s.c.drops ∧ s'.c.adj = 0 ∧ s'.lost = 0 := by
  have h4 := (BarrierT.finv_step s s' _ hr.finv h).j.lost0
  obtain ⟨a, -, hx, rfl⟩ := BarrierT.step_adjStore_iff.mp h
  obtain ⟨h1, h2⟩ := hr.finv.j.adjdVal t a hx
  have h3 := hr.finv.j.adjdEq t a hx
  exact ⟨by omega, h2, rfl, h4⟩

/-! ## Progress of the fine model -/

/-- The fine model is *quiescent* when the only events it accepts are a thread starting a new
    operation, ending its program, or a poll of `wait` that finds the phase unchanged.  (The
    time-out of a busy-wait phase is an internal step: real time passes.) -/
def FQuiescent (s : BarrierT.St) : Prop :=
  ∀ e s', BarrierT.step s e = some s' →
    (∃ t o, e = .c (.inv t o)) ∨ (∃ t o, e = .invT t o) ∨ (∃ t, e = .c (.done t)) ∨
    (∃ t tok seen, e = .c (.poll t tok seen) ∧ s'.c.pc t = .polling)

/-- **Progress on both paths.**  In every reachable quiescent state of the fine model every thread
    is between operations, finished, or polling in the *blocking* phase of `wait` for a phase whose
    byte still equals its token.  In particular no thread is stuck inside `arrive`, inside the
    completion step (between any two of its three steps), or in a busy-wait phase. -/
theorem C09T_progress (s : BarrierT.St) (hr : FReachable s) (hq : FQuiescent s) :
    ∀ t, t < s.c.n → s.c.pc t = .idle ∨ s.c.pc t = .fin ∨
      (s.c.pc t = .polling ∧ s.blk t = true ∧ s.c.phase = s.c.tok t) := by
  have hi := hr.finv
  intro t ht
  have en : ∀ {e s'}, BarrierT.step s e = some s' →
      (match e with | .c (.inv ..) | .invT .. | .c (.done _) | .c (.poll ..) => False | _ => True) → False := by
    intro e s' hs hk
    rcases hq e s' hs with ⟨_, _, rfl⟩ | ⟨_, _, rfl⟩ | ⟨_, rfl⟩ | ⟨_, _, _, rfl, _⟩ <;> exact hk
  have hstart : ∀ u, s.c.pc t = .arr u → 1 ≤ u ∧ 1 ≤ s.c.expected := fun u hp => by
    have := hi.b.known (p := .arr u) ht hp
    rw [BarrierT.abs_eq_of_none this.2.2.2] at this
    exact ⟨this.1, this.2.1⟩
  rcases inner_enabled ht hstart with ⟨e, c', hin, hs⟩ | h | h | h | h
  · exact (en ((BarrierT.step_pass_iff (e := .c e) rfl).mpr
      ⟨(by cases e <;> first | trivial | cases hin), c', hs, rfl⟩) (by cases e <;> first | trivial | cases hin)).elim
  · exact .inl h
  · exact .inr (.inl h)
  · refine .inr (.inr ⟨h, ?_⟩)
    cases hbk : s.blk t
    · exact (en (BarrierT.step_block_iff.mpr ⟨ht, h, hbk, rfl, rfl⟩) trivial).elim
    · refine ⟨rfl, ?_⟩
      rcases hq _ _ ((BarrierT.step_pass_iff (e := .c (.poll t (s.c.tok t) s.c.phase)) rfl).mpr
          ⟨.inl hbk, _, step_iff.mpr (.poll t ht h), rfl⟩) with ⟨_, _, he⟩ | ⟨_, _, he⟩ | ⟨_, he⟩ | ⟨t', a, b, he, hpc⟩
      · cases he
      · cases he
      · cases he
      · cases he
        rw [show ({ s.c with pc := upd s.c.pc t _ } : St).pc t = _ from upd_same ..] at hpc
        by_cases hph : s.c.phase = s.c.tok t
        · exact hph
        · rw [if_neg hph] at hpc; cases hpc
  · exfalso
    cases hp : s.c.pc t <;> rw [hp] at h <;> first | cases h | skip
    · exact en (BarrierT.step_compl_iff.mpr ⟨_, _, ht, hp, rfl⟩) trivial
    · rename_i u r
      cases hx : s.wx t with
      | none =>
        exact en ((BarrierT.step_pass_iff (e := .c (.publish t (fullB (s.c.tok t)) s.c.expected)) rfl).mpr
          ⟨hx, _, step_iff.mpr (.publish t u r ht hp), rfl⟩) trivial
      | cdone => exact en (BarrierT.step_adjLoad_iff.mpr ⟨ht, hx, rfl, rfl, rfl⟩) trivial
      | adjd a => exact en (BarrierT.step_adjStore_iff.mpr ⟨a, ht, hx, rfl⟩) trivial

/-! ## Non-vacuity of the `C09T_…` theorems -/

/-- two participants; thread 0 waits with a time-out that fires after one unsuccessful poll, the
    phase store of thread 1 (completion step in three steps) falls between that poll and the
    time-out, the first poll of the blocking phase releases thread 0; thread 1 itself waits in a
    busy-wait phase that sees the flip -/
def exampleLogT : List BarrierT.Ev :=
  [.invT 0 .aw, .c (.load 0 0 2), .c (.start 0 0), .c (.cas 0 0 0 .half), .c (.poll 0 0 0),
   .invT 1 .aw, .c (.load 1 0 2), .c (.start 1 0), .c (.cas 1 0 0 .seen), .c (.cas2 1 0 0 .up),
   .c (.last 1 0 2), .compl 1, .adjLoad 1 0 2, .adjStore 1, .c (.publish 1 2 2),
   .block 0 true, .c (.poll 0 0 2), .c (.ret 0), .spinok 1 0 2, .c (.ret 1)]

example : (runLog BarrierT.step (BarrierT.init 2 2) exampleLogT).isSome = true := by decide

/-- a state inside the adjustment window exists (`C09T_adjust_window_exclusive` is not vacuous) -/
example : ∃ s, runLog BarrierT.step (BarrierT.init 2 2) (exampleLogT.take 13) = some s ∧ s.wx 1 = .adjd 0 := by
  refine ⟨_, rfl, ?_⟩
  decide

/-- an untimed wait must enter the blocking phase before its first poll, and a poll of the
    busy-wait phase that sees the flip is `spinok`, not `poll`: both logs are rejected -/
example : (runLog BarrierT.step (BarrierT.init 1 1) [.c (.inv 0 .wait), .c (.poll 0 0 0)]).isSome = false := by decide
example : (runLog BarrierT.step (BarrierT.init 2 2) (exampleLogT.take 15 ++ [.c (.poll 0 0 2)])).isSome = false := by
  decide

/-- The model does **not** build the atomicity of the adjustment in: put a thread at the
    `fetch_sub` of `arrive_and_drop` while another one is between the load and the store (no
    well-formed client gets there — the standard makes calling `arrive_and_drop` during the
    completion step undefined — and `C09T_adjust_window_exclusive` proves it unreachable), and the
    two-step code loses the drop: the `fetch_sub` is accepted and the store overwrites it. -/
example : ((runLog BarrierT.step (BarrierT.init 2 2) (exampleLogT.take 13)).bind fun s =>
      (runLog BarrierT.step { s with c := { s.c with pc := upd s.c.pc 0 .wantDrop } }
        [.c (.adj 0), .adjStore 1]).map fun s' => (s'.lost, s'.c.adj, s'.c.expected)) = some (1, 0, 2) := by
  decide

end PikaVerif.C09Barrier
