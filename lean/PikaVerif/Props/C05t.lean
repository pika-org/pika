import PikaVerif.Props.C05
import PikaVerif.Lemmas.LifeHistMax
/-!
# C05t — termination of finite life-cycle histories

`Props/C05.lean` states liveness only as enabledness (`C05_resume_runs_queued`,
`C05_stop_suspended_no_stuck`).  This file strengthens it to TERMINATION for the model
`PikaVerif.Life`.

**Why a history layer.**  `Life.step` is an acceptor of every log: it accepts unboundedly many
submissions, phases, suspensions and incarnations, so no measure exists on `Life.St` alone.  A
*finite history* (`Lemmas/LifeHist.lean`) fixes the program: a controller (OS thread 0, not a pika
task) runs a finite script `start th pol | submit | wait | suspend | resume | finalize | stop`
(any number of incarnations); task bodies spawn at most `kids` children and yield at most `yields`
times in total; every unit passes through the staged queue at most once; every thread object runs
the task it holds once (`tp o`: created, first phase begun, `body.enter`, switched out, `body.exit`,
terminated; `destroy` needs a terminated task).  `hstep` = `Life.step` restricted to the logs of the
history; every accepted history log is an accepted model log (`C05t_refines`), so every theorem of
`Props/C05.lean` holds along it.

**Stutter (stated precisely, `Life.neutral`).**  The events the model accepts without progress:
* `sample a v self` with `self < v` — the poll of `wait()` / of `stop()`'s drain check that samples a
  busy counter: it can repeat for ever (`C05t_busy_poll_repeats`) and changes nothing but the flag
  "the last sample let wait return" (`C05t_neutral_is_stutter`);
* `rtState` with `pre_startup / startup / pre_main` (no-ops of the phase machine), the harness'
  configuration observation `seenCfg`, and the store of the entry function's result.
Hence the naive statement "a measure decreases with every accepted event" is false
(`C05t_requested_measure_impossible`); what holds is `C05t_measure_decreases`: `phi` strictly decreases with every accepted
non-neutral event and is unchanged by neutral ones.  Termination is *modulo the stutter*: an
accepted log of a history has at most `scost 0 script + 10 kids + 2 yields` non-neutral events
(`C05t_bounded`): 10 per task, 2 per yield, 1–3 per `finalize`/`wait`, `th + 2` per
`suspend`/`resume`, `th + 3` per `start`, `th + 6` per `stop` — linear in the number of tasks and
calls (`C05t_bounded_linear`).

**Maximal runs.**  `Maximal h`: no non-neutral event is accepted.  Every reachable state extends to a
maximal one within `phi h` events (`C05t_maximal_exists`).  In a maximal state either everything is
done (`Final`: the script is exhausted and every call has returned, the counter is zero, every unit
started has finished, every task was entered and left exactly once, nothing is live, no thread is
inside `stop()`), or the runtime is *suspended and still holds work* and the controller has ended its
script, polls in `wait()`, or polls in `stop()`'s drain check (`Holding` — `C05t_final_state`).  The
second shape is the one the documented preconditions exclude ("work can be scheduled while suspended
but no progress will be made"); it is a legal, non-terminating shape of the model:
`holdWitness` is a reachable maximal state inside `stop()` that has NOT returned
(`C05t_stop_suspended_pending_is_maximal`), so `C05t_wait_stop_return` needs its hypothesis.
A maximal run that does not end suspended — in particular one in which every `suspend` of the last
incarnation was followed by its `resume` (`nsusp = nres`) — ends `Final`: everything submitted while
suspended has run, after the resume (`C05t_submitted_while_suspended_runs`,
`C05t_suspended_bodies_frozen`).
-/
namespace PikaVerif.C05t
open PikaVerif PikaVerif.Life

/-- **Refinement.**  Every accepted log of a history is an accepted log of the life-cycle model, with
    the same model state: the theorems of `Props/C05.lean` hold in every state of every history. -/
theorem C05t_refines (na no : Nat) (script : List Call) (kids yields : Nat) (log : List Ev) (h : HSt)
    (hl : runLog hstep (hinit na no script kids yields) log = some h) :
    runLog step (init na no) log = some h.s ∧ C05.Reachable h.s := by
  have := runLog_hstep_step log _ h hl
  exact ⟨this, na, no, log, this⟩

/-- **The measure decreases.**  In every reachable state of a history, an accepted event that is not a
    stutter strictly decreases `phi`; a stutter leaves it unchanged. -/
theorem C05t_measure_decreases (h h' : HSt) (e : Ev) (hr : HReach h) (hs : hstep h e = some h') :
    (neutral e = false → phi h' < phi h) ∧ (neutral e = true → phi h' = phi h) :=
  phi_step h h' e (allInv_of_reach hr).i hs

/-- **The stutter changes nothing.**  An accepted neutral event leaves the script, the controller's
    position, the budgets, every task's progress, the activity counter and its four components, the
    phase, the stop position, the sleeping workers and the history counters unchanged. -/
theorem C05t_neutral_is_stutter (h h' : HSt) (e : Ev) (hn : neutral e = true) (hs : hstep h e = some h') :
    h'.script = h.script ∧ h'.cpc = h.cpc ∧ h'.kids = h.kids ∧ h'.yields = h.yields ∧ h'.tp = h.tp ∧
    h'.s.cnt = h.s.cnt ∧ h'.s.creating = h.s.creating ∧ h'.s.staged = h.s.staged ∧
    h'.s.destroying = h.s.destroying ∧ h'.s.live = h.s.live ∧ h'.s.ph = h.s.ph ∧ h'.s.spc = h.s.spc ∧
    h'.s.nsleep = h.s.nsleep ∧ h'.s.fin = h.s.fin ∧ h'.bodies = h.bodies ∧ h'.exits = h.exits ∧
    h'.s.started = h.s.started ∧ h'.s.finished = h.s.finished := by
  obtain ⟨s', l, h1, h2, rfl⟩ := hstep_some hs
  cases e with
  | sample a v w =>
    have hb : w < v := of_decide_eq_true hn
    obtain ⟨_, ⟨_, _, hle, _⟩ | ⟨_, rfl⟩⟩ := step_sample h1
    · omega
    obtain ⟨_, ⟨_, hle, _⟩ | ⟨_, _, e⟩ | ⟨_, _, e⟩⟩ := led_sample h2
    · omega
    · subst l; and_intros <;> rfl
    · subst l; and_intros <;> rfl
  | rtState a v =>
    have hv := of_decide_eq_true hn
    cases step_rtState_noop hv h1
    cases led_rtState_noop hv h2
    and_intros <;> rfl
  | result a r => obtain ⟨_, rfl⟩ := of_ite_some h1; cases (Option.some.inj h2).symm; and_intros <;> rfl
  | seenCfg a t p => obtain ⟨_, rfl⟩ := of_ite_some h1; cases (Option.some.inj h2).symm; and_intros <;> rfl
  | _ => cases hn

/-- **The stutter repeats for ever.**  While the controller polls in `wait()` with a non-zero counter,
    the busy sample is accepted any number of times in a row (and is neutral). -/
theorem C05t_busy_poll_repeats (c : Nat) (hc : 0 < c) (n : Nat) : ∀ (h : HSt), Polling c h →
    ∃ h', runLog hstep h (List.replicate n (.sample 0 c 0)) = some h' ∧ Polling c h' ∧
      neutral (.sample 0 c 0) = true := by
  induction n with
  | zero => intro h hp; exact ⟨h, rfl, hp, by simp [neutral, hc]⟩
  | succ k ih =>
    intro h hp
    obtain ⟨h1, hs, hp1⟩ := poll_step c hc h hp
    obtain ⟨h', hr, hp', hn⟩ := ih h1 hp1
    refine ⟨h', ?_, hp', hn⟩
    simp only [List.replicate_succ, runLog, hs]; exact hr

/-- a reachable state with an exact stutter: the runtime is being constructed -/
def stutterLog : List Ev := [.reqCfg 0 1 0, .rtState 0 rsInitialized]
def stutterSt : HSt := (runLog hstep (hinit 2 1 [.start 1 0] 0 0) stutterLog).getD (hinit 0 0 [] 0 0)

theorem C05t_stutter_witness_accepted : (runLog hstep (hinit 2 1 [.start 1 0] 0 0) stutterLog).isSome = true := by decide

/-- **No measure decreases with every accepted event.**  No natural-number function on history states decreases
    with every accepted event, not even on reachable states: `rtState pre_startup` is accepted in the
    reachable state `stutterSt` and leads back to the very same state. -/
theorem C05t_requested_measure_impossible :
    ¬ ∃ m : HSt → Nat, ∀ h e h', HReach h → hstep h e = some h' → m h' < m h := by
  intro ⟨m, hm⟩
  have hr : HReach stutterSt := by
    refine ⟨2, 1, [.start 1 0], 0, 0, stutterLog, ⟨by simp [wf], by simp [nsub]⟩, ?_⟩
    exact eq_some_getD C05t_stutter_witness_accepted _
  have hs : hstep stutterSt (.rtState 0 rsPreStartup) = some stutterSt := by
    have hph : stutterSt.s.ph = .starting := by decide
    have hna : 0 < stutterSt.s.na := by decide
    simp [hstep, step, led, hph, hna, rsPreStartup, rsInitialized]
  have := hm stutterSt _ stutterSt hr hs
  omega

/-- **Bounded runs (termination modulo the stutter).**  In every accepted log of a history the number
    of non-neutral events plus the measure of the state reached is at most the initial potential:
    the cost of the script plus 10 per child a body may spawn plus 2 per yield. -/
theorem C05t_bounded (na no : Nat) (script : List Call) (kids yields : Nat) (log : List Ev) (h : HSt)
    (hl : runLog hstep (hinit na no script kids yields) log = some h) :
    nMoves log + phi h ≤ scost 0 script + 10 * kids + 2 * yields := by
  have := runLog_phi log _ h (inv_init na no) hl
  rw [phi_hinit] at this
  exact this

/-- the same bound from any state of a history -/
theorem C05t_bounded_from (h h' : HSt) (log : List Ev) (hr : HReach h) (hl : runLog hstep h log = some h') :
    nMoves log + phi h' ≤ phi h :=
  runLog_phi log h h' (allInv_of_reach hr).i hl

/-- **… linear in the number of tasks and calls.**  With at most `M` worker threads per incarnation,
    an accepted log has at most `(M + 10) · #calls + 10 · #children + 2 · #yields` non-neutral events
    (`#calls` counts the `submit`s: every task costs at most 10 events plus its share of the calls). -/
theorem C05t_bounded_linear (na no M : Nat) (script : List Call) (kids yields : Nat) (log : List Ev) (h : HSt)
    (hM : ∀ t p, Call.start t p ∈ script → t ≤ M)
    (hl : runLog hstep (hinit na no script kids yields) log = some h) :
    nMoves log ≤ (M + 10) * script.length + 10 * kids + 2 * yields := by
  have h1 := C05t_bounded na no script kids yields log h hl
  have h2 := scost_le M script 0 (Nat.zero_le _) hM
  omega

/-- **Maximal runs exist and are short.**  Every reachable state of a history extends — by progress
    events only — to a maximal state within `phi h` events. -/
theorem C05t_maximal_exists (h : HSt) (hr : HReach h) :
    ∃ ext h', runLog hstep h ext = some h' ∧ HReach h' ∧ Maximal h' ∧ ext.length ≤ phi h := by
  obtain ⟨ext, h', hrun, hmax, _, hlen⟩ := exists_maximal (allInv_of_reach hr).i
  exact ⟨ext, h', hrun, reach_append hr ext hrun, hmax, by omega⟩

/-- **Final states of maximal runs.**  A reachable maximal state of a history is either `Final` —
    every issued `wait()` / `suspend()` / `resume()` / `stop()` has returned, every task ran to
    completion exactly once, the counter is zero — or `Holding`: the runtime is suspended and still
    holds work, and the controller ended its script there, or polls in `wait()`, or polls in
    `stop()`'s drain check (the shape excluded by the documented preconditions). -/
theorem C05t_final_state (h : HSt) (hr : HReach h) (hm : Maximal h) : Final h ∨ Holding h := by
  have hall := allInv_of_reach hr
  rcases max_final hall.i hall.a hall.b hm with ⟨h1, h2, h3⟩ | hh
  · exact Or.inl (final_of_drained hall h1 h2 h3)
  · exact Or.inr hh

/-- **wait() and stop() return once the work has drained.**  A maximal run that does not end on a
    suspended runtime has returned from every call and run every task. -/
theorem C05t_wait_stop_return (h : HSt) (hr : HReach h) (hm : Maximal h) (hns : h.s.ph ≠ .suspended) : Final h := by
  rcases C05t_final_state h hr hm with hf | hh
  · exact hf
  · exact absurd hh.1 hns

/-- the converse: nothing can move in a `Final` state whose script is exhausted, so `Final ∨ Holding`
    are exactly the ends of maximal runs on the `Final` side -/
theorem C05t_final_is_maximal (h : HSt) (hr : HReach h) (hf : Final h) : Maximal h := by
  obtain ⟨f1, f2, _, _, _, f6, f7, f8, f9, _, _, _, f13⟩ := hf
  have hall := allInv_of_reach hr
  exact maximal_of_stuck hall.i hall.b f13 ⟨f6, f7, f8⟩ (fun o hl => by rw [f9 o] at hl; cases hl)
    (.inl ⟨f2, f1⟩)

/-- **While the runtime is suspended no body event is accepted**, so the counts of `body.enter` /
    `body.exit` events are frozen in phase `suspended`. -/
theorem C05t_suspended_bodies_frozen (h h' : HSt) (e : Ev) (hr : HReach h) (hph : h.s.ph = .suspended)
    (hs : hstep h e = some h') : h'.bodies = h.bodies ∧ h'.exits = h.exits ∧ (∀ a o, e ≠ .body a o) := by
  obtain ⟨na, no, script, kids, yields, log, _, hl⟩ := hr
  have hreach := (C05t_refines na no script kids yields log h hl).2
  have hno := (C05.C05_suspended_no_body h.s hreach hph).2.2.2
  have hnb : ∀ a o, e ≠ .body a o := fun a o he => by
    have hst := hstep_step hs
    rw [he, hno a o] at hst; cases hst
  obtain ⟨s', l, _, h2, rfl⟩ := hstep_some hs
  exact ⟨((led_frame h2).2 hnb).1, ((led_frame h2).2 hnb).2, hnb⟩

/-- **(3) A task submitted while suspended runs after the resume.**  Take any reachable state `h1` in
    which the runtime is suspended, and any continuation to a maximal state `h2` in which every
    `suspend` of the current incarnation has been followed by its `resume` (`nsusp = nres`; in
    particular: the run contains the resume and no later suspend).  Then `h2` is `Final`: every unit
    started so far — including every unit submitted while the runtime was suspended — was entered and
    left exactly once; and none of these bodies ran while the runtime was suspended
    (`C05t_suspended_bodies_frozen`), so they ran after the resume. -/
theorem C05t_submitted_while_suspended_runs (h1 h2 : HSt) (log : List Ev) (hr : HReach h1)
    (_hph : h1.s.ph = .suspended) (hl : runLog hstep h1 log = some h2) (hm : Maximal h2)
    (hres : h2.nsusp = h2.nres) :
    Final h2 ∧ h2.bodies = h2.s.started ∧ h2.exits = h2.s.started ∧ h2.s.finished = h2.s.started := by
  have hr2 := reach_append hr log hl
  have hall := allInv_of_reach hr2
  have hns : h2.s.ph ≠ .suspended := by
    intro hp
    have := (hall.b.inPh hp).2
    omega
  have hf := C05t_wait_stop_return h2 hr2 hm hns
  exact ⟨hf, hf.2.2.2.2.2.2.2.2.2.2.1, hf.2.2.2.2.2.2.2.2.2.2.2.1, hf.2.2.2.2.2.2.2.2.2.1⟩

/-- **`Holding` states are ends of maximal runs too.**  A reachable state in which the runtime is
    suspended and holds work that cannot move without a worker (nothing in flight, staged or being
    destroyed; every live task is waiting for its next phase), with the controller at the end of its
    script, polling in `wait()` or polling in `stop()`'s drain check, accepts only stutters: it is a
    legal, non-terminating shape of the model. -/
theorem C05t_holding_is_maximal (h : HSt) (hr : HReach h) (hh : Holding h)
    (h0 : h.s.creating = 0 ∧ h.s.staged = 0 ∧ h.s.destroying = 0)
    (htp : ∀ o, h.s.live o = true → h.tp o = 0 ∨ h.tp o = 3) : Maximal h := by
  obtain ⟨hph, hcnt, hshape⟩ := hh
  have hall := allInv_of_reach hr
  exact maximal_of_stuck hall.i hall.b (suspended_asleep hall.i hph).2 h0 (fun o hl => ⟨hph, htp o hl⟩)
    (hshape.elim (fun hs => .inl ⟨hs.2, hs.1⟩) (fun hs => .inr ⟨hph, hcnt, hs⟩))

/-- **Exact characterisation of the ends of maximal runs.**  A reachable state is maximal iff it is
    `Final`, or it is `Holding` with nothing in flight, staged or being destroyed and every live task
    waiting for its next phase (created and not begun, or switched out inside its body). -/
theorem C05t_maximal_iff (h : HSt) (hr : HReach h) :
    Maximal h ↔ Final h ∨ (Holding h ∧ (h.s.creating = 0 ∧ h.s.staged = 0 ∧ h.s.destroying = 0) ∧
      ∀ o, h.s.live o = true → h.tp o = 0 ∨ h.tp o = 3) := by
  constructor
  · intro hm
    rcases C05t_final_state h hr hm with hf | hh
    · exact Or.inl hf
    · have hall := allInv_of_reach hr
      exact Or.inr ⟨hh, quiet_of_max hall.i hall.a (hall.b.na_pos (hh.1 ▸ nofun)) hm⟩
  · intro hx
    rcases hx with hf | ⟨hh, h0, htp⟩
    · exact C05t_final_is_maximal h hr hf
    · exact C05t_holding_is_maximal h hr hh h0 htp

/-! ## Non-vacuity -/

/-- one incarnation with one worker: a task that spawns a child, a suspension during which a task is
    submitted (and staged), the resume, a `wait()` that first polls a busy counter while the queued task
    runs (and yields once), finalize, stop -/
def exScript : List Call := [.start 1 0, .submit, .suspend, .submit, .resume, .wait, .finalize, .stop]

def exLog : List Ev :=
  [.reqCfg 0 1 0, .rtState 0 rsInitialized, .rtState 0 rsPreStartup, .worker 1, .rtState 0 rsRunning, .seenCfg 0 1 0,
   -- submit; the task spawns a child, both run to completion
   .inc 0 1, .new 0 0, .phaseBegin 1 0, .body 1 0, .inc 1 2, .new 1 1, .body 1 0, .phaseEnd 1 0, .destroy 1 0, .dec 1 1,
   .phaseBegin 1 1, .body 1 1, .body 1 1, .phaseEnd 1 1, .destroy 1 1, .dec 1 0,
   -- suspend; submit while suspended (staged); resume
   .suspendEnter 0, .sleep 1, .rtState 0 rsSleeping, .inc 0 1, .stage 0, .resumeEnter 0, .wake 1, .rtState 0 rsRunning,
   -- wait: two busy polls (stutter), the queued task runs (one yield), idle sample, return
   .waitEnter 0, .sample 0 1 0, .unstage 1, .new 1 0, .sample 0 1 0, .phaseBegin 1 0, .body 1 0, .phaseEnd 1 0,
   .phaseBegin 1 0, .body 1 0, .phaseEnd 1 0, .destroy 1 0, .dec 1 0, .sample 0 0 0, .waitExit 0,
   -- finalize; stop
   .fin 0, .stopEnter 0, .waitFin 0, .sample 0 0 0, .waited 0 0, .rtState 0 rsStopped, .stopExit 0 0]

/-- the example is accepted; it ends with the script exhausted, the controller idle, no runtime,
    counter 0, three units started / finished / entered / left; the remaining measure 5 is unused
    slack (two units were not staged, `stop()` was entered on a running runtime: no worker to wake) -/
example : (runLog hstep (hinit 2 3 exScript 1 1) exLog).map
    (fun h => (h.script.length, h.s.cnt, h.s.started, h.s.finished)) = some (0, 0, 3, 3) := by decide
example : (runLog hstep (hinit 2 3 exScript 1 1) exLog).map
    (fun h => (h.bodies, h.exits, phi h)) = some (3, 3, 5) := by decide
example : (runLog hstep (hinit 2 3 exScript 1 1) exLog).map
    (fun h => (h.cpc == .idle, h.s.ph == .none, h.s.spc == .out)) = some (true, true, true) := by decide

/-- the bound of `C05t_bounded` is attained with equality: 48 non-neutral events + final measure 5
    = initial potential 53 = `scost 0 exScript + 10 kids + 2 yields` (the log has 52 events: 4 stutters) -/
example : nMoves exLog = 48 ∧ exLog.length = 52 ∧ scost 0 exScript + 10 * 1 + 2 * 1 = 53 := by decide

/-- the history satisfies the documented preconditions -/
example : HOk 2 3 exScript 1 := ⟨by simp [exScript, wf], by decide⟩

/-- the measure along the run: 53 at the start, 49 when `start` has returned -/
example : phi (hinit 2 3 exScript 1 1) = 53 := by decide
example : (runLog hstep (hinit 2 3 exScript 1 1) (exLog.take 6)).map phi = some 49 := by decide

/-- while suspended (after 27 events: the second submit is staged) the body counts are those of the
    first two tasks; at the end all three have run: the task submitted while suspended ran after the
    resume -/
example : (runLog hstep (hinit 2 3 exScript 1 1) (exLog.take 27)).map
    (fun h => (h.s.ph == .suspended, h.s.cnt, h.s.staged, h.bodies)) = some (true, 1, 1, 2) := by decide
example : (runLog hstep (hinit 2 3 exScript 1 1) (exLog.take 27)).map
    (fun h => (h.s.started, h.nsusp, h.nres)) = some (3, 1, 0) := by decide

/-- **The excluded history (witness).**  `finalize; suspend; submit; stop`: `stop()` is entered on a
    suspended runtime that holds one queued task.  The log below is accepted; the state it reaches has
    the controller inside `stop()` at the drain check (`waitedFin`), phase `suspended`, counter 1 … -/
def holdScript : List Call := [.start 1 0, .finalize, .suspend, .submit, .stop]
def holdLog : List Ev :=
  [.reqCfg 0 1 0, .rtState 0 rsInitialized, .worker 1, .rtState 0 rsRunning, .fin 0, .suspendEnter 0, .sleep 1,
   .rtState 0 rsSleeping, .inc 0 1, .new 0 0, .stopEnter 0, .waitFin 0, .sample 0 1 0, .sample 0 1 0]
def holdWitness : HSt := (runLog hstep (hinit 2 1 holdScript 0 0) holdLog).getD (hinit 0 0 [] 0 0)

theorem C05t_holdWitness_accepted : (runLog hstep (hinit 2 1 holdScript 0 0) holdLog).isSome = true := by decide

theorem C05t_holdWitness_shape :
    holdWitness.s.ph = .suspended ∧ holdWitness.cpc = .stop ∧ holdWitness.s.spc = .waitedFin ∧
    holdWitness.s.cnt = 1 ∧ holdWitness.s.creating = 0 ∧ holdWitness.s.staged = 0 ∧
    holdWitness.s.destroying = 0 ∧ holdWitness.s.live 0 = true ∧ holdWitness.tp 0 = 0 ∧ holdWitness.s.no = 1 ∧
    holdWitness.script.length = 0 ∧ holdWitness.bodies = 0 := by decide

theorem C05t_holdWitness_reach : HReach holdWitness := by
  refine ⟨2, 1, holdScript, 0, 0, holdLog, ⟨by simp [holdScript, wf], by decide⟩, ?_⟩
  exact eq_some_getD C05t_holdWitness_accepted _

/-- … **and it is the end of a maximal run in which `stop()` has NOT returned**: the history respects
    every precondition the model encodes (`HOk`), the state is reachable and maximal (only the busy
    poll is accepted), the controller is still inside `stop()`, the submitted task never ran.  So
    `C05t_wait_stop_return` needs its hypothesis "the run does not end on a suspended runtime". -/
theorem C05t_stop_suspended_pending_is_maximal :
    HReach holdWitness ∧ Maximal holdWitness ∧ Holding holdWitness ∧ ¬ Final holdWitness ∧
    holdWitness.cpc = .stop ∧ holdWitness.s.spc = .waitedFin ∧ holdWitness.s.cnt = 1 ∧ holdWitness.bodies = 0 ∧
    (hstep holdWitness (.sample 0 1 0)).isSome = true := by
  have hs := C05t_holdWitness_shape
  obtain ⟨s1, s2, s3, s4, s5, s6, s7, s8, s9, s10, s11, s12⟩ := hs
  have hhold : Holding holdWitness := ⟨s1, by omega, Or.inr (Or.inr ⟨s2, s3⟩)⟩
  have hmax : Maximal holdWitness := by
    apply C05t_holding_is_maximal _ C05t_holdWitness_reach hhold ⟨s5, s6, s7⟩
    intro o hl
    have ho := (allInv_of_reach C05t_holdWitness_reach).i.liveBound o hl
    have : o = 0 := by omega
    subst this
    exact Or.inl s9
  refine ⟨C05t_holdWitness_reach, hmax, hhold, ?_, s2, s3, s4, s12, by decide⟩
  intro hf
  have := hf.2.1
  rw [s2] at this
  cases this

end PikaVerif.C05t
