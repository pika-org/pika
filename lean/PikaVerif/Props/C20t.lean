import PikaVerif.Props.C20
import PikaVerif.Lemmas.MpiSolo
/-!
# C20t — termination given MPI's reports

`Props/C20.lean` states the poller's progress as enabledness (`C20_poller_progress`).  Here:
TERMINATION GIVEN MPI'S REPORTS for the model `PikaVerif.Mpi`.

**Event classes** (`Lemmas/MpiT.lean`, `ev_trichotomy`: every event is in exactly one)
* `isPost`: `post` — a new operation is created (the submitting program's move);
* `moves`: the 19 events that move one existing operation: pika's 14 obligatory steps (`pika`:
  `sig reg gacInc ifInc enq addv q2v deq ifDec call cb ret gacDec woke`), MPI's four reports
  (`eager ydone ready testany` — the environment) and `rel` (release of *owned* arguments; the model
  does not know whether an operation owns its arguments, so `rel` is optional);
* `neutral`: `lock unlock pollOn pollOff stopRet waitRet` — they change no operation.

**Stutter (stated precisely).**  The model accepts events that can repeat for ever:
* the poller's round `lock a ; unlock a` with no `q2v` / `ready` in between returns to the same state
  (`C20t_lock_round_is_stutter`) — a poll that found nothing;
* `waitRet`, `stopRet` and `pollOff` with nothing installed are pure observations: they are accepted
  without changing the state (`C20t_observations_are_stutter`);
* `pollOn ; pollOff` rounds of the user program (possible whenever `all_in_flight_ = 0`) change only
  the registration counters.
Hence the naive statement "a measure decreases with every accepted event other than `post` and the
`lock`/`unlock` rounds" is false: `C20t_requested_measure_impossible` (witness: the stutter `waitRet`,
accepted at the initial state).  What holds is `C20t_measure_decreases`: `mu` strictly decreases with every `moves` event, is unchanged
by every `neutral` event, and `post` adds at most 15.  Termination is therefore *modulo neutral
events*: every accepted log with `n` operations has at most `15 n` moving events (`C20t_bounded`;
attained: `tightLog`), whatever the interleaving, the handler methods and the poller mode.

**Maximal runs.**  `Maximal s`: none of pika's obligatory steps is accepted in `s`, nor after a
poller has taken the poll lock.  Every reachable state extends, by pika's own steps and lock
acquisitions only, to a maximal state within `2 mu s ≤ 30 n` events (`C20t_maximal_exists`).  In a
maximal state every operation is `Finished` (receiver signalled exactly once, callback — if
registered — invoked exactly once and returned, entry gone) or `AwaitsMpi` (`C20t_final_state`);
if MPI has reported every successfully posted request, all are finished, `inFlight = 0`, `gac = 0`
(`C20t_all_reported_settled`); an operation that has not signalled is one MPI has not reported
(`C20t_unsignalled_awaits_mpi`).  `C20t_solo_signal` / `C20t_dist_after_report`: run alone, the
poller and the continuing task signal the receiver exactly `sigDist` steps after MPI's report
(1 after the early / `yield_while` poll; 5 after `MPI_Testsome` in the multi-threaded poller, 4
after `MPI_Testany` in the single-threaded one; one more for `suspend_resume`).
-/
namespace PikaVerif.C20t
open PikaVerif PikaVerif.Mpi PikaVerif.C20

/-- **The measure decreases.**  For every state (reachable or not, both `bug` values) and every
    accepted event: an event that moves an operation strictly decreases `mu`; a neutral event
    changes neither `mu` nor any operation nor the two counters; `post` creates one operation and
    adds its potential (15 if the MPI call succeeded, 4 if it failed). -/
theorem C20t_measure_decreases (s s' : St) (e : Ev) (h : step s e = some s') :
    (moves e = true → mu s' < mu s) ∧
    (neutral e = true → mu s' = mu s ∧ s'.op = s.op ∧ s'.n = s.n ∧ s'.inFlight = s.inFlight ∧ s'.gac = s.gac) ∧
    (∀ a x m ok, e = .post a x m ok → s'.n = s.n + 1 ∧ mu s' = mu s + (if ok then 15 else 4)) := by
  refine ⟨fun hm => mu_moves s s' e hm h, fun hn => ⟨mu_neutral s s' e hn h, neutral_op s s' e hn h⟩, ?_⟩
  intro a x m ok he
  subst he
  exact mu_post s s' a x m ok h

/-- Every event belongs to exactly one of the three classes. -/
theorem C20t_event_classes (e : Ev) :
    (moves e = true ∧ neutral e = false ∧ isPost e = false) ∨
    (moves e = false ∧ neutral e = true ∧ isPost e = false) ∨
    (moves e = false ∧ neutral e = false ∧ isPost e = true) := ev_trichotomy e

/-- **The poller's stutter.**  A poll round that takes the lock and releases it without moving an
    entry (`lock a ; unlock a`, no `q2v` / `ready` in between) is accepted whenever the lock is free
    and leads back to the very same state. -/
theorem C20t_lock_round_is_stutter (s : St) (a : Nat) (h : s.lock = none) :
    runLog step s [.lock a, .unlock a] = some s := by
  cases s
  simp only at h
  subst h
  simp [runLog, step]

/-- **Observation stutters.**  `wait() returned`, `stop_polling returned` and an `unregister_polling`
    with nothing installed are accepted without changing the state. -/
theorem C20t_observations_are_stutter (s s' : St) :
    (∀ a v k, step s (.waitRet a v k) = some s' → s' = s) ∧
    (∀ a v, step s (.stopRet a v) = some s' → s' = s) ∧
    (∀ a, s.installed = false → step s (.pollOff a) = some s' → s' = s) := by
  refine ⟨fun a v k h => ?_, fun a v h => ?_, fun a hi h => ?_⟩
  · cases Step.of_step h with
    | op _ ho => cases ho
    | waitRet => rfl
  · cases Step.of_step h with
    | op _ ho => cases ho
    | stopRet => rfl
  · cases Step.of_step h with
    | op _ ho => cases ho
    | pollOff g => exact absurd (hi ▸ g) nofun
    | pollOffIdle => rfl

/-- the stutter `waitRet` is accepted in the initial state -/
theorem C20t_stutter_witness : (step (init false) (.waitRet 0 0 0)).isSome = true := by decide

/-- **The naive statement is false**: no natural-number function on states decreases
    with every accepted event other than `post`, `lock`, `unlock` — not even on reachable states. -/
theorem C20t_requested_measure_impossible :
    ¬ ∃ m : St → Nat, ∀ s e s', Reachable s → step s e = some s' → isPost e = false →
        (∀ a, e ≠ .lock a) → (∀ a, e ≠ .unlock a) → m s' < m s := by
  intro ⟨m, hm⟩
  have hs : step (init false) (.waitRet 0 0 0) = some (init false) := by simp [step, init]
  have := hm (init false) (.waitRet 0 0 0) (init false) ⟨[], rfl⟩ hs rfl (by intro a h; cases h) (by intro a h; cases h)
  omega

/-- **Bounded runs (termination modulo neutral events).**  In every accepted log the number of
    events that move an operation, plus the measure of the final state, is at most 15 per operation
    created (`s.n` = number of `post` events of the log): about a constant per operation, whatever
    the interleaving, the handler methods, the poller mode and the order of MPI's reports. -/
theorem C20t_bounded (log : List Ev) (s : St) (h : runLog step (init false) log = some s) :
    nMoves log + mu s ≤ 15 * s.n := by
  have := mu_runLog log (init false) s h
  simp only [mu_init] at this
  have h0 : (init false).n = 0 := rfl
  omega

/-- … in terms of the log alone: at most 15 moving events per `post` event. -/
theorem C20t_bounded_per_post (log : List Ev) (s : St) (h : runLog step (init false) log = some s) :
    nMoves log ≤ 15 * nPosts log := by
  have h1 := C20t_bounded log s h
  have h2 := n_runLog log (init false) s h
  have h0 : (init false).n = 0 := rfl
  rw [h2, h0] at h1
  omega

/-- the same bound from any state: a run that posts nothing new makes at most `mu s` moving steps -/
theorem C20t_bounded_from (log : List Ev) (s s' : St) (h : runLog step s log = some s') :
    nMoves log + mu s' + 15 * s.n ≤ mu s + 15 * s'.n := mu_runLog log s s' h

/-- **Maximal runs exist and are short.**  Every reachable state extends — by pika's own obligatory
    steps and lock acquisitions only: no new operation, no further report of MPI, no release — to a
    maximal state within `2 * mu s ≤ 30 * s.n` events. -/
theorem C20t_maximal_exists (s : St) (hr : Reachable s) :
    ∃ ext s', runLog step s ext = some s' ∧ Reachable s' ∧ Maximal s' ∧ ext.length ≤ 2 * mu s ∧
      ext.length ≤ 30 * s.n ∧ (∀ e, e ∈ ext → pika e = true ∨ ∃ a, e = .lock a) := by
  obtain ⟨ext, s', hrun, hmax, hlen, hall⟩ := exists_maximal s
  obtain ⟨log, hl⟩ := hr
  have hb := C20t_bounded log s hl
  refine ⟨ext, s', hrun, ⟨log ++ ext, ?_⟩, hmax, hlen, by omega, hall⟩
  rw [runLog_append, hl]; simpa using hrun

/-- **Final states of maximal runs.**  In a reachable maximal state every operation is either
    finished — its receiver was signalled exactly once, it is `done`, and its registry entry was
    never created (no callback) or is completely gone (callback invoked exactly once), and if the
    MPI call succeeded MPI has reported the request — or it waits for MPI's report: not signalled,
    no callback yet, and either in its own poll (`posted`: early poll / `yield_while` loop, or the
    polling function is not installed) or in the pollers' vector. -/
theorem C20t_final_state (s : St) (hr : Reachable s) (hm : Maximal s) (x : Nat) (hx : x < s.n) :
    Finished (s.op x) ∨ AwaitsMpi s (s.op x) := by
  obtain ⟨log, hl⟩ := hr
  have h12 := inv12_of_accepted hl
  exact final_op s h12.i1 h12.i2 hm x hx

/-- … and conversely: a state all of whose operations are finished or wait for MPI is maximal, so
    `Finished ∨ AwaitsMpi` characterises the final states of maximal runs exactly. -/
theorem C20t_maximal_iff (s : St) (hr : Reachable s) :
    Maximal s ↔ ∀ x, x < s.n → Finished (s.op x) ∨ AwaitsMpi s (s.op x) :=
  ⟨fun hm x hx => C20t_final_state s hr hm x hx, maximal_of_final s⟩

/-- **(3) Nothing is lost by pika.**  In a reachable maximal state an operation that has not
    signalled its receiver is one whose MPI call succeeded and whose request MPI has not reported
    complete. -/
theorem C20t_unsignalled_awaits_mpi (s : St) (hr : Reachable s) (hm : Maximal s) (x : Nat) (hx : x < s.n)
    (hs : (s.op x).sigs ≠ 1) :
    (s.op x).okPost = true ∧ (s.op x).mpiDone = false ∧ AwaitsMpi s (s.op x) := by
  rcases C20t_final_state s hr hm x hx with h | h
  · exact absurd h.2.1 hs
  · exact ⟨h.1, h.2.1, h⟩

/-- counters of a maximal state: `all_in_flight_` and the registry's share of the activity count
    both equal the number of operations waiting in the vector for MPI's report -/
theorem C20t_final_counts (s : St) (hr : Reachable s) (hm : Maximal s) :
    s.inFlight = sumTo s.n (fun x => Mpi.b2n ((s.op x).pc == .waiting)) ∧ s.gac = s.inFlight := by
  have hinv := inv_of_reachable hr
  have h1 : s.inFlight = sumTo s.n (fun x => Mpi.b2n ((s.op x).pc == .waiting)) := by
    rw [hinv.inflight]
    exact sumTo_congr (fun x hx => (ifW_final s _ (C20t_final_state s hr hm x hx)).1)
  have h2 : s.gac = sumTo s.n (fun x => Mpi.b2n ((s.op x).pc == .waiting)) := by
    rw [hinv.gac]
    exact sumTo_congr (fun x hx => (ifW_final s _ (C20t_final_state s hr hm x hx)).2)
  exact ⟨h1, by rw [h2, h1]⟩

/-- **(2) A sender signals its receiver exactly once (maximal runs).**  In a reachable maximal state
    in which MPI has reported every successfully posted request complete, every operation is
    finished: receiver signalled exactly once, callback (if registered) invoked exactly once and
    returned; `all_in_flight_ = 0`, the registry's share of the activity count is 0, every operation
    is `Settled`; the stored arguments were released at most once, and exactly once if the
    operation's release is not pending any more (an operation that owns its arguments). -/
theorem C20t_all_reported_settled (s : St) (hr : Reachable s) (hm : Maximal s)
    (hrep : ∀ x, x < s.n → (s.op x).okPost = true → (s.op x).mpiDone = true) :
    (∀ x, x < s.n → Finished (s.op x)) ∧ s.inFlight = 0 ∧ s.gac = 0 ∧ (∀ x, Settled (s.op x)) ∧
    (∀ x, x < s.n → (s.op x).rel ≤ 1 ∧ ((∀ a, step s (.rel a x) = none) → (s.op x).rel = 1)) := by
  have hinv := inv_of_reachable hr
  have hfin : ∀ x, x < s.n → Finished (s.op x) := by
    intro x hx
    rcases C20t_final_state s hr hm x hx with h | h
    · exact h
    · have := hrep x hx h.1
      rw [h.2.1] at this
      exact absurd this (by decide)
  have hcnt := C20t_final_counts s hr hm
  have h0 : s.inFlight = 0 := by
    rw [hcnt.1]
    apply sumTo_eq_zero
    intro x hx
    simp [(hfin x hx).1, Mpi.b2n]
  have hg : s.gac = 0 := by rw [hcnt.2, h0]
  refine ⟨hfin, h0, hg, C20_quiescent_settled s hr hg, ?_⟩
  intro x hx
  have hro := (hinv.ops x).relOnce
  refine ⟨hro, ?_⟩
  intro hno
  have h1 := hno 0
  have hf := hfin x hx
  simp only [step, hx, true_and] at h1
  by_cases hr0 : (s.op x).rel = 0
  · exfalso
    by_cases hok : (s.op x).okPost = true
    · simp [hr0, hf.2.2.2 hok] at h1
    · simp [hr0, hok] at h1
  · omega

/-- **(4) From MPI's report to the signal, run alone.**  For an operation whose request MPI has
    reported (or whose MPI call failed), the poller that holds the entry and the continuing task,
    running alone, signal the receiver after exactly `sigDist` steps, at most 6: there is an accepted
    log of that length, made of pika's obligatory steps on that operation only, after which the
    operation is `done` and has signalled exactly once.  (`a` = the thread that dequeues / signals
    where the model leaves the actor open.) -/
theorem C20t_solo_signal (s : St) (hr : Reachable s) (x a : Nat) (hx : x < s.n)
    (hrep : (s.op x).okPost = true → (s.op x).mpiDone = true) :
    ∃ log s', log.length = sigDist (s.op x) ∧ log.length ≤ 6 ∧ runLog step s log = some s' ∧
      (∀ e, e ∈ log → pika e = true ∧ evOp e = some x) ∧ (s'.op x).pc = .done ∧ (s'.op x).sigs = 1 := by
  obtain ⟨log0, hl⟩ := hr
  have h12 := inv12_of_accepted hl
  obtain ⟨log, s', hlen, hrun, hall, hd, hs⟩ := solo_run a _ s h12.i1 h12.i2 x hx hrep rfl
  exact ⟨log, s', hlen, by rw [hlen]; exact sigDist_le _, hrun, hall, hd, hs⟩

/-- **… per handler method and poller mode.**  The distance right after each of MPI's four reports:
    1 after a successful early poll or `yield_while` poll (every handler method); after
    `MPI_Testsome`/`MPI_Testany` in the multi-threaded poller 5 (`deq ifDec call cb sig`) for
    `continuation` / `new_task` and 6 for `suspend_resume` (`… cb woke sig`); after `MPI_Testany` in
    the single-threaded poller 4 resp. 5. -/
theorem C20t_dist_after_report (s s' : St) (hr : Reachable s) (a x : Nat) :
    (step s (.eager a x) = some s' → sigDist (s'.op x) = 1) ∧
    (step s (.ydone a x) = some s' → sigDist (s'.op x) = 1) ∧
    (∀ e, step s (.ready a x e) = some s' → sigDist (s'.op x) = 5 + susp (s.op x)) ∧
    (∀ e, step s (.testany a x e) = some s' → sigDist (s'.op x) = 4 + susp (s.op x)) := by
  have hw := (inv_of_reachable hr).ops x |>.earlyWait
  refine ⟨fun h => ?_, fun h => ?_, fun e h => ?_, fun e h => ?_⟩ <;> cases Step.of_step h with
    | op _ ho => cases ho <;> simp_all [setOp, sigDist, susp, early5]

/-! ## Non-vacuity -/

/-- suspend_resume through the multi-threaded poller with owned arguments: one operation, 15 moving
    events — the bound of `C20t_bounded` is attained, the final state has measure 0 and is maximal -/
def tightLog : List Ev :=
  [.pollOn 0 false, .post 1 0 mSuspend true, .reg 1 0, .gacInc 1 0, .ifInc 1 0 1, .enq 1 0,
   .lock 2, .q2v 2 0, .ready 2 0 0, .unlock 2, .deq 2 0 0, .ifDec 2 0 0, .call 2 0, .cb 2 0 0,
   .ret 2 0, .gacDec 2 0, .woke 1 0, .sig 1 0, .rel 1 0]

example : nMoves tightLog = 15 := by decide
example : (runLog step (init false) tightLog).map (fun s => (mu s, s.n, s.inFlight, s.gac, (s.op 0).sigs, (s.op 0).cbs))
    = some (0, 1, 0, 0, 1, 1) := by decide

example : ∃ s, runLog step (init false) tightLog = some s ∧ Maximal s ∧ nMoves tightLog + mu s = 15 * s.n := by
  refine ⟨_, rfl, maximal_of_mu_zero _ (by decide), by decide⟩

/-- the measure along the example run of `Props/C20.lean`: 15 after the post, 1 at the end (the
    arguments are not released in that run) -/
example : (runLog step (init false) (C20.exampleLog.take 2)).map mu = some 15 := by decide
example : (runLog step (init false) C20.exampleLog).map mu = some 1 := by decide

/-- stutters are accepted: lock rounds that find nothing, observations, registration rounds -/
example : (runLog step (init false)
    [.lock 1, .unlock 1, .lock 2, .unlock 2, .waitRet 0 0 0, .waitRet 0 0 0, .pollOff 0, .stopRet 0 0,
     .pollOn 0 false, .pollOff 0, .pollOn 0 true, .pollOff 0]).map mu = some 0 := by decide

/-- the distance right after MPI's report (multi-threaded poller, suspend_resume): 6, and the six
    solo steps are accepted and end with one signal -/
example : (runLog step (init false) (tightLog.take 9)).map (fun s => sigDist (s.op 0)) = some 6 := by decide
example : (runLog step (init false) (tightLog.take 9 ++
    [.deq 2 0 0, .ifDec 2 0 0, .call 2 0, .cb 2 0 0, .woke 1 0, .sig 1 0])).map (fun s => (s.op 0).sigs) = some 1 := by
  decide

/-- an operation waiting in the vector for MPI: not signalled, not reported (the `AwaitsMpi` side of
    `C20t_final_state` is inhabited) -/
example : (runLog step (init false) (tightLog.take 8 ++ [.unlock 2])).map
    (fun s => ((s.op 0).pc == .waiting, (s.op 0).rs == .vec, (s.op 0).mpiDone, (s.op 0).sigs, s.inFlight, s.gac))
    = some (true, true, false, 0, 1, 1) := by decide

/-- … and that state is maximal: a maximal run in which MPI has not reported ends with the operation
    waiting, `all_in_flight_ = 1` (so `wait()` / `stop_polling` do not return, `Props/C20.lean`) -/
def awaitSt : St := (runLog step (init false) (tightLog.take 8 ++ [.unlock 2])).getD (init false)

example : Maximal awaitSt ∧ AwaitsMpi awaitSt (awaitSt.op 0) ∧ awaitSt.inFlight = 1 := by
  have hn : awaitSt.n = 1 := by decide
  have hw : AwaitsMpi awaitSt (awaitSt.op 0) := by unfold AwaitsMpi; decide
  refine ⟨maximal_of_final _ (fun x hx => ?_), hw, by decide⟩
  have : x = 0 := by omega
  subst this
  exact Or.inr hw

end PikaVerif.C20t
