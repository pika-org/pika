import PikaVerif.Lemmas.BulkQ
/-!
# C11 — bulk: every chunk once, one completion after the last call (protocol part)

Theorems about the model `PikaVerif.Bulk` (spawner, `w` worker tasks draining their own queue
from the left and stealing from the neighbours from the right, exception latch, join counter).
Each theorem quantifies over all accepted event logs: every number of workers, every local
worker, all cut points, every set of throwing calls and every interleaving.

Together with `Props/C11.lean` (under `SafeC` the queues are initialised with
`[k·nc/w, (k+1)·nc/w)` — monotone cut points with `a 0 = 0`, `a w = nc` — and chunk `j` calls
exactly the indices `[j·c, min((j+1)·c, n))`, which partition `[0, n)`) and
`Props/C17Index.lean` (each pop takes effect atomically): `f` is called exactly once for every
`i < n` and for no other index when no call throws.
-/
namespace PikaVerif.C11Proto
open PikaVerif.Bulk

/-- Reachable states: `w` workers, local worker `L < w`, monotone cut points. -/
def Reachable (w L : Nat) (a : Nat → Nat) (s : St) : Prop :=
  L < w ∧ (∀ k, k < w → a k ≤ a (k + 1)) ∧ ∃ log, runLog step (init w L a) log = some s

/-- **At most once, and no other chunk.**  In every reachable state no chunk index has been
    popped twice, and only chunk indices of the initial ranges `[a 0, a w)` are ever popped. -/
theorem C11_chunk_at_most_once (w L : Nat) (a : Nat → Nat) (s : St) (h : Reachable w L a s) (j : Nat) :
    s.popped j ≤ 1 ∧ ((j < a 0 ∨ a w ≤ j) → s.popped j = 0) := by
  obtain ⟨⟨_, hq⟩, rfl, _, rfl⟩ := of_reach h
  refine ⟨popped_le_one s hq j, fun hj => hq.out j fun k hk hh => ?_⟩
  have h0 := Partition.mono_le s.a s.w hq.mono 0 k (by omega) (by omega)
  have h1 := Partition.mono_le s.a s.w hq.mono (k + 1) s.w (by omega) (by omega)
  omega

/-- **Complete once, after the last call has returned.**  When the outcome has been decided
    (the last decrement of `tasks_remaining`), every one of the `w` participants has left
    `do_work` and decremented (so no call of `f` is running or will start), the counter is 0,
    the outcome is "error" exactly when some call threw, and the receiver is signalled at most
    once and only with that outcome. -/
theorem C11_complete_once_after_all (w L : Nat) (a : Nat → Nat) (s : St) (h : Reachable w L a s)
    (e : Bool) (ho : s.outcome = some e) :
    s.remaining = 0 ∧ (∀ k, k < s.w → s.pc k = .decd) ∧ (e = true ↔ 0 < s.threw) ∧
    s.signals ≤ 1 ∧ ∀ e' s', step s (.sig e') = some s' → e' = e ∧ s.signals = 0 := by
  obtain ⟨⟨hi, _⟩, _⟩ := of_reach h
  obtain ⟨h0, he⟩ := hi.outc e ho
  refine ⟨h0, no_active_when_done s hi h0, by rw [he]; exact hi.thr, hi.sig1, ?_⟩
  intro e' s' hs
  cases step_iff.1 hs with | sig h1 h2 =>
  rw [ho] at h1; cases h1; exact ⟨rfl, h2⟩

/-- The receiver is never signalled before the outcome is decided, and never twice. -/
theorem C11_signal_only_after_outcome (w L : Nat) (a : Nat → Nat) (s : St) (h : Reachable w L a s) :
    s.signals ≤ 1 ∧ (s.outcome = none → s.signals = 0) := by
  obtain ⟨⟨hi, _⟩, _⟩ := of_reach h
  exact ⟨hi.sig1, fun hn => (hi.outn hn).2⟩

/-- **Value ⇒ every chunk exactly once.**  If the outcome is "value" (no call threw) then every
    chunk index of `[a 0, a w)` has been popped exactly once. -/
theorem C11_value_implies_all_chunks_once (w L : Nat) (a : Nat → Nat) (s : St)
    (h : Reachable w L a s) (ho : s.outcome = some false) (j : Nat) (h1 : a 0 ≤ j) (h2 : j < a w) :
    s.popped j = 1 := by
  obtain ⟨⟨hi, hq⟩, rfl, _, rfl⟩ := of_reach h
  exact popped_eq_one_of_value s hi hq ho j h1 h2

/-- **Error ⇒ exactly one error, no value.**  If some call threw, the only signal the model
    accepts is `sig true`, and it is the first one: `signals` goes from 0 to 1. -/
theorem C11_error_exactly_one_no_value (w L : Nat) (a : Nat → Nat) (s s' : St)
    (h : Reachable w L a s) (ht : 0 < s.threw) (e : Bool) (hs : step s (.sig e) = some s') :
    e = true ∧ s.signals = 0 ∧ s'.signals = 1 := by
  obtain ⟨⟨hi, _⟩, _⟩ := of_reach h
  cases step_iff.1 hs with | sig h1 h2 =>
  obtain ⟨_, he⟩ := hi.outc e h1
  exact ⟨by rw [he]; exact hi.thr.2 ht, h2, rfl⟩

/-! ## Non-vacuity -/

/-- 2 workers, local worker 1, 3 chunks `[0,1) [1,3)`: worker 0 is spawned, both drain, worker 1
    steals nothing, last decrement by worker 1, value signalled. -/
def exampleLog : List Ev :=
  [.spawn 0, .task 1, .task 0, .pop 0 0 (some 0), .chunk 0 0, .pop 1 1 (some 1), .pop 0 0 none,
   .pop 0 1 (some 2), .pop 1 1 none, .pop 1 0 none, .dec 1 false, .pop 0 1 none, .dec 0 true,
   .sig false]

def exampleCuts : Nat → Nat
  | 0 => 0
  | 1 => 1
  | _ => 3

example : ((runLog step (init 2 1 exampleCuts) exampleLog).map (fun s => (s.outcome, s.signals))) =
    some (some false, 1) := by decide +kernel

/-- an exception in worker 0: error outcome -/
example : ((runLog step (init 2 1 exampleCuts)
    [.spawn 0, .task 1, .task 0, .pop 0 0 (some 0), .exc 0, .dec 0 false, .pop 1 1 (some 1),
     .pop 1 1 (some 2), .pop 1 1 none, .pop 1 0 none, .dec 1 true, .sig true]).map
      (fun s => (s.outcome, s.threw))) = some (some true, 1) := by decide +kernel

end PikaVerif.C11Proto
