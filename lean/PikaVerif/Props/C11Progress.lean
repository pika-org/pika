import PikaVerif.Lemmas.BulkCLive
import PikaVerif.Core.Run
import PikaVerif.Props.C11c
/-!
# C11 — progress of the composed bulk model: no stuck state, termination, exactly one completion

`Props/C11c.lean` proves *at most one* completion, *value ⇒ everything done*, *throw ⇒ only an
error*.  This file proves that a completion eventually happens:

1. **No stuck state** (`C11p_no_stuck_state`, `C11p_who_can_move`): in every reachable state of
   the composed model `BulkC` in which the receiver has not been completed, some non-stutter event
   is enabled — and which participant can move is stated.
2. **Termination** (`C11p_measure_decreases`, `C11p_run_length_bound`, `C11p_no_infinite_run`):
   the natural number `BulkC.mu` decreases with every accepted event except the stutter event
   `decide`; an accepted log has at most `bound n w = (w + 4)·n + w·(3w + 10) + 3` non-stutter
   events; an infinite accepted sequence of events consists of `decide` stutters from some point on.
3. **Exactly one completion** (`C11p_maximal_run_completes_exactly_once`,
   `C11p_completion_reachable`): a reachable state without an enabled non-stutter event has
   exactly one completion — `set_value` with the predecessor's values after every index was
   called once if no call threw, otherwise `set_error` with one of the thrown exceptions.
4. `n = 0` (`C11p_zero_immediate`): the only accepted logs are the prefixes of
   `[zero, sig false v]`.

**Stutter.**  The only event of `BulkC` that leaves the state unchanged is `decide k err` (the
hook in the branch `finish()` takes after the last decrement; the code executes it once, the model
accepts it any number of times between the last decrement and the completion) — termination is
stated modulo this stutter (`BulkC.isStutter`).  A *failed compare-exchange is not a stutter*: the
model accepts `cas … false` only if the word differs from the one the worker loaded (CAS without
spurious failure, as in `Props/C17Index.lean`), i.e. only after another worker's successful pop
on the same queue; it leaves the worker with the current word.  In the measure every successful pop
pays `w` units for the at most `w` loaded words it makes stale.  (With spurious failures of
`compare_exchange_weak` the retry loop terminates only under a fairness assumption on the
hardware; that is outside the model.)
-/
namespace PikaVerif.C11Progress
open PikaVerif.BulkC PikaVerif.C11 PikaVerif.C11c

/-- **Who can move.**  In every reachable state in which the receiver has not been completed:
    before `set_value` the thread running `set_value` can take the `shape == 0` path (`n = 0`) or
    plan the chunks; on the `shape == 0` path the completion is enabled; while the workers run,
    (a) the outcome is decided (every participant has decremented) and the completion with that
    outcome is enabled, or (b) the spawner loop of `set_value` can spawn / skip its next worker,
    or (c) the spawner loop is finished and the local worker can start its task, or (d) some
    worker `k < w` that has not yet decremented the join counter has an enabled non-stutter
    event of its own (`BulkC.en_worker`: enter the popped chunk, next call, return, store / drop
    the exception, load, successful or failed compare-exchange, `nullopt`; `BulkC.en_fin`: the
    decrement). -/
theorem C11p_who_can_move (S : CTy) (w n L : Nat) (v : Int) (s : St)
    (h : Reachable S w n L v s) (hd : s.done = []) :
    (s.ph = 0 ∧ ((s.n = 0 ∧ En s .zero) ∨ (s.n ≠ 0 ∧ ∃ c, En s (.plan c)))) ∨
    (s.ph = 2 ∧ En s (.sig false s.v)) ∨
    (s.ph = 1 ∧
      ((∃ err tok, s.p.outcome = some err ∧ En s (.sig err tok)) ∨
       (Bulk.cur s.p < s.w ∧ (En s (.spawn (Bulk.cur s.p)) ∨ En s (.skip (Bulk.cur s.p)))) ∨
       (s.w ≤ Bulk.cur s.p ∧ En s (.task s.p.L)) ∨
       (∃ k e, k < s.w ∧ s.p.pc k ≠ .decd ∧ evActor e = some k ∧ isStutter e = false ∧ En s e))) := by
  obtain ⟨hs, hL, log, hl⟩ := h
  rcases full_of_accepted hs hL hl with ⟨hph, hsafe, _, _⟩ | ⟨hph, _, _⟩ | ⟨hph, _, hi⟩
  · refine Or.inl ⟨hph, ?_⟩
    by_cases hn : s.n = 0
    · exact Or.inl ⟨hn, by simp [En, step, hph, hn]⟩
    · obtain ⟨c, hc, hsafeC⟩ := chunkSize_safe s.S s.w s.n hsafe
      have hp := planOK_of_safeC s.S s.w s.n c hsafeC
      exact Or.inr ⟨hn, c, by simp [En, step, hph, hn, hc, hp]⟩
  · exact Or.inr (Or.inl ⟨hph, by simp [En, step, hph, hd]⟩)
  · exact Or.inr (Or.inr ⟨hph, running_progress s hi hph hd⟩)

/-- **No stuck state.**  In every reachable state in which the receiver has not been completed
    some event other than the stutter `decide` is enabled. -/
theorem C11p_no_stuck_state (S : CTy) (w n L : Nat) (v : Int) (s : St)
    (h : Reachable S w n L v s) (hd : s.done = []) :
    ∃ e s', isStutter e = false ∧ step s e = some s' := by
  rcases C11p_who_can_move S w n L v s h hd with
    ⟨_, (⟨_, s', h1⟩ | ⟨_, c, s', h1⟩)⟩ | ⟨_, s', h1⟩ |
    ⟨_, (⟨err, tok, _, s', h1⟩ | ⟨_, (⟨s', h1⟩ | ⟨s', h1⟩)⟩ | ⟨_, s', h1⟩ | ⟨k, e, _, _, _, h2, s', h1⟩)⟩
  all_goals first | exact ⟨_, s', rfl, h1⟩ | exact ⟨e, s', h2, h1⟩

/-- **The only stutter event is `decide`, and it changes nothing.** -/
theorem C11p_stutter_is_identity (s s' : St) (e : Ev) :
    (isStutter e = true ↔ ∃ k err, e = .decide k err) ∧
    (isStutter e = true → step s e = some s' → s' = s) := by
  refine ⟨?_, fun hs h => stutter_same s s' e hs h⟩
  cases e <;> simp [isStutter]

/-- **The termination measure.**  In every reachable state every accepted event other than the
    stutter `decide` strictly decreases the natural number `mu` (remaining chunks in all queues,
    weighted with their calls and `w + 2`; the place of every participant in the spawn / steal
    round / decrement protocol; calls left in the chunks being run; loaded words; the pending
    completion). -/
theorem C11p_measure_decreases (S : CTy) (w n L : Nat) (v : Int) (s s' : St) (e : Ev)
    (h : Reachable S w n L v s) (hs : isStutter e = false) (he : step s e = some s') :
    mu s' < mu s := by
  obtain ⟨hsafe, hL, log, hl⟩ := h
  exact mu_step s s' e (full_of_accepted hsafe hL hl) hs he

/-- **Explicit length bound.**  An accepted log of `bulk` with shape `n` on `w` workers has at most
    `bound n w = (w + 4)·n + w·(3w + 10) + 3` events other than `decide` stutters (for all
    interleavings, all sets of throwing calls, with stealing). -/
theorem C11p_run_length_bound (S : CTy) (w n L : Nat) (v : Int) (hs : Safe S w n) (hL : L < w)
    (log : List Ev) (s : St) (hl : runLog step (init S w n L v) log = some s) :
    work log + mu s ≤ bound n w ∧ work log ≤ (w + 4) * n + w * (3 * w + 10) + 3 := by
  have h1 := work_le_mu (init S w n L v) s log (full_init S w n L v hs hL) hl
  have h2 := mu_init_le S w n L v hs
  have : bound n w = (w + 4) * n + w * (3 * w + 10) + 3 := rfl
  omega

/-- the first `N` events of an infinite sequence -/
def pre (f : Nat → Ev) : Nat → List Ev
  | 0 => []
  | N + 1 => pre f N ++ [f N]

/-- **No infinite run.**  If every finite prefix of an infinite sequence of events is accepted,
    the sequence consists of `decide` stutters from some point on: every maximal run of the
    model, taken modulo stutter, is finite. -/
theorem C11p_no_infinite_run (S : CTy) (w n L : Nat) (v : Int) (hs : Safe S w n) (hL : L < w)
    (f : Nat → Ev) (hacc : ∀ N, (runLog step (init S w n L v) (pre f N)).isSome = true) :
    ∃ N, ∀ i, N ≤ i → isStutter (f i) = true := by
  -- the work of the prefixes rises by one at every event that is no stutter, and is bounded
  have hsucc : ∀ N, work (pre f (N + 1)) = work (pre f N) + (if isStutter (f N) then 0 else 1) := by
    intro N
    simp only [pre, work, List.filter_append, List.length_append]
    cases hst : isStutter (f N) <;> simp [hst]
  have hb : ∀ N, work (pre f N) ≤ bound n w := fun N => by
    obtain ⟨s, hr⟩ := Option.isSome_iff_exists.1 (hacc N)
    exact Nat.le_trans (Nat.le_add_right ..) (C11p_run_length_bound S w n L v hs hL _ s hr).1
  obtain ⟨N, hN⟩ := eventually_const_of_bounded (fun N => work (pre f N)) _ (fun N => by rw [hsucc]; omega) hb
  refine ⟨N, fun i hi => ?_⟩
  have := hN i hi
  rw [hsucc] at this
  cases hst : isStutter (f i) <;> simp_all

/-- **A maximal run ends with exactly one completion.**  A reachable state in which no event
    other than the stutter `decide` is enabled (the end of a maximal run) has exactly one
    completion of the receiver: if no call threw it is `set_value` with the predecessor's value
    pack, `f` has been called exactly once for every `i < n` and no worker is inside a call; if
    some call threw it is `set_error` with one of the thrown exceptions and there is no value.
    By `C11p_no_infinite_run` every run reaches such a state (for all `n`, worker counts, sets
    of throwing indices, interleavings incl. stealing). -/
theorem C11p_maximal_run_completes_exactly_once (S : CTy) (w n L : Nat) (v : Int) (s : St)
    (h : Reachable S w n L v s)
    (hmax : ∀ e s', step s e = some s' → isStutter e = true) :
    s.done.length = 1 ∧
    (s.thrown = [] → s.done = [(false, v)] ∧ (∀ i : Nat, i < n → ncalls s (i : Int) = 1) ∧
      ∀ k, s.lp k = .out) ∧
    (s.thrown ≠ [] → ∃ x, x ∈ s.thrown ∧ s.done = [(true, x)]) := by
  have hne : s.done ≠ [] := by
    intro hd
    obtain ⟨e, s', hst, he⟩ := C11p_no_stuck_state S w n L v s h hd
    have := hmax e s' he
    rw [hst] at this; simp at this
  have hle := C11c_complete_at_most_once S w n L v s h
  cases hdn : s.done with
  | nil => exact absurd hdn hne
  | cons d ds =>
    have hds : ds = [] := by
      rw [hdn] at hle
      simp only [List.length_cons] at hle
      exact List.eq_nil_of_length_eq_zero (by omega)
    subst hds
    obtain ⟨err, tok⟩ := d
    refine ⟨rfl, fun ht => ?_, fun ht => ?_⟩
    · cases err with
      | true =>
        have := (C11c_error_is_thrown S w n L v s h tok (by rw [hdn]; simp)).1
        rw [ht] at this; simp at this
      | false =>
        obtain ⟨e1, e2, e3, _⟩ := C11c_value_implies_all_once S w n L v s h tok (by rw [hdn]; simp)
        exact ⟨by rw [e1], e2, e3⟩
    · have := C11c_throw_implies_no_value S w n L v s h ht (err, tok) (by rw [hdn]; simp)
      dsimp only at this
      subst this
      exact ⟨tok, (C11c_error_is_thrown S w n L v s h tok (by rw [hdn]; simp)).1, rfl⟩

/-- **The completion is reachable from everywhere, within `mu s` events.**  From every reachable
    state some continuation of at most `mu s` events is accepted and ends in a state with exactly
    one completion. -/
theorem C11p_completion_reachable (S : CTy) (w n L : Nat) (v : Int) (s : St)
    (h : Reachable S w n L v s) :
    ∃ log s', runLog step s log = some s' ∧ log.length ≤ mu s ∧ s'.done.length = 1 := by
  obtain ⟨log, s', hl, h', hd, -, hlen⟩ := exists_maximal_run (step := step) (Reachable S w n L v)
    (fun s => s.done ≠ []) mu (fun _ => True) 1 trivial (fun _ _ _ _ => trivial)
    (fun s h hd => by
      obtain ⟨e, s1, hst, he⟩ := C11p_no_stuck_state S w n L v s h (by simpa using hd)
      have hlt := C11p_measure_decreases S w n L v s s1 e h hst he
      obtain ⟨hs, hL, log, hl⟩ := h
      exact ⟨[e], s1, by simp [runLog, he],
        ⟨hs, hL, log ++ [e], by rw [runLog_append, hl]; simp [runLog, he]⟩, trivial, hlt,
        by simp only [List.length_singleton]; omega⟩) s h
  refine ⟨log, s', hl, by omega, ?_⟩
  have := C11c_complete_at_most_once S w n L v s' h'
  cases hdn : s'.done with
  | nil => exact absurd hdn hd
  | cons d ds => rw [hdn] at this; simp only [List.length_cons] at this ⊢; omega

/-- **`n == 0`: the completion is immediate.**  With shape 0 the only accepted logs are the
    prefixes of `[zero, sig false v]`: the `shape == 0` path, then the completion with the
    predecessor's values; no worker event, no call, nothing after the completion. -/
theorem C11p_zero_immediate (S : CTy) (w L : Nat) (v : Int) (log : List Ev) (s : St)
    (hl : runLog step (init S w 0 L v) log = some s) :
    (log = [] ∧ s.done = []) ∨ (log = [.zero] ∧ s.done = []) ∨
    (log = [.zero, .sig false v] ∧ s.done = [(false, v)] ∧ s.calls = []) := by
  cases log with
  | nil => cases hl; exact Or.inl ⟨rfl, rfl⟩
  | cons e1 es =>
    obtain ⟨s1, h1, hl⟩ := runLog_cons_some hl
    cases (C11c_zero_completes_immediately S w L v).1 e1 s1 h1
    obtain rfl : s1 = { (init S w 0 L v) with ph := 2 } := by
      cases step_iff.1 h1 with
      | run _ hr => cases hr
      | zero => rfl
    cases es with
    | nil => cases hl; exact Or.inr (Or.inl ⟨rfl, rfl⟩)
    | cons e2 es2 =>
      obtain ⟨s2, h2, hl⟩ := runLog_cons_some hl
      -- in phase 2 only the completion with the predecessor's values is accepted, once
      have ph2 : ∀ {s : St} {e s'}, s.ph = 2 → step s e = some s' →
          e = .sig false s.v ∧ s.done = [] ∧ s' = { s with done := [(false, s.v)] } := by
        intro s e s' hp h
        cases e <;> simp [step, hp] at h
        obtain ⟨⟨rfl, rfl, hd⟩, rfl⟩ := h
        exact ⟨rfl, hd, by rw [hp]⟩
      obtain ⟨rfl, _, rfl⟩ := ph2 rfl h2
      cases es2 with
      | nil => cases hl; exact Or.inr (Or.inr ⟨rfl, rfl, rfl⟩)
      | cons e3 es3 =>
        obtain ⟨s3, h3, _⟩ := runLog_cons_some hl
        cases (ph2 rfl h3).2.1

/-! ## The protocol model (`Model/Bulk.lean`, `Props/C11Proto.lean`)

In the protocol model the pops are atomic and `chunk k j` only confirms the chunk a task is
processing: it is the one event that leaves the state unchanged (the stutter of this model). -/

/-- **No stuck state of the protocol model.**  In every reachable state in which the receiver has
    not been signalled some event other than `chunk` is enabled; who moves: `Bulk.actor` — the
    spawner loop at an untouched worker, the local worker once the spawner loop is finished, a
    spawned task, a task inside `do_work` (a pop is always enabled: with a chunk or `nullopt`),
    a task about to decrement, or — outcome decided — the completion. -/
theorem C11p_proto_no_stuck_state (w L : Nat) (a : Nat → Nat) (s : Bulk.St)
    (h : C11Proto.Reachable w L a s) (h0 : s.signals = 0) :
    ∃ e s', Bulk.isChunk e = false ∧ Bulk.step s e = some s' := by
  exact Bulk.proto_progress s (Bulk.of_reach h).1.1 (Bulk.of_reach h).1.2 h0

/-- **Termination measure of the protocol model.**  Every accepted event other than `chunk`
    strictly decreases `muP` (chunks left in the queues + place of every participant + pending
    completion) — in every state; `chunk` leaves the state unchanged. -/
theorem C11p_proto_measure_decreases (s s' : Bulk.St) (e : Bulk.Ev) (h : Bulk.step s e = some s') :
    (Bulk.isChunk e = false → Bulk.muP s' < Bulk.muP s) ∧ (Bulk.isChunk e = true → s' = s) :=
  ⟨fun he => Bulk.muP_step s s' e he h, fun he => Bulk.chunk_same s s' e he h⟩

/-- **Length bound of the protocol model.**  An accepted log has at most
    `(a w − a 0) + w·(3w + 8) + 1` events other than `chunk` (`a w − a 0` = number of chunks). -/
theorem C11p_proto_run_length_bound (w L : Nat) (a : Nat → Nat) (s : Bulk.St) (log : List Bulk.Ev)
    (hm : ∀ k, k < w → a k ≤ a (k + 1)) (hl : runLog Bulk.step (Bulk.init w L a) log = some s) :
    Bulk.workP log + Bulk.muP s ≤ (a w - a 0) + w * (3 * w + 8) + 1 := by
  have := Bulk.workP_le_muP _ _ log hl
  rw [Bulk.muP_init w L a hm] at this
  exact this

/-- **A maximal run of the protocol model signals exactly once**, after every participant has
    decremented, with `error` exactly when some call threw. -/
theorem C11p_proto_maximal_run_signals_once (w L : Nat) (a : Nat → Nat) (s : Bulk.St)
    (h : C11Proto.Reachable w L a s)
    (hmax : ∀ e s', Bulk.step s e = some s' → Bulk.isChunk e = true) :
    s.signals = 1 ∧ ∃ err, s.outcome = some err ∧ (err = true ↔ 0 < s.threw) ∧
      ∀ k, k < s.w → s.pc k = .decd := by
  have hi := (Bulk.of_reach h).1.1
  have h1 : s.signals = 1 := by
    have := hi.sig1
    by_cases h0 : s.signals = 0
    · obtain ⟨e, s', he, hs⟩ := C11p_proto_no_stuck_state w L a s h h0
      have := hmax e s' hs
      rw [he] at this; simp at this
    · omega
  refine ⟨h1, ?_⟩
  cases ho : s.outcome with
  | none => have := (hi.outn ho).2; omega
  | some err =>
    obtain ⟨_, h3, h4, _⟩ := C11Proto.C11_complete_once_after_all w L a s h err ho
    exact ⟨err, rfl, h4, h3⟩

/-! ## Non-vacuity -/

/-- the measure along a log (one entry per visited state) -/
def muTrace : St → List Ev → List Nat
  | s, [] => [mu s]
  | s, e :: es => mu s :: (match step s e with | some s' => muTrace s' es | none => [])

/-- `bulk<int>(3)` on 2 workers, predecessor on worker 1: chunk size 1, queues `[0,1)` and `[1,3)`;
    worker 0 runs chunk 0 and **steals** chunk 2 from the right end of worker 1's queue, worker 1
    runs chunk 1 whose call **throws** (index 1); the run ends with `set_error(exception of 1)`. -/
def throwStealLog : List Ev :=
  [.plan 1, .spawn 0, .task 1, .task 0, .load 0 0 0 1, .cas 0 0 true 1 1, .chunk 0 0, .call 0 0 7,
   .load 1 1 1 3, .cas 1 1 true 2 3, .ret 0, .chunk 1 1, .call 1 1 7, .throw 1, .load 0 0 1 1,
   .load 0 1 2 3, .cas 0 1 true 2 2, .chunk 0 2, .call 0 2 7, .exc 1, .ret 0, .dec 1 false,
   .load 0 1 2 2, .dec 0 true, .decide 0 true, .sig true 1]

/-- the run is accepted, completes exactly once with the thrown exception, all three indices
    were called -/
example : (runLog step (init CTy.i32 2 3 1 7) throwStealLog).map
    (fun s => (s.done, s.thrown, s.calls, mu s)) =
    some ([(true, 1)], [1], [(2, 7), (1, 7), (0, 7)], 4) := by decide +kernel

/-- the measure starts at the bound `(w + 4)·n + w·(3w + 10) + 3 = 53` (the bound is attained by
    the start state), decreases with each of the 25 non-stutter events and stays at 5 over the
    stutter `decide 0 true` -/
example : muTrace (init CTy.i32 2 3 1 7) throwStealLog =
    [53, 51, 49, 45, 43, 42, 40, 39, 38, 37, 35, 34, 33, 32, 31, 28, 27, 25, 24, 23, 15, 14, 12, 7,
     5, 5, 4] ∧ bound 3 2 = 53 ∧ work throwStealLog = 25 := by decide +kernel

/-- a failed compare-exchange (worker 0's loaded word of queue 1 became stale by worker 1's pop)
    decreases the measure: 31 → 30, then the retry succeeds -/
example : muTrace (init CTy.i32 2 3 0 7)
    [.plan 1, .spawn 1, .task 0, .task 1, .load 1 1 1 3, .load 0 0 0 1, .cas 0 0 true 1 1, .chunk 0 0,
     .call 0 0 7, .ret 0, .load 0 0 1 1, .load 0 1 1 3, .cas 1 1 true 2 3, .cas 0 1 false 2 3,
     .cas 0 1 true 2 2] =
    [53, 51, 49, 45, 43, 42, 41, 39, 38, 37, 36, 33, 32, 31, 30, 28] := by decide +kernel

/-- a second failed compare-exchange on an unchanged word is rejected: failed CASes cannot
    repeat without an intervening successful pop (no stutter) -/
example : (runLog step (init CTy.i32 2 3 0 7)
    [.plan 1, .spawn 1, .task 0, .task 1, .load 1 1 1 3, .load 0 0 0 1, .cas 0 0 true 1 1, .chunk 0 0,
     .call 0 0 7, .ret 0, .load 0 0 1 1, .load 0 1 1 3, .cas 1 1 true 2 3, .cas 0 1 false 2 3,
     .cas 0 1 false 2 3]) = none := by decide +kernel

/-- `n = 0`: the whole run is `[zero, sig false v]` -/
example : (runLog step (init CTy.i32 4 0 2 9) [.zero, .sig false 9]).map (fun s => (s.done, mu s)) =
    some ([(false, 9)], 0) := by decide +kernel

end PikaVerif.C11Progress
