import PikaVerif.Lemmas.Mpi
/-!
# C20 — MPI requests complete their sender exactly once, after the transfer

Theorems about the model `PikaVerif.Mpi` (transform_mpi dispatch/trigger, the four handler
methods, the request registry and pollers of `mpi_polling.cpp`, `thread_manager::wait`).  They
hold for every accepted log: every number of operations, every mix of handler methods, single-
and multi-threaded polling, every interleaving of submitting tasks, pollers and of MPI's
completion reports (MPI is the environment; its only modelled behaviour is *when* it reports a
request complete).

`Reachable` is reachability in the repaired tree (`bug = false`); the pinned tree's behaviour
(`bug = true`) violates exactly-once, see `C20_pinned_tree_double_completion`.
-/
namespace PikaVerif.C20
open PikaVerif PikaVerif.Mpi

def Reachable (s : St) : Prop := ∃ log, runLog step (init false) log = some s

theorem inv_of_reachable {s : St} (h : Reachable s) : Inv s := by
  obtain ⟨log, hl⟩ := h
  exact inv_of_accepted hl

/-- **Exactly once, after the transfer (state form).**  In every reachable state every operation
    has signalled its receiver at most once; it has signalled exactly once iff its control flow is
    finished (`done`); and if the MPI call itself succeeded, a finished operation's request has
    been reported complete by MPI. -/
theorem C20_exactly_once_after_complete (s : St) (hr : Reachable s) (x : Nat) :
    (s.op x).sigs ≤ 1 ∧ ((s.op x).sigs = 1 ↔ (s.op x).pc = .done) ∧
    ((s.op x).pc = .done → (s.op x).okPost = true → (s.op x).mpiDone = true) := by
  have hi := (inv_of_reachable hr).ops x
  rw [hi.sigs, b2n_eq]
  exact ⟨Bool.toNat_le _, by simp, hi.doneMpi⟩

/-- **Exactly once, after the transfer (step form).**  Whenever the model accepts a completion
    signal (`set_value` / `set_error`) of operation `x`, it is the first signal of that operation,
    and — unless the MPI call itself returned an error — MPI has already reported the request
    complete. -/
theorem C20_signal_first_and_after_complete (s s' : St) (hr : Reachable s) (a x : Nat)
    (h : step s (.sig a x) = some s') :
    (s.op x).sigs = 0 ∧ ((s.op x).okPost = true → (s.op x).mpiDone = true) ∧ (s'.op x).sigs = 1 := by
  obtain ⟨log, hl⟩ := hr
  have h12 := inv12_of_accepted hl
  have hs := (h12.i1.ops x).sigs
  cases Step.of_step h with
  | op hx ho =>
    -- what is known at the program counters from which a signal is sent
    cases ho <;> have hk := OpOk.knows ⟨h12.i1.ops x, h12.i2.ops x, h12.i2.notIdle x hx⟩
    case sigFailed hp =>
      rw [hp] at hk hs
      exact ⟨hs, fun h => (nomatch hk.symm.trans h), by simp [setOp, hs, Mpi.b2n]⟩
    case sig hp =>
      rcases hp with hp | hp | hp | hp <;> rw [hp] at hk hs <;> exact ⟨hs, fun _ => hk, by simp [setOp, hs, Mpi.b2n]⟩

/-- **The registered callback is invoked exactly once, after MPI's report.**  A registry entry's
    callback is invoked at most once, an entry that has left the registry was invoked exactly
    once, and every invocation happens after MPI reported the request complete. -/
theorem C20_callback_exactly_once (s : St) (hr : Reachable s) (x : Nat) :
    (s.op x).cbs ≤ 1 ∧ ((s.op x).rs = .gone → (s.op x).cbs = 1) ∧
    ((s.op x).cbs = 1 → (s.op x).mpiDone = true) := by
  have hi := (inv_of_reachable hr).ops x
  rw [hi.cbs, b2n_eq]
  refine ⟨Bool.toNat_le _, fun hg => by rw [hg]; rfl, fun h1 => hi.mpi2 ?_⟩
  rw [Bool.toNat_eq_one] at h1
  cases hrs : (s.op x).rs <;> simp_all [late, rsDone]

/-- Whenever the model accepts the invocation of a callback it is the first invocation for that
    entry and MPI has reported the request complete. -/
theorem C20_call_first_and_after_complete (s s' : St) (hr : Reachable s) (a x : Nat)
    (h : step s (.call a x) = some s') : (s.op x).cbs = 0 ∧ (s.op x).mpiDone = true := by
  have hi := (inv_of_reachable hr).ops x
  cases Step.of_step h with
  | op _ ho =>
    cases ho with
    | call hrs => exact ⟨by rw [hi.cbs, hrs]; rfl, hi.mpi2 (by rw [hrs]; rfl)⟩

/-- **Counters.**  `all_in_flight_` equals the number of operations that are registered (counter
    incremented) and not yet handed to an invoker, and the registry's share of the global activity
    count is at least `all_in_flight_`. -/
theorem C20_counts (s : St) (hr : Reachable s) :
    s.inFlight = sumTo s.n (fun x => Mpi.b2n (pendingReq (s.op x))) ∧ s.inFlight ≤ s.gac := by
  have hinv := inv_of_reachable hr
  constructor
  · rw [hinv.inflight]
    apply sumTo_congr
    intro x _
    have hi := hinv.ops x
    simp only [ifW, pendingReq]
    by_cases hpc : (s.op x).pc = .reg2
    · have := hi.preNone (by rw [hpc]; rfl)
      simp [hpc, this, rsIF, Mpi.b2n]
    · simp [hpc, Mpi.b2n]
  · rw [hinv.inflight, hinv.gac]
    apply sumTo_mono
    intro x _
    simp only [ifW, gacW]
    have h1 : Mpi.b2n ((s.op x).pc == .reg2) ≤ Mpi.b2n ((s.op x).pc == .reg1 || (s.op x).pc == .reg2) := by
      by_cases hpc : (s.op x).pc = .reg2 <;> simp [hpc, Mpi.b2n]
    have h2 : Mpi.b2n (rsIF (s.op x).rs) ≤ Mpi.b2n (rsGac (s.op x).rs) := by
      cases (s.op x).rs <;> simp [rsIF, rsGac, Mpi.b2n]
    omega

/-- An operation is *settled* when the registry owes it nothing: it was never registered or its
    callback has been invoked, has returned and its activity count has been given back. -/
def Settled (o : Op) : Prop :=
  (o.rs = .none ∨ o.rs = .gone) ∧ o.pc ≠ .reg1 ∧ o.pc ≠ .reg2 ∧ o.pc ≠ .waiting ∧ pendingReq o = false

theorem settled_of_gac_zero (s : St) (hinv : Inv s) (hg : s.gac = 0) (x : Nat) : Settled (s.op x) := by
  by_cases hx : x < s.n
  · have hz : gacW (s.op x) = 0 := by
      have := le_sumTo (f := fun x => gacW (s.op x)) hx
      rwa [← hinv.gac, hg, Nat.le_zero] at this
    have hi := hinv.ops x
    simp only [gacW] at hz
    have hrs : rsGac (s.op x).rs = false := by
      cases h : rsGac (s.op x).rs <;> simp [h, Mpi.b2n] at hz ⊢
    have hpc : ((s.op x).pc == .reg1 || (s.op x).pc == .reg2) = false := by
      cases h : ((s.op x).pc == .reg1 || (s.op x).pc == .reg2) <;> simp [h, Mpi.b2n] at hz ⊢
    simp at hpc
    have hng : (s.op x).rs = .none ∨ (s.op x).rs = .gone := by
      cases h : (s.op x).rs <;> simp_all [rsGac]
    refine ⟨hng, hpc.1, hpc.2, ?_, ?_⟩
    · intro hw
      rcases hi.waitEarly hw with h | h <;> rcases hng with g | g <;> simp [g, early5, isCalling] at h
    · simp only [pendingReq, Bool.or_eq_false_iff]
      refine ⟨by simp [hpc.2], ?_⟩
      rcases hng with g | g <;> simp [g, rsIF]
  · rw [hinv.outside x (by omega)]
    refine ⟨Or.inl rfl, ?_, ?_, ?_, ?_⟩ <;> simp [pendingReq, rsIF]

/-- **`pika::wait()` does not return while requests are in flight.**  Whenever the model accepts
    the return of `thread_manager::wait` (the real global activity count was at most the caller's
    own share), `all_in_flight_` is zero and every operation is settled: no request sits in the
    queue, the vector or the ready queue, no callback is pending or still running. -/
theorem C20_wait_blocks_while_in_flight (s s' : St) (hr : Reachable s) (a v k : Nat)
    (h : step s (.waitRet a v k) = some s') :
    s.inFlight = 0 ∧ s.gac = 0 ∧ ∀ x, Settled (s.op x) := by
  cases Step.of_step h with
  | op _ ho => cases ho
  | waitRet g1 g2 =>
    have hg0 : s.gac = 0 := by omega
    have hle := (C20_counts s hr).2
    exact ⟨by omega, hg0, settled_of_gac_zero s (inv_of_reachable hr) hg0⟩

/-- **No completion is lost at quiescence.**  In every reachable state in which the registry's
    share of the activity count is zero, every operation is settled (so a registered request whose
    callback has not run keeps `wait()` and shutdown from returning). -/
theorem C20_quiescent_settled (s : St) (hr : Reachable s) (hg : s.gac = 0) : ∀ x, Settled (s.op x) :=
  settled_of_gac_zero s (inv_of_reachable hr) hg

/-- **The poller can always advance a registered entry.**  For an operation waiting for its
    callback, every stage of the registry except "in the vector, MPI has not reported yet" has an
    enabled poller step: the poll lock is free or its holder can move the entry from the queue to
    the vector; a ready entry can be dequeued by any poller; the actor that dequeued it can
    decrement `all_in_flight_`, invoke the callback, and the callback body can start. -/
theorem C20_poller_progress (s : St) (hr : Reachable s) (x : Nat) (hw : (s.op x).pc = .waiting) :
    match (s.op x).rs with
    | .queued => (s.lock = none ∧ ∀ a, (step s (.lock a)).isSome = true) ∨
                 (∃ a, (s.lock = some a ∨ s.stm = true) ∧ (step s (.q2v a x)).isSome = true)
    | .vec => True
    | .ready e => ∀ a, (step s (.deq a x e)).isSome = true
    | .taken a _ => (step s (.ifDec a x (s.inFlight - 1))).isSome = true
    | .decd a _ => (step s (.call a x)).isSome = true
    | .calling a e => (step s (.cb a x e)).isSome = true
    | _ => False := by
  have hinv := inv_of_reachable hr
  have hi := hinv.ops x
  have hx : x < s.n := by
    by_cases hx : x < s.n
    · exact hx
    · have := hinv.outside x (by omega); rw [this] at hw; simp at hw
  have hwe := hi.waitEarly hw
  cases hrs : (s.op x).rs with
  | none => simp [hrs, early5, isCalling] at hwe
  | queued =>
    simp only
    cases hl : s.lock with
    | none => left; exact ⟨rfl, fun a => by simp [step, hl]⟩
    | some b => right; exact ⟨b, Or.inl rfl, by simp [step, hx, hrs, hl]⟩
  | vec => trivial
  | ready e => simp only; intro a; simp [step, hx, hrs]
  | taken a e =>
    simp only
    have hpos := inFlight_pos s hinv x hx (by rw [hrs]; rfl)
    have : s.inFlight - 1 + 1 = s.inFlight := by omega
    simp [step, hx, hrs, this]
  | decd a e => simp [step, hx, hrs]
  | calling a e => simp [step, hx, hrs, hw]
  | returned a => simp [hrs, early5, isCalling] at hwe
  | gone => simp [hrs, early5, isCalling] at hwe

/-- **Polling is enabled and disabled in a balanced way.**  The polling function is installed
    exactly when there is one more effective `register_polling` than `unregister_polling`; a
    request is only registered while it is installed; installing it, and the return of
    `stop_polling`, happen only when no request is registered-and-uninvoked. -/
theorem C20_register_balance (s : St) (hr : Reachable s) :
    s.nOn = s.nOff + Mpi.b2n s.installed ∧
    (∀ a x s', step s (.reg a x) = some s' → s.installed = true) ∧
    (∀ a b s', step s (.pollOn a b) = some s' → s.installed = false ∧ s.inFlight = 0 ∧
        ∀ x, pendingReq (s.op x) = false) ∧
    (∀ a v s', step s (.stopRet a v) = some s' → s.installed = false ∧ s.inFlight = 0 ∧
        ∀ x, pendingReq (s.op x) = false) := by
  have hinv := inv_of_reachable hr
  have hcnt := (C20_counts s hr).1
  have hnone : s.inFlight = 0 → ∀ x, pendingReq (s.op x) = false := by
    intro h0 x
    by_cases hx : x < s.n
    · have := le_sumTo (f := fun x => Mpi.b2n (pendingReq (s.op x))) hx
      rwa [← hcnt, h0, Nat.le_zero, b2n_eq, Bool.toNat_eq_zero] at this
    · rw [hinv.outside x (by omega)]; simp [pendingReq, rsIF]
  refine ⟨hinv.balance, fun a x s' h => ?_, fun a b s' h => ?_, fun a v s' h => ?_⟩
  · cases Step.of_step h with
    | op _ ho => cases ho with
      | reg _ _ g => exact g
  · cases Step.of_step h with
    | op _ ho => cases ho
    | pollOn g1 g2 => exact ⟨g1, g2, hnone g2⟩
  · cases Step.of_step h with
    | op _ ho => cases ho
    | stopRet g1 g2 => exact ⟨g2, g1, hnone g1⟩

/-! ## The pinned tree (before the repair) violates exactly-once

`transform_mpi.hpp` (pinned): `set_value` calls `dispatch(r); trigger(r);` — when the MPI call
returns an error, `dispatch` calls `set_error` on the receiver and returns, and `trigger` still
runs: its early `MPI_Test` on the (null) request reports "complete" and `set_value` is called on
the already-moved receiver.  The model with `bug = true` follows that code. -/

def pinnedLog : List Ev := [.post 0 0 mCont false, .sig 0 0, .eager 0 0, .sig 0 0]

/-- The pinned tree admits a run in which one operation signals its receiver twice. -/
theorem C20_pinned_tree_double_completion :
    ∃ s, runLog step (init true) pinnedLog = some s ∧ (s.op 0).sigs = 2 := by
  refine ⟨_, rfl, ?_⟩
  decide

/-- … and the repaired tree rejects that very log (at the third event). -/
theorem C20_repaired_rejects_pinned_log : runLog step (init false) pinnedLog = none := by decide

/-! ## The adaptor keeps the operation's arguments until the transfer is over -/

/-- MPI's report is the only source of `mpiDone`: a step that makes operation `x`'s request count as
    complete is one of the four events that carry MPI's own report for `x` (the early poll, the
    `yield_while` poll, `MPI_Testsome`/`MPI_Testany` in the multi-threaded poller, `MPI_Testany` in
    the single-threaded poller). -/
theorem C20_complete_only_by_mpi_report (s s' : St) (e : Ev) (x : Nat) (h : step s e = some s')
    (h0 : (s.op x).mpiDone = false) (h1 : (s'.op x).mpiDone = true) :
    (∃ a, e = .eager a x) ∨ (∃ a, e = .ydone a x) ∨ (∃ a st, e = .ready a x st) ∨ (∃ a st, e = .testany a x st) := by
  cases Step.of_step h with
  | @post a _ _ =>
    simp only [upd_apply] at h1
    split at h1
    · cases h1
    · exact absurd (h0 ▸ h1) nofun
  | @op _ y _ _ ho =>
    -- only the record of `y` changes, and only the four reports set `mpiDone`
    have hy : y = x := Classical.byContradiction fun hne => by
      simp only [setOp, upd_other _ _ _ _ (Ne.symm hne)] at h1
      exact absurd (h0 ▸ h1) nofun
    subst hy
    simp only [setOp, upd_same] at h1
    cases ho <;> first | exact absurd (h0 ▸ h1) nofun | simp
  | _ => exact absurd (h0 ▸ h1) nofun

/-- **Arguments are held until MPI has reported completion (state form).**  In every reachable state
    the adaptor has released the stored arguments of an operation at most once, and — unless the
    MPI call itself returned an error — only after MPI reported that operation's request complete. -/
theorem C20_arguments_held_until_complete (s : St) (hr : Reachable s) (x : Nat) :
    (s.op x).rel ≤ 1 ∧ ((s.op x).rel ≠ 0 → (s.op x).okPost = true → (s.op x).mpiDone = true) := by
  have hi := (inv_of_reachable hr).ops x
  exact ⟨hi.relOnce, hi.relMpi⟩

/-- **… (step form).**  Whenever the model accepts the release of operation `x`'s arguments it is
    the first release of that operation, the operation exists, and its request has been reported
    complete by MPI (or the MPI call was never posted successfully). -/
theorem C20_release_first_and_after_complete (s s' : St) (a x : Nat) (h : step s (.rel a x) = some s') :
    x < s.n ∧ (s.op x).rel = 0 ∧ ((s.op x).okPost = true → (s.op x).mpiDone = true) ∧ (s'.op x).rel = 1 := by
  cases Step.of_step h with
  | op hx ho =>
    cases ho with
    | rel g1 g2 =>
      exact ⟨hx, g1, fun hok => g2.elim (fun h => (nomatch h.symm.trans hok)) id, by simp [setOp]⟩


/-! ## Non-vacuity -/

/-- continuation mode, multi-threaded poller: register, poll, complete, invoke, signal, wait returns -/
def exampleLog : List Ev :=
  [.pollOn 0 false, .post 1 0 mCont true, .reg 1 0, .gacInc 1 0, .ifInc 1 0 1, .enq 1 0,
   .lock 2, .q2v 2 0, .ready 2 0 0, .unlock 2, .deq 2 0 0, .ifDec 2 0 0, .call 2 0, .cb 2 0 0,
   .sig 2 0, .ret 2 0, .gacDec 2 0, .waitRet 0 0 0, .pollOff 0, .stopRet 0 0]

example : (runLog step (init false) exampleLog).isSome = true := by decide

/-- suspend_resume in single-threaded mode, an eager completion and a yield_while completion -/
def exampleLog2 : List Ev :=
  [.pollOn 0 true, .post 1 0 mSuspend true, .reg 1 0, .gacInc 1 0, .ifInc 1 0 1, .addv 1 0,
   .post 3 1 mYield true, .ydone 3 1, .sig 3 1, .post 3 2 mNewTask true, .eager 3 2, .sig 3 2,
   .testany 1 0 0, .ifDec 1 0 0, .call 1 0, .cb 1 0 0, .ret 1 0, .gacDec 1 0, .woke 4 0, .sig 4 0,
   .waitRet 0 1 1]

example : (runLog step (init false) exampleLog2).isSome = true := by decide

/-- `wait()` returning while a request is registered is not a behaviour of the model -/
example : runLog step (init false)
    [.pollOn 0 false, .post 1 0 mCont true, .reg 1 0, .gacInc 1 0, .ifInc 1 0 1, .enq 1 0, .waitRet 0 0 0] = none := by
  decide

/-- new_task mode with an owned argument: the release is accepted after MPI's report (inside the
    callback) … -/
example : (runLog step (init false)
    [.pollOn 0 false, .post 1 0 mNewTask true, .reg 1 0, .gacInc 1 0, .ifInc 1 0 1, .enq 1 0,
     .lock 2, .q2v 2 0, .ready 2 0 0, .unlock 2, .deq 2 0 0, .ifDec 2 0 0, .call 2 0, .cb 2 0 0,
     .rel 2 0, .ret 2 0, .gacDec 2 0, .sig 3 0]).isSome = true := by decide

/-- … and a release at registration time, while the request is still in flight, is not a behaviour
    of the model; nor is a second release. -/
example : runLog step (init false)
    [.pollOn 0 false, .post 1 0 mNewTask true, .reg 1 0, .rel 1 0] = none := by decide
example : runLog step (init false)
    [.post 1 0 mYield true, .ydone 1 0, .sig 1 0, .rel 1 0, .rel 1 0] = none := by decide

end PikaVerif.C20
