import PikaVerif.Lemmas.DequeSolo
import PikaVerif.Lemmas.DequeTag
/-!
# C17t — solo termination (obstruction freedom) of the lock-free deque

Model `PikaVerif.Deque` (`Model/Deque.lean`), repaired tagging discipline `stepF = stepG true`
(the tree carries the `fix:` of the link-tag ABA; the unrestricted invariant holds for it).

**Statement.**  Take ANY reachable state `s` (`runLog stepF (init n) log = some s`: any number of
threads, any operation mix, any interleaving — in particular states in which other threads are
stalled in the middle of a push or pop: an unstable anchor left behind, a stabilisation half done,
a node allocated and not yet linked, a node unlinked and not yet freed).  Let `t` be a thread that
is between operations (`s.pc t = idle`).  If `t` now starts an operation and **only `t` takes
steps**, the operation returns after a bounded number of `t`'s own events, with the right answer:

* `pop_left/right` on a non-empty deque: at most 14 events (`inv`, ≤ 12, `ret`), returns `true`
  with the element at that end, which is removed (`C17_deque_solo_pop_nonempty`);
* `pop_left/right` on an empty deque: exactly 3 events, returns `false` (`C17_deque_solo_pop_empty`);
* `push_left/right`: at most 19 events (`inv`, ≤ 17, `ret`), returns `true`, the value is at
  that end (`C17_deque_solo_push`);
* the `push(v, other_end)` / `pop(v, steal)` calls of the three deque back-end adapters
  (`C17_backend_solo_pop`, `C17_backend_solo_push`): same bounds at the end the adapter uses.

Events are the model's shared accesses (one per hook point of `deque.hpp`): the bounds count the
anchor load, the helping `stabilize` of an anchor some stalled thread left unstable (≤ 6: two
link loads, two re-checks, link CAS, anchor CAS), the reload, the operation proper and, for a
push, the stabilisation of the thread's own push.  Every compare-exchange of a solo run succeeds
at its first attempt: no retry loop is ever taken twice.

The other threads' program counters are untouched (`∀ u ≠ t, s'.pc u = s.pc u`): the run is a
run of `t` alone, and it is a run of the model (`runLog stepF s … = some s'`), i.e. (the real code's event logs are accepted
by this `stepF`: correspondence engine E1, DESIGN.md) a sequence of shared accesses the real code performs under a schedule that runs only `t`.

Form of the statements: *existence* of the bounded solo run.  In a solo run started from `idle`
every node the thread reads is in the chain (hence allocated), so the model's only sources of
non-determinism (the freelist's `next` word in a free node, which node `allocate` hands out) do
not arise except for the identity of the fresh node; the accepted solo event sequence is then
unique up to that identity.  That uniqueness is NOT proved here (see notes/C17.md, C17t); the
driver's solo monitor (`Driver/DequeDrv.lean`, `soloMon`) tests the bound `Deque.soloBound` and the
answer on every operation of the real runs that no other thread interleaved with.
`C17_deque_solo_bound_pinned_partial`: the same for the pinned tree under `stale = false`.
-/
namespace PikaVerif.Deque

/-! ## Concrete reachable states with a stalled second thread (non-vacuity)

`stalledLog`: thread 1 pushed 1, then ran `push_left(2)` up to its successful anchor CAS and
stopped: the anchor is `(l=2, r=1, lpush, tag 2)` — **unstable**, node 1's `left` link still
null — and thread 1 sits at the first link load of its `stabilize_left`.  Thread 0 is idle.
`stalledLog2`: the same, thread 1 stopped right before its link CAS (at `stLink`, two link loads and two
re-checks further).
`stalledLog3`: thread 1 allocated a node for a push and stopped before loading the anchor; the
deque is empty. -/
def stalledLog : List Ev :=
  [.inv 1 true false 1, .alloc 1 1, .ld 1 ⟨0, 0, 0, 0⟩, .cas 1 true, .ret 1 true 0,
   .inv 1 true false 2, .alloc 1 2, .ld 1 ⟨1, 1, 0, 1⟩, .link 1 2 1, .cas 1 true]
def stalledLog2 : List Ev :=
  stalledLog ++ [.rd 1 ⟨1, 2⟩, .chk 1 true, .rd 1 ⟨0, 1⟩, .chk 1 true]
def stalledLog3 : List Ev := [.inv 1 true false 1, .alloc 1 1]

example : (runLog stepF (init 2) stalledLog).map (fun s => (s.pc 0, s.pc 1, s.anchor, contents s)) =
    some (.idle, .stRd1 .pushDone false ⟨2, 1, 2, 2⟩, ⟨2, 1, 2, 2⟩, [2, 1]) := by decide
example : (runLog stepF (init 2) stalledLog2).map (fun s => (s.pc 0, s.pc 1, s.anchor, contents s)) =
    some (.idle, .stLink .pushDone false ⟨2, 1, 2, 2⟩ ⟨1, 2⟩ ⟨0, 1⟩, ⟨2, 1, 2, 2⟩, [2, 1]) := by decide

/-- the solo `pop_right` of thread 0 from `stalledLog`: 14 events — the bound is attained: load,
    help thread 1's push (two link loads, two re-checks, link CAS, anchor CAS), reload, re-check,
    link load, anchor CAS, free, return 1 -/
def soloPopRight : List Ev :=
  [.inv 0 false true 0, .ld 0 ⟨2, 1, 2, 2⟩, .rd 0 ⟨1, 2⟩, .chk 0 true, .rd 0 ⟨0, 1⟩, .chk 0 true,
   .lcas 0 true, .cas 0 true, .ld 0 ⟨2, 1, 0, 3⟩, .chk 0 true, .rd 0 ⟨2, 2⟩, .cas 0 true, .free 0 1,
   .ret 0 true 1]
/-- the solo `pop_left` of thread 0 from `stalledLog2` (returns 2) -/
def soloPopLeft : List Ev :=
  [.inv 0 false false 0, .ld 0 ⟨2, 1, 2, 2⟩, .rd 0 ⟨1, 2⟩, .chk 0 true, .rd 0 ⟨0, 1⟩, .chk 0 true,
   .lcas 0 true, .cas 0 true, .ld 0 ⟨2, 1, 0, 3⟩, .chk 0 true, .rd 0 ⟨1, 2⟩, .cas 0 true, .free 0 2,
   .ret 0 true 2]
/-- the solo `push_right(3)` of thread 0 from `stalledLog`: 19 events — the bound is attained -/
def soloPushRight : List Ev :=
  [.inv 0 true true 3, .alloc 0 3, .ld 0 ⟨2, 1, 2, 2⟩, .rd 0 ⟨1, 2⟩, .chk 0 true, .rd 0 ⟨0, 1⟩,
   .chk 0 true, .lcas 0 true, .cas 0 true, .ld 0 ⟨2, 1, 0, 3⟩, .link 0 3 1, .cas 0 true,
   .rd 0 ⟨1, 2⟩, .chk 0 true, .rd 0 ⟨0, 1⟩, .chk 0 true, .lcas 0 true, .cas 0 true, .ret 0 true 0]


/-- **Solo pop on a non-empty deque terminates and returns the end element.**  From every
    reachable state, a thread between operations that runs `pop` at end `d` alone finishes within
    14 of its own events (`inv`, at most 12 shared accesses, `ret`), answers `true` with the
    value `v` stored at end `d`, and that element is removed (exactly once: `popped` grows by `v`). -/
theorem C17_deque_solo_pop_nonempty (n : Nat) (log : List Ev) (s : St)
    (h : runLog stepF (init n) log = some s) (t : Nat) (ht : t < n) (hidle : s.pc t = .idle)
    (d : Bool) (x : Nat) (hne : contents s ≠ []) :
    ∃ (mid : List Ev) (v : Nat) (s' : St), mid.length ≤ 12 ∧ (∀ e ∈ mid, Ev.tid e = t) ∧
      runLog stepF s (.inv t false d x :: mid ++ [.ret t true v]) = some s' ∧
      s'.pc t = .idle ∧ (∀ u, u ≠ t → s'.pc u = s.pc u) ∧
      contents s = (if d then contents s' ++ [v] else v :: contents s') ∧
      s'.popped = v :: s.popped ∧ s'.pushed = s.pushed :=
  solo_pop_op_nonempty s t (run_n h ▸ ht) (stale_false_fixed h).2.glob d x hidle
    (fun hc => hne (by rw [contents, hc]; rfl))

/-- non-vacuity: the explicit 14-event solo `pop_right` from the state with the unstable anchor
    (thread 1 untouched, still in the middle of its push; 1 popped, 2 left) … -/
example : soloPopRight.length = 14 ∧ (∀ e ∈ soloPopRight, Ev.tid e = 0) ∧
    (runLog stepF (init 2) (stalledLog ++ soloPopRight)).map
      (fun s => (s.pc 0, s.pc 1, s.anchor, contents s, s.popped)) =
    some (.idle, .stRd1 .pushDone false ⟨2, 1, 2, 2⟩, ⟨2, 2, 0, 4⟩, [2], [1]) := by decide
example : (runLog stepF (init 2) (stalledLog2 ++ soloPopLeft)).map
      (fun s => (s.pc 0, s.pc 1, s.anchor, contents s, s.popped)) =
    some (.idle, .stLink .pushDone false ⟨2, 1, 2, 2⟩ ⟨1, 2⟩ ⟨0, 1⟩, ⟨1, 1, 0, 4⟩, [1], [2]) := by decide
/-- … and the theorem applies to that state: its hypotheses are satisfiable there -/
example (s : St) (h : runLog stepF (init 2) stalledLog = some s) :
    ∃ (mid : List Ev) (v : Nat) (s' : St), mid.length ≤ 12 ∧ (∀ e ∈ mid, Ev.tid e = 0) ∧
      runLog stepF s (.inv 0 false true 0 :: mid ++ [.ret 0 true v]) = some s' ∧
      s'.pc 0 = .idle ∧ (∀ u, u ≠ 0 → s'.pc u = s.pc u) ∧
      contents s = (if true then contents s' ++ [v] else v :: contents s') ∧
      s'.popped = v :: s.popped ∧ s'.pushed = s.pushed := by
  have hm := idle_of_map h (c := [2, 1]) (by decide)
  exact C17_deque_solo_pop_nonempty 2 stalledLog s h 0 (by decide) hm.1 true 0 (by rw [hm.2]; simp)

/-- **Solo pop on an empty deque returns false** after exactly three events (`inv`, the anchor
    load, `ret`), changing nothing. -/
theorem C17_deque_solo_pop_empty (n : Nat) (log : List Ev) (s : St)
    (h : runLog stepF (init n) log = some s) (t : Nat) (ht : t < n) (hidle : s.pc t = .idle)
    (d : Bool) (x : Nat) (he : contents s = []) :
    ∃ s' : St, runLog stepF s [.inv t false d x, .ld t s.anchor, .ret t false 0] = some s' ∧
      s'.pc t = .idle ∧ (∀ u, u ≠ t → s'.pc u = s.pc u) ∧
      contents s' = [] ∧ s'.popped = s.popped ∧ s'.pushed = s.pushed :=
  solo_pop_op_empty s t (run_n h ▸ ht) (stale_false_fixed h).2.glob d x hidle (List.map_eq_nil_iff.1 he)

/-- non-vacuity: empty deque, thread 1 stalled holding a freshly allocated, unpublished node -/
example : (runLog stepF (init 2) (stalledLog3 ++ [.inv 0 false true 0, .ld 0 ⟨0, 0, 0, 0⟩, .ret 0 false 0])).map
      (fun s => (s.pc 0, s.pc 1, contents s, s.popped)) =
    some (.idle, .pushLd false 1, [], []) := by decide
example (s : St) (h : runLog stepF (init 2) stalledLog3 = some s) :
    ∃ s' : St, runLog stepF s [.inv 0 false true 0, .ld 0 s.anchor, .ret 0 false 0] = some s' ∧
      s'.pc 0 = .idle ∧ (∀ u, u ≠ 0 → s'.pc u = s.pc u) ∧
      contents s' = [] ∧ s'.popped = s.popped ∧ s'.pushed = s.pushed := by
  have hm := idle_of_map h (c := []) (by decide)
  exact C17_deque_solo_pop_empty 2 stalledLog3 s h 0 (by decide) hm.1 true 0 hm.2

/-- **Solo push terminates and succeeds.**  From every reachable state, a thread between
    operations that runs `push(v)` at end `d` alone finishes within 19 of its own events (`inv`,
    the allocation and at most 16 further shared accesses, `ret`), answers `true`, and `v` is the
    element at end `d`. -/
theorem C17_deque_solo_push (n : Nat) (log : List Ev) (s : St)
    (h : runLog stepF (init n) log = some s) (t : Nat) (ht : t < n) (hidle : s.pc t = .idle)
    (d : Bool) (v : Nat) :
    ∃ (mid : List Ev) (s' : St), mid.length ≤ 17 ∧ (∀ e ∈ mid, Ev.tid e = t) ∧
      runLog stepF s (.inv t true d v :: mid ++ [.ret t true 0]) = some s' ∧
      s'.pc t = .idle ∧ (∀ u, u ≠ t → s'.pc u = s.pc u) ∧
      contents s' = (if d then contents s ++ [v] else v :: contents s) ∧
      s'.pushed = v :: s.pushed ∧ s'.popped = s.popped :=
  solo_push_op s t (run_n h ▸ ht) (stale_false_fixed h).2.glob d v (finUsed_of_accepted h) hidle

/-- non-vacuity: the explicit 19-event solo `push_right(3)` from the state with the unstable
    anchor: thread 0 first completes thread 1's push, then pushes and stabilises its own -/
example : soloPushRight.length = 19 ∧ (∀ e ∈ soloPushRight, Ev.tid e = 0) ∧
    (runLog stepF (init 2) (stalledLog ++ soloPushRight)).map
      (fun s => (s.pc 0, s.pc 1, s.anchor, contents s, s.pushed)) =
    some (.idle, .stRd1 .pushDone false ⟨2, 1, 2, 2⟩, ⟨2, 3, 0, 5⟩, [2, 1, 3], [3, 2, 1]) := by decide
example (s : St) (h : runLog stepF (init 2) stalledLog = some s) :
    ∃ (mid : List Ev) (s' : St), mid.length ≤ 17 ∧ (∀ e ∈ mid, Ev.tid e = 0) ∧
      runLog stepF s (.inv 0 true true 3 :: mid ++ [.ret 0 true 0]) = some s' ∧
      s'.pc 0 = .idle ∧ (∀ u, u ≠ 0 → s'.pc u = s.pc u) ∧
      contents s' = (if true then contents s ++ [3] else 3 :: contents s) ∧
      s'.pushed = 3 :: s.pushed ∧ s'.popped = s.popped := by
  have hm := idle_of_map h (c := [2, 1]) (by decide)
  exact C17_deque_solo_push 2 stalledLog s h 0 (by decide) hm.1 true 3

/-- **Obstruction freedom.**  From every reachable state, whatever the other threads were doing
    when they stopped, every operation (`push = true/false`, either end) started by a thread that
    then runs alone returns within 19 of that thread's events; the answer is `false` only for a pop
    on an empty deque. -/
theorem C17_deque_obstruction_free (n : Nat) (log : List Ev) (s : St)
    (h : runLog stepF (init n) log = some s) (t : Nat) (ht : t < n) (hidle : s.pc t = .idle)
    (push d : Bool) (v : Nat) :
    ∃ (mid : List Ev) (ok : Bool) (r : Nat) (s' : St), mid.length ≤ 17 ∧ (∀ e ∈ mid, Ev.tid e = t) ∧
      runLog stepF s (.inv t push d v :: mid ++ [.ret t ok r]) = some s' ∧ s'.pc t = .idle ∧
      (∀ u, u ≠ t → s'.pc u = s.pc u) ∧ (ok = false ↔ (push = false ∧ contents s = [])) := by
  obtain ⟨mid, ok, r, s', h1, h2⟩ :=
    solo_op (fx := true) s t (run_n h ▸ ht) (stale_false_fixed h).2.glob (finUsed_of_accepted h) hidle push d v
  exact ⟨mid, ok, r, s', by cases push <;> simp [soloBound] at h1 <;> omega, h2⟩

/-- non-vacuity (obstruction freedom, from the half-done stabilisation of `stalledLog2`) -/
example (s : St) (h : runLog stepF (init 2) stalledLog2 = some s) (push d : Bool) (v : Nat) :
    ∃ (mid : List Ev) (ok : Bool) (r : Nat) (s' : St), mid.length ≤ 17 ∧ (∀ e ∈ mid, Ev.tid e = 0) ∧
      runLog stepF s (.inv 0 push d v :: mid ++ [.ret 0 ok r]) = some s' ∧ s'.pc 0 = .idle ∧
      (∀ u, u ≠ 0 → s'.pc u = s.pc u) ∧ (ok = false ↔ (push = false ∧ contents s = [])) := by
  have hm := idle_of_map h (c := [2, 1]) (by decide)
  exact C17_deque_obstruction_free 2 stalledLog2 s h 0 (by decide) hm.1 push d v

/-- **The bound the driver's solo monitor checks** (`soloBound push` = 19 for a push, 14 for a
    pop, counting `inv` and `ret`): from every reachable state the whole solo operation is a log
    of at most `soloBound push` events of `t`, first `inv`, last `ret`, and it answers `false`
    exactly for a pop on the deque that was empty when the operation began. -/
theorem C17_deque_solo_bound (n : Nat) (log : List Ev) (s : St)
    (h : runLog stepF (init n) log = some s) (t : Nat) (ht : t < n) (hidle : s.pc t = .idle)
    (push d : Bool) (v : Nat) :
    ∃ (evs : List Ev) (ok : Bool) (r : Nat) (s' : St), evs.length ≤ soloBound push ∧
      (∀ e ∈ evs, Ev.tid e = t) ∧ evs.head? = some (.inv t push d v) ∧
      evs.getLast? = some (.ret t ok r) ∧ runLog stepF s evs = some s' ∧ s'.pc t = .idle ∧
      (ok = false ↔ (push = false ∧ contents s = [])) :=
  solo_bound_of_glob s t (run_n h ▸ ht) (stale_false_fixed h).2.glob (finUsed_of_accepted h) hidle push d v

/-- **Pinned tree (link tags restart on recycling), partial.**  The same solo termination for the
    unrepaired code `step`, from every reachable state in which no link CAS has been stale so far
    (`s.stale = false`: the hypothesis of all `_partial` theorems of `Props/C17.lean`; it can only
    fail through the recycling ABA `findings/C17-aba-link.case`).  Full statement = this one without
    `hs`.  What is missing: after a harmful stale link CAS the structural invariant `Glob` (the
    anchor ends are chain nodes, their inward links name allocated neighbours) is lost — in the
    finding's witness the anchor ends up pointing into the freelist — and the run constructed here
    needs it for the null checks and for the answer; whether the bound survives is not known. -/
theorem C17_deque_solo_bound_pinned_partial (n : Nat) (log : List Ev) (s : St)
    (h : runLog step (init n) log = some s) (hs : s.stale = false)
    (t : Nat) (ht : t < n) (hidle : s.pc t = .idle) (push d : Bool) (v : Nat) :
    ∃ (evs : List Ev) (ok : Bool) (r : Nat) (s' : St), evs.length ≤ soloBound push ∧
      (∀ e ∈ evs, Ev.tid e = t) ∧ evs.head? = some (.inv t push d v) ∧
      evs.getLast? = some (.ret t ok r) ∧ runLog step s evs = some s' ∧ s'.pc t = .idle ∧
      (ok = false ↔ (push = false ∧ contents s = [])) :=
  solo_bound_of_glob s t (run_n h ▸ ht) (inv_of_accepted h hs).glob (finUsed_of_accepted h) hidle push d v

/-- non-vacuity (pinned tree): a stalled pusher under `step`; thread 0 is idle and `stale = false` -/
example : (runLog step (init 2) [.inv 1 true false 1, .alloc 1 1, .ld 1 ⟨0, 0, 0, 0⟩, .cas 1 true,
      .ret 1 true 0, .inv 1 true false 2, .alloc 1 2, .ld 1 ⟨1, 1, 0, 1⟩, .link 1 2 1, .cas 1 true]).map
    (fun s => (s.pc 0, s.pc 1, s.stale, contents s)) =
    some (.idle, .stRd1 .pushDone false ⟨2, 1, 2, 2⟩, false, [2, 1]) := by decide

/-- non-vacuity: both bounds are attained from `stalledLog` (14-event pop, 19-event push above) -/
example : soloPopRight.length = soloBound false ∧ soloPushRight.length = soloBound true := by decide

/-- **Back-end adapters, solo `pop(val, steal)`** (`lockfree_lifo_backend`,
    `lockfree_abp_fifo_backend`, `lockfree_abp_lifo_backend`; `steal = true` is the stealing
    variant): alone, the call returns within 14 events; on a non-empty deque it returns the element
    at the end the adapter pops from (`Backend.popEnd`). -/
theorem C17_backend_solo_pop (b : Backend) (steal : Bool) (n : Nat) (log : List Ev) (s : St)
    (h : runLog stepF (init n) log = some s) (t : Nat) (ht : t < n) (hidle : s.pc t = .idle)
    (x : Nat) (hne : contents s ≠ []) :
    ∃ (mid : List Ev) (v : Nat) (s' : St), mid.length ≤ 12 ∧ (∀ e ∈ mid, Ev.tid e = t) ∧
      runLog stepF s (.inv t false (b.popEnd steal) x :: mid ++ [.ret t true v]) = some s' ∧
      s'.pc t = .idle ∧ (∀ u, u ≠ t → s'.pc u = s.pc u) ∧
      contents s = (if b.popEnd steal then contents s' ++ [v] else v :: contents s') ∧
      s'.popped = v :: s.popped ∧ s'.pushed = s.pushed :=
  C17_deque_solo_pop_nonempty n log s h t ht hidle (b.popEnd steal) x hne

/-- non-vacuity: a steal from the abp-lifo back-end (`pop(v, steal = true)` = `pop_right`) while
    the owner is stalled inside its push -/
example (s : St) (h : runLog stepF (init 2) stalledLog = some s) :
    Backend.abpLifo.popEnd true = true ∧
    ∃ (mid : List Ev) (v : Nat) (s' : St), mid.length ≤ 12 ∧ (∀ e ∈ mid, Ev.tid e = 0) ∧
      runLog stepF s (.inv 0 false (Backend.abpLifo.popEnd true) 0 :: mid ++ [.ret 0 true v]) = some s' ∧
      s'.pc 0 = .idle ∧ (∀ u, u ≠ 0 → s'.pc u = s.pc u) ∧
      contents s = (if Backend.abpLifo.popEnd true then contents s' ++ [v] else v :: contents s') ∧
      s'.popped = v :: s.popped ∧ s'.pushed = s.pushed := by
  have hm := idle_of_map h (c := [2, 1]) (by decide)
  exact ⟨rfl, C17_backend_solo_pop .abpLifo true 2 stalledLog s h 0 (by decide) hm.1 0 (by rw [hm.2]; simp)⟩

/-- **Back-end adapters, solo `push(val, other_end)`**: alone, the call returns `true` within 19
    events and the value is at the end the adapter pushes to (`Backend.pushEnd`). -/
theorem C17_backend_solo_push (b : Backend) (other : Bool) (n : Nat) (log : List Ev) (s : St)
    (h : runLog stepF (init n) log = some s) (t : Nat) (ht : t < n) (hidle : s.pc t = .idle)
    (v : Nat) :
    ∃ (mid : List Ev) (s' : St), mid.length ≤ 17 ∧ (∀ e ∈ mid, Ev.tid e = t) ∧
      runLog stepF s (.inv t true (b.pushEnd other) v :: mid ++ [.ret t true 0]) = some s' ∧
      s'.pc t = .idle ∧ (∀ u, u ≠ t → s'.pc u = s.pc u) ∧
      contents s' = (if b.pushEnd other then contents s ++ [v] else v :: contents s) ∧
      s'.pushed = v :: s.pushed ∧ s'.popped = s.popped :=
  C17_deque_solo_push n log s h t ht hidle (b.pushEnd other) v

example (s : St) (h : runLog stepF (init 2) stalledLog = some s) (b : Backend) (other : Bool) :
    ∃ (mid : List Ev) (s' : St), mid.length ≤ 17 ∧ (∀ e ∈ mid, Ev.tid e = 0) ∧
      runLog stepF s (.inv 0 true (b.pushEnd other) 7 :: mid ++ [.ret 0 true 0]) = some s' ∧
      s'.pc 0 = .idle ∧ (∀ u, u ≠ 0 → s'.pc u = s.pc u) ∧
      contents s' = (if b.pushEnd other then contents s ++ [7] else 7 :: contents s) ∧
      s'.pushed = 7 :: s.pushed ∧ s'.popped = s.popped := by
  have hm := idle_of_map h (c := [2, 1]) (by decide)
  exact C17_backend_solo_push b other 2 stalledLog s h 0 (by decide) hm.1 7

end PikaVerif.Deque
