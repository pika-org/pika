import PikaVerif.Props.C07
import PikaVerif.Lemmas.CVMeasure
import PikaVerif.Lemmas.CVFinal
import PikaVerif.Lemmas.CVSolo
/-!
# C07t — termination / bounded progress of the condition-variable operations

`Props/C07.lean` states progress as "no stuck state" (`C07_stuck_only_when_blocked`) and "no lost
notification" as a quiescence property (`C07_no_lost_notification`).  This file strengthens both to
**termination** of finite programs and a characterisation of the final states of maximal runs.

**Stutter.**  The model `PikaVerif.CV` has **no stutter**: every accepted event changes the program
counter of its actor or shortens the wait queue.  A failed attempt on the internal spinlock, on
the user lock or on the lock bit of the stop state is not an event of the model (`slAcq`, `ulAcq`,
`stAcq` are accepted only when the lock is free; the `sl.lock` / `ag.yield` / `stop.load` /
`stop.cas` / `stop.casfail` / `stop.reload` lines of a spinning thread are dropped by the driver
before the acceptor), so the bounds below count every accepted event and are, for the real code,
bounds *modulo spinning on one of these three locks*.  Deadline expiry is a schedule event
(`timeout`), accepted once per sleep.

* `CV.mu` is a natural-number measure on model states that strictly decreases with every accepted
  event other than the invocation of a new operation; an invocation of `o` adds exactly
  `CV.opCost n o` (`C07t_measure_decreases`).
* A *program* gives each of the `n` threads a finite list of operations (`CV.PSt`, `CV.pstep`,
  `Lemmas/CVProgram.lean`).  Every accepted log of a program has at most `CV.bound n prog` events
  (`C07t_bounded`: 1 per thread + 2 per lock / unlock / set, 33 per notify_one, `29 n + 6` per
  notify_all, 19 / 20 per plain / predicate wait — timed or not —, `29 n + 32` per stop-token wait,
  4 per request_stop), every accepted log extends to a maximal one (`C07t_maximal_exists`).
* In the final state of a maximal run every thread has finished its whole program, except
  (a) waiters parked in an **untimed** wait to which **no notification is owed**: still linked,
  not popped, no wake-up token, and — in log order — since their last `cv.enq` no `notify_all`
  swapped the queue out, no `notify_one` found the queue empty and no notifier popped them
  (every `notify_one` issued since was consumed by another waiter); (b) threads queueing for the
  user lock that a thread keeps which ended its program, or stopped at a refused operation, while
  holding it; (c) threads whose next operation violates its precondition (`wait` / `unlock` /
  `set` without the user lock, `lock` while holding it) — (b) and (c) are errors of the program,
  not of the condition variable (`C07t_final_state`).
* One `notify_all` run alone (`|queue| + 4` events) followed by the woken waiters run alone (at
  most 9 events each) completes all of them (`C07t_notify_all_wakes`).
* Covering (`C07t_covered_all_return`, `C07t_pred_covered`) and the classic lost wake-up as a
  checked witness (`lostProg`, `lostRun`).
-/
namespace PikaVerif.C07t
open PikaVerif PikaVerif.CV PikaVerif.C07

/-- **The measure decreases.**  In every reachable state, every accepted event that is not the
    invocation of a new operation strictly decreases `mu`; an invocation of `o` adds exactly the
    potential of `o`. -/
theorem C07t_measure_decreases (n : Nat) (f : Bool) (log : List Ev) (s s' : St) (e : Ev)
    (h : runLog step (init n f) log = some s) (he : step s e = some s') :
    (∀ t o, e = .inv t o → mu s' = mu s + opCost s.n o) ∧
    ((∀ t o, e ≠ .inv t o) → mu s' < mu s) := by
  have hA := inv_of_accepted h
  have hB := (inv2_of_accepted h).2
  refine ⟨?_, fun hne => mu_step s s' e hA hB hne he⟩
  intro t o heq; subst heq; exact mu_inv s s' t o he

/-- **Bounded runs.**  Any accepted log of a finite program (`n` threads, `prog t` the operations
    of thread `t`) has at most `bound n prog` events — whatever the interleaving, including all
    deadline expiries and spurious wake-ups the model allows. -/
theorem C07t_bounded (n : Nat) (f : Bool) (prog : Nat → List Op) (log : List Ev) (p : PSt)
    (h : runLog pstep (pinit n f prog) log = some p) : log.length ≤ bound n prog := by
  have := layer.length_le potential (good_init n f) h
  rw [phi_pinit] at this
  omega

/-- An accepted log of a program is an accepted log of the model (so every theorem of
    `Props/C07.lean` applies to the states of program runs). -/
theorem C07t_program_refines (n : Nat) (f : Bool) (prog : Nat → List Op) (log : List Ev) (p : PSt)
    (h : runLog pstep (pinit n f prog) log = some p) : runLog step (init n f) log = some p.s :=
  layer.run h

/-- **Maximal runs exist and are finite.**  Every accepted log of a program extends to an accepted
    log after which no event at all is accepted; its length is at most `bound n prog`. -/
theorem C07t_maximal_exists (n : Nat) (f : Bool) (prog : Nat → List Op) (log : List Ev) (p : PSt)
    (h : runLog pstep (pinit n f prog) log = some p) :
    ∃ ext p', runLog pstep (pinit n f prog) (log ++ ext) = some p' ∧ PStuck p' ∧
      (log ++ ext).length ≤ bound n prog :=
  phi_pinit n f prog ▸ layer.maximal_exists potential (good_init n f) h

/-- **A linked waiter that was covered since its enqueue is being popped.**  `cov` (ghost state
    folded over the log, `Lemmas/CVCover.lean`) is set for every thread by `cv.all` (a `notify_all`
    or stop callback swaps the queue out) and by `cv.none` (a `notify_one` finds the queue empty),
    for the target by `cv.pop` / `cv.popall`, and reset for `t` by `cv.enq t`.  If `t` is still
    linked and covered, the internal lock is held by a thread inside the pop loop of a
    `notify_all` — which cannot release it before it has popped `t`
    (`C07_notify_all_wakes_all`). -/
theorem C07t_linked_covered_is_being_popped (n : Nat) (f : Bool) (log : List Ev) (s : St) (t : Nat)
    (h : runLog step (init n f) log = some s) (hq : t ∈ s.queue)
    (hc : (obsGLog gh0 log).cov t = true) : ∃ r, s.lock = some r ∧ allPc (s.pc r) = true := by
  exact (cov_of_runLog (inv_init n f) (inv2_init n f) (cov_init n f) h).gn t hq hc

theorem stuck_of_pstuck (p : PSt) (hs : PStuck p) : Stuck p.s :=
  stuck_model hs

/-- the internal lock is free at the end of a maximal run -/
theorem lock_free_of_pstuck (p : PSt) (hr : Reachable p.s) (hs : PStuck p) : p.s.lock = none :=
  ((stuck_model hs).free hr.inv.1 hr.inv.2 hr.inv3).1

/-- **Final states.**  In the final state of a maximal run of a program every thread has finished
    its whole program, or is parked in an untimed wait with no notification owed to it
    (`ParkedUnowed`), or queues for the user lock kept by a thread that is finished or idle
    (`BlockedOnUserLock`; the holder is itself finished or `Refused`), or its next operation is
    refused (`Refused`).  No thread ends inside `notify_one` / `notify_all` / `request_stop`, in a
    timed wait, notified but not resumed, or about to return. -/
theorem C07t_final_state (n : Nat) (f : Bool) (prog : Nat → List Op) (log : List Ev)
    (p : PSt) (h : runLog pstep (pinit n f prog) log = some p) (hs : PStuck p) :
    ∀ t, t < n → (p.s.pc t = .fin ∧ p.prog t = []) ∨ ParkedUnowed p.s log t ∨
      BlockedOnUserLock p.s t ∨ Refused p t :=
  fun _ ht => (final_of_run h hs ht).imp_right (.imp_left (·.1))

/-- **Covering, in log order.**  If every thread that is parked at the end of a maximal run was
    covered after its last `cv.enq` — a `notify_all` swapped the queue out, a `notify_one` found
    the queue empty, or a notifier popped it — then no thread is parked at all: the hypothesis is
    contradictory for a parked thread, so every wait has returned.  Equivalently: *a waiter
    followed in the log by a `notify_all` is not parked at the end of any maximal run.* -/
theorem C07t_covered_all_return (n : Nat) (f : Bool) (prog : Nat → List Op) (log : List Ev)
    (p : PSt) (h : runLog pstep (pinit n f prog) log = some p) (hs : PStuck p)
    (hcov : ∀ t, t < n → p.s.pc t = .susp false → (obsGLog gh0 log).cov t = true) :
    ∀ t, t < n → (p.s.pc t = .fin ∧ p.prog t = []) ∨ BlockedOnUserLock p.s t ∨ Refused p t :=
  fun t ht => (final_of_run h hs ht).imp_right fun
    | .inl hp => nomatch (hcov t ht hp.1.1).symm.trans hp.1.2.2.2.2.2
    | .inr h => h

/-- **Predicate waits: set the flag, then notify_all.**  If a maximal run ends with the flag true
    and not *dirty* — i.e. in log order a `notify_all` swapped the queue out after the flag was
    last set (`dirty` is set by `setFlag true`, cleared by `cv.all`) — then no thread is parked in
    a predicate wait: every predicate waiter has been woken, has re-tested the predicate under
    the user lock and (by `C07_wait_pred_returns_true`) returned with the predicate true, or is
    queueing for the user lock. -/
theorem C07t_pred_covered (n : Nat) (f : Bool) (prog : Nat → List Op) (log : List Ev)
    (p : PSt) (h : runLog pstep (pinit n f prog) log = some p) (hs : PStuck p)
    (hflag : p.s.flag = true) (hd : (obsGLog gh0 log).dirty = false) :
    ∀ t, t < n → isPred (p.s.curOp t) = true →
      (p.s.pc t = .fin ∧ p.prog t = []) ∨ BlockedOnUserLock p.s t ∨ Refused p t :=
  fun _ ht hpr => (final_of_run h hs ht).imp_right fun
    | .inl hp => nomatch hd.symm.trans (hp.2.1 hpr hflag)
    | .inr h => h

/-- **Position of a linked waiter.**  `z t` = size of the queue right after `t`'s last `cv.enq` (its
    position, from 1), `k t` = number of pops (`cv.pop` of a `notify_one`, `cv.popall` of a
    `notify_all`) since then (ghost state folded over the log, `Lemmas/CVPosition.lean`).  A waiter that
    is still linked sits at an index below `z t - k t`; in particular fewer than `z t` pops have
    happened since it enqueued: **after as many successful `notify_one` calls as waiters were linked
    when `t` enqueued (itself included), `t` has been popped** (or has removed itself). -/
theorem C07t_linked_position (n : Nat) (f : Bool) (log : List Ev) (s : St) (t : Nat)
    (h : runLog step (init n f) log = some s) (hq : t ∈ s.queue) :
    s.queue.idxOf t + (obsKLog gk0 log).k t < (obsKLog gk0 log).z t := by
  exact cnt_of_runLog (inv_init n f) (fun _ hu => nomatch hu) h t hq

/-- **Covering by `notify_one` calls, in log order.**  If for every thread that is parked at the end
    of a maximal run at least as many pops happened since its last `cv.enq` as entries were linked
    at that moment (`z t ≤ k t`), no thread is parked: every wait has returned. -/
theorem C07t_covered_by_notify_one (n : Nat) (f : Bool) (prog : Nat → List Op) (log : List Ev)
    (p : PSt) (h : runLog pstep (pinit n f prog) log = some p) (hs : PStuck p)
    (hcov : ∀ t, t < n → p.s.pc t = .susp false → (obsKLog gk0 log).z t ≤ (obsKLog gk0 log).k t) :
    ∀ t, t < n → (p.s.pc t = .fin ∧ p.prog t = []) ∨ BlockedOnUserLock p.s t ∨ Refused p t :=
  fun t ht => (final_of_run h hs ht).imp_right fun
    | .inl hp => absurd hp.2.2 (Nat.not_lt.2 (hcov t ht hp.1.1))
    | .inr h => h

/-! ## Programs that respect the lock discipline

`CV.wf false l`: started without the user lock, every `wait` / `wait(pred)` / `wait_for` /
stop-token wait / `set` / `unlock` of `l` is executed with the lock held, every `lock` without it,
and `l` ends without it (`notify_one` / `notify_all` / `request_stop` are allowed in both states). -/

/-- **Final states of disciplined programs.**  If every thread's program respects the lock
    discipline, the final state of a maximal run has *every thread finished with its whole program
    executed, except waiters parked in an untimed wait with no notification owed to them*. -/
theorem C07t_final_state_wf (n : Nat) (f : Bool) (prog : Nat → List Op) (hwf : ∀ t, wf false (prog t) = true)
    (log : List Ev) (p : PSt) (h : runLog pstep (pinit n f prog) log = some p) (hs : PStuck p) :
    ∀ t, t < n → (p.s.pc t = .fin ∧ p.prog t = []) ∨ ParkedUnowed p.s log t :=
  fun _ ht => (final_of_run_wf hwf h hs ht).imp_right (·.1)

/-- **Covered disciplined programs return.**  For a program that respects the lock discipline: if
    every thread parked at the end of a maximal run was covered after its last `cv.enq` by a
    `notify_all`, or by as many `notify_one` pops as entries were linked when it enqueued (log
    order), then the hypothesis is contradictory for parked threads — **every maximal run ends with
    all operations returned and every thread finished.** -/
theorem C07t_covered_all_return_wf (n : Nat) (f : Bool) (prog : Nat → List Op)
    (hwf : ∀ t, wf false (prog t) = true) (log : List Ev) (p : PSt)
    (h : runLog pstep (pinit n f prog) log = some p) (hs : PStuck p)
    (hcov : ∀ t, t < n → p.s.pc t = .susp false →
      (obsGLog gh0 log).cov t = true ∨ (obsKLog gk0 log).z t ≤ (obsKLog gk0 log).k t) :
    ∀ t, t < n → p.s.pc t = .fin ∧ p.prog t = [] :=
  fun t ht => (final_of_run_wf hwf h hs ht).resolve_right fun hp => (hcov t ht hp.1.1).elim
    (fun hc => nomatch hc.symm.trans hp.1.2.2.2.2.2) fun hc => absurd hp.2.2 (Nat.not_lt.2 hc)

/-- **Predicate waiters of disciplined programs return true.**  For a program that respects the
    lock discipline: if a maximal run ends with the flag true and a `notify_all` was issued after
    the flag was last set (log order: not `dirty`), every thread whose last operation was a
    predicate wait has finished its program (its `wait(pred)` returned — with the predicate true,
    `C07_wait_pred_returns_true`). -/
theorem C07t_pred_covered_wf (n : Nat) (f : Bool) (prog : Nat → List Op)
    (hwf : ∀ t, wf false (prog t) = true) (log : List Ev) (p : PSt)
    (h : runLog pstep (pinit n f prog) log = some p) (hs : PStuck p)
    (hflag : p.s.flag = true) (hd : (obsGLog gh0 log).dirty = false) :
    ∀ t, t < n → isPred (p.s.curOp t) = true → p.s.pc t = .fin ∧ p.prog t = [] :=
  fun _ ht hpr => (final_of_run_wf hwf h hs ht).resolve_right fun hp =>
    nomatch hd.symm.trans (hp.2.1 hpr hflag)

/-! ## Non-vacuity and the classic lost wake-up -/

/-- the classic shape without a predicate: thread 0 `lock; wait; unlock`, thread 1
    `lock; notify_all; unlock` -/
def lostProg : Nat → List Op :=
  fun t => if t = 0 then [.lock, .wait false false, .unlock]
           else if t = 1 then [.lock, .notify true, .unlock] else []

/-- the notifier runs first: `notify_all` finds the queue empty, then the waiter enqueues and parks -/
def lostRun : List Ev :=
  [.inv 1 .lock, .ulAcq 1, .inv 1 (.notify true), .slAcq 1, .cvAll 1 0, .slRel 1, .ret 1 0,
   .inv 1 .unlock, .ulRel 1, .done 1,
   .inv 0 .lock, .ulAcq 0, .inv 0 (.wait false false), .slAcq 0, .ulRel 0, .cvEnq 0 1 false,
   .slRel 0, .suspend 0]

/-- the waiter runs first: it is popped by the `notify_all`, every operation returns -/
def goodRun : List Ev :=
  [.inv 0 .lock, .ulAcq 0, .inv 0 (.wait false false), .slAcq 0, .ulRel 0, .cvEnq 0 1 false,
   .slRel 0, .suspend 0,
   .inv 1 .lock, .ulAcq 1, .inv 1 (.notify true), .slAcq 1, .cvAll 1 1, .popAll 1 0 0 false,
   .slRel 1, .ret 1 0, .inv 1 .unlock, .ulRel 1, .done 1,
   .woke 0, .slAcq 0, .cvWoke 0 false false, .slRel 0, .ulAcq 0, .ret 0 0, .inv 0 .unlock,
   .ulRel 0, .done 0]

/-- both runs are accepted logs of the program (`decide`-checked) -/
example : (runLog pstep (pinit 2 false lostProg) lostRun).isSome = true := by decide
example : (runLog pstep (pinit 2 false lostProg) goodRun).isSome = true := by decide

/-- **The lost wake-up blocks for ever.**  `lostRun` is a *maximal* run of `lostProg` (no event is
    accepted after it) that ends with the notifier finished and the waiter parked in `wait` with no
    notification owed to it — the `notify_all` was issued before it enqueued (`cov 0 = false`).
    So "the program contains a `notify_all`" does not imply that all operations return: covering
    has to be stated in log order (`C07t_covered_all_return`), or with a predicate
    (`C07t_pred_covered`). -/
example : ∃ p, runLog pstep (pinit 2 false lostProg) lostRun = some p ∧ PStuck p ∧
    p.s.pc 1 = .fin ∧ ParkedUnowed p.s lostRun 0 ∧ lostRun.length ≤ bound 2 lostProg := by
  refine ⟨_, rfl, ?_, by decide, ⟨by decide, by decide, by decide, by decide, by decide, by decide⟩, by decide⟩
  apply pstuck_of_rest
  intro t ht
  have ht' : t < 2 := ht
  revert t
  decide

/-- the same program has a maximal run in which every operation returns: the waiter was covered
    (`cov 0 = true`, hypothesis of `C07t_covered_all_return`) -/
example : ∃ p, runLog pstep (pinit 2 false lostProg) goodRun = some p ∧ PStuck p ∧
    (∀ t, t < 2 → p.s.pc t = .fin) ∧ (obsGLog gh0 goodRun).cov 0 = true ∧
    goodRun.length ≤ bound 2 lostProg := by
  refine ⟨_, rfl, ?_, by decide, rfl, by decide⟩
  apply pstuck_of_rest
  intro t ht
  have ht' : t < 2 := ht
  left
  revert t
  decide

/-- the counting ghost on the two runs: in `lostRun` the waiter enqueued at position 1 and no pop
    followed (`k = 0 < z = 1`); in `goodRun` one pop followed (`z = 1 ≤ k = 1`, hypothesis of
    `C07t_covered_by_notify_one`) -/
example : (obsKLog gk0 lostRun).z 0 = 1 ∧ (obsKLog gk0 lostRun).k 0 = 0 ∧
    (obsKLog gk0 goodRun).z 0 = 1 ∧ (obsKLog gk0 goodRun).k 0 = 1 := by decide

/-- both example programs respect the lock discipline -/
example : ∀ t, wf false (lostProg t) = true := by
  intro t; simp only [lostProg]; split
  · rfl
  · split <;> rfl

/-- the predicate shape: thread 0 `lock; wait(pred); unlock`, thread 1
    `lock; flag = true; notify_all; unlock` -/
def predProg : Nat → List Op :=
  fun t => if t = 0 then [.lock, .wait false true, .unlock]
           else if t = 1 then [.lock, .set true, .notify true, .unlock] else []

/-- waiter first, woken by the `notify_all`, returns `true` -/
def predRun : List Ev :=
  [.inv 0 .lock, .ulAcq 0, .inv 0 (.wait false true), .pred 0 false, .slAcq 0, .ulRel 0,
   .cvEnq 0 1 false, .slRel 0, .suspend 0,
   .inv 1 .lock, .ulAcq 1, .inv 1 (.set true), .setFlag 1 true, .inv 1 (.notify true), .slAcq 1,
   .cvAll 1 1, .popAll 1 0 0 false, .slRel 1, .ret 1 0, .inv 1 .unlock, .ulRel 1, .done 1,
   .woke 0, .slAcq 0, .cvWoke 0 false false, .slRel 0, .ulAcq 0, .pred 0 true, .ret 0 1,
   .inv 0 .unlock, .ulRel 0, .done 0]

/-- notifier first: the waiter finds the predicate true and never enqueues -/
def predRun2 : List Ev :=
  [.inv 1 .lock, .ulAcq 1, .inv 1 (.set true), .setFlag 1 true, .inv 1 (.notify true), .slAcq 1,
   .cvAll 1 0, .slRel 1, .ret 1 0, .inv 1 .unlock, .ulRel 1, .done 1,
   .inv 0 .lock, .ulAcq 0, .inv 0 (.wait false true), .pred 0 true, .ret 0 1,
   .inv 0 .unlock, .ulRel 0, .done 0]

example : ∀ t, wf false (predProg t) = true := by
  intro t; simp only [predProg]; split
  · rfl
  · split <;> rfl

/-- both orders are accepted, maximal, end with every thread finished and satisfy the hypotheses
    of `C07t_pred_covered` (flag true, not dirty) -/
example : ∃ p, runLog pstep (pinit 2 false predProg) predRun = some p ∧ PStuck p ∧
    (∀ t, t < 2 → p.s.pc t = .fin) ∧ p.s.flag = true ∧ (obsGLog gh0 predRun).dirty = false ∧
    predRun.length ≤ bound 2 predProg := by
  refine ⟨_, rfl, ?_, by decide, rfl, rfl, by decide⟩
  apply pstuck_of_rest
  intro t ht
  have ht' : t < 2 := ht
  left
  revert t
  decide

example : ∃ p, runLog pstep (pinit 2 false predProg) predRun2 = some p ∧ PStuck p ∧
    (∀ t, t < 2 → p.s.pc t = .fin) ∧ p.s.flag = true ∧ (obsGLog gh0 predRun2).dirty = false := by
  refine ⟨_, rfl, ?_, by decide, rfl, rfl⟩
  apply pstuck_of_rest
  intro t ht
  have ht' : t < 2 := ht
  left
  revert t
  decide

/-- the measure of the initial state is `n = 2` (two idle threads), and the bound of `lostProg`
    written out operation by operation -/
example : mu (init 2 false) = 2 := by decide
example : bound 2 lostProg = 2 + (2 + 19 + 2) + (2 + (29 * 2 + 6) + 2) := by decide

/-! ## Solo bound -/

/-- **One `notify_all` wakes and completes every parked waiter, with explicit step bounds.**  In any
    reachable state where thread `r` has invoked `notify_all`, the internal lock and the user lock
    are free and the threads on the wait queue are parked in an untimed `wait` / `wait(pred)` (for
    the predicate form the flag is true): the notifier running alone (`nallSolo`, exactly
    `|queue| + 4` events) pops and resumes every queued waiter (each gets its wake-up token) and
    returns; then the woken waiters, each running alone in queue order (`wakeAllLog`, `8` events per
    plain wait, `9` per predicate wait: wake, re-take the internal lock, `cv.woke`, release it,
    re-take the user lock, [re-test the predicate], return, `unlock`), all return — at most
    `10 |queue| + 4` events in total — and the run ends with the queue empty and both locks free. -/
theorem C07t_notify_all_wakes (s : St) (hr : Reachable s) (r : Nat) (hrn : r < s.n)
    (hl : s.lock = none) (hu : s.ulock = none) (hp : s.pc r = .nWant) (hc : s.curOp r = .notify true)
    (hpark : ∀ g, g ∈ s.queue → s.pc g = .susp false ∧
      ∃ pr, s.curOp g = .wait false pr ∧ (pr = true → s.flag = true)) :
    ∃ s2, runLog step s (nallSolo r s.queue ++ wakeAllLog (fun g => isPred (s.curOp g)) s.queue) = some s2 ∧
      (nallSolo r s.queue).length = s.queue.length + 4 ∧
      (wakeAllLog (fun g => isPred (s.curOp g)) s.queue).length ≤ 9 * s.queue.length ∧
      (nallSolo r s.queue ++ wakeAllLog (fun g => isPred (s.curOp g)) s.queue).length ≤ 10 * s.queue.length + 4 ∧
      s2.pc r = .idle ∧ (∀ g, g ∈ s.queue → s2.pc g = .idle) ∧
      s2.queue = [] ∧ s2.lock = none ∧ s2.ulock = none := by
  obtain ⟨hi, _⟩ := hr.inv
  have hnd := hi.qNodup
  have hqn : ∀ g, g ∈ s.queue → g < s.n := fun _ => hi.mem_queue_lt
  have hrq : r ∉ s.queue := by intro hm; have := (hpark r hm).1; rw [hp] at this; simp at this
  obtain ⟨s1, a1, a2, a3, a4, a5, a6, a7, a8, a9⟩ :=
    nallSolo_spec r s hl hrn hp hc (fun g hg => (hpark g hg).1) hnd
  obtain ⟨s2, b1, b2, b3, b4, b5, b6, b7, b8⟩ :=
    wakeAll_spec (fun g => isPred (s.curOp g)) s.queue s1 a2 (by rw [a6]; exact hu) hnd
      (by intro g hg
          obtain ⟨c1, c2, c3⟩ := a8 g hg
          obtain ⟨_, pr, d1, d2⟩ := hpark g hg
          refine ⟨by rw [a3]; exact hqn g hg, c1, by omega, ?_, ?_⟩
          · rw [c3, d1]; simp [isPred]
          · intro hpr; rw [a7]; apply d2; rw [d1] at hpr; simpa [isPred] using hpr)
  have hlen1 := nallSolo_length r s.queue
  have hlen2 := wakeAllLog_length (fun g => isPred (s.curOp g)) s.queue
  refine ⟨s2, ?_, hlen1, hlen2, by rw [List.length_append]; omega, ?_, b7, by rw [b5, a5], b2, b3⟩
  · rw [runLog_append, a1]; simpa using b1
  · rw [(b8 r hrq).1]; exact a4

/-- non-vacuity: two threads parked in `wait` and `wait(pred)` (flag set meanwhile), thread 2 invokes
    `notify_all` with both locks free: the solo run of the theorem (`2 + 4` events, then `8 + 9`)
    is accepted from that state and ends with all three threads idle -/
def soloPrefix : List Ev :=
  [.inv 0 .lock, .ulAcq 0, .inv 0 (.wait false false), .slAcq 0, .ulRel 0, .cvEnq 0 1 false, .slRel 0, .suspend 0,
   .inv 1 .lock, .ulAcq 1, .inv 1 (.wait false true), .pred 1 false, .slAcq 1, .ulRel 1, .cvEnq 1 2 false,
   .slRel 1, .suspend 1,
   .inv 2 .lock, .ulAcq 2, .inv 2 (.set true), .setFlag 2 true, .inv 2 .unlock, .ulRel 2,
   .inv 2 (.notify true)]

example : (runLog step (init 3 false)
    (soloPrefix ++ nallSolo 2 [0, 1] ++ wakeAllLog (fun g => decide (g = 1)) [0, 1])).isSome = true := by
  decide

example : (nallSolo 2 [0, 1] ++ wakeAllLog (fun g => decide (g = 1)) [0, 1]).length = 6 + 8 + 9 := by decide

/-! ## Termination modulo spinning on the internal lock

The model has no event for a failed attempt on the internal spinlock, so the bounds above bound the
real code's events *modulo* such spinning.  A spinning episode lasts only while another thread holds
the lock, and the holder is never blocked: -/

/-- **The holder of the internal lock releases it within `|queue| + 4` of its own events**, in every
    reachable state (`|queue|` only inside the pop loop of a `notify_all` / stop callback; at most 4
    otherwise) — so a thread spinning on the internal lock waits for a bounded number of steps of
    one other thread, which needs no other thread to move. -/
theorem C07t_lock_released_within (s : St) (hr : Reachable s) (r : Nat) (hl : s.lock = some r) :
    ∃ log s', log.length ≤ s.queue.length + 4 ∧ (∀ e, e ∈ log → actor e = r) ∧
      runLog step s log = some s' ∧ s'.lock = none :=
  holdRel_mono _ _ _ _ (hm_le ..) (holder_releases hr.inv.1 hr.inv.2 hl)

/-- non-vacuity: in `goodRun` after `cv.all` (the notifier holds the lock, one waiter queued) the
    holder's solo run `popAll; slRel` releases the lock -/
example : ∃ s s', runLog step (init 2 false) (goodRun.take 13) = some s ∧ s.lock = some 1 ∧
    runLog step s [.popAll 1 0 0 false, .slRel 1] = some s' ∧ s'.lock = none := by
  refine ⟨_, _, rfl, by decide, rfl, by decide⟩

end PikaVerif.C07t
