import PikaVerif.Props.C04
import PikaVerif.Lemmas.RwThreads
import PikaVerif.Lemmas.RwRetry
import PikaVerif.Lemmas.RwMax
import PikaVerif.Lemmas.RwSolo
/-!
# C04r — termination of async_rw_mutex programs and final states of maximal runs

`Props/C04.lean` states "every started access is eventually granted" as *no stall* (`C04_no_stall`,
`C04_progress`: a state without an enabled internal step has granted everything grantable).  This
file turns it into statements about whole runs.

**Stutter.**  The model accepts exactly one stutter: the **CAS retry** (`Rw.isRetry`: a `cas` event
that fails while the queue of the shared state is still open).  A retry is *real* (`Rw.isReal`: the
head has moved since the thread's last observation) or *spurious* (the weak CAS failed although its
expected value was current: the state is unchanged).  Real retries are bounded by the progress of
others (at most `na²` in an accepted log); so the **only unbounded stutter is the spurious failure of
`compare_exchange_weak`**, and every bound below counts *all events except CAS retries*
(`Rw.retries log`) or assumes a CAS that does not fail spuriously (the harness executes it as
`compare_exchange_strong`).

**Measure.**  `Rw.mu s' + cost e ≤ Rw.mu s + gain e` for every accepted event: every event pays one
unit (`cost`), a CAS retry none, and the operations that create work add it (`gain`: `req` 7,
`copy` 2, `write` / `readv` 1 - gross of the unit the event itself pays, so `req` raises `mu` by at
most 6).

**Programs.**  A *program* (`Rw.PSt`, `Rw.pstep`, `Lemmas/RwProg.lean`) is the finite request
sequence of the owner followed by the destruction of the mutex, every sender started or dropped,
every wrapper copy released, finite budgets of copies / reads / writes, with all thread placements.
Per-thread operation lists (`Rw.TSt`, `Lemmas/RwThreads.lean`) are treated on their own: each of their
steps is a step of the model, and the bound is proved from that.
-/
namespace PikaVerif.C04r
open PikaVerif PikaVerif.Rw PikaVerif.C04

/-- **The measure.**  In every reachable state every accepted event pays one unit of `mu`, except
    that the operations of the program add the work they create (`gain`: `req` 7, `copy` 2,
    `write` / `readv` 1, everything else 0) and the CAS retry is free (`cost = 0`).  In particular
    every event with `gain e = 0` that is not a CAS retry strictly decreases `mu`, and a CAS retry
    does not increase it. -/
theorem C04r_measure_decreases (log : List Ev) (s s' : St) (e : Ev)
    (h : runLog step init log = some s) (he : step s e = some s') :
    mu s' + cost e ≤ mu s + gain e ∧
    (gain e = 0 → isRetry e = false → mu s' < mu s) ∧
    (isRetry e = true → mu s' ≤ mu s) := by
  have hm := mu_step s s' e (inv_of_accepted h) he
  refine ⟨hm, ?_, ?_⟩
  · intro hg hr
    have : cost e = 1 := by simp [cost, hr]
    omega
  · intro hr
    obtain ⟨t, a, det, h0, q, rfl, _⟩ := (Step.of_step he).retry hr
    simp only [gain] at hm
    omega

/-- **The CAS retry is a stutter.**  A `cas` that fails on an open queue changes nothing but the
    expected value `h` remembered by the retrying thread; if the failure was spurious (the head had
    not moved: `h0 = q.length`) the state is unchanged. -/
theorem C04r_retry_is_stutter (s s' : St) (e : Ev) (hr : isRetry e = true) (he : step s e = some s') :
    ∃ t a det h0 q, s.acc a = .loaded t det h0 ∧ s.head (s.grp a) = some q ∧
      s' = { s with acc := upd s.acc a (.loaded t det q.length) } ∧ (h0 = q.length → s' = s) := by
  obtain ⟨t, a, det, h0, q, rfl, hx, hh, hs⟩ := (Step.of_step he).retry hr
  refine ⟨t, a, det, h0, q, hx, hh, hs, ?_⟩
  rintro rfl
  rw [hs, ← hx, upd_self]

/-- **Bounded logs (model level).**  Every accepted log: its length, not counting CAS retries, plus
    the measure of the state reached is at most 2 + the work created by the operations in it. -/
theorem C04r_log_bound (log : List Ev) (s : St) (h : runLog step init log = some s) :
    log.length + mu s ≤ 2 + gains log + retries log := by
  have h1 := runLog_mu inv_init h
  have h2 := costs_retries log
  rw [mu_init] at h1
  omega

/-- a run of a program is a run of the model -/
theorem C04r_program_refines (kinds : List Bool) (c w r : Nat) (log : List Ev) (p : PSt)
    (h : runLog pstep (pinit kinds c w r) log = some p) : runLog step init log = some p.s :=
  runLog_pstep_step log _ p h

/-- **Bounded runs.**  Any accepted log of a finite program (`kinds`: the requests, `c` / `w` / `r`:
    budgets of wrapper copies / modifications / reads) has at most
    `bound = 2 + 7·|kinds| + 2c + w + r` events that are not CAS retries - whatever the
    interleaving and thread placement. -/
theorem C04r_bounded (kinds : List Bool) (c w r : Nat) (log : List Ev) (p : PSt)
    (h : runLog pstep (pinit kinds c w r) log = some p) :
    log.length ≤ bound kinds c w r + retries log := by
  have := (client_bounds PSt.s budget pstep_client rfl h).2.1
  simp only [budget, pinit, bound] at this ⊢
  omega

/-- **Real CAS retries are bounded.**  In any accepted log the number of CAS retries that failed
    because the head had really moved is at most the square of the number of requests. -/
theorem C04r_real_retries_bounded (log : List Ev) (s : St) (h : runLog step init log = some s) :
    reals init log ≤ s.na * s.na ∧ reals init log ≤ retries log :=
  ⟨reals_bound log s h, reals_le_retries log init⟩

/-- **Bounded runs, modulo spurious CAS failures only.**  The length of any accepted log of a
    program is at most `bound + |kinds|²` + the number of *spurious* CAS failures in it
    (`retries log - reals init log`); in particular, if no CAS fails spuriously the run has at most
    `bound + |kinds|²` events. -/
theorem C04r_bounded_strong (kinds : List Bool) (c w r : Nat) (log : List Ev) (p : PSt)
    (h : runLog pstep (pinit kinds c w r) log = some p) :
    log.length ≤ bound kinds c w r + kinds.length * kinds.length + (retries log - reals init log) ∧
    (retries log = reals init log → log.length ≤ bound kinds c w r + kinds.length * kinds.length) := by
  have := (client_bounds PSt.s budget pstep_client rfl h).2.2
  have hn := runLog_pna log _ p h
  have hle : p.s.na ≤ kinds.length := by simp [pinit, init] at hn; omega
  have := Nat.mul_le_mul hle hle
  simp only [budget, pinit, bound] at *
  exact ⟨by omega, fun he => by omega⟩

/-- **Maximal runs exist.**  Every accepted log of a program extends to a maximal one. -/
theorem C04r_maximal_exists (kinds : List Bool) (c w r : Nat) (log : List Ev) (p : PSt)
    (h : runLog pstep (pinit kinds c w r) log = some p) :
    ∃ ext p', runLog pstep (pinit kinds c w r) (log ++ ext) = some p' ∧ PMax p' := by
  have hi : Inv p.s := inv_of_accepted (C04r_program_refines kinds c w r log p h)
  obtain ⟨ext, p', h1, h2⟩ := maximal_exists p hi
  refine ⟨ext, p', ?_, h2⟩
  rw [runLog_append, h]; simpa using h1

/-- **Final states of maximal runs.**  When no event of the program is enabled any more: the owner
    has made all its requests (`na = |kinds|`) and destroyed the mutex; **every** requested access
    has been granted exactly once and is completely released; every shared state has been destroyed
    (reference count zero, queue closed, `done()` finished) and the value has been destroyed.
    "Every started access is eventually granted" as a theorem about runs: a maximal run is finite
    (modulo CAS retries, `C04r_bounded`) and cannot end before all of this has happened. -/
theorem C04r_final_state (kinds : List Bool) (c w r : Nat) (log : List Ev) (p : PSt)
    (h : runLog pstep (pinit kinds c w r) log = some p) (hmax : PMax p) :
    p.reqs = [] ∧ p.s.na = kinds.length ∧ p.s.alive = false ∧
    (∀ a, a < p.s.na → p.s.acc a = .released ∧ p.s.grants a = 1) ∧
    (∀ g, g < p.s.ng → p.s.dead g = true ∧ p.s.rc g = 0 ∧ p.s.head g = none ∧ ∃ t, p.s.dn g = .drain t []) ∧
    p.s.vfreed = true := by
  have hs := C04r_program_refines kinds c w r log p h
  have ha : PAlive p := inv_of_runLog PAlive (fun p e p' => palive_step p p' e) (fun _ => rfl) h
  obtain ⟨hreq, hq⟩ := quiescent_of_pmax p ha hmax
  obtain ⟨f1, f2, f3⟩ := final_of_quiescent p.s ⟨log, hs⟩ hq
  have hn := runLog_pna log _ p h
  refine ⟨hreq, ?_, hq.2.2.2.2, f1, f2, f3⟩
  rw [hreq] at hn
  simpa [pinit, init] using hn

/-- **Final states, model level.**  The same for any accepted log of the model (no program
    needed): a reachable state in which no step of the implementation, no start / drop of a sender,
    no release of a wrapper and no value destructor is enabled and whose mutex is destroyed
    (`Rw.Quiescent`) has every access granted exactly once and released, every shared state
    destroyed and the value destroyed. -/
theorem C04r_quiescent_final (log : List Ev) (s : St) (h : runLog step init log = some s)
    (hq : Quiescent s) :
    (∀ a, a < s.na → s.acc a = .released ∧ s.grants a = 1) ∧
    (∀ g, g < s.ng → s.dead g = true ∧ s.rc g = 0 ∧ s.head g = none ∧ ∃ t, s.dn g = .drain t []) ∧
    s.vfreed = true :=
  final_of_quiescent s ⟨log, h⟩ hq

/-- **Per-thread programs.**  `n` threads, thread `t` invokes the operations of `prog t` in that
    order (`Rw.TSt`, `Rw.tstep`, `Lemmas/RwThreads.lean`; an operation the model does not accept yet
    waits; steps of the implementation are free).  Every accepted log is an accepted log of the
    model, and has at most `boundT = 2 + Σ opCost` (7 per request, 2 per copy, 1 per value access)
    events that are not CAS retries, at most `boundT + na²` that are not spurious CAS failures. -/
theorem C04r_thread_program_bounded (n : Nat) (prog : Nat → List Op) (log : List Ev) (p : TSt)
    (h : runLog tstep (tinit n prog) log = some p) :
    runLog step init log = some p.s ∧ log.length ≤ boundT n prog + retries log ∧
    log.length ≤ boundT n prog + p.s.na * p.s.na + (retries log - reals init log) := by
  obtain ⟨hs, h1, h2⟩ := client_bounds TSt.s (fun q => sumTo q.n (fun t => progCost (q.prog t)))
    (fun _ _ _ h => ⟨(tstep_spec h).1, by rw [(tstep_spec h).2.1]; exact (tstep_spec h).2.2⟩) rfl h
  simp only [tinit, boundT] at *
  exact ⟨hs, by omega, by omega⟩

/-- **Grants follow the request order along the run.**  At every point of a program run: once an
    access has been granted, every access of every earlier group (in particular every earlier
    read-write access, and every access requested before an earlier read-write access) has been
    granted exactly once and completely released; two accesses held together are reads of one group. -/
theorem C04r_run_order (kinds : List Bool) (c w r : Nat) (log : List Ev) (p : PSt)
    (h : runLog pstep (pinit kinds c w r) log = some p) (a b : Nat) (ha : a < p.s.na) (hb : b < p.s.na)
    (hg : WasGranted p.s a) :
    (p.s.grp b < p.s.grp a → p.s.acc b = .released ∧ p.s.grants b = 1) ∧
    (Held p.s a → Held p.s b → p.s.grp a = p.s.grp b ∧ (IsRw p.s a → a = b)) := by
  have hr : Reachable p.s := ⟨log, C04r_program_refines kinds c w r log p h⟩
  refine ⟨fun hlt => ?_, fun h1 h2 => ⟨C04_read_groups _ hr a b h1 h2, C04_rw_exclusive _ hr a b h1 h2⟩⟩
  have h1 := C04_order p.s hr a b ha hb hg hlt
  refine ⟨h1, ?_⟩
  have := (C04_granted_once p.s hr b).2
  unfold WasGranted at this
  rw [h1] at this
  exact this.1 rfl

/-- **The value outlives every access; its destruction is the last event.**  The value destructor
    is accepted only when the mutex is gone, every requested access is released and every shared
    state destroyed; after it no event whatsoever is accepted (in particular no second destruction,
    no release, no grant, no access to the value), and the measure is 0. -/
theorem C04r_value_destroyed_last (log : List Ev) (s s' : St) (t : Nat)
    (h : runLog step init log = some s) (he : step s (.vfree t) = some s') :
    (∀ a, a < s.na → s.acc a = .released) ∧ s.alive = false ∧ (∀ g, g < s.ng → s.dead g = true) ∧
    mu s' = 0 ∧ ∀ e, step s' e = none :=
  vfree_terminal s s' t (inv_of_accepted h) he

/-- **Step bound for one release running alone.**  After `rel t a` the thread `t`, running alone,
    finishes every `done()` frame it is in - the one entered by the destructor of the shared state
    it released last, and those entered by the shared states of detached accesses it grants on the
    way - in exactly `soloRank s - soloRank s'` ≤ `soloRank s` = (queued operation states) +
    (shared states whose head has not been exchanged) steps, all of them `xchg` / `cont` of `t`. -/
theorem C04r_solo_release (log : List Ev) (s s1 : St) (t a : Nat) (d : Bool)
    (h : runLog step init log = some s) (he : step s (.rel t a d) = some s1) :
    ∃ es s', (∀ e, e ∈ es → IsDone t e) ∧ runLog step s1 es = some s' ∧
      es.length + soloRank s' = soloRank s ∧ ¬ TFrame s' t := by
  have hi := inv_of_accepted h
  have h0 := solo_rel s s1 hi t a d he
  obtain ⟨es, s', e1, e2, e3, e4⟩ := solo_run t s1 (step_inv s s1 _ hi he)
  exact ⟨es, s', e1, e2, by omega, e4⟩

/-! ## Non-vacuity -/

/-- w0, r1, r2 (one read group), w3 dropped unstarted; 1 is queued behind the held 0; 0 is written
    through and released by thread 1, which runs `done()` of the read group; 2 is granted inline,
    copied, read; the mutex is destroyed early; the last release of the read group cascades:
    `done()` of group 2 grants the detached 3, whose shared state dies at once; the value is
    destroyed last. -/
def runEx : List Ev :=
  [.req 0 0 true true false, .xchg 0 0 0, .req 0 1 false true false, .req 0 2 false false false,
   .req 0 3 true true false, .destroy 0 false,
   .start 1 0 false, .load 1 0 2 true false,
   .start 2 1 false, .load 2 1 0 false false, .cas 2 1 false 0 false false, .cas 2 1 true 0 false false,
   .start 3 3 true, .load 3 3 0 false false, .cas 3 3 true 0 false false,
   .write 1 0 1, .rel 1 0 true, .xchg 1 1 1, .cont 1 1 (some 1) false,
   .start 0 2 false, .load 0 2 2 true false, .copy 0 2, .readv 2 1 1,
   .rel 2 1 false, .rel 0 2 false, .rel 3 2 true, .xchg 3 2 1, .cont 3 2 none true,
   .vfree 3]

example : (runLog pstep (pinit [true, false, false, true] 1 1 1) runEx).isSome = true := by decide

/-- `runEx` is a maximal run of its program; it contains one (spurious) CAS retry and respects the
    bound -/
example : ∃ p, runLog pstep (pinit [true, false, false, true] 1 1 1) runEx = some p ∧ PMax p ∧
    p.s.na = 4 ∧ retries runEx = 1 ∧ runEx.length = 29 ∧ bound [true, false, false, true] 1 1 1 = 34 := by
  cases hp : runLog pstep (pinit [true, false, false, true] 1 1 1) runEx with
  | none =>
    have : (runLog pstep (pinit [true, false, false, true] 1 1 1) runEx).isSome = true := by decide
    simp [hp] at this
  | some p =>
    have hmax : PMax p := pmax_of_vfree_last (pinit [true, false, false, true] 1 1 1) p (runEx.take 28) 3
      ⟨[], rfl⟩ (by simpa [runEx] using hp)
    have hf := C04r_final_state _ 1 1 1 runEx p hp hmax
    exact ⟨p, rfl, hmax, hf.2.1, by decide, by decide, by decide⟩

/-- the solo bound: just before `rel 3 2` (event 26 of `runEx`; the release itself keeps `soloRank`,
    `solo_rel`) thread 3 has two steps to run alone after it - the exchange on the last shared state
    and the continuation of the detached access 3 - and `soloRank` is 2 -/
example : C04.reaches (runEx.take 25) (fun s => soloRank s == 2 && s.acc 3 == .queued true) = true := by decide

/-- `runEx` as a run of a per-thread program: thread 0 owns the mutex -/
def progEx : Nat → List Op
  | 0 => [.req true, .req false, .req false, .req true, .destroy, .start 2 false, .copy 2, .rel 2]
  | 1 => [.start 0 false, .write 0, .rel 0]
  | 2 => [.start 1 false, .readv 1, .rel 1]
  | 3 => [.start 3 true, .rel 2]
  | _ => []

example : (runLog tstep (tinit 4 progEx) runEx).isSome = true ∧ boundT 4 progEx = 34 := by decide

/-- a real CAS retry: 1 and 2 are reads of one group behind the held read-write access 0; both load
    the empty open queue, 2 pushes first, the CAS of 1 fails because the head moved (class 1 = an
    operation state), its second CAS succeeds -/
def retryLog : List Ev :=
  [.req 0 0 true true false, .xchg 0 0 0, .req 0 1 false true false, .req 0 2 false false false,
   .start 1 0 false, .load 1 0 2 true false,
   .start 2 1 false, .load 2 1 0 false false, .start 3 2 false, .load 3 2 0 false false,
   .cas 3 2 true 0 false false, .cas 2 1 false 1 false false, .cas 2 1 true 0 false false]

example : (runLog step init retryLog).isSome = true ∧ reals init retryLog = 1 ∧ retries retryLog = 1 ∧
    reals init runEx = 0 ∧ retries runEx = 1 := by decide

/-- not maximal before the end: after the mutex has been destroyed and everything started, the run
    cannot stop while access 1 is still queued (the measure is still positive) -/
example : C04.reaches (runEx.take 15) (fun s => mu s == 13 && s.acc 1 == .queued false && s.vfreed == false) = true := by
  decide

end PikaVerif.C04r
