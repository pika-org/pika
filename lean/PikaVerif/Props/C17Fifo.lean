import PikaVerif.Core.Run
import PikaVerif.Lemmas.FifoMove
/-!
# C17 (FIFO back-end) — `lockfree_fifo_backend` / `thread_queue::work_items_` return every element exactly once

Theorems about the model `PikaVerif.Fifo` (`Model/Fifo.lean`): the counter protocol of
`thread_queue` (`schedule_thread`, `get_next_thread`, and both halves of `move_work_items_from`)
around an inner queue that is constrained **only** by the explicit specification of the third-party
`moodycamel::ConcurrentQueue` (called `QSpec` here and below: the acceptor `qstep` over `QSt`, `QEv`; no
declaration has that name).  The moodycamel algorithm itself is not modelled: `QSpec` is an *assumption*, stated in Lean and tested against the real queue by
`checks/C17F.py` (`harness/e0/fifo.cpp`, `Driver/FifoDrv.lean`).

Every theorem quantifies over all thread counts `n` and all accepted logs (all interleavings of
the wrapper's atomic steps and of overlapping inner operations).
-/
namespace PikaVerif.C17Fifo
open PikaVerif.Fifo

def Reachable (s : St) : Prop := ∃ n log, runLog step (init n) log = some s

private theorem Reachable.inv {s : St} (h : Reachable s) : Inv s := by
  obtain ⟨n, log, hl⟩ := h
  exact inv_of_accepted hl

/-- **(i) Conservation.**  As multisets: the values handed to `schedule_thread` are the values
    returned by `get_next_thread` (or taken by the move loop) + the values held by the inner queue +
    the values in flight inside a wrapper operation (counter incremented but push not begun / pop
    done but counter not yet decremented). -/
theorem C17_fifo_conservation (n : Nat) (log : List Ev) (s : St)
    (h : runLog step (init n) log = some s) :
    s.handed.Perm (s.returned ++ s.values ++ s.inflight) :=
  (inv_of_accepted h).perm

/-- **(i) at most once / nothing invented.**  No value is returned more often than it was handed
    in; every returned value was handed in; if the handed values are pairwise distinct so are the
    returned ones. -/
theorem C17_fifo_at_most_once (n : Nat) (log : List Ev) (s : St)
    (h : runLog step (init n) log = some s) :
    (∀ x, s.returned.count x ≤ s.handed.count x) ∧ (∀ x, x ∈ s.returned → x ∈ s.handed) ∧
    (s.handed.Nodup → s.returned.Nodup) := by
  have hp := C17_fifo_conservation n log s h
  rw [List.append_assoc] at hp
  exact sub_of_perm_append hp

/-- **(ii) The counter.**  `work_items_count_` is never negative and never smaller than the number
    of values the inner queue holds. -/
theorem C17_fifo_count_bounds (n : Nat) (log : List Ev) (s : St)
    (h : runLog step (init n) log = some s) :
    0 ≤ s.count ∧ (s.q.stored.length : Int) ≤ s.count := by
  have hi := inv_of_accepted h
  rw [hi.cnt]
  omega

/-- **(ii) The `0 != work_items_count` fast path never hides a stored element**: the value a
    `get_next_thread` loads is at least the number of stored values, so it is non-zero whenever
    the queue holds something. -/
theorem C17_fifo_fastpath_sound (s s' : St) (hr : Reachable s) (t : Nat) (c lim : Int)
    (h : step s (.load t c lim) = some s') :
    (s.q.stored.length : Int) ≤ c ∧ (s.q.stored ≠ [] → c ≠ 0) := by
  have h4 := hr.inv.cnt
  obtain ⟨_, _, tr⟩ := Tr.of_step h
  cases tr
  exact ⟨by omega, fun hne => by have := List.length_pos_iff.mpr hne; omega⟩

/-- **(iii) Quiescent states.**  When every thread is outside the queue's operations the counter
    equals the number of stored values, nothing is in flight, and handed = returned + stored;
    if moreover the queue is empty every value handed in has been returned exactly once. -/
theorem C17_fifo_quiescent_exact (n : Nat) (log : List Ev) (s : St)
    (h : runLog step (init n) log = some s) (hq : Quiescent s) :
    s.count = (s.q.stored.length : Int) ∧ s.handed.Perm (s.returned ++ s.values) ∧
    (s.q.stored = [] → s.handed.Perm s.returned) := by
  have hi := inv_of_accepted h
  obtain ⟨_, _, hc, hf⟩ := hi.quiescent hq
  have hp := hi.perm
  rw [hf, List.append_nil] at hp
  refine ⟨hc, hp, ?_⟩
  intro he
  simpa [St.values, he] using hp

/-- **(iii) A `get_next_thread` that runs alone on a non-empty queue returns `true`.**
    From a reachable quiescent state whose queue holds something, let thread `t` load the counter
    (`lim` = the steal threshold, not above the loaded value).  Then, as long as no other thread
    takes a step: `return false` is impossible after the load; the pop begins; the inner queue may
    not answer `false` (`QSpec` (b): non-empty and quiescent) and `return false` stays impossible;
    some answer is possible; every possible answer is a stored value `v`, after which the only
    continuation is the decrement + `return true` with `v`, leaving a quiescent state. -/
theorem C17_fifo_solo_get_succeeds (s : St) (hr : Reachable s) (hq : Quiescent s)
    (hne : s.q.stored ≠ []) (t : Nat) (c lim : Int) (s1 : St) (hlim : lim ≤ c)
    (h1 : step s (.load t c lim) = some s1) :
    step s1 (.retF t) = none ∧
    ∃ s2, step s1 (.popB t) = some s2 ∧ step s2 (.retF t) = none ∧ step s2 (.popE t none) = none ∧
      (∃ r s3, step s2 (.popE t r) = some s3) ∧
      ∀ r s3, step s2 (.popE t r) = some s3 →
        ∃ p v, r = some (p, v) ∧ (p, v) ∈ s.q.stored ∧ step s3 (.retF t) = none ∧
          ∃ s4, step s3 (.dec t) = some s4 ∧ s4.returned = s.returned ++ [v] ∧
            s4.count = s.count - 1 ∧ Quiescent s4 := by
  have hi := hr.inv
  obtain ⟨ha, hp, hc, _⟩ := hi.quiescent hq
  have hpos : 0 < s.q.stored.length := List.length_pos_iff.mpr hne
  obtain ⟨_, htn, tr⟩ := Tr.of_step h1
  cases tr
  have hc0 : s.count ≠ 0 := by omega
  have hlim' : ¬ lim > s.count := by omega
  refine ⟨by simp [step, htn, hc0, hlim'], ?_⟩
  refine ⟨_, by simp [step, qstep, htn, canPop, hc0, hlim', hp t]; rfl, ?_, ?_, ?_, ?_⟩
  · simp [step, htn]
  · simp [step, qstep, htn, ha, hne]
  · obtain ⟨⟨p, v⟩, rest, hst⟩ := List.exists_cons_of_ne_nil hne
    exact ⟨some (p, v), _, by simp [step, qstep, htn, hst]; rfl⟩
  · intro r s3 h3
    cases r with
    | none => simp [step, qstep, htn, ha, hne] at h3
    | some pv =>
      obtain ⟨p, v⟩ := pv
      simp only [step, qstep, htn, upd_same, true_and, if_true] at h3
      split at h3
      case isFalse => simp at h3
      rename_i hf
      simp only [Option.map_some, Option.some.injEq] at h3
      subst h3
      refine ⟨p, v, rfl, hf.1, by simp [step, htn], ?_⟩
      refine ⟨_, by simp [step, htn]; rfl, rfl, rfl, ?_⟩
      exact forall_upd (P := fun _ p => p = Pc.idle) hq rfl

/-- **(iv) `lockfree_fifo_backend` is the identity wrapper**: a log of `push` / `pop` / `empty`
    calls on the back-end is accepted exactly when the log of the inner `enqueue` / `try_dequeue` /
    `size_approx() == 0` operations it *is* is accepted by `QSpec`, with the same final state (the
    `other_end` and `steal` arguments are ignored). -/
theorem C17_fifo_backend_identity (q : QSt) (log : List Backend.Ev) :
    runLog Backend.step q log = runLog qstep q (log.map Backend.toQ) :=
  runLog_comap qstep Backend.toQ q log

/-- **(iv) Consequences of `QSpec` for the back-end used alone.**  A `pop` returns only a stored
    value (pushed, not yet popped), which leaves the queue; if no other pop is in flight it is the
    oldest stored value of its producer; a `pop` that returns `false` was allowed to: the queue was
    empty when it began or another operation overlapped. -/
theorem C17_fifo_backend_pop_spec (q q' : QSt) (t : Nat) (r : Option (Nat × Nat))
    (h : Backend.step q (.popEnd t r) = some q') :
    match r with
    | some (p, v) => (p, v) ∈ q.stored ∧ q'.stored = q.stored.erase (p, v) ∧
        (q.deqs = 1 → q.stored.find? (fun e => e.1 == p) = some (p, v))
    | none => q.pend t = .deq true ∧ q'.stored = q.stored := by
  simp only [Backend.step, Backend.toQ] at h
  cases r with
  | none =>
    simp only [qstep] at h
    split at h
    case isFalse => simp at h
    rename_i hg
    simp only [Option.some.injEq] at h
    subst h
    exact ⟨hg, rfl⟩
  | some pv =>
    obtain ⟨p, v⟩ := pv
    simp only [qstep] at h
    split at h
    case h_2 => simp at h
    split at h
    case isFalse => simp at h
    rename_i hf
    simp only [Option.some.injEq] at h
    subst h
    refine ⟨hf.1, rfl, ?_⟩
    intro h1
    cases hf.2 with
    | inl h => exact h
    | inr h => exact absurd h1 h

/-- **(v) `move_work_items_from` (two queues).**  For every accepted log of the two-queue model
    (`Fifo.Move`: any threads running `schedule_thread` / `get_next_thread` on either queue while
    any threads run the move loop from the source to the destination): both queues keep the
    single-queue invariant - so (i)-(iii) hold for each of them, the values the loop takes count as
    returned by the source and as handed to the destination -, and globally, as multisets, the
    values handed in from outside = the values returned to callers + the values stored in either
    queue + the values in flight inside a wrapper operation of either queue + the values sitting in a
    `trd` local between the source's decrement and the destination's increment.  Nothing is lost,
    duplicated or invented by the move. -/
theorem C17_fifo_move_conservation (n : Nat) (log : List Move.Ev2) (s : Move.St2)
    (h : runLog Move.step2 (Move.init2 n) log = some s) :
    s.extIn.Perm (s.extOut ++ (s.src.values ++ s.dst.values) ++ (s.src.inflight ++ s.dst.inflight) ++ s.held) ∧
    Inv s.src ∧ Inv s.dst ∧
    0 ≤ s.src.count ∧ (s.src.q.stored.length : Int) ≤ s.src.count ∧
    0 ≤ s.dst.count ∧ (s.dst.q.stored.length : Int) ≤ s.dst.count := by
  have hi := Move.inv2_of_accepted h
  have h1 := hi.isrc.cnt
  have h2 := hi.idst.cnt
  refine ⟨hi.perm, hi.isrc, hi.idst, ?_, ?_, ?_, ?_⟩ <;> omega

/-- (v) corollary: no value is returned to callers more often than it was handed in. -/
theorem C17_fifo_move_at_most_once (n : Nat) (log : List Move.Ev2) (s : Move.St2)
    (h : runLog Move.step2 (Move.init2 n) log = some s) (x : Nat) :
    s.extOut.count x ≤ s.extIn.count x := by
  have hp := (C17_fifo_move_conservation n log s h).1
  rw [List.append_assoc, List.append_assoc] at hp
  exact count_le_of_perm_append hp x

/-! ## Non-vacuity: accepted multi-thread logs -/

/-- two producers and a consumer, operations overlapping; value 7 is handed in by thread 0,
    taken by thread 2 while thread 1's push is still in flight -/
def demoLog : List Ev :=
  [.inc 0 7, .inc 1 8, .pushB 0, .load 2 2 0, .popB 2, .pushB 1, .pushE 0, .popE 2 (some (0, 7)),
   .pushE 1, .dec 2, .load 0 1 0, .popB 0, .popE 0 (some (1, 8)), .dec 0]

example : (runLog step (init 3) demoLog).isSome = true := by decide
example : ((runLog step (init 3) demoLog).map (·.returned)) = some [7, 8] := by decide
example : ((runLog step (init 3) demoLog).map (·.count)) = some 0 := by decide

/-- a pop overlapped by a push may fail although a value is (about to be) stored … -/
example : (runLog step (init 2) [.inc 0 5, .load 1 1 0, .popB 1, .pushB 0, .popE 1 none, .retF 1]).isSome = true := by
  decide
/-- … but a pop that runs alone on a non-empty queue may not -/
example : (runLog step (init 2) [.inc 0 5, .pushB 0, .pushE 0, .load 1 1 0, .popB 1, .popE 1 none]).isSome = false := by
  decide
/-- a value cannot be popped twice, and a value that was never pushed cannot be popped -/
example : (runLog step (init 2) [.inc 0 5, .pushB 0, .pushE 0, .popB 1, .popE 1 (some (0, 5)), .dec 1,
    .popB 1, .popE 1 (some (0, 5))]).isSome = false := by decide
example : (runLog step (init 2) [.inc 0 5, .pushB 0, .pushE 0, .popB 1, .popE 1 (some (0, 6))]).isSome = false := by
  decide
/-- per-producer FIFO: producer 0's second value cannot overtake its first -/
example : (runLog step (init 2) [.inc 0 5, .pushB 0, .pushE 0, .inc 0 6, .pushB 0, .pushE 0, .popB 1,
    .popE 1 (some (0, 6))]).isSome = false := by decide
/-- two overlapping pops may return one producer's values out of order (the claim happens inside) … -/
example : (runLog step (init 3) [.inc 0 5, .pushB 0, .pushE 0, .inc 0 6, .pushB 0, .pushE 0, .popB 1, .popB 2,
    .popE 2 (some (0, 6)), .popE 1 (some (0, 5))]).isSome = true := by decide

/-- the move loop: thread 0 schedules 7 and 8 on the source, thread 1 moves both to the destination
    while thread 2 takes one from the destination -/
def moveLog : List Move.Ev2 :=
  [.src (.inc 0 7), .src (.pushB 0), .src (.pushE 0), .src (.inc 0 8), .src (.pushB 0), .src (.pushE 0),
   .src (.popB 1), .src (.popE 1 (some (0, 7))), .mdec 1, .minc 1, .dst (.pushB 1), .dst (.pushE 1),
   .src (.popB 1), .dst (.load 2 1 0), .src (.popE 1 (some (0, 8))), .dst (.popB 2), .mdec 1,
   .dst (.popE 2 (some (1, 7))), .minc 1, .dst (.dec 2), .dst (.pushB 1), .dst (.pushE 1),
   .src (.popB 1), .src (.popE 1 none), .src (.retF 1)]

example : (runLog Move.step2 (Move.init2 3) moveLog).isSome = true := by decide
example : ((runLog Move.step2 (Move.init2 3) moveLog).map fun s => (s.extIn, s.extOut, s.dst.values, s.src.count, s.dst.count)) =
    some ([7, 8], [7], [8], 0, 1) := by decide
/-- a value in `trd` cannot be handed over twice -/
example : (runLog Move.step2 (Move.init2 2) [.src (.inc 0 7), .src (.pushB 0), .src (.pushE 0), .src (.popB 1),
    .src (.popE 1 (some (0, 7))), .mdec 1, .minc 1, .minc 1]).isSome = false := by decide

/-- the fast path: with the counter at 0 `get_next_thread` returns false without touching the queue -/
example : (runLog step (init 1) [.load 0 0 0, .retF 0]).isSome = true := by decide
example : (runLog step (init 1) [.load 0 0 0, .popB 0]).isSome = false := by decide

end PikaVerif.C17Fifo
