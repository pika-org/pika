import PikaVerif.Lemmas.BarrierBudget
import PikaVerif.Lemmas.BarrierLockstep
import PikaVerif.Props.C09Barrier
/-!
# C09u (barrier part, coarse model) — termination measure and final states of barrier programs

Model: `PikaVerif.Barrier` (`Model/Barrier.lean`).  Program layer (`Lemmas/BarrierProg`):
`PSt` = model state + one finite operation list per thread; `pstep` = `step`, except that
`inv t o` must be (and consumes) the head of thread `t`'s list and `done t` needs an empty list.
`pinit n N prog` = `n` threads on a barrier constructed with expected count `N`.

Program classes: `awProg P` (every thread: `P` × `arrive_and_wait`) and `awdProg P d` (every
thread: `P` × `arrive_and_wait`, then `arrive_and_drop` for the threads with `d t = true`).

**Stutter.**  Exactly one kind of event can repeat without changing the state: `poll t tok seen`
with `seen = tok` (`isStutter`): an iteration of the wait loop that finds the phase byte equal to
the token.  **Miss.**  `cas … (.miss v)` / `cas2 … (.miss v)` (`isMiss`): the ticket CAS found the
node full and the search goes to the next node (`++current`, cyclic).  A miss is *not* a stutter
(the cursor moves), but no rank of the program counter can pay for it (the cursor is cyclic and
`start` may put it anywhere), so the termination statement is: every event that is neither a
stutter nor a miss strictly decreases the measure `phi`, a miss never raises it by more than `1`
(`cas2` miss: the preceding `seen` had paid `1`; `cas` miss: `0`), and the log length is bounded
by `phi(initial) + stutters + 2·misses`.

**Misses are bounded.**  Instrumented layer (`Lemmas/BarrierSweep`): `GSt` = `PSt` + two
ghosts per thread, `st` (cursor at which the thread entered its current round) and `w` (the cursor
has wrapped around in this round; a round of `m` participants has `e = (m + 1) / 2` nodes);
`gstep` accepts exactly what `pstep` accepts
(`runLog_pstep_gstep` / `runLog_gstep_pstep`: same logs, same program states).  Sweep invariant `SW`
(`sw_step`): the nodes a searching thread has passed since it entered the round are full for the
current phase (a full ticket stays full within a phase, `step_tkMono`), and by
`slot_available` the round is never completely full, so the cursor never comes back to `st`.
Measure `phi2` = rank of the pc (`5·m` per remaining round) + `2·bud` (`bud` = distance the cursor
can still travel in this round, `≤ 2e`) + potential of the operations not yet started: it strictly
decreases with **every** accepted event that is not the poll stutter, misses included
(`C09u_barrier_measure_full`).  Hence `C09u_barrier_length`: `log.length ≤ boundG N P + stutters log`
with `boundG N P = N·(P·(6N+14) + 6N+15) + N` — quadratic in `N`, linear in `P` (the number of
misses really is quadratic in `N` per phase when all threads start at node 0, so a bound
`c·N·P + c'` is not to be expected; that lower bound is an observation, not a theorem here) —
`C09u_barrier_misses_bounded`, and `C09u_barrier_maximal_exists`: every accepted log extends by
non-stutter events to a maximal state.  The `_partial` theorems are bounds modulo the misses, with
the smaller constant `3N`.

What is *not* proved: a bound linear in `N·P` for the events that are not misses (the ranks charge
every arrival for all halvings of `m`; the true count of non-miss events is linear in `N·P`).
-/
namespace PikaVerif.C09uBarrier
open PikaVerif.Barrier PikaVerif.C09Barrier

/-! ## Stutter, measure, bound modulo the misses -/

/-- **The stutter leaves the whole program state unchanged** (so it can repeat for ever and no
    measure can decrease with it). -/
theorem C09u_barrier_stutter_unchanged (p p' : PSt) (e : Ev) (hst : isStutter e = true)
    (h : pstep p e = some p') : p' = p :=
  pstep_stutter hst h

/-- **The stutter is enabled exactly for a waiter whose phase byte still equals its token**, and
    then it is accepted again after itself: for a thread in `wait` with `phase = tok` the only
    accepted poll is the stutter. -/
theorem C09u_barrier_stutter_enabled (s : St) (t : Nat) (ht : t < s.n) (hpc : s.pc t = .polling) :
    (s.phase = s.tok t → step s (.poll t (s.tok t) s.phase) = some s ∧ isStutter (.poll t (s.tok t) s.phase) = true) ∧
    (s.phase ≠ s.tok t → ∀ tok seen s', step s (.poll t tok seen) = some s' → isStutter (.poll t tok seen) = false) := by
  refine ⟨fun h => ?_, fun h tok seen s' hs => ?_⟩
  · have hst : isStutter (.poll t (s.tok t) s.phase) = true := decide_eq_true h
    have hs' := step_iff.mpr (.poll t ht hpc)
    exact ⟨by rw [hs', stutter_id _ _ _ hst hs'], hst⟩
  · cases step_iff.mp hs; exact decide_eq_false h

/-- **The stutter is the only one**: in a reachable state every accepted event that is not the
    stutter changes the state (for a miss: the cursor really moves — on a one-node round a miss
    would leave `cur` where it was, but there the search always finds its slot,
    `C09B_slot_available`). -/
theorem C09u_barrier_only_stutter (s s' : St) (e : Ev) (hr : Reachable s) (hst : isStutter e = false)
    (h : step s e = some s') : s' ≠ s :=
  nonstutter_moves s s' e (Reachable.inv hr).2 hst h

/-- **Measure.**  `phi B` (`B` ≥ `expected`; rank of the program counters — `3·m` per remaining
    tournament round — plus the potential of the operations not yet started): every accepted
    event of a program that is neither the stutter nor a miss strictly decreases it (in
    particular changes the state); a miss raises it by at most `1` and only if it is a `cas2`
    miss. -/
theorem C09u_barrier_measure (B : Nat) (p p' : PSt) (e : Ev) (hB : p.s.expected ≤ B)
    (h : pstep p e = some p') :
    (isStutter e = false → isMiss e = false → phi B p' < phi B p) ∧
    (isMiss e = true → phi B p' ≤ phi B p + (if isMiss2 e then 1 else 0)) :=
  ⟨(phi_step B p p' e hB h).1, (phi_step B p p' e hB h).2.2⟩

/-- **Termination modulo stutters and misses, explicit bound** (`_partial`: the misses are
    not counted; `C09u_barrier_length` counts them too, with larger constants).
    For `N` threads on a barrier of `N`, each doing `P` × `arrive_and_wait` and then optionally
    `arrive_and_drop`, every accepted log has at most
    `boundAwd N P = N·(P·(3N+12) + 3N+13) + N` events that are neither stutters nor misses, plus
    one per `cas2` miss (`misses2`: the `seen` that led to the failed second CAS is repeated), and
    its length is at most that bound plus the stutters plus twice the misses.  Without drops the
    bound is `boundAw N P = N·P·(3N+12) + N`.
    (The term `3N` per operation is the rank `3·m` of a thread at the bottom of the tree; the true
    number of non-miss events is linear in `N·P`, the rank used here is not sharp.) -/
theorem C09u_barrier_length_partial (N P : Nat) (d : Nat → Bool) (log : List Ev) (p : PSt)
    (h : runLog pstep (pinit N N (awdProg P d)) log = some p) :
    progress log ≤ boundAwd N P + misses2 log ∧ misses2 log ≤ misses log ∧
    log.length ≤ boundAwd N P + stutters log + 2 * misses log := by
  have h1 := runLog_phi N log _ p (Nat.le_refl N) h
  have h2 := phi_awd N P d
  have h3 := misses2_le log
  have h4 := length_split log
  omega

theorem C09u_barrier_length_aw_partial (N P : Nat) (log : List Ev) (p : PSt)
    (h : runLog pstep (pinit N N (awProg P)) log = some p) :
    progress log ≤ boundAw N P + misses2 log ∧ misses2 log ≤ misses log ∧
    log.length ≤ boundAw N P + stutters log + 2 * misses log := by
  have h1 := runLog_phi N log _ p (Nat.le_refl N) h
  have h2 := phi_aw N P
  have h3 := misses2_le log
  have h4 := length_split log
  omega

/-! ## Termination modulo the poll stutter only -/

/-- **Measure, full strength.**  On the instrumented layer (same accepted logs as the program
    layer) every accepted event that is not the poll stutter — a CAS miss included — strictly
    decreases `phi2 B`, in every state that satisfies the run invariants `GInv B` (reachable, sweep
    invariant, `expected ≤ B`), and the invariants are preserved. -/
theorem C09u_barrier_measure_full (B : Nat) (g g' : GSt) (e : Ev) (hi : GInv B g)
    (h : gstep g e = some g') :
    GInv B g' ∧ (isStutter e = false → phi2 B g' < phi2 B g) ∧ (isStutter e = true → g' = g) :=
  ⟨ginv_step B g e g' hi h, fun hst => phi2_step B g g' e hi h hst,
   fun hst => gstep_stutter g g' e hst h⟩

/-- the instrumented layer accepts exactly the logs of the program layer, with the same program
    states (so bounds on `gstep` logs are bounds on `pstep` logs) -/
theorem C09u_barrier_instrumented_same (g : GSt) (log : List Ev) (p' : PSt) :
    runLog pstep g.p log = some p' ↔ ∃ g', runLog gstep g log = some g' ∧ g'.p = p' :=
  ⟨runLog_pstep_gstep log g p', fun ⟨g', h1, h2⟩ => h2 ▸ runLog_gstep_pstep log g g' h1⟩

/-- **Termination modulo the poll stutter only, explicit bound.**  `N` threads on a barrier of
    `N`, each `P` × `arrive_and_wait` and then optionally `arrive_and_drop`: every accepted log has
    at most `boundG N P = N·(P·(6N+14) + 6N+15) + N` events that are not poll stutters.
    Quadratic in `N`, linear in `P`. -/
theorem C09u_barrier_length (N P : Nat) (d : Nat → Bool) (log : List Ev) (p : PSt)
    (h : runLog pstep (pinit N N (awdProg P d)) log = some p) :
    log.length ≤ boundG N P + stutters log :=
  length_bound N P d log p h

/-- **The misses are bounded**: the CAS misses of a log, together with all its other non-stutter
    events, number at most `boundG N P`. -/
theorem C09u_barrier_misses_bounded (N P : Nat) (d : Nat → Bool) (log : List Ev) (p : PSt)
    (h : runLog pstep (pinit N N (awdProg P d)) log = some p) :
    misses log ≤ boundG N P ∧ progress log + misses log ≤ boundG N P := by
  have h1 := length_bound N P d log p h
  have h2 := length_split log
  omega

theorem awProg_eq (P : Nat) : awProg P = awdProg P (fun _ => false) := by
  funext t; simp [awProg, awdProg]

/-- the same for the program without drops -/
theorem C09u_barrier_length_aw (N P : Nat) (log : List Ev) (p : PSt)
    (h : runLog pstep (pinit N N (awProg P)) log = some p) :
    log.length ≤ boundG N P + stutters log ∧ misses log ≤ boundG N P := by
  rw [awProg_eq] at h
  exact ⟨length_bound N P _ log p h, (C09u_barrier_misses_bounded N P _ log p h).1⟩

/-- **Maximal runs exist**: every accepted log of these programs can be extended, by events that
    are not stutters, to a maximal state (to which the final-state theorems below apply). -/
theorem C09u_barrier_maximal_exists (N P : Nat) (d : Nat → Bool) (log : List Ev) (p : PSt)
    (h : runLog pstep (pinit N N (awdProg P d)) log = some p) :
    ∃ ext p', runLog pstep (pinit N N (awdProg P d)) (log ++ ext) = some p' ∧ Maximal p' ∧ stutters ext = 0 :=
  maximal_exists N N _ log p h

/-! ## Final states of maximal runs -/

/-- **Every maximal run of `N` threads × `P` `arrive_and_wait` completes all `P` phases**, for
    every `N` and every `P` (no restriction to `P < 128`: the lock-step invariant `InvD` shows
    that a waiter's token is at most one phase old, so the wrap of the `uint8` phase byte cannot
    confuse it).  `Maximal p`: the program layer accepts nothing but stutters in `p` (no miss
    either).  Then every thread has ended (`fin`) with an empty operation list, no last arriver
    is pending, and — if there is at least one thread — exactly `P` phases were published, with
    exactly `P` `true` returns of `base.arrive` and exactly `P` calls of the completion function
    in the log (state counters and log counters). -/
theorem C09u_barrier_final_states (N P : Nat) (log : List Ev) (p : PSt)
    (h : runLog pstep (pinit N N (awProg P)) log = some p) (hm : Maximal p) :
    (∀ t, t < N → p.s.pc t = .fin ∧ p.prog t = []) ∧ p.s.win = none ∧
    (1 ≤ N → p.s.ph = P ∧ p.s.compls = P ∧ p.s.wins = P ∧
      publishes log = P ∧ complCalls log = P ∧ lasts log = P ∧ p.s.phase = (2 * P) % 256) := by
  rw [awProg_eq] at h
  have hs := layer.run h
  have hall := allD_run N P _ log p h
  obtain ⟨h1, h3, h2⟩ := maximal_final_d N P _ p hall hm
  refine ⟨h1, h3, fun hN => ?_⟩
  obtain ⟨-, u, -, hph⟩ := h2 hN
  have hph : p.s.ph = P := hph
  obtain ⟨_, _, hc, hw⟩ := hall.b.noWin h3
  have hcl := counters_log log _ p.s hs
  simp only [pinit, init, Nat.zero_add] at hcl
  have := hall.b.phaseEq
  refine ⟨hph, by omega, by omega, by omega, by omega, by omega, by rw [this, hph]⟩

/-- **A waiter's token is at most one phase old** in every reachable state of these programs
    (`awdProg`, in particular `awProg` = no thread drops), so the comparison of the `uint8` phase
    byte with the token decides exactly whether the waiter's phase is complete — for every number
    of phases, beyond the wrap of the byte: `phase = tok t ↔ tokIdx t = ph`. -/
theorem C09u_barrier_token_fresh (N P : Nat) (d : Nat → Bool) (log : List Ev) (p : PSt)
    (h : runLog pstep (pinit N N (awdProg P d)) log = some p) (t : Nat) (ht : t < N)
    (hpc : p.s.pc t = .polling) :
    p.s.tokIdx t ≤ p.s.ph ∧ p.s.ph ≤ p.s.tokIdx t + 1 ∧ (p.s.phase = p.s.tok t ↔ p.s.tokIdx t = p.s.ph) := by
  have hall := allD_run N P d log p h
  have h1 := hall.u.pcs t ht
  rw [hpc] at h1; simp only [PcD] at h1
  have h2 := hall.b.tokIdxOk t
  have h3 := hall.b.phaseEq
  have h4 := hall.u.lo t ht
  refine ⟨h2.2, by omega, ?_⟩
  rw [h2.1, h3]
  constructor
  · intro he; omega
  · intro he; rw [he]

/-- **Final states with `arrive_and_drop` at the end** (`awdProg P d`: every thread `P` ×
    `arrive_and_wait`, the threads with `d t = true` then drop), for every `N`, `P`, `d`: in every
    maximal state every thread has ended with an empty list (a dropper does not wait), no last
    arriver is pending, and the number of completed phases is `P + min_t dn d t` — exactly `P` if
    some thread does not drop (the droppers' last arrivals stay in an incomplete phase), exactly
    `P + 1` if all drop — with exactly one `true` return of `base.arrive` and one completion call
    per completed phase. -/
theorem C09u_barrier_final_states_drop (N P : Nat) (d : Nat → Bool) (log : List Ev) (p : PSt)
    (h : runLog pstep (pinit N N (awdProg P d)) log = some p) (hm : Maximal p) :
    (∀ t, t < N → p.s.pc t = .fin ∧ p.prog t = []) ∧ p.s.win = none ∧
    p.s.compls = p.s.ph ∧ p.s.wins = p.s.ph ∧
    publishes log = p.s.ph ∧ complCalls log = p.s.ph ∧ lasts log = p.s.ph ∧
    p.s.phase = (2 * p.s.ph) % 256 ∧
    (1 ≤ N → ((∃ t, t < N ∧ d t = false) → p.s.ph = P) ∧ ((∀ t, t < N → d t = true) → p.s.ph = P + 1)) := by
  have hs := layer.run h
  have hall := allD_run N P d log p h
  obtain ⟨h1, h2, h3⟩ := maximal_final_d N P d p hall hm
  obtain ⟨_, _, hc, hw⟩ := hall.b.noWin h2
  have hcl := counters_log log _ p.s hs
  simp only [pinit, init, Nat.zero_add] at hcl
  refine ⟨h1, h2, hc, hw, by omega, by omega, by omega, hall.b.phaseEq, fun hN => ?_⟩
  obtain ⟨hle, u, hu, hph⟩ := h3 hN
  refine ⟨fun ⟨t, ht, hdt⟩ => ?_, fun hd => ?_⟩
  · have := hle t ht
    simp only [dn, hdt] at this
    have : dn d u ≤ 1 := by unfold dn; split <;> omega
    simp only [dn] at hph ⊢
    split at hph <;> simp at * <;> omega
  · simp only [dn, hd u hu, if_true] at hph; exact hph

/-! ## Non-vacuity -/

/-- two threads, two phases, with a stutter (`poll 0 0 0`), a `seen` + second CAS, the last
    arriver, and the release of both waiters; the final state has all threads ended -/
def twoLog : List Ev :=
  [.inv 0 .aw, .load 0 0 2, .start 0 0, .cas 0 0 0 .half, .poll 0 0 0, .poll 0 0 0,
   .inv 1 .aw, .load 1 0 2, .start 1 0, .cas 1 0 0 .seen, .cas2 1 0 0 .up, .last 1 0 2, .compl 1,
   .publish 1 2 2, .poll 1 0 2, .ret 1, .poll 0 0 2, .ret 0,
   .inv 0 .aw, .load 0 2 2, .start 0 0, .cas 0 0 0 .half,
   .inv 1 .aw, .load 1 2 2, .start 1 0, .cas 1 0 0 .seen, .cas2 1 0 0 .up, .last 1 2 2, .compl 1,
   .publish 1 4 2, .poll 1 2 4, .ret 1, .poll 0 2 4, .ret 0, .done 0, .done 1]

example : ((runLog pstep (pinit 2 2 (awProg 2)) twoLog).map
    (fun p => (p.s.ph, decide (p.s.pc 0 = .fin), decide (p.s.pc 1 = .fin)))) = some (2, true, true) := by
  decide

example : stutters twoLog = 2 ∧ misses twoLog = 0 ∧ progress twoLog = 34 ∧ boundAw 2 2 = 74 := by decide

example : boundG 2 2 = 2 * (2 * 26 + 27) + 2 ∧ twoLog.length - stutters twoLog = 34 := by decide

/-- a miss is accepted: three participants' worth of tree (`N = 3`), thread 2 starts at node 0
    after it was filled by threads 0 and 1 -/
example : (runLog pstep (pinit 3 3 (awProg 1))
    [.inv 0 .aw, .load 0 0 3, .start 0 0, .cas 0 0 0 .half,
     .inv 1 .aw, .load 1 0 3, .start 1 0, .cas 1 0 0 .seen, .cas2 1 0 0 .up,
     .inv 2 .aw, .load 2 0 3, .start 2 0, .cas 2 0 0 (.miss 2), .cas 2 1 0 .up]).isSome = true := by
  decide

/-- first phase of two threads (as in `twoLog`) -/
def twoPhase0 : List Ev :=
  [.inv 0 .aw, .load 0 0 2, .start 0 0, .cas 0 0 0 .half,
   .inv 1 .aw, .load 1 0 2, .start 1 0, .cas 1 0 0 .seen, .cas2 1 0 0 .up, .last 1 0 2, .compl 1,
   .publish 1 2 2, .poll 1 0 2, .ret 1, .poll 0 0 2, .ret 0]

/-- both threads drop after one phase: the drop phase completes (`ph = 2 = P + 1`), the expected
    count goes to `0`, all threads end -/
example : ((runLog pstep (pinit 2 2 (awdProg 1 (fun _ => true))) (twoPhase0 ++
    [.inv 0 .drop, .adj 0, .load 0 2 2, .start 0 0, .cas 0 0 0 .half, .ret 0, .done 0,
     .inv 1 .drop, .adj 1, .load 1 2 2, .start 1 0, .cas 1 0 0 .seen, .cas2 1 0 0 .up, .last 1 2 2,
     .compl 1, .publish 1 4 0, .ret 1, .done 1])).map
    (fun p => (p.s.ph, p.s.expected, decide (p.s.pc 0 = .fin), decide (p.s.pc 1 = .fin)))) =
    some (2, 0, true, true) := by
  decide

/-- only thread 0 drops: its arrival stays in the incomplete phase 1 (`ph = 1 = P`), all threads end -/
example : ((runLog pstep (pinit 2 2 (awdProg 1 (fun t => t == 0))) (twoPhase0 ++
    [.inv 0 .drop, .adj 0, .load 0 2 2, .start 0 0, .cas 0 0 0 .half, .ret 0, .done 0, .done 1])).map
    (fun p => (p.s.ph, p.s.expected, decide (p.s.pc 0 = .fin), decide (p.s.pc 1 = .fin)))) =
    some (1, 2, true, true) := by
  decide

/-- the hypotheses of the final-state theorems are satisfiable: the three runs above end in
    maximal states (with `2`, `2 = P + 1` and `1 = P` completed phases) -/
example : ∃ p, runLog pstep (pinit 2 2 (awProg 2)) twoLog = some p ∧ Maximal p ∧ p.s.ph = 2 :=
  maximal_of_obs2 _ _ _ (by decide)

example : ∃ p, runLog pstep (pinit 2 2 (awdProg 1 (fun _ => true))) (twoPhase0 ++
    [.inv 0 .drop, .adj 0, .load 0 2 2, .start 0 0, .cas 0 0 0 .half, .ret 0, .done 0,
     .inv 1 .drop, .adj 1, .load 1 2 2, .start 1 0, .cas 1 0 0 .seen, .cas2 1 0 0 .up, .last 1 2 2,
     .compl 1, .publish 1 4 0, .ret 1, .done 1]) = some p ∧ Maximal p ∧ p.s.ph = 2 :=
  maximal_of_obs2 _ _ _ (by decide)

example : ∃ p, runLog pstep (pinit 2 2 (awdProg 1 (fun t => t == 0))) (twoPhase0 ++
    [.inv 0 .drop, .adj 0, .load 0 2 2, .start 0 0, .cas 0 0 0 .half, .ret 0, .done 0, .done 1]) = some p ∧
    Maximal p ∧ p.s.ph = 1 :=
  maximal_of_obs2 _ _ _ (by decide)

/-- a polling waiter exists in these programs (`C09u_barrier_token_fresh` is not vacuous) -/
example : ∃ p, runLog pstep (pinit 2 2 (awdProg 2 (fun _ => false))) (twoLog.take 5) = some p ∧
    p.s.pc 0 = .polling := by
  refine ⟨_, rfl, ?_⟩
  decide

/-- events of phase `k` of the one-thread program -/
def soloAw (k : Nat) : List Ev :=
  let p := (2 * k) % 256
  [.inv 0 .aw, .load 0 p 1, .start 0 0, .last 0 p 1, .compl 0, .publish 0 ((p + 2) % 256) 1,
   .poll 0 p ((p + 2) % 256), .ret 0]

def soloAwLog : Nat → List Ev
  | 0 => []
  | k + 1 => soloAwLog k ++ soloAw k

/-- **Beyond the wrap of the phase byte**: a maximal run of the `P = 130` program exists; its
    final state is maximal, 130 phases are complete and the byte has wrapped (`260 mod 256 = 4`),
    as `C09u_barrier_final_states` says for every `P`. -/
example : ∃ p, runLog pstep (pinit 1 1 (awProg 130)) (soloAwLog 130 ++ [.done 0]) = some p ∧
    Maximal p ∧ p.s.ph = 130 ∧ p.s.phase = 4 := by
  have hd : ((runLog pstep (pinit 1 1 (awProg 130)) (soloAwLog 130 ++ [.done 0])).map
      (fun p => (p.s.n, p.s.ph, p.s.phase, decide (p.s.pc 0 = .fin)))) = some (1, 130, 4, true) := by
    rw [eq_flatMap_range soloAwLog soloAw rfl (fun _ => rfl)]; decide +kernel
  cases hrun : runLog pstep (pinit 1 1 (awProg 130)) (soloAwLog 130 ++ [.done 0]) with
  | none => rw [hrun] at hd; simp at hd
  | some p =>
    rw [hrun] at hd
    simp only [Option.map_some, Option.some.injEq, Prod.mk.injEq, decide_eq_true_eq] at hd
    obtain ⟨hn, hph, hphase, hfin⟩ := hd
    refine ⟨p, rfl, maximal_of_all_fin p ?_, hph, hphase⟩
    intro t ht
    have : t = 0 := by omega
    subst this; exact hfin

end PikaVerif.C09uBarrier
