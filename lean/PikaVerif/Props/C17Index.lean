import PikaVerif.Lemmas.IndexQueue
/-!
# `contiguous_index_queue`: every index of the initial range is popped at most once (C11, C17)

Theorems about the model `PikaVerif.IQ` (one range word, CAS loops of `pop_left` /
`pop_right` with the per-iteration computation generated from the C++ source).  Each theorem
quantifies over all accepted event logs, i.e. over every number of threads, every sequence
of operations and every interleaving of loads and compare-exchanges.
-/
namespace PikaVerif.C17Index
open PikaVerif.IQ

/-- `s` is reachable from a queue reset to `[f, l)` with `0 ≤ f ≤ l < 2^32`. -/
def Reachable (n : Nat) (f l : Int) (s : St) : Prop :=
  0 ≤ f ∧ f ≤ l ∧ l < 4294967296 ∧ ∃ log, runLog step (init n f l) log = some s

/-- **popped ⊎ remaining = initial range.**  In every reachable state, for every integer `i`:
    the number of times `i` has been popped (from either end) plus 1 if `i` is still in the
    queue equals 1 if `i` was in the initial range, else 0.  Hence no index is popped twice,
    no index outside `[f, l)` is ever popped, and an index is popped or still queued. -/
theorem popped_partition (n : Nat) (f l : Int) (s : St) (h : Reachable n f l s) (i : Int) :
    (s.poppedL ++ s.poppedR).count i + (if s.first ≤ i ∧ i < s.last then 1 else 0) =
      if f ≤ i ∧ i < l then 1 else 0 := by
  obtain ⟨hi, _, _, ef, el⟩ := of_reach h
  rw [List.count_append, hi.histL, hi.histR, (count_from ..).1, (count_from ..).2]
  have a := hi.cntL; have b := hi.cntR; have c := hi.fl
  rw [ef] at a; rw [el] at b
  repeat' split
  all_goals omega

/-- No index is returned twice (by any combination of left and right pops). -/
theorem no_duplicates (n : Nat) (f l : Int) (s : St) (h : Reachable n f l s) :
    (s.poppedL ++ s.poppedR).Nodup := by
  rw [List.nodup_iff_count]
  intro i
  have := popped_partition n f l s h i
  repeat' split at this
  all_goals omega

/-- **Left pops ascend, right pops descend** — in the order of their successful CAS, for all
    interleavings (in particular in single-threaded use): the `k`-th successful `pop_left`
    returned `f + k`, the `k`-th successful `pop_right` returned `l - 1 - k`
    (`poppedL`, `poppedR` list the results newest first). -/
theorem pops_in_order (n : Nat) (f l : Int) (s : St) (h : Reachable n f l s) :
    s.poppedL = descFrom (f + s.poppedL.length - 1) s.poppedL.length ∧
    s.poppedR = ascFrom (l - s.poppedR.length) s.poppedR.length := by
  obtain ⟨hi, _, _, ef, el⟩ := of_reach h
  have a := hi.cntL; have b := hi.cntR
  rw [ef] at a; rw [el] at b
  refine ⟨?_, ?_⟩
  · rw [← a]; exact hi.histL
  · rw [← b]; exact hi.histR

/-- The value a `pop_*` returns is the one its successful CAS removed from the range. -/
theorem returned_was_popped (n : Nat) (f l : Int) (s s' : St) (h : Reachable n f l s) (t : Nat)
    (i : Int) (hs : step s (.ret t (some i)) = some s') : i ∈ s.poppedL ++ s.poppedR := by
  obtain ⟨_, hr, _⟩ := of_reach h
  cases Step.of_step hs with
  | retSome _ hp => rw [List.mem_append]; exact hr t i hp

/-- **`nullopt` only from an empty queue.**  A pop returns `nullopt` only when the queue is
    empty at that moment. -/
theorem nullopt_only_if_empty (n : Nat) (f l : Int) (s s' : St) (h : Reachable n f l s) (t : Nat)
    (hs : step s (.ret t none) = some s') : s.last ≤ s.first := by
  have hi := (of_reach h).1
  cases Step.of_step hs with
  | retNone _ hp hpt =>
    -- the word held is an earlier one: `ef ≤ first`, `last ≤ el`
    rw [hi.popTry_seen hp] at hpt
    have := hi.seen _ _ _ _ hp
    split at hpt
    · cases hpt
    · omega

/-- **A CAS fails only under interference.**  If the word still equals the value a thread
    loaded, its `compare_exchange` is accepted only with outcome `true` (no spurious failure,
    no lost update); if the word has changed, only with outcome `false`. -/
theorem cas_outcome (s s' : St) (t : Nat) (ok : Bool) (f l : Int) (sd : Side) (ef el : Int)
    (hpc : s.pc t = .loaded sd ef el) (hs : step s (.cas t ok f l) = some s') :
    ok = decide (ef = s.first ∧ el = s.last) := by
  cases Step.of_step hs with
  | casOk _ hp => rw [hpc] at hp; cases hp; simp
  | casFail _ hp _ hne => rw [hpc] at hp; cases hp; simp [hne]

/-- **A pop on a non-empty quiescent queue succeeds.**  In a reachable state in which thread
    `t` is between operations and the queue is non-empty, a `pop_left` run by `t` alone goes load → CAS (succeeds at the first attempt) → returns the first index; a
    `pop_right` likewise returns the last index. -/
theorem pop_succeeds_when_quiescent (n : Nat) (f l : Int) (s : St) (h : Reachable n f l s)
    (t : Nat) (ht : t < s.n) (hq : s.pc t = .idle) (hne : s.first < s.last) :
    (runLog step s [.inv t .L, .load t s.first s.last, .cas t true (s.first + 1) s.last,
        .ret t (some s.first)]).isSome = true ∧
    (runLog step s [.inv t .R, .load t s.first s.last, .cas t true s.first (s.last - 1),
        .ret t (some (s.last - 1))]).isSome = true := by
  obtain ⟨e1, e2⟩ := (solo_pop (of_reach h).1 ht hq).1 hne
  exact ⟨by rw [e1]; rfl, by rw [e2]; rfl⟩

/-! ## Non-vacuity -/

/-- two threads race on `[3, 5)`: thread 1's first CAS fails because thread 0 popped, it
    retries; a third pop finds the queue empty -/
def exampleLog : List Ev :=
  [.inv 0 .L, .inv 1 .R, .load 0 3 5, .load 1 3 5, .cas 0 true 4 5, .ret 0 (some 3),
   .cas 1 false 4 5, .cas 1 true 4 4, .ret 1 (some 4), .inv 0 .L, .load 0 4 4, .ret 0 none]

example : (runLog step (init 2 3 5) exampleLog).isSome = true := by decide +kernel

end PikaVerif.C17Index
