import PikaVerif.Lemmas.CVAbort2
import PikaVerif.Lemmas.CVDeadlineGhost
import PikaVerif.Props.C07
/-!
# C07d — (A) `abort_all` / destruction with blocked waiters

Theorems about `Model/CVAbort.lean` (one `detail::condition_variable`, its spinlock, `n` threads, any
program over `wait` / `wait_until` (the caller catches the abort exception), `notify_one`, `notify_all`,
`abort_all`; every interleaving, deadline expiry as a schedule event).  `ReachableA s` = `s` is the state
after some accepted log from `CVAbort.init n`.

"Linked" = `inQ (s.pc t)`: `t` is inside `wait`/`wait_until` between its `cv.enq` and its re-examination of
the entry, and the entry's `ctx_` has not been reset; by the invariant this is exactly
`t ∈ s.queue ∨ t ∈ s.lq` (`queue_` or the local list of the `abort_all` in flight).

History fields: `enqs t` (#`cv.enq` of `t`), `pops t` (#pops+resumes of `t` by notifiers), `abPops t`
(#pops of `t` by `abort_all`), `aborts t` (#`ctx.abort()` calls aimed at `t`).

(B) — the timed stop-token wait of `Model/CV.lean` — is in the second half of this file.
-/
namespace PikaVerif.C07d
open PikaVerif

section A
open PikaVerif.CVAbort

def ReachableA (s : St) : Prop := ∃ n log, runLog step (init n) log = some s

theorem ReachableA.inv {s : St} (h : ReachableA s) : Inv s := by
  obtain ⟨n, log, hl⟩ := h
  exact inv_of_accepted hl

theorem ReachableA.step {s s' : St} {e : Ev} (h : ReachableA s) (hs : step s e = some s') :
    ReachableA s' := by
  obtain ⟨n, log, hl⟩ := h
  exact ⟨n, log ++ [e], by rw [runLog_snoc, hl]; exact hs⟩

theorem ReachableA.run {s s' : St} {log : List Ev} (h : ReachableA s)
    (hs : runLog CVAbort.step s log = some s') : ReachableA s' := by
  obtain ⟨n, l0, hl⟩ := h
  exact ⟨n, l0 ++ log, by rw [runLog_append, hl]; exact hs⟩

/-! ## One pop, one abort -/

/-- **`abort_all` pops the front of its local list; the target is a linked waiter.**  The entry popped
    belongs to a thread other than the aborter that is inside a wait with its entry linked (un-popped);
    after the step it is popped (`ctx_` reset: neither a notifier, nor `abort_all`, nor the waiter's own
    `~reset_queue_entry` will touch the entry again), the aborter remembers it (`aPopped g`), `queue_` is
    untouched and nobody else's linked status changes. -/
theorem C07d_abort_pops_front_linked (s s' : St) (hr : ReachableA s) (a z g : Nat)
    (h : step s (.abPop a z g) = some s') :
    s.lq.head? = some g ∧ s'.lq = s.lq.tail ∧ s'.queue = s.queue ∧ g ≠ a ∧
    inQ (s.pc g) = true ∧ inQ (s'.pc g) = false ∧ s'.pc a = .aPopped g ∧
    s'.abPops g = s.abPops g + 1 ∧ (∀ w, w ≠ g → inQ (s'.pc w) = inQ (s.pc w)) := by
  obtain ⟨p, p', hpa, hl, ⟨hq, hs⟩, rfl⟩ := Step.of_step h
  cases hl
  replace hpa : s.pc a = .aLoop := hpa
  obtain ⟨q, hq'⟩ := Option.isSome_iff_exists.1 hs
  obtain ⟨_, _, _, f4, f5, _⟩ := setPopped_facts hq'
  have hne : g ≠ a := fun he => by rw [he, hpa] at f5; nomatch f5
  -- the head of the local list is linked, by the invariant
  have f3 := (hr.inv.qIff g).1 (.inr (List.mem_of_mem_head? hq))
  refine ⟨hq, rfl, rfl, hne, f3, ?_, upd_same .., upd_same .., fun w hw => ?_⟩
  · show inQ (upd (popped s.pc g) a (.aPopped g) g) = false
    rw [upd_other _ _ _ _ hne, popped_of_some hq', upd_same]; exact f4
  · show inQ (upd (popped s.pc g) a (.aPopped g) w) = inQ (s.pc w)
    by_cases hwa : w = a
    · rw [hwa, upd_same, hpa]; rfl
    · rw [upd_other _ _ _ _ hwa, popped_of_some hq', upd_other _ _ _ _ hw]

/-- **One `ctx.abort()` per pop, aimed at the popped thread.**  The agent call `abort` is issued by the
    thread inside `abort_all`, for exactly the thread whose entry it popped last, and that pop had not been
    followed by an abort yet (`aborts g + 1 = abPops g` before, equal after).  Unless the target is polling
    a deadline (the E1 agent drops the call, as it drops a resume) the target gets a wake-up token and its
    abort flag: its `suspend` returns by throwing. -/
theorem C07d_abort_aimed_at_popped (s s' : St) (hr : ReachableA s) (a g : Nat) (d : Bool)
    (h : step s (.abort a g d) = some s') :
    s.pc a = .aUnl g ∧ s.ab = some a ∧ s.aborts g + 1 = s.abPops g ∧ s'.aborts g = s'.abPops g ∧
    (d = false → s'.tok g = s.tok g + 1 ∧ s'.abt g = true) ∧ (d = true → isSlp (s.pc g) = true) := by
  have hi := hr.inv
  obtain ⟨p, p', hpa, hl, hd, rfl⟩ := Step.of_step h
  cases hl
  replace hpa : s.pc a = .aUnl g := hpa
  replace hd : d = isSlp (s.pc g) := hd
  have hab : s.ab = some a := (hi.abIff a).2 (by rw [hpa]; rfl)
  have hc : s.abPops g = s.aborts g + 1 := by
    have := hi.abCnt a g (.inr hab)
    rwa [hpa, pendN_eq, if_pos (.inr rfl)] at this
  refine ⟨hpa, hab, hc.symm, (upd_same ..).trans hc.symm, ?_, fun hd1 => hd ▸ hd1⟩
  rintro rfl
  exact ⟨upd_same .., upd_same ..⟩

/-- **No entry is resumed twice; none is forgotten while linked.**  For every thread the number of
    notifier pops plus the number of `abort_all` pops never exceeds the number of its enqueues and is
    strictly smaller while an entry of it is linked; the `ctx.abort()` calls aimed at it equal the
    `abort_all` pops of it, except for the one pop whose abort is just being issued (the aborter is at
    `aPopped t` / `aUnl t`). -/
theorem C07d_one_resume_per_enqueue (s : St) (hr : ReachableA s) (t : Nat) :
    s.pops t + s.abPops t + b2n (inQ (s.pc t)) ≤ s.enqs t ∧ s.aborts t ≤ s.abPops t ∧
    s.abPops t ≤ s.aborts t + 1 ∧
    (s.aborts t < s.abPops t → ∃ a, s.ab = some a ∧ (s.pc a = .aPopped t ∨ s.pc a = .aUnl t)) := by
  have hi := hr.inv
  -- the one thread that can have a pop of `t` pending
  obtain ⟨a, ha⟩ : ∃ a, OnlyAb s a := by
    cases hab : s.ab with
    | none => exact ⟨0, .inl hab⟩
    | some a => exact ⟨a, .inr hab⟩
  have hc := hi.abCnt a t ha
  rw [pendN_eq] at hc
  split at hc
  next hp => exact ⟨hi.cnt t, by omega, by omega, fun _ =>
    ⟨a, (hi.abIff a).2 (by rcases hp with hp | hp <;> rw [hp] <;> rfl), hp⟩⟩
  next => exact ⟨hi.cnt t, by omega, by omega, fun hlt => by omega⟩

/-- Number of `cv.enq` events of `t` in a log. -/
def enqCount (t : Nat) : List Ev → Nat
  | [] => 0
  | .cvEnq u _ _ :: es => (if u = t then 1 else 0) + enqCount t es
  | _ :: es => enqCount t es

/-- Number of notifier resumes (`cv.pop` / `cv.popall`) aimed at `t` in a log. -/
def resumeCount (t : Nat) : List Ev → Nat
  | [] => 0
  | .popResume _ _ g _ :: es => (if g = t then 1 else 0) + resumeCount t es
  | .popAll _ _ g _ :: es => (if g = t then 1 else 0) + resumeCount t es
  | _ :: es => resumeCount t es

/-- Number of `abort_all` pops of `t` in a log. -/
def abPopCount (t : Nat) : List Ev → Nat
  | [] => 0
  | .abPop _ _ g :: es => (if g = t then 1 else 0) + abPopCount t es
  | _ :: es => abPopCount t es

/-- Number of `ctx.abort()` calls aimed at `t` in a log. -/
def abortCount (t : Nat) : List Ev → Nat
  | [] => 0
  | .abort _ g _ :: es => (if g = t then 1 else 0) + abortCount t es
  | _ :: es => abortCount t es

theorem counters_step {s s' : St} {e : Ev} (t : Nat) (es : List Ev) (h : step s e = some s') :
    s'.enqs t + enqCount t es = s.enqs t + enqCount t (e :: es) ∧
    s'.pops t + resumeCount t es = s.pops t + resumeCount t (e :: es) ∧
    s'.abPops t + abPopCount t es = s.abPops t + abPopCount t (e :: es) ∧
    s'.aborts t + abortCount t es = s.aborts t + abortCount t (e :: es) := by
  obtain ⟨p, p', -, -, -, rfl⟩ := Step.of_step h
  -- an event counts for the thread it names, and writes that thread's counter
  have upd1 : ∀ (f : Nat → Nat) (u k : Nat), upd f u (f u + 1) t + k = f t + ((if u = t then 1 else 0) + k) :=
    fun f u k => by rw [upd_apply]; split <;> simp_all <;> omega
  cases e <;> first | exact ⟨rfl, rfl, rfl, rfl⟩ | skip
  case inv u o => cases o <;> exact ⟨rfl, rfl, rfl, rfl⟩
  case cvWoke u st tm => cases st <;> exact ⟨rfl, rfl, rfl, rfl⟩
  case threw u => simp only [write]; split <;> exact ⟨rfl, rfl, rfl, rfl⟩
  case cvEnq u z tm => exact ⟨upd1 s.enqs u _, rfl, rfl, rfl⟩
  case popResume u z g d | popAll u z g d => exact ⟨rfl, upd1 s.pops g _, rfl, rfl⟩
  case abPop u z g => exact ⟨rfl, rfl, upd1 s.abPops g _, rfl⟩
  case abort u g d => exact ⟨rfl, rfl, rfl, upd1 s.aborts g _⟩

theorem counters_log (t : Nat) (log : List Ev) : ∀ (s s' : St), runLog step s log = some s' →
    s'.enqs t = s.enqs t + enqCount t log ∧ s'.pops t = s.pops t + resumeCount t log ∧
    s'.abPops t = s.abPops t + abPopCount t log ∧ s'.aborts t = s.aborts t + abortCount t log :=
  fun _ _ h =>
    ⟨runLog_tally (·.enqs t) (enqCount t) rfl (fun _ _ _ es h => (counters_step t es h).1) h,
     runLog_tally (·.pops t) (resumeCount t) rfl (fun _ _ _ es h => (counters_step t es h).2.1) h,
     runLog_tally (·.abPops t) (abPopCount t) rfl (fun _ _ _ es h => (counters_step t es h).2.2.1) h,
     runLog_tally (·.aborts t) (abortCount t) rfl (fun _ _ _ es h => (counters_step t es h).2.2.2) h⟩

/-- **Exactly-once, log form.**  In every accepted log (every prefix of every execution): #notifier
    resumes of `t` + #`ctx.abort()` calls aimed at `t` + [an entry of `t` is linked] ≤ #`cv.enq` of `t`;
    every `ctx.abort()` aimed at `t` answers one `abort_all` pop of `t`, and at most one such pop is
    unanswered. -/
theorem C07d_exactly_once_log (n : Nat) (log : List Ev) (s : St) (t : Nat)
    (h : runLog step (init n) log = some s) :
    resumeCount t log + abortCount t log + b2n (inQ (s.pc t)) ≤ enqCount t log ∧
    abortCount t log ≤ abPopCount t log ∧ abPopCount t log ≤ abortCount t log + 1 := by
  obtain ⟨h1, h2, h3, _⟩ := C07d_one_resume_per_enqueue s ⟨n, log, h⟩ t
  have hc := counters_log t log _ s h
  simp only [init] at hc
  refine ⟨?_, ?_, ?_⟩ <;> omega

/-! ## Nobody is left behind -/

/-- **`abort_all` returns only with both lists empty and every pop answered.**  At the event `cv.ab.done`
    (the outer loop test `queue_.empty()` that ends `abort_all`, lock held) `queue_` and the local list are
    empty, hence no thread has a linked entry — in particular none is parked un-notified or about to
    park un-notified — and every thread `abort_all` popped has had its `ctx.abort()` call. -/
theorem C07d_abort_all_returns_empty (s s' : St) (hr : ReachableA s) (a z : Nat)
    (h : step s (.abDone a z) = some s') :
    s.queue = [] ∧ s.lq = [] ∧ (∀ t, inQ (s.pc t) = false) ∧
    (∀ t, s.pc t ≠ .susp false ∧ s.pc t ≠ .slp false ∧ ∀ tm, s.pc t ≠ .unl tm false ∧ s.pc t ≠ .enq tm) ∧
    (∀ t, s.aborts t = s.abPops t) ∧ s'.pc a = .aDone := by
  have hi := hr.inv
  obtain ⟨p, p', hpa, hl, ⟨hlq, hq⟩, rfl⟩ := Step.of_step h
  cases hl
  replace hpa : s.pc a = .aLoop := hpa
  have hnq : ∀ t, inQ (s.pc t) = false := by
    intro t
    cases hq' : inQ (s.pc t) with
    | false => rfl
    | true => have := (hi.qIff t).2 hq'; simp [hq, hlq] at this
  refine ⟨hq, hlq, hnq, fun t => ?_, fun t => ?_, upd_same ..⟩
  · -- each of these program counters has its entry linked
    have := hnq t
    refine ⟨?_, ?_, fun tm => ⟨?_, ?_⟩⟩ <;> (intro hp; rw [hp] at this; nomatch this)
  · have := hi.abCnt a t (.inr ((hi.abIff a).2 (by rw [hpa]; rfl)))
    rw [hpa] at this
    exact this.symm

/-- The events that unlink `w`'s entry: a pop by `abort_all`, a pop by a notifier, or `w`'s own
    `~reset_queue_entry` (after a deadline / a wake-up not caused by this entry / a stale abort). -/
def unlinks (w : Nat) : Ev → Bool
  | .abPop _ _ g => g == w
  | .popResume _ _ g _ => g == w
  | .popAll _ _ g _ => g == w
  | .cvWoke t still _ => t == w && still
  | .threw t => t == w
  | _ => false

theorem linked_step (s s' : St) (e : Ev) (w : Nat) (hw : inQ (s.pc w) = true)
    (hne : unlinks w e = false) (h : step s e = some s') : inQ (s'.pc w) = true := by
  rcases (Step.of_step h).pc w with ⟨ha, p', hl, hs⟩ | ⟨_, ht, _⟩ | ⟨_, _, hs⟩
  · -- the lines of its own text keep the entry linked, except those that erase it
    rw [hs]; clear hs
    revert hw hl; generalize s.pc w = p
    intro hw hl
    cases hl <;> first | exact hw | rfl | (cases hw; done) | (simp [unlinks, actor] at hne ha; exact absurd ha.symm hne)
  · cases e <;> cases ht <;> simp [unlinks] at hne
  · rwa [hs]

/-- **`abort_all` leaves nobody behind (trace form).**  Take any reachable state in which `w`'s entry is
    linked — in `queue_` or in the local list; in particular every waiter queued when `abort_all` starts,
    every waiter that enqueues while `abort_all` has released the lock around a `ctx.abort()`, and a
    woken waiter that waits again — and any continuation that ends with the return test of `abort_all`
    (`cv.ab.done`).  Then the continuation contains an event that unlinks `w`: the aborter's pop of `w`
    (followed by `ctx.abort()` on `w`, `C07d_abort_popped_is_aborted`), a notifier's pop+resume of `w`, or
    `w`'s own erase after it woke for another reason.  `abort_all` cannot return past a linked waiter. -/
theorem C07d_abort_all_reaches_each (s : St) (hr : ReachableA s) (w : Nat) (hw : inQ (s.pc w) = true)
    (log : List Ev) (a z : Nat) (s' : St) (h : runLog step s (log ++ [.abDone a z]) = some s') :
    ∃ e ∈ log, unlinks w e = true := by
  rw [runLog_snoc] at h
  obtain ⟨s₁, h1, h2⟩ := Option.bind_eq_some_iff.1 h
  refine (runLog_until ReachableA (fun s => inQ (s.pc w) = true) (unlinks w · = true)
    (fun _ _ _ hr hs => hr.step hs) (fun s e s₁ _ hw hs => ?_) hr hw h1).resolve_right fun ⟨hr₁, hw₁⟩ => ?_
  · cases hu : unlinks w e
    · exact .inr (linked_step s s₁ e w hw hu hs)
    · exact .inl rfl
  · -- the return test is accepted only with nobody linked
    rw [(C07d_abort_all_returns_empty s₁ s' hr₁ a z h2).2.2.1 w] at hw₁; nomatch hw₁

/-- **A popped entry's thread is aborted before `abort_all` does anything else.**  After the aborter
    popped `g` (`aPopped g`, `aUnl g`) the only events the model accepts from the aborter are the release
    of the lock and then `ctx.abort()` on `g` — whatever the other threads do in between. -/
theorem C07d_abort_popped_is_aborted (s s' : St) (a g : Nat) (e : Ev)
    (hp : s.pc a = .aPopped g ∨ s.pc a = .aUnl g) (h : step s e = some s') :
    s'.pc a = s.pc a ∨ (s.pc a = .aPopped g ∧ e = .slRel a ∧ s'.pc a = .aUnl g) ∨
    (s.pc a = .aUnl g ∧ ∃ d, e = .abort a g d) := by
  rcases (Step.of_step h).pc a with ⟨ha, p', hl, hs⟩ | ⟨_, _, hs⟩ | ⟨_, _, hs⟩
  · -- the aborter's own text: from `aPopped g` only the release, from `aUnl g` only the abort
    rcases hp with hp | hp <;> rw [hp] at hl <;> cases hl
    · exact .inr (.inl ⟨hp, ha ▸ rfl, hs⟩)
    · exact .inr (.inr ⟨hp, _, by rw [ha]; rfl⟩)
  · -- nobody pops the aborter: its entry is not linked
    rcases hp with hp | hp <;> rw [hp] at hs <;> nomatch hs
  · exact .inl hs

/-! ## Progress -/

/-- `Stuck s`: the model accepts no event inside an operation (only invocations / thread ends). -/
def Stuck (s : St) : Prop := ∀ e, (step s e).isSome = true → inner e = false

/-- **Progress.**  A reachable state in which the model accepts nothing but the start of a new operation (or
    the end of a thread) has every thread idle, finished, or parked in an untimed wait with its entry linked
    in `queue_`, un-popped, without a wake-up token — a waiter nobody has notified or aborted.  In
    particular: no `abort_all` is in flight (it never blocks for good: every one of its states has an enabled
    step or waits for a lock whose holder has one), the local list is empty, and no popped waiter remains
    parked (its `ctx.abort()` / `ctx.resume()` was issued and its wake-up token exists). -/
theorem C07d_abort_stuck_only_when_blocked (s : St) (hr : ReachableA s) (hs : Stuck s) :
    s.ab = none ∧ s.lq = [] ∧ s.lock = none ∧
    ∀ t, s.pc t = .idle ∨ s.pc t = .fin ∨ (s.pc t = .susp false ∧ s.tok t = 0 ∧ t ∈ s.queue) := by
  have hi := hr.inv
  have en : ∀ e, (step s e).isSome = true → inner e = true → False := fun e h1 h2 => by
    have := hs e h1; rw [h2] at this; nomatch this
  -- the holder of the lock always has a step, and so has a thread that wants the free lock
  have hlock : s.lock = none := by
    cases hl : s.lock with
    | none => rfl
    | some r => obtain ⟨e, h1, h2⟩ := en_of_holds s hi r hl; exact (en e h1 h2).elim
  have nohold : ∀ t, holds (s.pc t) = false := fun t => by
    cases hh : holds (s.pc t) with
    | false => rfl
    | true => exact nomatch hlock.symm.trans ((hi.lockIff t).2 hh)
  have wantLock : ∀ t, (step s (.slAcq t)).isSome = true → False := fun t h => en _ h rfl
  -- so has an `abort_all` in flight
  have hab : s.ab = none := by
    cases hab : s.ab with
    | none => rfl
    | some a =>
      exfalso
      have hia := (hi.abIff a).1 hab
      have hh := nohold a
      cases hpa : s.pc a <;> rw [hpa] at hia hh <;> first | (cases hia; done) | (cases hh; done) | skip
      case aWant | aRelk => exact wantLock a (by simp [step, hlock, hpa])
      case aUnl g => exact en (.abort a g (isSlp (s.pc g))) (by simp [step, hpa]) rfl
      case aRet => exact en (.ret a 0) (by simp [step, hpa]) rfl
  have hlq := hi.lq_nil hab
  refine ⟨hab, hlq, hlock, fun t => ?_⟩
  have hna : inAb (s.pc t) = false := by
    cases h : inAb (s.pc t) with
    | false => rfl
    | true => exact nomatch hab.symm.trans ((hi.abIff t).2 h)
  have hh := nohold t
  cases hp : s.pc t <;> rw [hp] at hna hh <;> first | (cases hna; done) | (cases hh; done) | skip
  case idle => exact .inl rfl
  case fin => exact .inr (.inl rfl)
  case wWant | wokeNL | thrNL | nWant => exact (wantLock t (by simp [step, hlock, hp])).elim
  case unl tm p =>
    cases tm with
    | false => exact (en (.suspend t) (by simp [step, hp]) rfl).elim
    | true => exact (en (.sleep t) (by simp [step, hp]) rfl).elim
  case slp p => exact (en (.timeout t) (by simp [step, hp]) rfl).elim
  case retn r => exact (en (.ret t r) (by simp [step, hp]) rfl).elim
  case nRet => exact (en (.ret t 0) (by simp [step, hp]) rfl).elim
  case susp p =>
    by_cases htok : 0 < s.tok t
    · exact (en (.woke t (s.abt t)) (by simp [step, hp, htok]) rfl).elim
    · cases p with
      | false =>
        refine .inr (.inr ⟨rfl, by omega, ?_⟩)
        have := (hi.qIff t).2 (by rw [hp]; rfl)
        rw [hlq] at this
        simpa using this
      | true =>
        -- popped and parked: its token exists, or its abort is on its way and `abort_all` in flight
        exfalso
        rcases hi.wake t (by rw [hp]; rfl) with hw | hw
        · exact htok hw
        · obtain ⟨a, ha, _⟩ := (C07d_one_resume_per_enqueue s hr t).2.2.2 hw
          exact nomatch hab.symm.trans ha

/-- The hypothesis is satisfiable: the initial state is stuck. -/
example : Stuck (init 1) := by
  intro e h; cases e <;> simp [step, init] at h <;> rfl

/-! ## Finding: `ctx.abort()` is issued after the lock was released

`abort_all` releases the internal lock before `ctx.abort()` ("unlock while notifying thread as this can
suspend"), whereas `notify_one` / `notify_all` call `ctx.resume()` with the lock held.  A popped waiter needs
that lock to leave `wait`; with the lock free it can leave — after its deadline, after a left-over wake-up —
before the abort arrives.  The statement one would like,

  `step s (.abort a g d) = some s' → g is still inside the wait whose entry a popped`,

is FALSE of the code as it is; the witness below is accepted by the model and reproduced on the real code
(`findings/C07d-abort-after-wait-returned.json`): a timed waiter is popped by `abort_all`, its deadline
expires while the aborter is between the unlock and `ctx.abort()`, it finds its entry popped, returns
`signaled` (no exception), and finishes; then the abort is delivered to the agent of a thread that is not
waiting on this condition variable any more (in C++: a dangling `agent_ref` if the thread has exited, a stale
abort that makes the thread's next, unrelated suspension throw otherwise). -/
def lateAbortLog : List Ev :=
  [.inv 0 (.wait true), .slAcq 0, .cvEnq 0 1 true, .slRel 0, .sleep 0,
   .inv 1 .abort, .slAcq 1, .abSwap 1 1, .abPop 1 0 0, .slRel 1,
   .timeout 0, .slAcq 0, .cvWoke 0 false true, .slRel 0, .ret 0 0, .done 0]

theorem C07d_abort_can_land_after_wait_returned :
    ((runLog step (init 2) lateAbortLog).map
        (fun s => decide (s.pc 0 = .fin ∧ s.pc 1 = .aUnl 0))) = some true ∧
    ((runLog step (init 2) (lateAbortLog ++ [.abort 1 0 false])).map
        (fun s => s.abt 0 && decide (s.tok 0 = 1 ∧ s.pc 0 = .fin))) = some true := by decide

/-! ## Non-vacuity (part A) -/

/-- Waiter 0 is parked; thread 2 runs `abort_all`: swaps, pops 0, releases the lock; **while the lock is
    released waiter 1 enqueues and parks**; `ctx.abort()` on 0; 0's `suspend` throws; the aborter re-takes the
    lock, finds `queue_` non-empty again, swaps again, pops and aborts 1, and only then returns. -/
def abortLog : List Ev :=
  [.inv 0 (.wait false), .slAcq 0, .cvEnq 0 1 false, .slRel 0, .suspend 0,
   .inv 2 .abort, .slAcq 2, .abSwap 2 1, .abPop 2 0 0, .slRel 2,
   .inv 1 (.wait false), .slAcq 1, .cvEnq 1 1 false, .slRel 1, .suspend 1,
   .abort 2 0 false,
   .woke 0 true, .slAcq 0, .threw 0, .slRel 0, .ret 0 2,
   .slAcq 2, .abSwap 2 1, .abPop 2 0 1, .slRel 2, .abort 2 1 false, .slAcq 2, .abDone 2 0, .slRel 2, .ret 2 0,
   .woke 1 true, .slAcq 1, .threw 1, .slRel 1, .ret 1 2, .done 0, .done 1, .done 2]

example : (runLog step (init 3) abortLog).isSome = true := by decide
example : unlinks 1 (.abPop 2 0 1) = true ∧ abortCount 1 abortLog = 1 ∧ abortCount 0 abortLog = 1 ∧
    enqCount 0 abortLog = 1 ∧ enqCount 1 abortLog = 1 := by decide

/-- A timed waiter whose entry sits in the aborter's LOCAL list reaches its deadline while the aborter has
    released the lock around `ctx.abort()` on thread 0, and erases its entry from the local list
    (`cv.woke` with the entry still linked); the aborter then finds both lists empty and returns.  Thread 0
    re-enqueues after its abort (a woken waiter waits again): the outer loop would swap once more, here a
    `notify_one` gets there first. -/
example : (runLog step (init 4)
    [.inv 0 (.wait false), .slAcq 0, .cvEnq 0 1 false, .slRel 0, .suspend 0,
     .inv 1 (.wait true), .slAcq 1, .cvEnq 1 2 true, .slRel 1, .sleep 1,
     .inv 2 .abort, .slAcq 2, .abSwap 2 2, .abPop 2 1 0, .slRel 2,
     .timeout 1, .slAcq 1, .cvWoke 1 true true, .slRel 1, .ret 1 1,
     .abort 2 0 false, .woke 0 true, .slAcq 0, .threw 0, .slRel 0, .ret 0 2,
     .inv 0 (.wait false), .slAcq 0, .cvEnq 0 1 false, .slRel 0, .suspend 0,
     .inv 3 (.notify false), .slAcq 3, .popResume 3 0 0 false, .slRel 3, .ret 3 0,
     .slAcq 2, .abDone 2 0, .slRel 2, .ret 2 0,
     .woke 0 false, .slAcq 0, .cvWoke 0 false false, .slRel 0, .ret 0 0]).isSome = true := by decide

/-- `abort_all` cannot return while an entry is linked: the return test is rejected. -/
example : (runLog step (init 2)
    [.inv 0 (.wait false), .slAcq 0, .cvEnq 0 1 false, .slRel 0, .suspend 0,
     .inv 1 .abort, .slAcq 1, .abDone 1 0]).isSome = false := by decide

/-- A second `ctx.abort()` for the same pop is rejected. -/
example : (runLog step (init 2)
    [.inv 0 (.wait false), .slAcq 0, .cvEnq 0 1 false, .slRel 0, .suspend 0,
     .inv 1 .abort, .slAcq 1, .abSwap 1 1, .abPop 1 0 0, .slRel 1, .abort 1 0 false,
     .abort 1 0 false]).isSome = false := by decide

end A

/-! # (B) The timed stop-token wait: exact characterisation of a `false` result

`condition_variable_any::wait_until/wait_for(lock, stop_token, t, pred)` — operation `swait true` of
`Model/CV.lean`:

```
if (stoken.stop_requested()) return pred();                      -- S0
stop_callback cb(...);
while (!pred()) {
    bool should_stop;
    {   unique_lock l(data->mtx_);
        if (stoken.stop_requested()) return false;                -- S1 (the predicate was just found false)
        unlock_guard ul(lock);
        reason = cond_.wait_until(l, abs_time);                   -- cv.woke: timeout iff the entry is still linked
        should_stop = (reason == timeout) || stoken.stop_requested();   -- S2, under the internal lock
    }
    if (should_stop) return pred();
}
return true;
```

`timedOut t log` is the observation "`cv.woke` of `t` with the entry still linked (= `reason == timeout`: the
deadline expired and no notifier had popped the entry) has occurred since `t`'s last invocation".
-/
section B
open PikaVerif.CV PikaVerif.C07

/-- `reason == timeout` was observed by `t`'s current wait operation somewhere in `log`. -/
def timedOut (t : Nat) (log : List CV.Ev) : Bool := obsLog (fun _ => false) log t

theorem timedOut_nil (t : Nat) : timedOut t [] = false := rfl

/-- **The result of the timed stop-token wait.**  When `wait_until/wait_for(lock, stop_token, t, pred)`
    returns `r` (any accepted log, any thread): `r` is the value of the predicate at the return (it was
    evaluated by the caller under the user lock, which it has held ever since and still holds), and
    `r = false` **only if** the predicate is false **and** (stop has been requested **or** the call
    observed a timeout: its deadline expired with its entry still linked).  So a timed stop-token wait that
    was notified before its deadline and whose stop source was never asked to stop cannot return false;
    it either returns true or waits again. -/
theorem C07d_timed_stop_wait_result (n : Nat) (f : Bool) (log : List CV.Ev) (s s' : CV.St) (t r : Nat)
    (h : runLog CV.step (CV.init n f) log = some s) (hc : s.curOp t = .swait true)
    (hs : CV.step s (.ret t r) = some s') :
    r = CV.b2n s.flag ∧ s.ulock = some t ∧ s'.ulock = some t ∧
    (r = 0 → s.flag = false ∧ (s.stopReq = true ∨ timedOut t log = true)) ∧
    (r ≠ 0 → r = 1 ∧ s.flag = true) := by
  have hr : Reachable s := ⟨n, f, log, h⟩
  have hw : isWait (s.curOp t) = true := by simp [hc, isWait]
  have hpc := ret_wait_pc hr hs hw
  have hv := C07_pred_value s s' hr t r (by simp [hc, isPred]) hs
  have hl := C07_returns_locked s s' hr t r hw hs
  have hg := gb_of_runLog log _ s _ (gb_init n f) h t hc
  rw [hpc] at hg
  refine ⟨hv, hl.1, hl.2, ?_, ?_⟩
  · intro hr0
    subst hr0
    refine ⟨?_, ?_⟩
    · cases hf : s.flag with
      | false => rfl
      | true => rw [hf] at hv; simp [CV.b2n] at hv
    · simp [okB] at hg
      exact hg
  · intro hne
    cases hf : s.flag with
    | false => rw [hf] at hv; simp [CV.b2n] at hv; exact absurd hv hne
    | true => rw [hf] at hv; simp [CV.b2n] at hv; exact ⟨hv, rfl⟩

/-- **`should_stop` and the evaluation that decides.**  (a) The value computed at S2 is
    `(reason == timeout) || stop_requested()`, read under the internal lock; (b) after re-taking the user
    lock the next evaluation of the predicate is the final one iff that value was true; (c) a final
    evaluation returns its value (`return pred()`) — true or false — without waiting again, a non-final one
    returns only `true` and otherwise goes round the loop (`want`: back to the internal lock and S1). -/
theorem C07d_timed_stop_should_stop (s s' : CV.St) (t : Nat) (hc : s.curOp t = .swait true) :
    (∀ ss, CV.step s (.stop2 t ss) = some s' →
        ∃ still, s.pc t = .post still ∧ s.lock = some t ∧ ss = (still || s.stopReq) ∧ s'.sstop t = ss ∧
                 s'.pc t = .postS still) ∧
    (∀ still, s.pc t = .relockU still → CV.step s (.ulAcq t) = some s' →
        s'.pc t = .predChk (s.sstop t)) ∧
    (∀ final v, s.pc t = .predChk final → CV.step s (.pred t v) = some s' →
        v = s.flag ∧
        (final = true → s'.pc t = exitPc s t (CV.b2n v)) ∧
        (final = false → v = true → s'.pc t = exitPc s t 1) ∧
        (final = false → v = false → s'.pc t = .want)) := by
  refine ⟨fun ss h => ?_, fun still hp h => ?_, fun final v hp h => ?_⟩
  · obtain ⟨p, p', _, hp, hl, hg, rfl⟩ := CV.Step.of_step h
    cases hl
    exact ⟨_, hp, hg.1, rfl, upd_same .., upd_same ..⟩
  · obtain ⟨p, p', _, hp', hl, _, rfl⟩ := CV.Step.of_step h
    obtain rfl : p = .relockU still := hp'.symm.trans hp
    cases hl
    show upd s.pc t _ t = _
    rw [upd_same, hc]; rfl
  · obtain ⟨p, p', _, hp', hl, hv, rfl⟩ := CV.Step.of_step h
    obtain rfl : p = .predChk final := hp'.symm.trans hp
    cases hl
    refine ⟨hv, ?_, ?_, ?_⟩
    · rintro rfl; exact upd_same ..
    · rintro rfl rfl; exact upd_same ..
    · rintro rfl rfl; exact upd_same ..

/-- **No false result without a cause, state form.**  In every reachable state, a thread inside the timed
    stop-token wait that is about to return `0` — or already inside `~stop_callback` with the result `0` —
    has seen stop requested or a timeout; a thread at the S1 exit (`sStopped`) has seen stop requested. -/
theorem C07d_timed_stop_false_has_cause (n : Nat) (f : Bool) (log : List CV.Ev) (s : CV.St) (t : Nat)
    (h : runLog CV.step (CV.init n f) log = some s) (hc : s.curOp t = .swait true) :
    (s.pc t = .sStopped → s.stopReq = true) ∧
    ((s.pc t = .retn 0 ∨ s.pc t = .sDtor 0 ∨ s.pc t = .sRm 0 ∨ s.pc t = .sRmChk 0 ∨ s.pc t = .sRmWait 0) →
      s.stopReq = true ∨ timedOut t log = true) ∧
    (s.pc t = .predChk true → s.stopReq = true ∨ timedOut t log = true) := by
  have hg := gb_of_runLog log _ s _ (gb_init n f) h t hc
  refine ⟨?_, ?_, ?_⟩
  · intro hp; rw [hp] at hg; simpa [okB] using hg
  · intro hp
    rcases hp with hp | hp | hp | hp | hp <;> (rw [hp] at hg; simp [okB] at hg; exact hg)
  · intro hp; rw [hp] at hg; simp [okB] at hg; exact hg

/-! ## Non-vacuity (part B) -/

/-- Timeout: the waiter's deadline expires un-notified, `should_stop` is true by the timeout alone (stop
    is never requested), the predicate is false: the wait returns false. -/
def timeoutLog : List CV.Ev :=
  [.inv 0 .lock, .ulAcq 0, .inv 0 (.swait true), .stop0 0 false, .stAcq 0 2, .stPush 0 false, .pred 0 false,
   .slAcq 0, .stop1 0 false, .ulRel 0, .cvEnq 0 1 true, .slRel 0, .sleep 0, .timeout 0, .slAcq 0,
   .cvWoke 0 true true, .stop2 0 true, .slRel 0, .ulAcq 0, .pred 0 false,
   .stAcq 0 0, .stUnlink 0 true]

example : (runLog CV.step (CV.init 1 false) (timeoutLog ++ [.ret 0 0])).isSome = true := by decide
example : timedOut 0 timeoutLog = true := by decide

/-- Notified before the deadline, no stop, predicate still false: `should_stop` is false, the wait goes
    round the loop (it does NOT return false), and a `ret 0` at that point is rejected. -/
def notifiedLog : List CV.Ev :=
  [.inv 0 .lock, .ulAcq 0, .inv 0 (.swait true), .stop0 0 false, .stAcq 0 2, .stPush 0 false, .pred 0 false,
   .slAcq 0, .stop1 0 false, .ulRel 0, .cvEnq 0 1 true, .slRel 0, .sleep 0,
   .inv 1 (.notify false), .slAcq 1, .popResume 1 0 0 true, .slRel 1, .ret 1 0,
   .timeout 0, .slAcq 0, .cvWoke 0 false true, .stop2 0 false, .slRel 0, .ulAcq 0, .pred 0 false, .slAcq 0]

example : (runLog CV.step (CV.init 2 false) notifiedLog).isSome = true := by decide
example : timedOut 0 notifiedLog = false := by decide
example : (runLog CV.step (CV.init 2 false) (notifiedLog ++ [.ret 0 0])).isSome = false := by decide

end B

end PikaVerif.C07d
