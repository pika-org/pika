import PikaVerif.Lemmas.SemHold
import PikaVerif.Lemmas.SSem2
/-!
# C08 — Semaphores conserve permits and release blocked acquirers

Property theorems about the model `PikaVerif.Sem` (counting / binary semaphore) and, in the second
half of the file, about the model `PikaVerif.SSem` (sliding semaphore).  Every
theorem quantifies over *all* accepted event logs of the model, i.e. over every number of
threads, every program and every interleaving.  `Reachable s` = `s` is the state after
some accepted log from `init n v`.
-/
namespace PikaVerif.C08
open PikaVerif.Sem

def Reachable (s : St) : Prop := ∃ n v log, 0 ≤ v ∧ runLog step (init n v) log = some s

/-- Number of successful acquisitions (`sem.take` events) in a log. -/
def takes : List Ev → Nat
  | [] => 0
  | .take _ _ :: l => takes l + 1
  | _ :: l => takes l

/-- Number of permits released (`sem.add` events, weighted) in a log. -/
def added : List Ev → Nat
  | [] => 0
  | .add _ _ c :: l => added l + c
  | _ :: l => added l

/-- Only `take` and `add` move the counters, by what the log functions count. -/
theorem counters_step {s s' : St} {e : Ev} (es : List Ev) (h : step s e = some s') :
    s'.acquired + takes es = s.acquired + takes (e :: es) ∧
    s'.released + added es = s.released + added (e :: es) ∧ s'.init = s.init ∧ s'.n = s.n := by
  cases step_iff.1 h <;> refine ⟨?_, ?_, rfl, rfl⟩ <;> first | rfl | (simp only [takes, added]; omega)

theorem counters_log (log : List Ev) (s s' : St) (h : runLog step s log = some s') :
    s'.acquired = s.acquired + takes log ∧ s'.released = s.released + added log ∧
    s'.init = s.init ∧ s'.n = s.n :=
  ⟨runLog_tally (·.acquired) takes rfl (fun _ _ _ es h => (counters_step es h).1) h,
   runLog_tally (·.released) added rfl (fun _ _ _ es h => (counters_step es h).2.1) h,
   inv_of_runLog (·.init = s.init) (fun _ _ _ h0 h => (counters_step [] h).2.2.1.trans h0) rfl h,
   inv_of_runLog (·.n = s.n) (fun _ _ _ h0 h => (counters_step [] h).2.2.2.trans h0) rfl h⟩

/-- **Conservation.**  In every execution the number of successful acquisitions never
    exceeds the initial count plus the permits released, and the stored count is exactly
    `initial + released − acquired ≥ 0` (no permit is lost or invented). -/
theorem C08_conservation (n : Nat) (v : Int) (hv : 0 ≤ v) (log : List Ev) (s : St)
    (h : runLog step (init n v) log = some s) :
    (takes log : Int) ≤ v + added log ∧ s.value = v + added log - takes log ∧ 0 ≤ s.value := by
  obtain ⟨hi, hi2⟩ := inv2_of_accepted h
  have hc := counters_log log _ s h
  have hacc := hi.account
  have hnn := hi2.nonneg
  simp only [init] at hc
  have e1 : s.acquired = takes log := by omega
  have e2 : s.released = added log := by omega
  rw [hc.2.2.1] at hacc hnn
  have := hnn hv
  rw [e1, e2] at hacc
  refine ⟨?_, hacc, this⟩
  omega

/-- A state is *stuck* when the model accepts no event other than a thread starting a new
    operation (`inv`) or ending its program (`done`). -/
def Stuck (s : St) : Prop :=
  ∀ e, (∀ t o, e ≠ .inv t o) → (∀ t, e ≠ .done t) → step s e = none

/-- Parked in `acquire` with no wake-up token. -/
def Blocked (s : St) (t : Nat) : Prop := s.pc t = .susp false ∧ s.tok t = 0

/-- **Progress.**  The model can only be stuck in states where every thread is between
    operations, finished, or parked in an untimed acquire without a pending wake-up: no
    reachable state is stuck with a thread in the middle of an operation, holding the
    internal lock, notified-but-not-resumed, or sleeping on a deadline. -/
theorem C08_stuck_only_when_blocked (s : St) (hr : Reachable s) (hs : Stuck s) :
    ∀ t, t < s.n → s.pc t = .idle ∨ s.pc t = .fin ∨ Blocked s t := by
  obtain ⟨n, v, log, hv, hlog⟩ := hr
  obtain ⟨hi, hi2⟩ := inv2_of_accepted hlog
  intro t htn
  -- every event `Step` allows, other than `inv` and `done`, contradicts `Stuck`
  have en : ∀ {e s'}, Step s e s' → (∀ t o, e ≠ .inv t o) → (∀ t, e ≠ .done t) → False :=
    fun h h1 h2 => absurd ((hs _ h1 h2).symm.trans h.accepted) nofun
  cases hl : s.lock with
  | some r =>
    -- the lock holder is never blocked: its first event on the way to releasing the lock is enabled
    exfalso
    obtain ⟨log, -, hact, s1, hrun, hl1⟩ := holder_releases s hi hi2 r hl
    cases log with
    | nil => cases hrun; rw [hl] at hl1; cases hl1
    | cons e es =>
      obtain ⟨s2, h1, -⟩ := runLog_cons_some hrun
      have ha : actor e = r := hact e (List.mem_cons_self ..)
      have hh := (hi2.lockConv r hl).1
      refine en (step_iff.1 h1) ?_ ?_
      · rintro t o rfl
        cases step_iff.1 h1 with | inv _ hp => rw [← show t = r from ha, hp] at hh; cases hh
      · rintro t rfl
        cases step_iff.1 h1 with | done _ hp => rw [← show t = r from ha, hp] at hh; cases hh
  | none =>
    have nh := hi.core.free hl t
    cases hp : s.pc t <;> simp [hp, holds] at nh
    case idle => exact .inl rfl
    case fin => exact .inr (.inl rfl)
    case want o => exact (en (.acqWant htn hl hp) nofun nofun).elim
    case wokeNL tm p => exact (en (.acqWoke htn hl hp) nofun nofun).elim
    case relNL i m => exact (en (.acqLoop htn hl hp) nofun nofun).elim
    case unl tm p =>
      cases tm
      · exact (en (.suspend htn hp) nofun nofun).elim
      · exact (en (.sleep htn hp) nofun nofun).elim
    case slp p => exact (en (.timeout htn hp) nofun nofun).elim
    case retn r => exact (en (.ret htn hp) nofun nofun).elim
    case susp p =>
      -- a notified sleeper owns a token, so only an un-notified one without token is left
      by_cases htok : 0 < s.tok t
      · exact (en (.woke htn hp htok) nofun nofun).elim
      · cases p with
        | true => have := hi.wake t (.inr hp); omega
        | false => exact .inr (.inr ⟨hp, by omega⟩)

/-- **Blocked acquirers are released.**  In every reachable stuck state, if some thread is
    still parked in `acquire` then no permit is available: a blocked acquirer cannot coexist
    with an unused permit once the system has come to rest. -/
theorem C08_blocked_released (s : St) (hr : Reachable s) (hs : Stuck s) (t : Nat)
    (hb : Blocked s t) : s.value < 1 := by
  have hq := C08_stuck_only_when_blocked s hr hs
  obtain ⟨n, v, log, hv, hlog⟩ := hr
  obtain ⟨hi, _⟩ := inv2_of_accepted hlog
  have hz : wsum s = 0 := by
    apply sumTo_eq_zero
    intro u hu
    rcases hq u hu with h | h | h
    · simp [h, weight]
    · simp [h, weight]
    · simp [h.1, weight, b2n]
  have hin : t ∈ s.queue := (hi.qIff t).2 (by simp [hb.1, inQ])
  have hne : s.queue ≠ [] := by intro h; rw [h] at hin; simp at hin
  have := hi.budget hne
  rw [hz] at this
  omega

/-- **A timed or non-blocking acquire returns true exactly when it consumed a permit.**
    Whenever the model accepts `ret t r`, `r` equals the flag "thread `t` executed a
    `sem.take` since it invoked the current operation" (`tookOp`, reset at `inv`, set at
    `take`).  In particular `false` means the count was not touched by this operation. -/
theorem C08_result_iff_consumed (s s' : St) (hr : Reachable s) (t : Nat) (r : Bool)
    (h : step s (.ret t r) = some s') : s.tookOp t = r := by
  obtain ⟨n, v, log, hv, hlog⟩ := hr
  obtain ⟨_, hi2⟩ := inv2_of_accepted hlog
  cases step_iff.1 h with | ret _ hp => exact hi2.result t r (by rw [hp]; rfl)

/-- **A timed acquire fails only on a genuine timeout.**  If a `try_acquire_for/until`
    returns false then, in that operation, the thread found its wait entry still linked at
    the deadline (`cv.woke` with `stillQueued`), i.e. no `release` had notified it before the
    deadline expired.  (A notified timed waiter re-examines the count instead of failing.) -/
theorem C08_timed_false_only_on_timeout (s s' : St) (hr : Reachable s) (t : Nat)
    (hop : s.curOp t = .timed) (h : step s (.ret t false) = some s') : s.sawTimeout t = true := by
  obtain ⟨n, v, log, hv, hlog⟩ := hr
  obtain ⟨_, hi2⟩ := inv2_of_accepted hlog
  cases step_iff.1 h with | ret _ hp => exact hi2.timedFalse t hop (.inr hp)

/-! ## Non-vacuity: concrete accepted logs reaching the interesting states -/

/-- one acquirer blocks, a release of one permit wakes it, it takes the permit -/
def exampleLog : List Ev :=
  [.inv 0 .acq, .slAcq 0, .cvEnq 0 1 false, .slRel 0, .suspend 0,
   .inv 1 (.rel 1), .slAcq 1, .add 1 1 1, .popResume 1 0 0 false, .slRel 1, .ret 1 false,
   .woke 0, .slAcq 0, .cvWoke 0 false false, .take 0 0, .slRel 0, .ret 0 true]

example : (runLog step (init 2 0) exampleLog).isSome = true := by decide

/-- a stuck state with a blocked acquirer exists (so `C08_blocked_released` is not vacuous) -/
example : ∃ s, runLog step (init 1 0) [.inv 0 .acq, .slAcq 0, .cvEnq 0 1 false, .slRel 0, .suspend 0] = some s
    ∧ Blocked s 0 := by
  refine ⟨_, rfl, ?_⟩
  simp [Blocked, upd, init]

/-- a timed acquire that times out returns false -/
example : (runLog step (init 1 0)
    [.inv 0 .timed, .slAcq 0, .cvEnq 0 1 true, .slRel 0, .sleep 0, .timeout 0, .slAcq 0,
     .cvWoke 0 true true, .slRel 0, .ret 0 false]).isSome = true := by decide

end PikaVerif.C08

/-! # Sliding semaphore (model `PikaVerif.SSem`) -/
namespace PikaVerif.C08

def SReachable (s : SSem.St) : Prop := ∃ n d l log, runLog SSem.step (SSem.init n d l) log = some s

/-- no event other than starting an operation / ending the program is accepted -/
def SStuck (s : SSem.St) : Prop :=
  ∀ e, (∀ t o, e ≠ .inv t o) → (∀ t, e ≠ .done t) → SSem.step s e = none

/-- parked in `sliding_semaphore::wait(u)` with no wake-up token -/
def SBlocked (s : SSem.St) (t : Nat) (u : Int) : Prop := s.pc t = .susp u false ∧ s.tok t = 0

/-- **Progress (sliding).**  The model is only stuck when every thread is between operations,
    finished, or parked in `wait` without a pending wake-up. -/
theorem C08_sliding_stuck_only_when_blocked (s : SSem.St) (hr : SReachable s) (hs : SStuck s) :
    ∀ t, t < s.n → s.pc t = .idle ∨ s.pc t = .fin ∨ ∃ u, SBlocked s t u := by
  obtain ⟨n, d, l, log, hlog⟩ := hr
  obtain ⟨hi, _, hlc⟩ := SSem.inv_of_accepted hlog
  intro t htn
  -- every event `Step` allows, other than `inv` and `done`, contradicts `SStuck`
  have en : ∀ {e s'}, SSem.Step s e s' → (∀ t o, e ≠ .inv t o) → (∀ t, e ≠ .done t) → False :=
    fun h h1 h2 => absurd ((hs _ h1 h2).symm.trans h.accepted) nofun
  cases hl : s.lock with
  | some r =>
    -- the lock holder is never blocked
    exfalso
    obtain ⟨hh, hrn⟩ := hlc r hl
    cases hp : s.pc r <;> simp [hp, SSem.holds] at hh
    case locked u tr c =>
      cases hsat : SSem.sat s u with
      | true => exact en (.pass hrn hl hp hsat) nofun nofun
      | false =>
        cases tr with
        | true => exact en (.relTry hrn hl hp hsat) nofun nofun
        | false => exact en (.cvEnq hrn hl hp hsat) nofun nofun
    case lockedSig l' => exact en (.sig hrn hl hp) nofun nofun
    case enq u => exact en (.relEnq hrn hl hp) nofun nofun
    case relk u p =>
      cases p
      · exact en (.wokeSpurious hrn hl hp) nofun nofun
      · exact en (.wokePopped hrn hl hp) nofun nofun
    case passed => exact en (.relPassed hrn hl hp) nofun nofun
    case refused => exact en (.relRefused hrn hl hp) nofun nofun
    case sigRes i m more => exact en (.relRes hrn hl hp) nofun nofun
    case sigFin => exact en (.relFin hrn hl hp) nofun nofun
    case sigL i m =>
      cases hq : s.queue with
      | nil => exact en (.cvNone hrn hl hp hq) nofun nofun
      | cons g rest =>
        obtain ⟨p', hp'⟩ := hi.front_poppable hl hq (by rw [hp]; rfl)
        exact en (.pop hrn hl hp hq hp') nofun nofun
  | none =>
    have nh := hi.core.free hl t
    cases hp : s.pc t <;> simp [hp, SSem.holds] at nh
    case idle => exact .inl rfl
    case fin => exact .inr (.inl rfl)
    case want o =>
      cases o with
      | wait u => exact (en (.acqWait htn hl hp) nofun nofun).elim
      | tryw u => exact (en (.acqTry htn hl hp) nofun nofun).elim
      | signal l => exact (en (.acqSig htn hl hp) nofun nofun).elim
    case wokeNL u p => exact (en (.acqWoke htn hl hp) nofun nofun).elim
    case sigNL i m => exact (en (.acqLoop htn hl hp) nofun nofun).elim
    case unl u p => exact (en (.suspend htn hp) nofun nofun).elim
    case retn r => exact (en (.ret htn hp) nofun nofun).elim
    case susp u p =>
      by_cases htok : 0 < s.tok t
      · exact (en (.woke htn hp htok) nofun nofun).elim
      · cases p with
        | true => have := hi.wake t u (.inr hp); omega
        | false => exact .inr (.inr ⟨u, hp, by omega⟩)

/-- **A blocked sliding wait proceeds once the signalled lower bound is within the configured
    distance.**  In every reachable stuck state a thread still parked in `wait(u)` has
    `u - max_difference > lower_limit`. -/
theorem C08_sliding_blocked_released (s : SSem.St) (hr : SReachable s) (hs : SStuck s) (t : Nat) (u : Int)
    (hb : SBlocked s t u) : s.lower < u - s.maxDiff := by
  have hq := C08_sliding_stuck_only_when_blocked s hr hs
  obtain ⟨n, d, l, log, hlog⟩ := hr
  obtain ⟨hi, hc, _⟩ := SSem.inv_of_accepted hlog
  have hz : SSem.budget s = 0 := by
    apply sumTo_eq_zero
    intro x hx
    rcases hq x hx with h | h | ⟨v, h⟩
    · simp [h, SSem.weight]
    · simp [h, SSem.weight]
    · simp [h.1, SSem.weight]
  have hin : t ∈ s.queue := (hi.qIff t).2 (by simp [hb.1, SSem.inQ])
  have := hc t (by rw [hz]; simpa using hin) u (by simp [hb.1, SSem.ubound])
  simp [SSem.sat] at this
  omega

/-- non-vacuity: a waiter blocks, a signal within distance wakes it, it passes -/
example : (runLog SSem.step (SSem.init 2 1 0)
    [.inv 0 (.wait 5), .slAcq 0, .cvEnq 0 1, .slRel 0, .suspend 0,
     .inv 1 (.signal 4), .slAcq 1, .sig 1 4 1, .popResume 1 0 0, .slRel 1, .ret 1 false,
     .woke 0, .slAcq 0, .cvWoke 0 false, .pass 0 5 4, .slRel 0, .ret 0 true]).isSome = true := by decide

end PikaVerif.C08
