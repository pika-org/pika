import PikaVerif.Props.C06
import PikaVerif.Lemmas.MtxSolo
import PikaVerif.Lemmas.MtxObs
/-!
# C06t — termination / bounded hand-off of the mutex operations

`Props/C06.lean` states progress and hand-off as "no stuck state".  This file strengthens them to
termination for the model `PikaVerif.Mtx` (`pika::mutex` / `pika::timed_mutex`).

**Stutter.**  The model has **no stutter** in the mutex operations: a failed attempt on the
internal spinlock is not an event of the model (`slAcq` is accepted only when the spinlock is free;
the spinning task's `sl.lock` / `ag.yield` lines are dropped by the driver before the acceptor), a
failed `try_lock` is a complete operation, and a timed wait ends only by its deadline event
`timeout`, accepted exactly once per wait.  So the bounds below count every accepted event; for the
real code they are bounds *modulo spinning on the internal spinlock* (whose holder is never
blocked: every program counter that holds it has an enabled event, `C06_mutex_stuck_only_when_blocked`).
The one pair of events the *model* lets repeat without moving an operation is the harness mark
`cs.enter` / `cs.exit` (history counters only); the program layer allows one such bracket per
invoked operation, as the harness does, and `C06t_measure_decreases` states the measure modulo
`cs.enter` explicitly.

* `Mtx.mu` is a natural-number measure on model states that strictly decreases with every accepted
  event other than the invocation of a new operation and `cs.enter` (`C06t_measure_decreases`).
* A *program* gives each of the `n` tasks a finite list of `lock` / `try_lock` / `try_lock_for` /
  `unlock` operations (`Mtx.PSt`, `Mtx.pstep`).  Every accepted log of a program has at most
  `Mtx.bound n prog` events (`C06t_bounded`: 1 per task + 13 per lock-type operation + 14 per
  `unlock`), every accepted log extends to a maximal one (`C06t_maximal_exists`), and in the final
  state of a maximal log every task has finished its whole program except tasks parked in `lock()`
  while the mutex is owned by a task that holds it by program order and has itself finished
  (`C06t_final_state`).
* If no task's program has a lock-type operation after its last `unlock` (`Mtx.Closed`; every
  well-bracketed program is closed, `C06t_bracketed_closed`), every maximal run ends with ALL
  operations returned, every task finished and the mutex free (`C06t_closed_all_return`): a task
  waiting in `lock()` is eventually granted the mutex.  The `decide`-checked example `progOpen`
  shows a non-closed program with a maximal run that blocks for ever.
* Hand-off bound: the owner's `unlock()` run alone (6 events) followed by the front waiter run alone
  (6 events) completes that waiter's `lock()` (`C06t_handoff_bound`) or `try_lock_for`
  (`C06t_handoff_bound_timed`, first event = its deadline) — 12 events.
* A `try_lock_for` that returned false found the mutex owned when it enqueued, saw its deadline
  pass, and either its wait reported `timeout` or it was signalled and found the mutex owned again at
  the re-test (`C06t_timed_false_observed`, over a transparent observer).  The naive reading "it
  timed out while the mutex was held" is false for the code as it is (`runTimedFree`).

`Rec` / `Spin` are not covered: there a waiting thread *spins* (`ag.yield`, dropped as stutter), there
is no queue and no hand-off order, so termination could only be stated modulo that stutter and under
a fairness assumption for the spinning thread.
-/
namespace PikaVerif.C06t
open PikaVerif.Mtx PikaVerif.C06

/-- **The measure decreases.**  Every accepted event that is not the invocation of a new operation
    or the harness mark `cs.enter` strictly decreases `mu`; an invocation of `o` adds exactly the
    potential of `o` (`rank (want o) - 1`), a `cs.enter` adds exactly 1 (paid back by its `cs.exit`). -/
theorem C06t_measure_decreases (s s' : St) (e : Ev) (he : step s e = some s') :
    (∀ t o, e = .inv t o → mu s' + 1 = mu s + rank (.want o)) ∧
    (∀ t, e = .csEnter t → mu s' = mu s + 1) ∧
    ((∀ t o, e ≠ .inv t o) → (∀ t, e ≠ .csEnter t) → mu s' < mu s) := by
  refine ⟨?_, ?_, fun hne hnc => mu_step s s' e hne hnc he⟩
  · intro t o heq; subst heq; exact mu_inv s s' t o he
  · intro t heq; subst heq; exact mu_csEnter s s' t he

/-- **Bounded runs.**  Any accepted log of a finite program (`n` tasks, `prog t` the operations of
    task `t`, at most one critical-section bracket per operation) has at most `bound n prog` events
    — whatever the interleaving, including every timed wait's deadline event. -/
theorem C06t_bounded (n : Nat) (prog : Nat → List Op) (log : List Ev) (p : PSt)
    (h : runLog pstep (pinit n prog) log = some p) : log.length ≤ bound n prog := by
  have := layer.length_le potential trivial h
  rw [phi_pinit] at this
  omega

/-- An accepted log of a program is an accepted log of the model (so every theorem of
    `Props/C06.lean` applies to the states of program runs). -/
theorem C06t_program_refines (n : Nat) (prog : Nat → List Op) (log : List Ev) (p : PSt)
    (h : runLog pstep (pinit n prog) log = some p) : runLog step (init n) log = some p.s :=
  layer.run h

/-- **Maximal runs exist and are finite.**  Every accepted log of a program extends to an accepted
    log after which no event at all is accepted; its length is at most `bound n prog`. -/
theorem C06t_maximal_exists (n : Nat) (prog : Nat → List Op) (log : List Ev) (p : PSt)
    (h : runLog pstep (pinit n prog) log = some p) :
    ∃ ext p', runLog pstep (pinit n prog) (log ++ ext) = some p' ∧ PStuck p' ∧
      (log ++ ext).length ≤ bound n prog :=
  phi_pinit n prog ▸ layer.maximal_exists potential trivial h

/-- **Final states.**  In the final state of a maximal run of a program every task has finished its
    whole program, except tasks parked in `lock()` without a wake-up token — and if there is such
    a task, the mutex is owned by a task that holds it by program order, has finished its own
    program, and so will never unlock: the only way a run can end with a blocked task is
    a task that ends while holding. -/
theorem C06t_final_state (n : Nat) (prog : Nat → List Op) (log : List Ev)
    (p : PSt) (h : runLog pstep (pinit n prog) log = some p) (hs : PStuck p) :
    ∀ t, t < n → (p.s.pc t = .fin ∧ p.prog t = []) ∨
      (Blocked p.s t ∧ ∃ u, u < n ∧ u ≠ t ∧ p.s.owner = some u ∧ p.s.holdsG u = true ∧
        p.s.pc u = .fin ∧ p.prog u = []) := by
  have hlog := layer.run h
  obtain rfl := n_of_log n log p.s hlog
  exact final_of_pstuck ⟨_, log, hlog⟩ (runLog_finOk log _ p (by intro t ht; simp [pinit, init] at ht) h) hs

/-- Every well-bracketed program (each lock-type operation immediately followed by its `unlock`
    in the same task, hence no lock-type call while holding) is closed. -/
theorem C06t_bracketed_closed (l : List Op) (h : bracketed l = true) : Closed l := by
  fun_induction bracketed l with
  | case1 => rfl
  | case2 => cases h
  | case3 o l hne ih =>
    have := ih h
    cases o <;> first | exact absurd rfl hne | exact this
  | case4 => cases h

/-- **A waiting task is eventually granted the mutex: closed programs always run to completion.**
    If no task's program has a lock-type operation after its last `unlock` (in particular if every
    task's program is well bracketed), then every maximal run — every interleaving, every outcome
    of the `try_lock`s and timed waits — ends with every operation returned, every task finished,
    nobody holding or owning the mutex, the internal spinlock free and the wait queue empty.  By
    `C06t_bounded` that end is reached after at most `bound n prog` events. -/
theorem C06t_closed_all_return (n : Nat) (prog : Nat → List Op) (hc : ∀ t, t < n → Closed (prog t))
    (log : List Ev) (p : PSt) (h : runLog pstep (pinit n prog) log = some p) (hs : PStuck p) :
    (∀ t, t < n → p.s.pc t = .fin ∧ p.prog t = [] ∧ p.s.holdsG t = false) ∧
      p.s.owner = none ∧ p.s.lock = none ∧ p.s.queue = [] := by
  have hlog := layer.run h
  obtain ⟨hi, hi2⟩ := inv2_of_accepted hlog
  have hn : p.s.n = n := n_of_log n log p.s hlog
  have hcl := runLog_cl log _ p (cl_pinit n prog hc) h
  have hfinal := C06t_final_state n prog log p h hs
  have hnh : ∀ u, u < n → p.s.pc u = .fin → p.prog u = [] → p.s.holdsG u = false := by
    intro u hu hf hp
    have := hcl.closed u (by omega)
    rw [hp] at this
    simp only [endsOpen, mayHold, hf, lockish, Bool.or_false] at this
    exact this
  have hall : ∀ t, t < n → p.s.pc t = .fin ∧ p.prog t = [] ∧ p.s.holdsG t = false := by
    intro t ht
    rcases hfinal t ht with ⟨hf, hp⟩ | ⟨_, u, hu, _, _, hh, hfu, hpu⟩
    · exact ⟨hf, hp, hnh t ht hf hp⟩
    · have := hnh u hu hfu hpu; rw [this] at hh; simp at hh
  -- every task, of the system or not, is at rest and holds nothing
  have hrest : ∀ u, p.s.pc u = .idle ∨ p.s.pc u = .fin := fun u =>
    if hu : u < n then .inr (hall u hu).1 else .inl (hi.outside u (by omega))
  have hnoG : ∀ u, p.s.holdsG u = false := fun u =>
    if hu : u < n then (hall u hu).2.2 else holdsG_outside hlog u (by omega)
  refine ⟨hall, ?_, ?_, ?_⟩
  · cases ho : p.s.owner with
    | none => rfl
    | some u =>
      have := hi2.owner_holds ho ((hrest u).imp_right .inl)
      rw [hnoG u] at this; cases this
  · cases hl : p.s.lock with
    | none => rfl
    | some r =>
      have := ((core_of_accepted hlog).1.2 r hl).1
      rcases hrest r with h | h <;> rw [h] at this <;> cases this
  · cases hq : p.s.queue with
    | nil => rfl
    | cons g rest =>
      have := (hi.qIff g).1 (by rw [hq]; exact List.mem_cons_self)
      rcases hrest g with h | h <;> rw [h] at this <;> cases this

/-! ## Non-vacuity -/

/-- two tasks with well-bracketed programs; task 1 waits in `lock()` and is handed the mutex -/
def prog2 : Nat → List Op := fun t => if t = 0 then [.lock, .unlock] else if t = 1 then [.lock, .unlock] else []

def run2 : List Ev :=
  [.inv 0 .lock, .slAcq 0, .own 0 1 false, .slRel 0, .ret 0 .ok, .csEnter 0,
   .inv 1 .lock, .slAcq 1, .cvEnq 1 1 false, .slRel 1, .suspend 1,
   .csExit 0, .inv 0 .unlock, .slAcq 0, .disown 0, .popResume 0 0 1 false, .slRel 0, .ret 0 .ok, .done 0,
   .woke 1, .slAcq 1, .cvWoke 1 false false, .own 1 1 false, .slRel 1, .ret 1 .ok,
   .csEnter 1, .csExit 1, .inv 1 .unlock, .slAcq 1, .disown 1, .cvNone 1, .slRel 1, .ret 1 .ok, .done 1]

/-- the run is accepted, maximal, ends with both tasks finished and the mutex free, within the bound -/
example : ∃ p, runLog pstep (pinit 2 prog2) run2 = some p ∧ PStuck p ∧ (∀ t, t < 2 → p.s.pc t = .fin) ∧
    p.s.owner = none ∧ run2.length ≤ bound 2 prog2 ∧ (∀ t, t < 2 → Closed (prog2 t)) ∧
    bracketed (prog2 0) = true := by
  refine ⟨_, rfl, ?_, by decide, rfl, by decide, by decide, by decide⟩
  apply pstuck_of_rest
  · rfl
  · intro t ht
    have ht' : t < 2 := ht
    left
    revert t
    decide

/-- why `Closed` is needed: task 0 ends while holding (`[lock]` is not closed); the maximal run
    below ends with task 1 parked in `lock()` for ever -/
def progOpen : Nat → List Op := fun t => if t = 0 then [.lock] else if t = 1 then [.lock, .unlock] else []

example : ∃ p, runLog pstep (pinit 2 progOpen)
      [.inv 0 .lock, .slAcq 0, .own 0 1 false, .slRel 0, .ret 0 .ok, .done 0,
       .inv 1 .lock, .slAcq 1, .cvEnq 1 1 false, .slRel 1, .suspend 1] = some p ∧ PStuck p ∧
    Blocked p.s 1 ∧ p.s.owner = some 0 ∧ p.s.pc 0 = .fin ∧ ¬ Closed (progOpen 0) ∧ Closed (progOpen 1) := by
  refine ⟨_, rfl, ?_, ⟨rfl, rfl⟩, by decide, by decide, by decide, by decide⟩
  apply pstuck_of_rest
  · rfl
  · intro t ht
    have ht' : t < 2 := ht
    revert t
    decide

/-! ## Hand-off in an explicit number of events -/

/-- **Hand-off bound.**  In any reachable state in which task `r` holds the mutex by program order
    and is between operations and outside its critical section, the internal spinlock is free and
    the front entry of the wait queue is a task `g` parked in `lock()`: `r`'s `unlock()` run alone
    (6 events) followed by `g` run alone (6 events) is accepted and ends with `g`'s `lock()`
    returned successfully and `g` the owner — 12 events, none of them by a third task. -/
theorem C06t_handoff_bound (s : St) (hr : Reachable s) (r g : Nat) (rest : List Nat)
    (hl : s.lock = none) (hp : s.pc r = .idle) (hh : s.holdsG r = true) (hcs : s.inCS r = false)
    (hq : s.queue = g :: rest) (hg : s.pc g = .susp false) :
    ∃ s', runLog step s (unlockSolo r g rest.length false ++ lockWake g) = some s' ∧
      (unlockSolo r g rest.length false ++ lockWake g).length = 12 ∧
      s'.pc g = .idle ∧ s'.holdsG g = true ∧ s'.owner = some g ∧ s'.tookOp g = true ∧
      s'.pc r = .idle ∧ s'.holdsG r = false ∧ s'.queue = rest ∧ s'.lock = none := by
  obtain ⟨n, log, hlog⟩ := hr
  obtain ⟨s', h, h'⟩ := handoff_bound hlog r g rest false hl hp hh hcs hq hg
  exact ⟨s', h, rfl, h'⟩

/-- **Hand-off to a timed waiter.**  The same when the front waiter `g` is inside `try_lock_for`,
    polling its deadline: the agent drops the resume, so `g`'s first event alone is its deadline
    event `timeout`; it then finds itself signalled and the mutex free and returns **true** —
    again 12 events.  (Untimed waiters queued behind `g` stay parked until then: the hand-off is
    delayed by at most `g`'s timeout, never lost.) -/
theorem C06t_handoff_bound_timed (s : St) (hr : Reachable s) (r g : Nat) (rest : List Nat)
    (hl : s.lock = none) (hp : s.pc r = .idle) (hh : s.holdsG r = true) (hcs : s.inCS r = false)
    (hq : s.queue = g :: rest) (hg : s.pc g = .slp false) :
    ∃ s', runLog step s (unlockSolo r g rest.length true ++ timedWake g) = some s' ∧
      (unlockSolo r g rest.length true ++ timedWake g).length = 12 ∧
      s'.pc g = .idle ∧ s'.holdsG g = true ∧ s'.owner = some g ∧ s'.tookOp g = true ∧
      s'.pc r = .idle ∧ s'.holdsG r = false ∧ s'.queue = rest ∧ s'.lock = none := by
  obtain ⟨n, log, hlog⟩ := hr
  obtain ⟨s', h, h'⟩ := handoff_bound hlog r g rest true hl hp hh hcs hq hg
  exact ⟨s', h, rfl, h'⟩

/-- the hypotheses of `C06t_handoff_bound` are satisfiable: the state after the first 12 events of
    `run2` (task 0 holds and has left its critical section, task 1 is parked in `lock()`), and the
    next 12 events of `run2` minus task 0's `done` are literally `unlockSolo ++ lockWake` -/
example : ∃ s, runLog step (init 2) (run2.take 12) = some s ∧ s.lock = none ∧ s.pc 0 = .idle ∧
    s.holdsG 0 = true ∧ s.inCS 0 = false ∧ s.queue = [1] ∧ s.pc 1 = .susp false ∧
    unlockSolo 0 1 0 false ++ [.done 0] ++ lockWake 1 = (run2.drop 12).take 13 :=
  ⟨_, rfl, rfl, rfl, rfl, rfl, rfl, rfl, rfl⟩

/-! ## What a `try_lock_for` that returned false has observed -/

/-- **A failed timed lock saw the mutex held and its deadline pass.**  Run the observer
    (`Lemmas/MtxObs.lean`: it reads only events and `owner_id_`, and accepts exactly the model's
    logs, `C06t_observer_transparent`) beside any accepted log.  Whenever `try_lock_until/for`
    reports false: (1) `owner_id_` was valid when this call linked itself into the wait queue — the
    call waited only because the mutex was held; (2) this call's deadline event has occurred (the
    agent's `sleep_until` ends by the deadline only, also for a notified task); and (3) either the
    wait reported `timeout` (entry still queued at `cv.woke`), or it reported `signaled` and
    `owner_id_` was valid again at the re-test under the internal spinlock (the mutex was taken by
    another task in between).  It never reports false without having waited. -/
theorem C06t_timed_false_observed (n : Nat) (log : List Ev) (p : TSt) (t : Nat) (s' : St)
    (h : runLog tstep (tinit n) log = some p) (hop : p.s.curOp t = .timed)
    (hret : step p.s (.ret t .fail) = some s') :
    p.o.held t = true ∧ p.o.dl t = true ∧ (p.o.still t = true ∨ p.o.heldRel t = true) := by
  have hlog := trun_step log _ p h
  obtain ⟨_, hi2⟩ := inv2_of_accepted hlog
  have hT := runLog_tinv log _ p (tinv_init n) h t
  cases Step.of hret with
  | ret _ _ _ o hpc =>
    obtain rfl : o = .timed := (hi2.at_pc hpc).2.1.symm.trans hop
    rw [hpc] at hT
    exact hT

/-- the observer is transparent: every accepted log of the model has an observer run over the same
    states, and conversely -/
theorem C06t_observer_transparent (n : Nat) (log : List Ev) :
    (∀ s, runLog step (init n) log = some s → ∃ p, runLog tstep (tinit n) log = some p ∧ p.s = s) ∧
    (∀ p, runLog tstep (tinit n) log = some p → runLog step (init n) log = some p.s) :=
  ⟨fun s h => trun_exists log (tinit n) s h, fun p h => trun_step log (tinit n) p h⟩

/-- the naive reading "it observed a timeout **while the mutex was held**" is false for the
    code as it is: `try_lock_until` returns false on `timeout` without re-testing `owner_id_`.
    Witness: task 0 holds, task 1 waits in `lock()`, task 2 in `try_lock_for` behind it; task 0
    unlocks (notifying task 1, which has not run yet), task 2's deadline passes: its `cv.woke`
    reports timeout and it returns false while `owner_id_` is invalid — the mutex is free, the
    hand-off to task 1 is in flight. -/
def runTimedFree : List Ev :=
  [.inv 0 .lock, .slAcq 0, .own 0 1 false, .slRel 0, .ret 0 .ok,
   .inv 1 .lock, .slAcq 1, .cvEnq 1 1 false, .slRel 1, .suspend 1,
   .inv 2 .timed, .slAcq 2, .cvEnq 2 2 true, .slRel 2, .sleep 2,
   .inv 0 .unlock, .slAcq 0, .disown 0, .popResume 0 1 1 false, .slRel 0, .ret 0 .ok,
   .timeout 2, .slAcq 2, .cvWoke 2 true true, .slRel 2]

example : ∃ p s', runLog tstep (tinit 3) runTimedFree = some p ∧ step p.s (.ret 2 .fail) = some s' ∧
    p.s.curOp 2 = .timed ∧ p.s.owner = none ∧ p.o.heldRel 2 = false ∧
    p.o.held 2 = true ∧ p.o.dl 2 = true ∧ p.o.still 2 = true :=
  ⟨_, _, rfl, rfl, rfl, rfl, rfl, rfl, rfl, rfl⟩

/-- the other branch: notified, but the mutex was taken again before the re-test -/
example : ∃ p s', runLog tstep (tinit 2)
      [.inv 0 .lock, .slAcq 0, .own 0 1 false, .slRel 0, .ret 0 .ok,
       .inv 1 .timed, .slAcq 1, .cvEnq 1 1 true, .slRel 1, .sleep 1,
       .inv 0 .unlock, .slAcq 0, .disown 0, .popResume 0 0 1 true, .slRel 0, .ret 0 .ok,
       .inv 0 .tryl, .slAcq 0, .own 0 2 false, .slRel 0, .ret 0 .ok,
       .timeout 1, .slAcq 1, .cvWoke 1 false true, .slRel 1] = some p ∧
    step p.s (.ret 1 .fail) = some s' ∧ p.o.still 1 = false ∧ p.o.heldRel 1 = true ∧ p.s.owner = some 0 :=
  ⟨_, _, rfl, rfl, rfl, rfl, rfl⟩

end PikaVerif.C06t
