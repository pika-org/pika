import PikaVerif.Props.C17Index
/-!
# C17 — solo termination of `contiguous_index_queue::pop_left/pop_right`

Model `PikaVerif.IQ` (`Model/IndexQueue.lean`).  From EVERY reachable state — other threads may be
stalled between their load and their `compare_exchange_weak`, holding stale copies of the range —
a thread between operations that runs a pop **alone** finishes after one load and **one CAS
attempt** (4 events: `inv`, `load`, `cas` = success, `ret`) with the first / last index of the
range, which is removed; on an empty range it returns `nullopt` after the load without any CAS
(3 events).  The other threads are untouched.  (`compare_exchange_weak` is modelled without
spurious failures, as in the rest of the index-queue model.)
`C17Index.pop_succeeds_when_quiescent` states acceptance only; here the resulting state and the
empty case are stated as well.
-/
namespace PikaVerif.C17Index
open PikaVerif.IQ

/-- **Solo pop on a non-empty index queue: one CAS attempt, the end index is returned.** -/
theorem C17_index_solo_pop_nonempty (n : Nat) (f l : Int) (s : St) (h : Reachable n f l s)
    (t : Nat) (ht : t < n) (hq : s.pc t = .idle) (hne : s.first < s.last) :
    (∃ s', runLog step s [.inv t .L, .load t s.first s.last, .cas t true (s.first + 1) s.last,
          .ret t (some s.first)] = some s' ∧
        s'.pc t = .idle ∧ (∀ u, u ≠ t → s'.pc u = s.pc u) ∧ s'.first = s.first + 1 ∧
        s'.last = s.last ∧ s'.poppedL = s.first :: s.poppedL ∧ s'.poppedR = s.poppedR) ∧
    (∃ s', runLog step s [.inv t .R, .load t s.first s.last, .cas t true s.first (s.last - 1),
          .ret t (some (s.last - 1))] = some s' ∧
        s'.pc t = .idle ∧ (∀ u, u ≠ t → s'.pc u = s.pc u) ∧ s'.first = s.first ∧
        s'.last = s.last - 1 ∧ s'.poppedL = s.poppedL ∧ s'.poppedR = (s.last - 1) :: s.poppedR) := by
  obtain ⟨hi, _, hn, _, _⟩ := of_reach h
  obtain ⟨eL, eR⟩ := (solo_pop hi (hn ▸ ht) hq).1 hne
  exact ⟨⟨_, eL, upd_same .., fun u hu => upd_other _ _ _ _ hu, rfl, rfl, rfl, rfl⟩,
    _, eR, upd_same .., fun u hu => upd_other _ _ _ _ hu, rfl, rfl, rfl, rfl⟩

/-- **Solo pop on an empty index queue returns `nullopt`** after the load, without a CAS, and
    changes nothing. -/
theorem C17_index_solo_pop_empty (n : Nat) (f l : Int) (s : St) (h : Reachable n f l s)
    (t : Nat) (ht : t < n) (hq : s.pc t = .idle) (he : ¬ s.first < s.last) (sd : Side) :
    ∃ s', runLog step s [.inv t sd, .load t s.first s.last, .ret t none] = some s' ∧
      s'.pc t = .idle ∧ (∀ u, u ≠ t → s'.pc u = s.pc u) ∧ s'.first = s.first ∧
      s'.last = s.last ∧ s'.poppedL = s.poppedL ∧ s'.poppedR = s.poppedR := by
  obtain ⟨hi, _, hn, _, _⟩ := of_reach h
  exact ⟨_, (solo_pop hi (hn ▸ ht) hq).2 he sd, upd_same .., fun u hu => upd_other _ _ _ _ hu, rfl, rfl, rfl, rfl⟩

/-! ## Non-vacuity: thread 1 loaded the range `[3, 5)` for a `pop_right` and stalled before its
CAS; thread 0 then pops alone. -/

def stalledIq : List Ev := [.inv 1 .R, .load 1 3 5]

example : (runLog step (init 2 3 5) (stalledIq ++ [.inv 0 .L, .load 0 3 5, .cas 0 true 4 5, .ret 0 (some 3)])).map
    (fun s => (s.pc 0, s.pc 1, s.first, s.last, s.poppedL)) =
    some (.idle, .loaded .R 3 5, 4, 5, [3]) := by decide +kernel

example (s : St) (h : runLog step (init 2 3 5) stalledIq = some s) :
    ∃ s', runLog step s [.inv 0 .L, .load 0 s.first s.last, .cas 0 true (s.first + 1) s.last,
          .ret 0 (some s.first)] = some s' ∧
        s'.pc 0 = .idle ∧ (∀ u, u ≠ 0 → s'.pc u = s.pc u) ∧ s'.first = s.first + 1 ∧
        s'.last = s.last ∧ s'.poppedL = s.first :: s.poppedL ∧ s'.poppedR = s.poppedR := by
  have hm : (runLog step (init 2 3 5) stalledIq).map (fun s => (s.pc 0, s.first, s.last)) =
      some (.idle, 3, 5) := by decide +kernel
  rw [h] at hm
  simp at hm
  exact (C17_index_solo_pop_nonempty 2 3 5 s ⟨by omega, by omega, by omega, stalledIq, h⟩ 0 (by omega)
    hm.1 (by rw [hm.2.1, hm.2.2]; omega)).1

/-- empty queue `[4, 4)` with thread 1 stalled after its load -/
example (s : St) (h : runLog step (init 2 4 4) [.inv 1 .L, .load 1 4 4] = some s) (sd : Side) :
    ∃ s', runLog step s [.inv 0 sd, .load 0 s.first s.last, .ret 0 none] = some s' ∧
      s'.pc 0 = .idle ∧ (∀ u, u ≠ 0 → s'.pc u = s.pc u) ∧ s'.first = s.first ∧
      s'.last = s.last ∧ s'.poppedL = s.poppedL ∧ s'.poppedR = s.poppedR := by
  have hm : (runLog step (init 2 4 4) [.inv 1 .L, .load 1 4 4]).map (fun s => (s.pc 0, s.first, s.last)) =
      some (.idle, 4, 4) := by decide +kernel
  rw [h] at hm
  simp at hm
  exact C17_index_solo_pop_empty 2 4 4 s ⟨by omega, by omega, by omega, _, h⟩ 0 (by omega)
    hm.1 (by rw [hm.2.1, hm.2.2]; omega) sd

end PikaVerif.C17Index
