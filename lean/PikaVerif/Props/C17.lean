import PikaVerif.Lemmas.DequeSeq
import PikaVerif.Lemmas.DequeTag
import PikaVerif.Lemmas.DequeHarm
/-!
# C17 — concurrent queues return every element exactly once (lock-free deque, back-end adapters)

Property theorems about the model `PikaVerif.Deque` of `pika::concurrency::detail::deque`
(`deque.hpp`) and of the adapters in `lockfree_queue_backends.hpp`.  The contiguous index queue
part of C17 is in `Props/C17Index.lean`.

**The full concurrent statement is false of the pinned code** (and therefore of the model, which
follows the code): `alloc_node` / `push_*` restart a node's link tags at 0 in every life of the
node, so the link CAS of `stabilize_left/right` — the only shared write that is not protected by
the anchor tag — can succeed on a node that was popped, recycled and pushed again since the
helper read it (ABA).  `C17_deque_conc_refuted` is the machine-checked witness (the event log of
the real code under a directed schedule, `findings/C17-aba-link.case`): value 3 is returned by
two pops, value 5 is never returned although the deque reports empty.

Full statement that does **not** hold of the pinned tree (referred to below as `C17_deque_conc`; it is
not a declaration):
```
theorem C17_deque_conc (n) (log) (s) (h : runLog step (init n) log = some s) :
    (∀ v, s.popped.count v ≤ s.pushed.count v) ∧ (s.chain = [] → s.popped.Perm s.pushed)
```
-/
namespace PikaVerif.C17
open PikaVerif.Deque

/-- Event log of the real code (`findings/C17-aba-link.case`, node addresses renamed 1, 2, 3). -/
def abaLog : List Ev :=
  [.inv 0 true true 3, .alloc 0 1, .inv 1 true false 1, .alloc 1 2, .ld 1 ⟨0, 0, 0, 0⟩, .cas 1 true,
   .ret 1 true 0, .inv 1 true false 2, .alloc 1 3, .ld 1 ⟨2, 2, 0, 1⟩, .link 1 3 2, .cas 1 true,
   .rd 1 ⟨2, 0⟩, .chk 1 true, .rd 1 ⟨0, 0⟩, .chk 1 true, .lcas 1 true, .cas 1 true, .ret 1 true 0,
   .inv 1 false true 0, .ld 1 ⟨3, 2, 0, 3⟩, .chk 1 true, .rd 1 ⟨3, 1⟩, .cas 1 true, .ld 0 ⟨3, 3, 0, 4⟩,
   .link 0 1 3, .cas 0 true, .rd 0 ⟨3, 0⟩, .chk 0 true, .rd 0 ⟨2, 0⟩, .chk 0 true, .free 1 2,
   .ret 1 true 1, .inv 1 false false 0, .ld 1 ⟨3, 1, 1, 5⟩, .rd 1 ⟨3, 0⟩, .chk 1 true, .rd 1 ⟨2, 0⟩,
   .chk 1 true, .lcas 1 true, .cas 1 true, .ld 1 ⟨3, 1, 0, 6⟩, .chk 1 true, .rd 1 ⟨1, 1⟩, .cas 1 true,
   .free 1 3, .ret 1 true 2, .inv 1 true true 4, .alloc 1 3, .ld 1 ⟨1, 1, 0, 7⟩, .link 1 3 1,
   .cas 1 true, .rd 1 ⟨1, 0⟩, .chk 1 true, .rd 1 ⟨0, 0⟩, .chk 1 true, .lcas 1 true, .cas 1 true,
   .ret 1 true 0, .inv 1 true true 5, .alloc 1 2, .ld 1 ⟨1, 3, 0, 9⟩, .link 1 2 3, .cas 1 true,
   .rd 1 ⟨3, 0⟩, .chk 1 true, .rd 1 ⟨0, 0⟩, .chk 1 true, .lcas 1 true, .cas 1 true, .ret 1 true 0,
   .inv 1 false false 0, .ld 1 ⟨1, 2, 0, 11⟩, .chk 1 true, .rd 1 ⟨3, 1⟩, .cas 1 true, .free 1 1,
   .ret 1 true 3, .inv 1 false false 0, .ld 1 ⟨3, 2, 0, 12⟩, .chk 1 true, .rd 1 ⟨2, 1⟩, .cas 1 true,
   .free 1 3, .ret 1 true 4, .inv 1 true false 6, .alloc 1 3, .ld 1 ⟨2, 2, 0, 13⟩, .link 1 3 2,
   .cas 1 true, .rd 1 ⟨2, 0⟩, .chk 1 true, .rd 1 ⟨3, 0⟩, .lcas 0 true, .cas 0 false, .ret 0 true 0,
   .done 0, .cas 1 true, .ret 1 true 0, .inv 1 false false 0, .ld 1 ⟨3, 2, 0, 15⟩, .chk 1 true,
   .rd 1 ⟨1, 1⟩, .cas 1 true, .free 1 3, .ret 1 true 6, .inv 1 false false 0, .ld 1 ⟨1, 2, 0, 16⟩,
   .chk 1 true, .rd 1 ⟨3, 1⟩, .cas 1 true, .free 1 1, .ret 1 true 3, .done 1]

/-- **Refutation of the unrestricted concurrent clause** (genuine defect of the pinned tree).
    There is an accepted log — produced by the real `deque.hpp` — with six pushes of distinct
    values after which value 3 has been popped twice, value 5 was never popped, every thread has
    finished and the chain is empty; a stabilisation link-CAS succeeded on a recycled node
    (`stale`). -/
theorem C17_deque_conc_refuted :
    ∃ s, runLog step (init 2) abaLog = some s ∧ s.pushed = [6, 5, 4, 3, 2, 1] ∧
      s.popped = [3, 6, 4, 3, 2, 1] ∧ s.popped.count 3 = 2 ∧ s.pushed.count 3 = 1 ∧
      s.popped.count 5 = 0 ∧ s.chain = [] ∧ s.stale = true ∧ s.pc 0 = .fin ∧ s.pc 1 = .fin := by
  obtain ⟨s, hs, h⟩ := Option.map_eq_some_iff.1 (by decide : (runLog step (init 2) abaLog).map
      (fun s => (s.pushed, s.popped, s.chain, s.stale, s.pc 0, s.pc 1)) =
      some ([6, 5, 4, 3, 2, 1], [3, 6, 4, 3, 2, 1], [], true, .fin, .fin))
  simp only [Prod.mk.injEq] at h
  obtain ⟨h1, h2, h3, h4, h5, h6⟩ := h
  refine ⟨s, hs, h1, h2, ?_, ?_, ?_, h3, h4, h5, h6⟩ <;> simp [h1, h2]

/-! ## What does hold: executions without a stale link CAS

`s.stale = false` says that no stabilisation link-CAS succeeded after the anchor it was computed
for had changed (`stale` is a history flag of the model, set by `lcas`; it is sticky).  Without
node recycling that situation cannot arise (link tags only grow); with the freelist it is exactly
the ABA window exhibited above.  Under this hypothesis the deque is correct for every number of
threads, every operation mix and every interleaving of the atomic steps, including the unstable
`lpush`/`rpush` states, helping, and recycling of nodes. -/

/-- **Exactly once (partial: no stale link CAS).**  At every point of every execution the values
    pushed so far are, as a multiset, the values popped so far plus the values still stored in the
    chain.  Hence nothing is invented or popped twice (`count popped ≤ count pushed` for every
    value), and once the chain is empty the popped values are exactly the pushed values. -/
theorem C17_deque_conc_partial (n : Nat) (log : List Ev) (s : St)
    (h : runLog step (init n) log = some s) (hs : s.stale = false) :
    s.pushed.Perm (s.popped ++ contents s) ∧
    (∀ v, s.popped.count v ≤ s.pushed.count v) ∧
    (s.chain = [] → s.popped.Perm s.pushed) :=
  conc_of_inv (inv_of_accepted h hs)

/-- **No element is delivered twice (partial: no stale link CAS).**  If the pushed values are
    pairwise distinct then so are the popped values. -/
theorem C17_deque_no_duplicate_partial (n : Nat) (log : List Ev) (s : St)
    (h : runLog step (init n) log = some s) (hs : s.stale = false) (hd : s.pushed.Nodup) :
    s.popped.Nodup :=
  nodup_of_inv (inv_of_accepted h hs) hd

/-- **The anchor and the links describe the chain (partial: no stale link CAS).**  In every
    reachable state the anchor's end pointers are the first and last node of the chain (null iff
    it is empty), the chain has no repeated node, every chain node is allocated, and — outside the
    one link that an unfinished push still has to set — neighbouring nodes point at each other. -/
theorem C17_deque_chain_partial (n : Nat) (log : List Ev) (s : St)
    (h : runLog step (init n) log = some s) (hs : s.stale = false) :
    Glob s.anchor s.chain s.nodes s.used ∧ (s.anchor.l = 0 ↔ s.chain = []) ∧
    (s.anchor.r = 0 ↔ s.chain = []) :=
  chain_of_inv (inv_of_accepted h hs)

/-- **A pop reports "empty" only when the deque is empty (partial: no stale link CAS).**  The only
    way a pop returns false is the anchor load that finds its end pointer null; at that moment the
    chain is empty.  So a pop on a non-empty deque — quiescent or not — never fails. -/
theorem C17_deque_pop_false_only_if_empty_partial (n : Nat) (log : List Ev) (s s' : St)
    (h : runLog step (init n) log = some s) (hs : s.stale = false) (t : Nat) (a : Anchor) (d : Bool)
    (hpc : s.pc t = .popLd d) (hstep : step s (.ld t a) = some s')
    (hret : s'.pc t = .retn false 0) : contents s = [] :=
  pop_false_only_if_empty_G (inv_of_accepted h hs) t a d hpc hstep hret

/-- **Refinement to a list (partial: no stale link CAS).**  Seen through the abstraction
    `contents` (values stored in the chain, left to right) every accepted step of every execution
    is one of (`Lin`): nothing happens; a value is inserted at end `d` (`d = false`: in front,
    `d = true`: at the back) and recorded as pushed; or the value at end `d` is removed, recorded as
    popped and handed to the popping thread (it is the value that thread's `pop` returns).  These are
    the transitions of a sequential double-ended queue, so every concurrent execution is
    linearizable with the successful anchor CASes as linearisation points. -/
theorem C17_deque_refines_list_partial (n : Nat) (log : List Ev) (s s' : St) (e : Ev)
    (h : runLog step (init n) log = some s) (hstep : step s e = some s') (hs : s'.stale = false) :
    Lin s s' :=
  step_lin (inv_of_accepted h (stale_mono hstep hs)) hstep

/-- **Sequential refinement (full strength).**  In single-threaded use no hypothesis is needed:
    no link CAS is ever stale, so the deque behaves as a list — `push_left/right` insert in front /
    at the back, `pop_left/right` remove and return the first / last element (`Lin`), a pop reports
    "empty" only on the empty list, and the anchor/links always describe the list. -/
theorem C17_deque_seq_refines_list (log : List Ev) (s s' : St) (e : Ev)
    (h : runLog step (init 1) log = some s) (hstep : step s e = some s') :
    s'.stale = false ∧ Lin s s' ∧ Glob s'.anchor s'.chain s'.nodes s'.used ∧
    s'.pushed.Perm (s'.popped ++ contents s') ∧
    (∀ t d a, e = .ld t a → s.pc t = .popLd d → s'.pc t = .retn false 0 → contents s = []) := by
  have h' : runLog step (init 1) (log ++ [e]) = some s' := by
    rw [runLog_snoc, h]; exact hstep
  have hs' := (inv1_of_accepted h').fresh
  have hi' := inv_of_accepted h' hs'
  exact ⟨hs', C17_deque_refines_list_partial 1 log s s' e h hstep hs', hi'.glob, hi'.cons,
    pop_false_only_if_empty (inv_of_accepted h (stale_mono hstep hs')) hstep⟩

/-! ## C17s (1): when exactly do the concurrent theorems hold for the pinned tree?

The hypothesis `stale = false` of the `_partial` theorems is a flag of the model.  Here it is
replaced by a condition **on the log**, phrased in terms of node recycling, computed by the
monitor `Deque.Mon` that runs beside the acceptor (`Deque.stepM`, `Lemmas/DequeTag.lean`):

* a thread that passed the second `anchor_ != lrs` re-check of `stabilize_left/right` (event
  `chk … true` at `stChk2`) holds a *link snapshot* `(prev, prevnext)` until its link CAS;
* `dirty t` — node `prev` was handed to `pool_.deallocate` (event `free`) while `t` held it;
* `aba` — a link CAS **succeeded** although the thread's snapshot was dirty.

`NoRecycledCas n log` ("no link CAS succeeds on a node that was freed after the thread took its
snapshot of it") is what hazard pointers would enforce.  Recycling as such is allowed, also of a
snapshotted node, as long as the late CAS fails. -/

/-- the log condition: running model + recycling monitor over `log` never raises `aba` -/
def NoRecycledCas (n : Nat) (log : List Ev) : Prop :=
  ∀ s m, runLog (stepM false) (init n, mon0) log = some (s, m) → m.aba = false

/-- **Characterisation (sufficiency).**  For every number of threads and every accepted log of the
    pinned tree's model: if no link CAS succeeded on a node freed under the thread's snapshot, then
    no stabilisation link CAS was stale — so every `_partial` theorem above applies. -/
theorem C17_deque_stale_only_by_recycling (n : Nat) (log : List Ev) (s : St)
    (h : runLog step (init n) log = some s) (hr : NoRecycledCas n log) : s.stale = false := by
  obtain ⟨m, hm⟩ := runM_exists (fx := false) mon0 h
  exact (stale_false_of_aba_false hm (hr s m hm)).1

/-- **Characterisation (exactness).**  Along every run of the pinned tree's model with the recycling
    monitor: a stabilisation link CAS was stale **iff** a link CAS succeeded on a node that had been
    freed while the thread held its snapshot of it.  So `stale = false` *is* the recycling
    condition: `NoRecycledCas` is not merely sufficient for the `_partial` theorems, it is their
    hypothesis restated on the log. -/
theorem C17_deque_stale_iff_recycled_cas (n : Nat) (log : List Ev) (s : St) (m : Mon)
    (h : runLog (stepM false) (init n, mon0) log = some (s, m)) :
    s.stale = false ↔ m.aba = false :=
  ⟨aba_false_of_stale_false h, fun hm => (stale_false_of_aba_false h hm).1⟩

/-- **Exactly once, pinned tree, under the recycling condition** (all thread counts, operation
    mixes and interleavings): conservation as a multiset, nothing popped twice or invented, drained
    = pushed; the anchor/links describe the chain; every step refines the list deque. -/
theorem C17_deque_conc_norecycle (n : Nat) (log : List Ev) (s : St)
    (h : runLog step (init n) log = some s) (hr : NoRecycledCas n log) :
    s.pushed.Perm (s.popped ++ contents s) ∧
    (∀ v, s.popped.count v ≤ s.pushed.count v) ∧
    (s.chain = [] → s.popped.Perm s.pushed) ∧
    (s.pushed.Nodup → s.popped.Nodup) ∧
    Glob s.anchor s.chain s.nodes s.used := by
  have hs := C17_deque_stale_only_by_recycling n log s h hr
  have hc := C17_deque_conc_partial n log s h hs
  exact ⟨hc.1, hc.2.1, hc.2.2, C17_deque_no_duplicate_partial n log s h hs,
    (C17_deque_chain_partial n log s h hs).1⟩

/-- **Linearizability, pinned tree, under the recycling condition**: if the log extended by `e`
    satisfies the condition, the step `e` is a stutter, an insert at an end, or the removal of the
    end element handed to the popping thread; and a pop answers "empty" only on the empty deque. -/
theorem C17_deque_refines_list_norecycle (n : Nat) (log : List Ev) (s s' : St) (e : Ev)
    (h : runLog step (init n) log = some s) (hstep : step s e = some s')
    (hr : NoRecycledCas n (log ++ [e])) :
    Lin s s' ∧ (∀ t d a, e = .ld t a → s.pc t = .popLd d → s'.pc t = .retn false 0 → contents s = []) := by
  have h' : runLog step (init n) (log ++ [e]) = some s' := by
    rw [runLog_snoc, h]; exact hstep
  have hs' := C17_deque_stale_only_by_recycling n (log ++ [e]) s' h' hr
  exact ⟨C17_deque_refines_list_partial n log s s' e h hstep hs',
    pop_false_only_if_empty (inv_of_accepted h (stale_mono hstep hs')) hstep⟩

/-- **The finding violates exactly this condition.**  On the witness log of the defect the
    recycling monitor fires: thread 0 takes its snapshot of node 3 (`chk 0 true`), node 3 is freed
    twice and re-allocated under it (`free 1 3`), thread 0's link CAS then succeeds (`lcas 0 true`):
    `aba = true`; on the log without that CAS and what follows it the condition still holds. -/
theorem C17_deque_witness_is_recycled_cas :
    (runLog (stepM false) (init 2, mon0) abaLog).map (fun x => (x.2.aba, x.1.stale)) = some (true, true) ∧
    (runLog (stepM false) (init 2, mon0) (abaLog.take 93)).map
      (fun x => (x.2.aba, x.2.dirty 0, x.1.stale, x.1.pc 0)) =
      some (false, true, false, .stLink .pushDone true ⟨3, 1, 1, 5⟩ ⟨3, 0⟩ ⟨2, 0⟩) ∧
    ¬ NoRecycledCas 2 abaLog := by
  refine ⟨by decide, by decide, ?_⟩
  intro hr
  obtain ⟨⟨s, m⟩, hx, h⟩ := Option.map_eq_some_iff.1
    (by decide : (runLog (stepM false) (init 2, mon0) abaLog).map (fun x => x.2.aba) = some true)
  exact Bool.noConfusion ((hr s m hx).symm.trans h)

/-! ## C17s (1b): the weakest condition proved sufficient — no stale link CAS on a live link

`stale = false` (equivalently: no CAS on a node freed under the snapshot) is sufficient but not
necessary: random schedules of the real code do produce stale link CASes that succeed and do no
harm.  `harmFreeB false (init n) log` (`Lemmas/DequeHarm.lean`, a decidable test run beside the
acceptor) only forbids a stale link CAS that hits a **live** link: one of a chain node that is not
the end node on that side, the already stored inward link of another push's private node, or the
freelist's word of a free node.  Chain of implications, all proved:
`NoRecycledCas` ⟹ `stale = false` ⟹ `harmFreeB`; the last one is strict (`harmlessStaleLog`). -/

/-- **Exactly once, pinned tree, weakest proved condition.**  For every thread count and every
    accepted log without a stale link CAS on a live link: conservation as a multiset, nothing popped
    twice or invented, drained = pushed, distinct pushes give distinct pops, and the anchor and
    links describe the chain. -/
theorem C17_deque_conc_harmfree (n : Nat) (log : List Ev) (s : St)
    (h : runLog step (init n) log = some s) (hf : harmFreeB false (init n) log = true) :
    s.pushed.Perm (s.popped ++ contents s) ∧
    (∀ v, s.popped.count v ≤ s.pushed.count v) ∧
    (s.chain = [] → s.popped.Perm s.pushed) ∧
    (s.pushed.Nodup → s.popped.Nodup) ∧
    Glob s.anchor s.chain s.nodes s.used := by
  have hi := inv_of_harmFree (inv_init n) (fun _ _ => rfl) h hf
  have hc := conc_of_inv hi
  exact ⟨hc.1, hc.2.1, hc.2.2, nodup_of_inv hi, hi.glob⟩

/-- **Linearizability, pinned tree, weakest proved condition**: if the log up to `e` has no harmful link
    CAS (nothing is asked of `e` itself: the invariant before the step suffices), step `e` refines the
    list deque and a pop answers "empty" only when empty. -/
theorem C17_deque_refines_list_harmfree (n : Nat) (log : List Ev) (s s' : St) (e : Ev)
    (h : runLog step (init n) log = some s) (hstep : step s e = some s')
    (hf : harmFreeB false (init n) log = true) :
    Lin s s' ∧ (∀ t d a, e = .ld t a → s.pc t = .popLd d → s'.pc t = .retn false 0 → contents s = []) := by
  have hi := inv_of_harmFree (inv_init n) (fun _ _ => rfl) h hf
  exact ⟨step_lin hi hstep, pop_false_only_if_empty hi hstep⟩

/-- **The condition is weaker than `stale = false`** (hence than `NoRecycledCas`). -/
theorem C17_deque_harmfree_of_not_stale (n : Nat) (log : List Ev) (s : St)
    (h : runLog step (init n) log = some s) (hs : s.stale = false) :
    harmFreeB false (init n) log = true :=
  harmFree_of_stale_false h hs

/-- **The finding violates exactly this condition**: the witness log fails the test, at the link
    CAS of thread 0 (position 93): the anchor has changed, node 3 is in the chain `[3, 2]` and is
    not its right end, so its `right` link is live. -/
theorem C17_deque_witness_is_harmful :
    harmFreeB false (init 2) abaLog = false ∧ harmFreeB false (init 2) (abaLog.take 93) = true ∧
    (runLog step (init 2) (abaLog.take 93)).map
      (fun s => (s.chain, s.anchor, harmStep s (.lcas 0 true))) = some ([3, 2], ⟨3, 2, 2, 14⟩, false) := by
  refine ⟨by decide, by decide, by decide⟩

/-- A **harmless stale link CAS with recycling** (non-vacuity and strictness): thread 0 is stopped
    before the link CAS of its `push_right(3)` holding the snapshot `1->right = (null, 0)`; thread 1
    finishes the stabilisation, pops 3 and 1 (both nodes go to the freelist), pushes 7 into the
    re-allocated node 1; thread 0's CAS then succeeds on the recycled node (`stale`, and the
    recycling monitor fires), but node 1 is the right end of the chain: nothing is lost. -/
def harmlessStaleLog : List Ev :=
  [.inv 1 true false 1, .alloc 1 1, .ld 1 ⟨0, 0, 0, 0⟩, .cas 1 true, .ret 1 true 0,
   .inv 0 true true 3, .alloc 0 2, .ld 0 ⟨1, 1, 0, 1⟩, .link 0 2 1, .cas 0 true,
   .rd 0 ⟨1, 0⟩, .chk 0 true, .rd 0 ⟨0, 0⟩, .chk 0 true,
   .inv 1 false true 0, .ld 1 ⟨1, 2, 1, 2⟩, .rd 1 ⟨1, 0⟩, .chk 1 true, .rd 1 ⟨0, 0⟩, .chk 1 true,
   .lcas 1 true, .cas 1 true, .ld 1 ⟨1, 2, 0, 3⟩, .chk 1 true, .rd 1 ⟨1, 0⟩, .cas 1 true,
   .free 1 2, .ret 1 true 3,
   .inv 1 false false 0, .ld 1 ⟨1, 1, 0, 4⟩, .cas 1 true, .free 1 1, .ret 1 true 1,
   .inv 1 true false 7, .alloc 1 1, .ld 1 ⟨0, 0, 0, 5⟩, .cas 1 true, .ret 1 true 0,
   .lcas 0 true, .cas 0 false, .ret 0 true 0,
   .inv 1 false false 0, .ld 1 ⟨1, 1, 0, 6⟩, .cas 1 true, .free 1 1, .ret 1 true 7]

example : (runLog (stepM false) (init 2, mon0) harmlessStaleLog).map
      (fun x => (x.1.stale, x.2.aba, x.1.pushed, x.1.popped, x.1.chain)) =
      some (true, true, [7, 3, 1], [7, 1, 3], []) ∧
    harmFreeB false (init 2) harmlessStaleLog = true := by
  refine ⟨by decide, by decide⟩

/-- an ordinary concurrent history with recycling on which `stale` and `aba` stay false: the witness of
    the defect cut before the fatal CAS (six pushes, five pops, nodes 1-3 recycled several times, thread
    0's snapshot node freed twice); `C17_deque_witness_is_harmful` shows the same log passes `harmFreeB` -/
example : (runLog (stepM false) (init 2, mon0) (abaLog.take 93)).map
      (fun x => (x.1.stale, x.2.aba, x.1.pushed, x.1.popped, contents x.1)) =
      some (false, false, [6, 5, 4, 3, 2, 1], [4, 3, 2, 1], [6, 5]) := by decide

/-! ## C17s (2): the repaired code (`fix:` commit on deque.hpp, model `stepF = stepG true`)

`alloc_node` keeps and increments the tags it finds in the recycled memory and the inward-link
store of `push_left/right` increments the link's tag: the tag of a link word grows with every
write for the whole life of the deque.  Then a link CAS can only succeed if the link was not
written since it was loaded, and (`Lemmas/DequeTag.lean`, invariant `TagInv`) the link *is* written
before the anchor can leave the unstable state the snapshot belongs to — so a link CAS is never
stale and the **unrestricted** statement holds. -/

/-- **Exactly once, repaired code, full strength** — the statement `C17_deque_conc` of the head comment, false
    of the pinned tree: for every number of threads, every operation mix and every interleaving,
    with helping and node recycling: no link CAS is stale, pushed = popped + contents as multisets,
    nothing is popped twice or invented, and once the chain is empty popped = pushed. -/
theorem C17_deque_fixed_conc (n : Nat) (log : List Ev) (s : St)
    (h : runLog stepF (init n) log = some s) :
    s.stale = false ∧
    s.pushed.Perm (s.popped ++ contents s) ∧
    (∀ v, s.popped.count v ≤ s.pushed.count v) ∧
    (s.chain = [] → s.popped.Perm s.pushed) := by
  have hi := stale_false_fixed h
  exact ⟨hi.1, conc_of_inv hi.2⟩

/-- **No element is delivered twice, repaired code, full strength.** -/
theorem C17_deque_fixed_no_duplicate (n : Nat) (log : List Ev) (s : St)
    (h : runLog stepF (init n) log = some s) (hd : s.pushed.Nodup) : s.popped.Nodup :=
  nodup_of_inv (stale_false_fixed h).2 hd

/-- **The anchor and the links describe the chain, repaired code, full strength.** -/
theorem C17_deque_fixed_chain (n : Nat) (log : List Ev) (s : St)
    (h : runLog stepF (init n) log = some s) :
    Glob s.anchor s.chain s.nodes s.used ∧ (s.anchor.l = 0 ↔ s.chain = []) ∧
    (s.anchor.r = 0 ↔ s.chain = []) :=
  chain_of_inv (stale_false_fixed h).2

/-- **Linearizability, repaired code, full strength**: every accepted step of every execution is
    a stutter, an insert at end `d`, or the removal of the element at end `d` handed to the popping
    thread (`Lin`); a pop answers "empty" only when the deque is empty (so a pop on a non-empty
    deque, quiescent or not, never fails). -/
theorem C17_deque_fixed_refines_list (n : Nat) (log : List Ev) (s s' : St) (e : Ev)
    (h : runLog stepF (init n) log = some s) (hstep : stepF s e = some s') :
    Lin s s' ∧ (∀ t d a, e = .ld t a → s.pc t = .popLd d → s'.pc t = .retn false 0 → contents s = []) := by
  have hi := (stale_false_fixed h).2
  exact ⟨step_lin hi hstep, pop_false_only_if_empty hi hstep⟩

/-- Event log of the **repaired** code under the directed schedule of the finding
    (`findings/C17-aba-link.case`, node addresses renamed 1, 2, 3; note the link tags that now
    survive recycling, e.g. `.rd 1 ⟨2, 7⟩`). -/
def fixedAbaLog : List Ev :=
  [.inv 0 true true 3, .alloc 0 1, .inv 1 true false 1, .alloc 1 2, .ld 1 ⟨0, 0, 0, 0⟩,
   .cas 1 true, .ret 1 true 0, .inv 1 true false 2, .alloc 1 3, .ld 1 ⟨2, 2, 0, 1⟩, .link 1 3 2,
   .cas 1 true, .rd 1 ⟨2, 2⟩, .chk 1 true, .rd 1 ⟨0, 1⟩, .chk 1 true, .lcas 1 true, .cas 1 true,
   .ret 1 true 0, .inv 1 false true 0, .ld 1 ⟨3, 2, 0, 3⟩, .chk 1 true, .rd 1 ⟨3, 2⟩, .cas 1 true,
   .ld 0 ⟨3, 3, 0, 4⟩, .link 0 1 3, .cas 0 true, .rd 0 ⟨3, 2⟩, .chk 0 true, .rd 0 ⟨2, 2⟩,
   .chk 0 true, .free 1 2, .ret 1 true 1, .inv 1 false false 0, .ld 1 ⟨3, 1, 1, 5⟩, .rd 1 ⟨3, 2⟩,
   .chk 1 true, .rd 1 ⟨2, 2⟩, .chk 1 true, .lcas 1 true, .cas 1 true, .ld 1 ⟨3, 1, 0, 6⟩,
   .chk 1 true, .rd 1 ⟨1, 3⟩, .cas 1 true, .free 1 3, .ret 1 true 2, .inv 1 true true 4,
   .alloc 1 3, .ld 1 ⟨1, 1, 0, 7⟩, .link 1 3 1, .cas 1 true, .rd 1 ⟨1, 3⟩, .chk 1 true,
   .rd 1 ⟨0, 1⟩, .chk 1 true, .lcas 1 true, .cas 1 true, .ret 1 true 0, .inv 1 true true 5,
   .alloc 1 2, .ld 1 ⟨1, 3, 0, 9⟩, .link 1 2 3, .cas 1 true, .rd 1 ⟨3, 4⟩, .chk 1 true,
   .rd 1 ⟨0, 4⟩, .chk 1 true, .lcas 1 true, .cas 1 true, .ret 1 true 0, .inv 1 false false 0,
   .ld 1 ⟨1, 2, 0, 11⟩, .chk 1 true, .rd 1 ⟨3, 2⟩, .cas 1 true, .free 1 1, .ret 1 true 3,
   .inv 1 false false 0, .ld 1 ⟨3, 2, 0, 12⟩, .chk 1 true, .rd 1 ⟨2, 5⟩, .cas 1 true, .free 1 3,
   .ret 1 true 4, .inv 1 true false 6, .alloc 1 3, .ld 1 ⟨2, 2, 0, 13⟩, .link 1 3 2, .cas 1 true,
   .rd 1 ⟨2, 7⟩, .chk 1 true, .rd 1 ⟨3, 4⟩, .lcas 0 false, .ret 0 true 0, .done 0, .cas 1 true,
   .ret 1 true 0, .inv 1 false false 0, .ld 1 ⟨3, 2, 0, 15⟩, .chk 1 true, .rd 1 ⟨2, 7⟩,
   .cas 1 true, .free 1 3, .ret 1 true 6, .inv 1 false false 0, .ld 1 ⟨2, 2, 0, 16⟩, .cas 1 true,
   .free 1 2, .ret 1 true 5, .done 1]

/-- **The directed schedule that failed before passes after the repair.**  The log of the repaired
    code under the schedule of the finding is an accepted log of the repaired model in which thread
    0's late link CAS fails (`.lcas 0 false` — the only difference in control flow to `abaLog`), all
    six values are popped exactly once, the deque ends empty, no link CAS was stale; and the pinned
    tree's model does not accept this log (so logs of the real code tell the two tagging disciplines apart). -/
theorem C17_deque_fixed_aba_schedule :
    (runLog stepF (init 2) fixedAbaLog).map (fun s => (s.pushed, s.popped, s.chain, s.stale, s.pc 0, s.pc 1)) =
      some ([6, 5, 4, 3, 2, 1], [5, 6, 4, 3, 2, 1], [], false, .fin, .fin) ∧
    runLog step (init 2) fixedAbaLog = none ∧ runLog stepF (init 2) abaLog = none := by
  exact ⟨by decide, Option.isSome_eq_false_iff.1 (by decide) |> Option.isNone_iff_eq_none.1,
    Option.isSome_eq_false_iff.1 (by decide) |> Option.isNone_iff_eq_none.1⟩

/-! ## Non-vacuity -/

/-- single-threaded: push_left 1, push_left 2 (with its stabilisation), pop_right returns 1 -/
def seqLog : List Ev :=
  [.inv 0 true false 1, .alloc 0 10, .ld 0 ⟨0, 0, 0, 0⟩, .cas 0 true, .ret 0 true 0,
   .inv 0 true false 2, .alloc 0 20, .ld 0 ⟨10, 10, 0, 1⟩, .link 0 20 10, .cas 0 true,
   .rd 0 ⟨10, 0⟩, .chk 0 true, .rd 0 ⟨0, 0⟩, .chk 0 true, .lcas 0 true, .cas 0 true, .ret 0 true 0,
   .inv 0 false true 0, .ld 0 ⟨20, 10, 0, 3⟩, .chk 0 true, .rd 0 ⟨20, 1⟩, .cas 0 true, .free 0 10,
   .ret 0 true 1]

example : (runLog step (init 1) seqLog).map (fun s => (s.pushed, s.popped, contents s, s.stale)) =
    some ([2, 1], [1], [2], false) := by decide

/-- two threads: thread 1 helps the unfinished push_left of thread 0 and then pops its element -/
example : (runLog step (init 2)
    [.inv 0 true false 1, .alloc 0 10, .ld 0 ⟨0, 0, 0, 0⟩, .cas 0 true, .ret 0 true 0,
     .inv 0 true false 2, .alloc 0 20, .ld 0 ⟨10, 10, 0, 1⟩, .link 0 20 10, .cas 0 true,
     .inv 1 false false 0, .ld 1 ⟨20, 10, 2, 2⟩, .rd 1 ⟨10, 0⟩, .chk 1 true, .rd 1 ⟨0, 0⟩, .chk 1 true,
     .lcas 1 true, .cas 1 true, .ld 1 ⟨20, 10, 0, 3⟩, .chk 1 true, .rd 1 ⟨10, 0⟩, .cas 1 true,
     .free 1 20, .ret 1 true 2,
     .rd 0 ⟨10, 0⟩, .chk 0 false, .ret 0 true 0]).map
      (fun s => (s.pushed, s.popped, contents s, s.stale)) = some ([2, 1], [2], [1], false) := by
  decide

/-! ## Back-end adapters use the ends they claim -/

/-- `lockfree_lifo_backend`: `pop` takes from the end the default `push` (other_end = false)
    inserts at (LIFO); `push(.., other_end = true)` inserts at the opposite end. -/
theorem C17_backend_lifo_ends (steal : Bool) :
    Backend.popEnd .lifo steal = Backend.pushEnd .lifo false ∧
    Backend.pushEnd .lifo true ≠ Backend.popEnd .lifo steal := by
  cases steal <;> decide

/-- `lockfree_abp_fifo_backend`: every push goes to the left end; the owner (`steal = false`)
    pops at the opposite end (FIFO), a thief at the push end. -/
theorem C17_backend_abp_fifo_ends (other : Bool) :
    Backend.popEnd .abpFifo false ≠ Backend.pushEnd .abpFifo other ∧
    Backend.popEnd .abpFifo true = Backend.pushEnd .abpFifo other := by
  cases other <;> decide

/-- `lockfree_abp_lifo_backend`: the owner pops at the end of the default push (LIFO), a thief
    at the opposite end. -/
theorem C17_backend_abp_lifo_ends :
    Backend.popEnd .abpLifo false = Backend.pushEnd .abpLifo false ∧
    Backend.popEnd .abpLifo true ≠ Backend.pushEnd .abpLifo false ∧
    Backend.pushEnd .abpLifo true = Backend.popEnd .abpLifo true := by decide

end PikaVerif.C17
