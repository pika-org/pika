import PikaVerif.Props.C19
import PikaVerif.Lemmas.ElasticFin2
import PikaVerif.Lemmas.ElasticCount
import PikaVerif.Lemmas.ElasticStart
/-!
# C19t — termination of suspend / resume

`Props/C19.lean` states "the calls return" as solo completion.  Here: TERMINATION for the model `PikaVerif.Elastic`: a natural-number measure, a bound on the number of
non-stutter events of every accepted log, the existence and the final states of maximal runs.

**Event classes** (`Lemmas/ElasticT.lean`; `C19t_event_classes`: every event is in exactly one)
* *sources* (`0 < weight e`) — what the controller and the submitters put in: a placement
  (`inc`, `incLow`: 1), a successful `select_active_pu` (the pu mutex taken: 1), the pu mutex of
  `suspend_processing_unit_internal` (`slock`: 1), a successful request `running → pre_sleep`
  (`cas` / `ucas` with `before = running`: 6), a refusal (1);
* *moves* — the runtime's answers: the final test that commits the worker to sleep
  (`chk pre_sleep true`), `sleep`, `wait`, `woke`, `wake`, `dec`, `decLow`, `sunl`;
* *weak* events `unl`, `notify`, `ret`: a move when effective (`eff`: a model hold is released /
  the first notify of a waiting worker / the return of a refused call), otherwise an EXACT stutter;
* *neutral* events: `start`, `top`, `qlen`, a `chk` that does not commit, a failed `sel`, a failed
  CAS, `sdone`, `rload`.

**Stutter (stated precisely).**  The model accepts events that can repeat for ever:
* the idle round of a worker's scheduling loop `top ; qlen ; chk` (nothing found, or not allowed to
  sleep): it changes nothing but the iteration-local `running` flag and the ghosts `emptySeen`, `late`
  (`C19t_round_is_neutral`), and for a running worker it leads back to the very same state
  (`C19t_idle_round_is_stutter`);
* the polls of a waiting caller: `rload` (resume loop, state still `sleeping`), a `notify` that is
  lost or repeated, a failed selection, `sdone`, a queue length read by a foreign thread, any
  `ret` of a call that was not refused: accepted without changing the state at all (`C19t_polls_are_stutter`);
  the `yield_while(state == pre_sleep)` polls of a suspender are not events at all (the harness'
  sink drops them).
Hence the naive statement "a measure decreases with every accepted event that is not a call or a
placement" is false (`C19t_requested_measure_impossible`).  What holds is `C19t_measure`: `mu` never
increases except by the weight of a source, and every effective event costs 1.

**Bound.**  `C19t_bounded`: in every accepted log the number of effective events is at most the
total weight of its sources `= 6 · #requests + #placements + #selections + #slock + #refusals`
(`C19t_weight_formula`, by kind of source `C19t_weight_by_kind`).  Per call: a PU suspend ≤ 7 (`slock` + request), a pool suspend ≤ 6 per worker,
a placement ≤ 2 (selection + increment), a refused call 1, a resume call 0 (its effective notify is
paid by the request that sent the worker to sleep): `B(k, m, workers) = 7 k_pu + 6 · workers · k_pool + 2 m + r`
(`C19t_bound_calls`).

**Maximal runs.**  `Maximal N s`: nothing is *owed* by a worker / actor `< N` (`Lemmas/ElasticFin.lean`:
release of a model hold, the worker's take of queued work in its loop, the commit round, the steps of
`scheduler_base::suspend`, the wake-up after a notify, the CAS back, the low-priority conversion by
the running last worker, the return of a refused call).  Every reachable state extends by owed steps
only to a maximal state within `3 · mu` events (`C19t_maximal_exists`); `C19t_final_state`
characterises maximal states, `C19t_calls_returned` is "the calls themselves return" for maximal
runs — under the hypothesis that the shared low-priority queue is empty, which is necessary:
`C19t_low_priority_livelock` (finding `lowprio-last-worker` of notes/C19.md as a `decide`-checked
maximal state in which a suspender waits for ever).

**Stealing and pending resume calls.**  `MaximalR N R s` (`Lemmas/ElasticFin2.lean`) adds two owed
steps: with `enable_stealing` a worker that is `running` in its loop takes work queued on ANY worker,
and a pending `resume_processing_unit` call on a worker in `R` notifies as long as that worker is
inside `wait` un-notified.  `C19t_maximalR_exists` (same bound), `C19t_work_executed_by_others`
(with stealing and one running worker every queue is empty in a maximal state: work queued on a
suspended worker is executed by the other workers), `C19t_resume_returned` (a worker with a pending
resume call is not `sleeping` in a maximal state: the resume loop's exit test succeeds, the worker is
back in its loop and — low-priority queue empty — `running` with its own queue taken).

**Counters.**  `C19t_counters`: placements = takes + queued, per worker and for the low-priority
queue, after every accepted log; `C19t_all_taken_or_awaiting_resume`: in the final state of a
maximal run every placement on a worker in its loop was taken exactly once, what is left sits on a
sleeping worker and was placed unguarded.  `C19t_resumed_takes_work`: after its wake-up a worker
takes queued work within 4 of its own steps.

**Second false statement.**  "The state word of every worker agrees with the last call aimed at it"
is false for the code as it is: `wait(l)` without predicate — a spurious wake-up un-suspends the
worker (`C19t_spurious_wakeup_unsuspends`, `decide`-checked).
-/
namespace PikaVerif.C19t
open PikaVerif PikaVerif.Elastic PikaVerif.C19

/-- the weak class: move or exact stutter, depending on the state -/
def weak : Ev → Bool
  | .unl _ _ => true
  | .notify _ _ => true
  | .ret _ => true
  | _ => false

/-- Every event belongs to exactly one of the four classes. -/
theorem C19t_event_classes (e : Ev) :
    (0 < weight e ∧ moves e = false ∧ weak e = false ∧ neutral e = false) ∨
    (weight e = 0 ∧ moves e = true ∧ weak e = false ∧ neutral e = false) ∨
    (weight e = 0 ∧ moves e = false ∧ weak e = true ∧ neutral e = false) ∨
    (weight e = 0 ∧ moves e = false ∧ weak e = false ∧ neutral e = true) := by
  cases e with
  | chk w v c => by_cases h : v = rsPreSleep <;> cases c <;> simp [weight, moves, weak, neutral, h]
  | sel a w v mx owns ok => cases ok <;> simp [weight, moves, weak, neutral]
  | cas a w b af => by_cases h : b = rsRunning <;> simp [weight, moves, weak, neutral, h]
  | ucas a w b af => by_cases h : b = rsRunning <;> simp [weight, moves, weak, neutral, h]
  | _ => simp [weight, moves, weak, neutral]

/-- **The measure.**  In every reachable state, for every accepted event about a worker / actor
    `< N`: the measure grows by at most the weight of the event (0 unless it is a source); a move
    strictly decreases it; a weak event strictly decreases it or leaves the state exactly as it is;
    a neutral event does not increase it. -/
theorem C19t_measure (cfg : Cfg) (N : Nat) (s s' : St) (e : Ev) (hr : Reachable cfg s)
    (hN : inR N e = true) (h : step s e = some s') :
    mu N s' ≤ mu N s + weight e ∧
    (moves e = true → mu N s' < mu N s) ∧
    (weak e = true → mu N s' < mu N s ∨ s' = s) ∧
    (neutral e = true → mu N s' ≤ mu N s) := by
  have hst := mu_step N (inv_of_reachable hr) hN h
  refine ⟨by omega, ?_, ?_, ?_⟩
  · intro hm
    have h1 := moves_le_eff s e
    have hw : weight e = 0 := by
      rcases C19t_event_classes e with hc | hc | hc | hc <;> simp_all
    have h2 : b2n (moves e) = 1 := by simp [hm, b2n]
    omega
  · intro hwk
    have hw : weight e = 0 := by
      rcases C19t_event_classes e with hc | hc | hc | hc <;> simp_all
    cases he : eff s e with
    | true => left; rw [he] at hst; simp [b2n] at hst; omega
    | false =>
      right
      apply ineff_stutter h he
      cases e <;> simp [weak] at hwk
      · exact Or.inl ⟨_, _, rfl⟩
      · exact Or.inr (Or.inl ⟨_, _, rfl⟩)
      · exact Or.inr (Or.inr ⟨_, rfl⟩)
  · intro hn
    have hw : weight e = 0 := by
      rcases C19t_event_classes e with hc | hc | hc | hc <;> simp_all
    omega

/-- **Polls are exact stutters**: a failed selection, `sdone`, `rload`, a queue length read by a
    thread that is not the worker, a notify outside `wait` (lost) or repeated, the release of a real
    lock that was no model hold, the return of a call that was not refused — all accepted, state
    unchanged. -/
theorem C19t_polls_are_stutter (s s' : St) :
    (∀ a w v mx owns, step s (.sel a w v mx owns false) = some s' → s' = s) ∧
    (∀ a w v, step s (.sdone a w v) = some s' → s' = s) ∧
    (∀ a w v, step s (.rload a w v) = some s' → s' = s) ∧
    (∀ a w len, (s.wk w).actor ≠ some a → step s (.qlen a w len) = some s' → s' = s) ∧
    (∀ a w, ((s.wk w).pc ≠ .waiting ∨ (s.wk w).notified = true) → step s (.notify a w) = some s' → s' = s) ∧
    (∀ a w, (s.wk w).lk = none → step s (.unl a w) = some s' → s' = s) ∧
    (∀ a, s.apc a = .idle → step s (.ret a) = some s' → s' = s) := by
  refine ⟨fun a w v mx owns h => ?_, fun a w v h => ?_, fun a w v h => ?_, fun a w len hne h => ?_, ?_, ?_, ?_⟩
  -- the polls proper: the relation lists them as changing nothing
  iterate 4
    cases Step.of_step h with
    | wk hw => cases hw <;> first | contradiction | simp_all
    | _ => rfl
  · intro a w hc h
    apply ineff_stutter h _ (Or.inr (Or.inl ⟨a, w, rfl⟩))
    cases hc with
    | inl hc => simp [eff, hc]
    | inr hc => simp [eff, hc]
  · intro a w hc h
    apply ineff_stutter h _ (Or.inl ⟨a, w, rfl⟩)
    simp [eff, hc]
  · intro a hc h
    apply ineff_stutter h _ (Or.inr (Or.inr ⟨a, rfl⟩))
    simp [eff, hc]

/-- the fields of a worker that the loop-round events cannot change -/
def core (x : Wk) : Nat × Option Nat × Option (Nat × Use) × WPc × Nat × Bool × List Nat × Bool :=
  (x.st, x.actor, x.lk, x.pc, x.q, x.dirty, x.waiters, x.notified)

/-- **The loop round is neutral**: `top`, `qlen` and a `chk` that does not commit change nothing
    but the iteration-local flag `running` and the ghosts `emptySeen`, `late` of that one worker. -/
theorem C19t_round_is_neutral (s s' : St) (e : Ev) (h : step s e = some s')
    (he : (∃ w v, e = .top w v) ∨ (∃ a w len, e = .qlen a w len) ∨
          (∃ w v c, e = .chk w v c ∧ ¬ (v = rsPreSleep ∧ c = true))) :
    (∀ u, core (s'.wk u) = core (s.wk u)) ∧ s'.lowq = s.lowq ∧ s'.apc = s.apc ∧ s'.cfg = s.cfg := by
  cases Step.of_step h with
  | wk hw =>
    refine ⟨forall_upd (P := fun u x => core x = core (s.wk u)) (fun _ => rfl) ?_, rfl, rfl, rfl⟩
    cases hw <;> first | rfl | grind
  | qlenOther => exact ⟨fun _ => rfl, rfl, rfl, rfl⟩
  | _ => simp at he

/-- **The idle round of a running worker is a stutter**: `top ; qlen ; chk` of a worker that is
    `running` (so it may not exit) leads back to the very same state. -/
theorem C19t_idle_round_is_stutter (s : St) (w a len : Nat) (hst : (s.wk w).st = rsRunning)
    (hpc : (s.wk w).pc = .loop) (ha : (s.wk w).actor = some a) (hf : (s.wk w).flagRun = true)
    (he : (s.wk w).emptySeen = false)
    (hlen : len = (s.wk w).q + (if w = s.cfg.last then s.lowq else 0)) :
    runLog step s [.top w rsRunning, .qlen a w len, .chk w rsRunning false] = some s := by
  have hs : ∀ x', x' = s.wk w → ({ s with wk := upd s.wk w x' } : St) = s := by
    intro x' h; subst h; rw [upd_self]
  have hx1 : ({ (s.wk w) with flagRun := decide (rsRunning < rsPreSleep), emptySeen := false } : Wk) = s.wk w := by
    cases hw : s.wk w
    simp [hw] at hf he
    simp [hf, he]
    decide
  have hx2 : ({ (s.wk w) with emptySeen := false } : Wk) = s.wk w := by
    cases hw : s.wk w
    simp [hw] at he
    simp [he]
  have h1 : step s (.top w rsRunning) = some s := by
    have : step s (.top w rsRunning) = some { s with wk := upd s.wk w { (s.wk w) with flagRun := decide (rsRunning < rsPreSleep), emptySeen := false } } := by
      simp [step, hst, hpc]
    rw [this, hs _ hx1]
  have h2 : step s (.qlen a w len) = some s := by
    have : step s (.qlen a w len) = some { s with wk := upd s.wk w { (s.wk w) with emptySeen := false } } := by
      simp [step, ha, hpc, hf, ← hlen]
    rw [this, hs _ hx2]
  have h3 : step s (.chk w rsRunning false) = some s := by
    have : step s (.chk w rsRunning false) = some { s with wk := upd s.wk w { (s.wk w) with emptySeen := false } } := by
      simp [step, hst, hpc]
    rw [this, hs _ hx2]
  simp [runLog, h1, h2, h3]

/-- the stutter `rload` is accepted in the initial state -/
theorem C19t_stutter_witness : (step (init {}) (.rload 0 0 0)).isSome = true := by decide

/-- **The naive statement is false**: no natural-number function on states decreases
    with every accepted event that is not a source — not even on reachable states. -/
theorem C19t_requested_measure_impossible :
    ¬ ∃ m : St → Nat, ∀ s e s', Reachable {} s → step s e = some s' → weight e = 0 → m s' < m s := by
  intro ⟨m, hm⟩
  have hs : step (init {}) (.rload 0 0 0) = some (init {}) := by simp [step, init]
  have := hm (init {}) (.rload 0 0 0) (init {}) ⟨[], rfl⟩ hs rfl
  omega

/-- **Bounded runs (termination modulo stutter).**  In every accepted log, the number of effective
    events plus the measure of the final state (over any range `N` that covers the indices of the
    log) is at most the total weight of the sources of the log. -/
theorem C19t_bounded_mu (cfg : Cfg) (N : Nat) (log : List Ev) (s : St)
    (h : runLog step (init cfg) log = some s) (hN : ∀ e, e ∈ log → inR N e = true) :
    nEff (init cfg) log + mu N s ≤ wsum log := by
  have := mu_runLog N log (init cfg) s (inv_init cfg) hN h
  rw [mu_init] at this
  omega

/-- … for every accepted log, without side condition: at most `wsum log` effective events, in
    particular at most that many moves. -/
theorem C19t_bounded (cfg : Cfg) (log : List Ev) (s : St) (h : runLog step (init cfg) log = some s) :
    nEff (init cfg) log ≤ wsum log ∧ nMoves log ≤ wsum log := by
  have h1 := C19t_bounded_mu cfg (keyBound log) log s h (inR_keyBound log)
  have h2 := nMoves_le_nEff log _ _ h
  omega

/-- number of successful suspension requests `running → pre_sleep` in a log -/
def nReq : List Ev → Nat
  | [] => 0
  | e :: es => (if weight e = 6 then 1 else 0) + nReq es

/-- number of unit sources: placements, successful selections, `slock`, refusals -/
def nUnit : List Ev → Nat
  | [] => 0
  | e :: es => (if weight e = 1 then 1 else 0) + nUnit es

theorem weight_cases (e : Ev) : weight e = 0 ∨ weight e = 1 ∨ weight e = 6 := by
  cases e <;> simp only [weight] <;> first | (split <;> simp) | simp

/-- **The bound in terms of calls and placements**: 6 per successful request, 1 per placement /
    selection / `slock` / refusal. -/
theorem C19t_weight_formula (log : List Ev) : wsum log = 6 * nReq log + nUnit log := by
  induction log with
  | nil => rfl
  | cons e es ih =>
    simp only [wsum, nReq, nUnit, ih]
    rcases weight_cases e with h | h | h <;> simp [h] <;> omega

/-- number of events of a log satisfying `p` -/
def cnt (p : Ev → Bool) : List Ev → Nat
  | [] => 0
  | e :: es => b2n (p e) + cnt p es

/-- a successful suspension request: the CAS `running → pre_sleep` of `suspend_processing_unit_internal`
    (under the pu mutex) or of the pool's `suspend_internal` (without) -/
def isReq : Ev → Bool
  | .cas _ _ b _ => decide (b = rsRunning)
  | .ucas _ _ b _ => decide (b = rsRunning)
  | _ => false
/-- a placement: a queue counter of a worker, or of the shared low-priority queue, `+1` -/
def isPlace : Ev → Bool
  | .inc _ _ => true
  | .incLow _ => true
  | _ => false
def isSelOk : Ev → Bool
  | .sel _ _ _ _ _ ok => ok
  | _ => false
def isSlock : Ev → Bool
  | .slock _ _ => true
  | _ => false
def isRefuse : Ev → Bool
  | .refuse _ => true
  | _ => false

/-- the weight of a log, by kind of source -/
theorem C19t_weight_by_kind (log : List Ev) :
    wsum log = 6 * cnt isReq log + cnt isPlace log + cnt isSelOk log + cnt isSlock log + cnt isRefuse log := by
  induction log with
  | nil => rfl
  | cons e es ih =>
    simp only [wsum, cnt, ih]
    cases e with
    | sel a w v mx owns ok => cases ok <;> simp [weight, isReq, isPlace, isSelOk, isSlock, isRefuse, b2n] <;> omega
    | cas a w b af => by_cases h : b = rsRunning <;> simp [weight, isReq, isPlace, isSelOk, isSlock, isRefuse, b2n, h] <;> omega
    | ucas a w b af => by_cases h : b = rsRunning <;> simp [weight, isReq, isPlace, isSelOk, isSlock, isRefuse, b2n, h] <;> omega
    | _ => simp [weight, isReq, isPlace, isSelOk, isSlock, isRefuse, b2n] <;> omega

/-- **`B(k, m, workers)`.**  An accepted log of a pool with `W` workers in which the controller made
    `kpu` PU-suspend calls (one `slock` and at most one successful request each), `kpool` pool-suspend
    calls (at most one successful request per worker each), any number of resume calls, `r` refused
    calls, and the submitters `m` placements (at most one successful selection each) has at most
    `7 kpu + 6 W kpool + 2 m + r` effective events. -/
theorem C19t_bound_calls (cfg : Cfg) (log : List Ev) (s : St) (h : runLog step (init cfg) log = some s)
    (W kpu kpool m r : Nat) (h1 : cnt isSlock log ≤ kpu) (h2 : cnt isReq log ≤ kpu + W * kpool)
    (h3 : cnt isPlace log ≤ m) (h4 : cnt isSelOk log ≤ m) (h5 : cnt isRefuse log ≤ r) :
    nEff (init cfg) log ≤ 7 * kpu + 6 * (W * kpool) + 2 * m + r := by
  have hb := (C19t_bounded cfg log s h).1
  have hw := C19t_weight_by_kind log
  omega

/-- **Maximal runs exist and are short.**  Every reachable state extends — by owed steps only: no
    new call, placement, request or wake-up without notify (total weight 0) — to a maximal state
    within `3 * mu N s` events, hence within three times the weight of the log that led to `s`. -/
theorem C19t_maximal_exists (cfg : Cfg) (N : Nat) (log : List Ev) (s : St)
    (h : runLog step (init cfg) log = some s) (hN : ∀ e, e ∈ log → inR N e = true) :
    ∃ ext s', runLog step s ext = some s' ∧ Reachable cfg s' ∧ Maximal N s' ∧
      ext.length ≤ 3 * mu N s ∧ ext.length ≤ 3 * wsum log ∧ wsum ext = 0 :=
  exists_max_of_log N (owed_of_not_maximal N) h hN

/-- **Final states of maximal runs.**  In a reachable maximal state, for every worker `w < N`:
    nobody holds its pu mutex; the worker thread is in its scheduling loop, or inside `wait` with no
    notify pending and its state word `sleeping`; a started worker in its loop has an empty queue
    (everything placed there was taken); no suspension request is pending (`st ≠ pre_sleep`) unless
    `w` is the last worker and the shared low-priority queue is non-empty; the running last worker
    has emptied that queue.  Every actor `< N` is outside a refused call. -/
theorem C19t_final_state (cfg : Cfg) (N : Nat) (s : St) (hr : Reachable cfg s) (hm : Maximal N s) :
    (∀ w, w < N → WFinal s w) ∧ (∀ a, a < N → s.apc a = .idle) := by
  refine ⟨fun w hw => final_of_maximal N s (inv_of_reachable hr) hm w hw, ?_⟩
  intro a ha
  have := (hm a ha).2.2
  simp only [owedA] at this
  split at this
  · simp at this
  · assumption

/-- **The calls themselves return (maximal runs).**  In a reachable maximal state in which the
    shared low-priority queue is empty, for every started worker `w < N`: no suspender is waiting
    any more (`waiters = []`: the exit test of every `suspend_processing_unit` call succeeds, `sdone`
    is accepted for every caller); the state word is not `pre_sleep`, and it is `sleeping` exactly
    if the thread is inside `wait` (the state word is consistent with where the thread is); if it is
    not `sleeping` the resume loop's test reads a state `≠ sleeping`, so every
    `resume_processing_unit` call returns; work still queued on `w` means `w` is asleep, and all of it
    was placed unguarded after `w`'s final emptiness check (or a pool suspend's unlocked CAS was
    involved) — it is executed after the resume (`C19t_resumed_takes_work`). -/
theorem C19t_calls_returned (cfg : Cfg) (N : Nat) (s : St) (hr : Reachable cfg s) (hm : Maximal N s)
    (hlow : s.lowq = 0) (w : Nat) (hw : w < N) (hs : (s.wk w).actor ≠ none) :
    (s.wk w).waiters = [] ∧ (∀ b v, (step s (.sdone b w v)).isSome = true) ∧
    (s.wk w).st ≠ rsPreSleep ∧
    ((s.wk w).st = rsSleeping ↔ (s.wk w).pc = .waiting) ∧
    ((s.wk w).st ≠ rsSleeping → (s.wk w).pc = .loop ∧ (s.wk w).q = 0 ∧
        ∀ b, step s (.rload b w (s.wk w).st) = some s) ∧
    (0 < (s.wk w).q → (s.wk w).st = rsSleeping ∧ ((s.wk w).dirty = true ∨ (s.wk w).q ≤ (s.wk w).late)) := by
  have hi := (inv_of_reachable hr) w
  have hf := final_of_maximal N s (inv_of_reachable hr) hm w hw
  have hnp : (s.wk w).st ≠ rsPreSleep := by
    intro h7
    have := (hf.noPending hs h7).2
    omega
  have hwt : (s.wk w).waiters = [] := by
    apply Classical.byContradiction
    intro hne
    exact hnp (hi.waitPre hne)
  have hiff : (s.wk w).st = rsSleeping ↔ (s.wk w).pc = .waiting := by
    constructor
    · intro h8
      cases hf.pcFin with
      | inl hl => exact absurd hl (hi.stPc h8).1
      | inr hr' => exact hr'.1
    · intro hp
      exact hi.asleep hp
  have hloop : (s.wk w).st ≠ rsSleeping → (s.wk w).pc = .loop := by
    intro h8
    cases hf.pcFin with
    | inl hl => exact hl
    | inr hr' => exact absurd hr'.2.2 h8
  refine ⟨hwt, ?_, hnp, hiff, ?_, ?_⟩
  · intro b v
    simp [step, hwt]
  · intro h8
    refine ⟨hloop h8, hf.drained (hloop h8) hs, ?_⟩
    intro b
    simp [step]
  · intro hq
    have h8 : (s.wk w).st = rsSleeping := by
      apply Classical.byContradiction
      intro h8
      have := hf.drained (hloop h8) hs
      omega
    exact ⟨h8, hi.late_or_dirty (hi.stPc h8).1⟩

/-- **Maximal runs with stealing and pending resume calls exist and are short.** -/
theorem C19t_maximalR_exists (cfg : Cfg) (N : Nat) (R : Nat → Bool) (log : List Ev) (s : St)
    (h : runLog step (init cfg) log = some s) (hN : ∀ e, e ∈ log → inR N e = true) :
    ∃ ext s', runLog step s ext = some s' ∧ Reachable cfg s' ∧ MaximalR N R s' ∧
      ext.length ≤ 3 * mu N s ∧ ext.length ≤ 3 * wsum log ∧ wsum ext = 0 :=
  exists_max_of_log N (owed_of_not_maximalR N R) h hN

/-- `MaximalR` is stronger than `Maximal`: `C19t_final_state` and `C19t_calls_returned` apply. -/
theorem C19t_maximalR_maximal (N : Nat) (R : Nat → Bool) (s : St) (h : MaximalR N R s) : Maximal N s := h.1

/-- **Work queued on a suspended worker is executed by the other workers.**  With
    `enable_stealing`, in a reachable maximal state in which at least one started worker `v < N` is
    `running` in its scheduling loop, the queues of ALL workers `< N` are empty — also those of
    sleeping workers (the escalated / unguarded placements that `C19_no_strand` allows there). -/
theorem C19t_work_executed_by_others (cfg : Cfg) (N : Nat) (R : Nat → Bool) (s : St) (hr : Reachable cfg s)
    (hm : MaximalR N R s) (hs : cfg.stealing = true) (v b : Nat) (hv : v < N)
    (ha : (s.wk v).actor = some b) (hpc : (s.wk v).pc = .loop) (hst : (s.wk v).st = rsRunning) :
    ∀ w, w < N → (s.wk w).q = 0 := by
  intro w hw
  exact stolen_of_maximalR N R s hm (by rw [cfg_of_reachable hr]; exact hs) v hv b ha hpc hst w hw

/-- **`resume_processing_unit` has returned (maximal runs).**  In a reachable maximal state a
    worker `w < N` with a pending resume call is not `sleeping` and its thread is back in the
    scheduling loop: the resume loop's test `state == sleeping` fails on the state it reads, the call
    returns.  If moreover the worker was started and the shared low-priority queue is empty, no
    suspension request is pending on it either and everything queued on it has been taken. -/
theorem C19t_resume_returned (cfg : Cfg) (N : Nat) (R : Nat → Bool) (s : St) (hr : Reachable cfg s)
    (hm : MaximalR N R s) (w : Nat) (hw : w < N) (hR : R w = true) :
    (s.wk w).st ≠ rsSleeping ∧ (s.wk w).pc = .loop ∧
    (∀ b, step s (.rload b w (s.wk w).st) = some s) ∧
    ((s.wk w).actor ≠ none → s.lowq = 0 → (s.wk w).st ≠ rsPreSleep ∧ (s.wk w).q = 0 ∧ (s.wk w).waiters = []) := by
  obtain ⟨h1, h2⟩ := resumed_of_maximalR N R s (inv_of_reachable hr) hm w hw hR
  refine ⟨h1, h2, fun b => by simp [step], ?_⟩
  intro hs hlow
  obtain ⟨c1, _, c3, _, c5, _⟩ := C19t_calls_returned cfg N s hr hm.1 hlow w hw hs
  exact ⟨c3, (c5 h1).2.1, c1⟩

/-- **Neither dropped nor duplicated (counters).**  After every accepted log, for every worker:
    placements on its queues = takes from its queues + what is still queued; the same for the shared
    low-priority queue.  (Exactly-once of the task *bodies* is C01's token discipline, `C19_no_dup`.) -/
theorem C19t_counters (cfg : Cfg) (log : List Ev) (s : St) (h : runLog step (init cfg) log = some s) (w : Nat) :
    cntP (isIncOn w) log = cntP (isDecOn w) log + (s.wk w).q ∧
    cntP isIncLow log = cntP isDecLow log + s.lowq := by
  have := q_runLog log w (init cfg) s h
  have h0 : ((init cfg).wk w).q = 0 := rfl
  have h1 : (init cfg).lowq = 0 := rfl
  omega

/-- **Every placed task was taken exactly once, or waits on a sleeping worker for the resume.**  In
    the final state of a maximal run, for a started worker `w < N`: if its thread is in its loop,
    the number of takes from its queues equals the number of placements; otherwise (`w` is asleep inside
    `wait`) the difference is what is still queued, and all of that was placed unguarded after the
    worker's final emptiness check or a pool suspend's unlocked CAS was involved. -/
theorem C19t_all_taken_or_awaiting_resume (cfg : Cfg) (N : Nat) (log : List Ev) (s : St)
    (h : runLog step (init cfg) log = some s) (hm : Maximal N s) (w : Nat) (hw : w < N)
    (hs : (s.wk w).actor ≠ none) :
    ((s.wk w).pc = .loop → cntP (isDecOn w) log = cntP (isIncOn w) log) ∧
    ((s.wk w).pc ≠ .loop → (s.wk w).pc = .waiting ∧ (s.wk w).st = rsSleeping ∧
        cntP (isIncOn w) log = cntP (isDecOn w) log + (s.wk w).q ∧
        ((s.wk w).dirty = true ∨ (s.wk w).q ≤ (s.wk w).late)) := by
  have hi := (inv_of_accepted h) w
  have hf := final_of_maximal N s (inv_of_accepted h) hm w hw
  have hc := (C19t_counters cfg log s h w).1
  refine ⟨?_, ?_⟩
  · intro hl
    have := hf.drained hl hs
    omega
  · intro hnl
    cases hf.pcFin with
    | inl hl => exact absurd hl hnl
    | inr hr =>
      exact ⟨hr.1, hr.2.2, hc, hi.late_or_dirty hnl⟩

/-- **A worker whose thread has not started is untouched** (the hypothesis `actor ≠ none` of
    `C19t_calls_returned` excludes only such workers): its state word is still `initialized`, it is
    not on the sleep path, nobody waits for it — a suspend call aimed at it returns at once, a resume
    call reads a state `≠ sleeping`. -/
theorem C19t_unstarted_untouched (cfg : Cfg) (s : St) (hr : Reachable cfg s) (w : Nat)
    (hs : (s.wk w).actor = none) :
    (s.wk w).st = rsInit ∧ (s.wk w).pc = .loop ∧ (s.wk w).waiters = [] ∧
    (∀ b v, (step s (.sdone b w v)).isSome = true) ∧ (∀ b, step s (.rload b w rsInit) = some s) := by
  obtain ⟨log, hl⟩ := hr
  obtain ⟨h1, h2, h3⟩ := invU_of_accepted hl w hs
  refine ⟨h1, h2, h3, ?_, ?_⟩
  · intro b v; simp [step, h3]
  · intro b; simp [step, h1]

/-- a completed PU suspend followed by a wake-up WITHOUT any notify -/
def spuriousLog : List Ev :=
  [.start 1 0 0, .slock 9 0, .cas 9 0 rsRunning rsPreSleep, .sunl 9 0, .top 0 rsPreSleep, .qlen 1 0 0,
   .chk 0 rsPreSleep true, .sleep 0, .sdone 9 0 rsSleeping, .wait 0, .woke 0, .wake 0 rsSleeping rsRunning]

/-- **"In the final state every worker's state word agrees with the last call aimed at it" is false**
    for the code as it is: `scheduler_base::suspend` calls `wait(l)` without a predicate, so a spurious
    wake-up of the condition variable (allowed by the standard, accepted by the model as `woke`
    without a preceding `notify`) makes the worker CAS itself back to `running` although no resume
    call was ever issued.  The history is accepted, contains no `notify`, ends in a maximal state, and
    the worker that was suspended last is `running`.  What does hold: the state word agrees with where
    the worker thread IS (`C19t_calls_returned`: `sleeping` iff inside `wait`), no request is left
    pending, and a worker with a pending resume call is not asleep (`C19t_resume_returned`). -/
theorem C19t_spurious_wakeup_unsuspends :
    (runLog step (init cfg2) spuriousLog).isSome = true ∧
    spuriousLog.all (fun e => match e with | .notify _ _ => false | _ => true) = true ∧
    Maximal 10 ((runLog step (init cfg2) spuriousLog).getD (init cfg2)) ∧
    (((runLog step (init cfg2) spuriousLog).getD (init cfg2)).wk 0).st = rsRunning := by
  refine ⟨by decide, by decide, by decide, by decide⟩

/-- the finding `lowprio-last-worker` as a history: worker 1 is the last worker; a low-priority task
    is staged; actor 9 asks worker 1 to sleep -/
def lowLog : List Ev :=
  [.start 1 0 0, .start 2 1 0, .incLow 7, .slock 9 1, .cas 9 1 rsRunning rsPreSleep, .sunl 9 1]

def lowSt : St := (runLog step (init cfg2) lowLog).getD (init cfg2)

/-- **"Every issued suspend call has returned in every maximal run" is false** for the code as it
    is: the history `lowLog` is accepted and ends in a MAXIMAL state (the last worker in `pre_sleep`
    can neither convert the staged low-priority task — `get_next_thread` with `!running` returns
    before looking at it — nor see its queue length 0, so it never commits to sleep) in which the
    suspender 9 is still waiting and its exit test `sdone` is rejected.  All `decide`-checked. -/
theorem C19t_low_priority_livelock :
    (runLog step (init cfg2) lowLog).isSome = true ∧ Maximal 10 lowSt ∧
    (lowSt.wk 1).st = rsPreSleep ∧ (lowSt.wk 1).waiters = [9] ∧ lowSt.lowq = 1 ∧
    (step lowSt (.sdone 9 1 rsPreSleep)).isNone = true ∧
    (step lowSt (.chk 1 rsPreSleep true)).isNone = true := by
  refine ⟨by decide, by decide, by decide, by decide, by decide, by decide, by decide⟩

/-- **A resumed worker takes its queued work within 4 of its own steps.**  From every reachable
    state in which worker `w` has been notified inside `wait` (or has already woken up) and has work
    queued, at most four steps of the worker thread alone (`woke`, the CAS `sleeping → running`, the
    loop-top sample, the take) bring it back to `running` in its loop with one task taken. -/
theorem C19t_resumed_takes_work (cfg : Cfg) (s : St) (hr : Reachable cfg s) (w a : Nat)
    (ha : (s.wk w).actor = some a) (hq : 0 < (s.wk w).q)
    (hpc : ((s.wk w).pc = .waiting ∧ (s.wk w).notified = true) ∨ (s.wk w).pc = .woken) :
    ∃ evs s', evs.length ≤ 4 ∧ runLog step s evs = some s' ∧
      (∀ e, e ∈ evs → evKey e = w ∧ weight e = 0) ∧
      (s'.wk w).st = rsRunning ∧ (s'.wk w).pc = .loop ∧ (s'.wk w).q + 1 = (s.wk w).q := by
  have hi := (inv_of_reachable hr) w
  cases hpc with
  | inl h =>
    have hst := hi.asleep h.1
    refine ⟨[.woke w, .wake w rsSleeping rsRunning, .top w rsRunning, .dec a w], ?_⟩
    simp [runLog, step, h.1, hst, upd, ha, hq, evKey, weight]
    omega
  | inr h =>
    have hst := hi.asleep h
    refine ⟨[.wake w rsSleeping rsRunning, .top w rsRunning, .dec a w], ?_⟩
    simp [runLog, step, h, hst, upd, ha, hq, evKey, weight]
    omega

/-! ## Non-vacuity -/

/-- the example run of `Props/C19.lean` (placement, PU suspend, drain, sleep, resume through the
    lost-notify window): weight 6 + 2·2 + 1 = 11, 11 effective events, the final state has measure 0
    — the bound of `C19t_bounded_mu` is attained — and is maximal -/
example : wsum C19.exampleLog = 11 ∧ nEff (init cfg2) C19.exampleLog = 11 ∧ nMoves C19.exampleLog = 8 := by decide

example : (runLog step (init cfg2) C19.exampleLog).map (mu 10) = some 0 := by decide

/-- its sources by kind: 1 request, 2 placements, 2 successful selections, 1 `slock`, no refusal:
    `kpu = 1, kpool = 0, m = 2, r = 0` gives `B = 11` in `C19t_bound_calls` — attained -/
example : (cnt isReq C19.exampleLog, cnt isPlace C19.exampleLog, cnt isSelOk C19.exampleLog,
    cnt isSlock C19.exampleLog, cnt isRefuse C19.exampleLog) = (1, 2, 2, 1, 0) := by decide

def exSt : St := (runLog step (init cfg2) C19.exampleLog).getD (init cfg2)

example : Maximal 10 exSt ∧ (exSt.wk 0).st = rsRunning ∧ (exSt.wk 0).q = 0 ∧ (exSt.wk 1).q = 0 := by decide

/-- a maximal state with a sleeping worker: after the suspend call of `exampleLog` (first 19 events)
    worker 0 owes `wait` and worker 1 a take; two owed steps later the state is maximal, worker 0 asleep inside `wait`,
    no suspender waiting (hypotheses and conclusion of `C19t_calls_returned` are inhabited) -/
def sleepSt : St := (runLog step (init cfg2) (C19.exampleLog.take 19 ++ [.wait 0, .dec 2 1])).getD (init cfg2)

example : (runLog step (init cfg2) (C19.exampleLog.take 19 ++ [.wait 0, .dec 2 1])).isSome = true ∧ Maximal 10 sleepSt ∧
    (sleepSt.wk 0).st = rsSleeping ∧ (sleepSt.wk 0).pc = .waiting ∧ (sleepSt.wk 0).waiters = [] ∧
    sleepSt.lowq = 0 ∧ (sleepSt.wk 0).actor ≠ none := by decide

/-- … and before that step the state is not maximal (`wait` is owed) -/
example : ¬ Maximal 10 ((runLog step (init cfg2) (C19.exampleLog.take 19)).getD (init cfg2)) := by decide

/-- stutters are accepted and change nothing: resume-loop polls on a running worker, lost notifies,
    foreign queue-length reads, returns of calls that were not refused -/
example : (runLog step (init cfg2)
    [.start 1 0 0, .rload 8 0 rsRunning, .rload 8 0 rsRunning, .notify 8 0, .notify 8 0, .qlen 5 0 0,
     .ret 8, .ret 8, .top 0 rsRunning, .qlen 1 0 0, .chk 0 rsRunning false, .top 0 rsRunning]).map
      (fun s => (mu 10 s, (s.wk 0).st)) = some (0, rsRunning) := by decide

/-- with a pending resume call on worker 0 the sleeping state is not maximal (a notify is owed);
    without one it is (`MaximalR` is inhabited on both sides) -/
example : MaximalR 10 (fun _ => false) sleepSt ∧ ¬ MaximalR 10 (fun w => w == 0) sleepSt := by decide

/-- an escalated placement on the sleeping worker 0 while worker 1 runs: `Maximal` without
    stealing steps, but the take by worker 1's thread is owed under `MaximalR`; after it every queue
    is empty (`C19t_work_executed_by_others` is not vacuous) -/
def stealLog : List Ev :=
  [.start 1 0 0, .start 2 1 0, .slock 9 0, .cas 9 0 rsRunning rsPreSleep, .sunl 9 0, .top 0 rsPreSleep,
   .qlen 1 0 0, .chk 0 rsPreSleep true, .sleep 0, .wait 0, .sel 7 0 rsSleeping rsSleeping true true,
   .inc 7 0, .unl 7 0]

def stealSt : St := (runLog step (init cfg2) stealLog).getD (init cfg2)
def stolenSt : St := (runLog step (init cfg2) (stealLog ++ [.dec 2 0])).getD (init cfg2)

example : (runLog step (init cfg2) (stealLog ++ [.dec 2 0])).isSome = true ∧ Maximal 10 stealSt ∧
    ¬ MaximalR 10 (fun _ => false) stealSt ∧ (stealSt.wk 0).q = 1 ∧ (stealSt.wk 0).st = rsSleeping ∧
    MaximalR 10 (fun _ => false) stolenSt ∧ (stolenSt.wk 0).q = 0 ∧ (stolenSt.wk 0).st = rsSleeping ∧
    (stolenSt.wk 1).st = rsRunning := by decide

/-- counters along the example run: 2 placements, 2 takes, nothing queued -/
example : (cntP (isIncOn 0) C19.exampleLog, cntP (isDecOn 0) C19.exampleLog, cntP (isIncOn 1) C19.exampleLog,
    cntP (isDecOn 1) C19.exampleLog) = (1, 1, 1, 1) := by decide

/-- a state satisfying the hypotheses of `C19t_resumed_takes_work`: an escalated placement on a
    sleeping worker, then the notify of a resume call -/
example : ∃ s, runLog step (init cfg2)
    [.start 1 0 0, .slock 9 0, .cas 9 0 rsRunning rsPreSleep, .sunl 9 0, .top 0 rsPreSleep, .qlen 1 0 0,
     .chk 0 rsPreSleep true, .sleep 0, .wait 0, .sel 7 0 rsSleeping rsSleeping true true, .inc 7 0, .unl 7 0,
     .notify 8 0] = some s ∧
    (s.wk 0).pc = .waiting ∧ (s.wk 0).notified = true ∧ (s.wk 0).q = 1 ∧ (s.wk 0).actor = some 1 := by
  refine ⟨_, rfl, ?_, ?_, ?_, ?_⟩ <;> decide

end PikaVerif.C19t
