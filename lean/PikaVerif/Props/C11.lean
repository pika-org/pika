import PikaVerif.Lemmas.ChunkSize
/-!
# C11 — bulk calls `f` once per index, then completes once (arithmetic part)

Theorems about the *generated* arithmetic of `thread_pool_scheduler_bulk.hpp`
(`Gen/BulkArith.lean`, regenerated from the C++ source on every run, with the C++ integer
types) composed as in `bulk_receiver::set_value` (`Model/BulkPlan.lean`).

* `SafeC S w n c` — explicit decidable no-wrap guard for shape type `S`, `w` workers, shape
  `n`, parametric in the chunk size `c ≥ 1` (tuning `get_chunk_size` does not disturb these).
* `Safe S w n` (`Lemmas/ChunkSize.lean`) — explicit bounds on `w`, `n` under which the generated `get_chunk_size`
  terminates with a chunk size satisfying `SafeC` (`C11_chunk_size_safe`).
* Under the guard: worker queues partition the chunk indices `[0, num_chunks)` and the chunks'
  index ranges partition `[0, n)`; no index outside `[0, n)` is produced; no signed overflow.
* Without the guard the property is false of the pinned tree; the counterexamples are proved
  below (`C11_unsafe_*`).

The protocol part (every queued chunk is popped exactly once under all interleavings, the
join counter and the exception latch) is in `Props/C17Index.lean` and `Props/C11Proto.lean`.
-/
namespace PikaVerif.C11
open PikaVerif.Gen.BulkArith PikaVerif.BulkPlan PikaVerif.BulkArith PikaVerif.Partition
open PikaVerif.ChunkSize

/-- **`get_chunk_size` terminates under `Safe` and its result satisfies the no-wrap guard.** -/
theorem C11_chunk_size_safe (S : CTy) (w n : Nat) (h : Safe S w n) :
    ∃ c : Nat, chunkSizeOf S fuel w n = some (c : Int) ∧ SafeC S w n c :=
  chunkSize_safe S w n h

/-- **Queue initialisation.**  Under `SafeC`, `init_queue` gives worker `k` exactly the chunk
    indices `[k·nc/w, (k+1)·nc/w)` where `nc = ⌈n/c⌉`. -/
theorem C11_queue_ranges (S : CTy) (w n c k : Nat) (h : SafeC S w n c) (hk : k < w) :
    queueRange S w n c k =
      (((part w (nchunks c n) k : Nat) : Int), ((part w (nchunks c n) (k + 1) : Nat) : Int)) :=
  queueRange_ideal S w n c k h hk

/-- **Chunk → indices.**  Under `SafeC`, chunk `j < nc` makes `do_work_chunk` call exactly the
    indices `[j·c, min((j+1)·c, n))`, and no signed operation overflows. -/
theorem C11_chunk_ranges (S : CTy) (w n c k j : Nat) (h : SafeC S w n c) (hk : k < w)
    (hj : j < nchunks c n) :
    chunkRange S n c k j = (((j * c : Nat) : Int), ((min ((j + 1) * c) n : Nat) : Int)) ∧
    noUB S w n c k j = true :=
  chunkRange_ideal S w n c k j h hk hj

/-- **The per-worker chunk ranges partition `[0, num_chunks)`**: every chunk index is in the
    initial queue of exactly one worker. -/
theorem C11_chunks_partition (S : CTy) (w n c : Nat) (h : SafeC S w n c) (j : Nat)
    (hj : j < nchunks c n) :
    ∃ k, k < w ∧ (queueRange S w n c k).1 ≤ j ∧ (j : Int) < (queueRange S w n c k).2 ∧
      ∀ k', k' < w → (queueRange S w n c k').1 ≤ j → (j : Int) < (queueRange S w n c k').2 →
        k' = k :=
  owner (part w (nchunks c n)) w (fun k _ => part_mono ..) _ (fun k hk => C11_queue_ranges S w n c k h hk) j
    (by rw [part_zero]; omega) (by rw [part_last _ _ h.2.2.2.1]; exact hj)

/-- No worker's queue contains a chunk index outside `[0, num_chunks)`. -/
theorem C11_queue_within (S : CTy) (w n c k : Nat) (h : SafeC S w n c) (hk : k < w) :
    0 ≤ (queueRange S w n c k).1 ∧ (queueRange S w n c k).1 ≤ (queueRange S w n c k).2 ∧
      (queueRange S w n c k).2 ≤ (nchunks c n : Nat) := by
  rw [C11_queue_ranges S w n c k h hk]
  dsimp only
  have h1 := part_mono w (nchunks c n) k
  have h2 : part w (nchunks c n) (k + 1) ≤ part w (nchunks c n) w :=
    mono_le (part w (nchunks c n)) w (fun k _ => part_mono w _ k) (k + 1) w (by omega) (by omega)
  rw [part_last w _ h.2.2.2.1] at h2
  refine ⟨by omega, by exact_mod_cast h1, by exact_mod_cast h2⟩

/-- **The chunks' index ranges partition `[0, n)`**: every index `i < n` is called by exactly
    one chunk (whichever worker `k` pops it). -/
theorem C11_indices_partition (S : CTy) (w n c k : Nat) (h : SafeC S w n c) (hk : k < w)
    (i : Nat) (hi : i < n) :
    ∃ j, j < nchunks c n ∧ (chunkRange S n c k j).1 ≤ i ∧ (i : Int) < (chunkRange S n c k j).2 ∧
      ∀ j', j' < nchunks c n → (chunkRange S n c k j').1 ≤ i →
        (i : Int) < (chunkRange S n c k j').2 → j' = j :=
  owner (cut c n) (nchunks c n) (fun j _ => cut_mono ..) _
    (fun j hj => by rw [(C11_chunk_ranges S w n c k j h hk hj).1, cut_of_lt c n j h.2.1 hj]; rfl) i
    (by rw [cut_zero]; omega) (by rw [cut_last c n h.2.1]; exact hi)

/-- **No other index.**  Every index a chunk produces lies in `[0, n)`. -/
theorem C11_no_index_outside (S : CTy) (w n c k j : Nat) (h : SafeC S w n c) (hk : k < w)
    (hj : j < nchunks c n) (i : Int) (h1 : (chunkRange S n c k j).1 ≤ i)
    (h2 : i < (chunkRange S n c k j).2) : 0 ≤ i ∧ i < n := by
  rw [(C11_chunk_ranges S w n c k j h hk hj).1] at h1 h2
  dsimp only at h1 h2
  have : min ((j + 1) * c) n ≤ n := Nat.min_le_right _ _
  refine ⟨by omega, by omega⟩

/-- Non-vacuity: the guards hold on ordinary inputs, for every shape type. -/
example : Safe CTy.i32 4 1000 ∧ Safe CTy.u32 16 2147483648 ∧ Safe CTy.i64 128 2000000000 ∧
    Safe CTy.u64 1 0 ∧ SafeC CTy.i32 4 1000 32 ∧ SafeC CTy.u64 3 17 5 := by decide

/-! ## The property is false of the pinned tree outside the guard

Full statement that does **not** hold:
`∀ S w n, IsShape S → 1 ≤ w → S.fits n → ∃ c, chunkSizeOf S fuel w n = some c ∧
   totalCalls S w n c = n`. -/

/-- **Truncation.**  `Shape = std::uint64_t`, `n = 2^32 + 5` (4 workers): `get_chunk_size`
    sees `static_cast<std::uint32_t>(n) = 5`, returns 1, `num_chunks = 2^32 + 5` is narrowed to 5
    by `init_queue`'s `std::uint32_t` parameter: `f` is called 5 times instead of 4294967301. -/
theorem C11_unsafe_truncation :
    chunkSizeOf CTy.u64 fuel 4 4294967301 = some 1 ∧ totalCalls CTy.u64 4 4294967301 1 = 5 := by
  decide +kernel

/-- **Non-termination.**  `Shape = std::uint32_t`, 4 workers, `n = 3·10^9`:
    `chunk_size * num_threads * 8` wraps to 0 before it reaches `n`, then `chunk_size` itself
    wraps to 0: the loop in `get_chunk_size` never exits (for every amount of fuel). -/
theorem C11_unsafe_hang : ∀ f, chunkSizeOf CTy.u32 f 4 3000000000 = none := by
  intro f
  unfold chunkSizeOf
  exact diverges_of_runs CTy.u32 _ _ (by decide +kernel) (by decide +kernel) (by decide +kernel) f

/-- **Signed overflow.**  `Shape = int`, 4 workers, `n = 2^31 - 1`: for the last chunk
    `(index + 1) * chunk_size = 2^31` overflows (undefined behaviour); with wrap-around
    `i_end` is negative and the last `2^26 - 1` indices are never called. -/
theorem C11_unsafe_signed_overflow :
    chunkSizeOf CTy.i32 fuel 4 2147483647 = some 67108864 ∧
    noUB CTy.i32 4 2147483647 67108864 3 31 = false ∧
    totalCalls CTy.i32 4 2147483647 67108864 = 2080374784 := by
  decide +kernel

end PikaVerif.C11
