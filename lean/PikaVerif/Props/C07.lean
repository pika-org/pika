import PikaVerif.Lemmas.CVNotify
import PikaVerif.Lemmas.CVInvStop
import PikaVerif.Lemmas.CVWaits
/-!
# C07 — Condition variables never lose a notification

Property theorems about the model `PikaVerif.CV` (`pika::condition_variable` /
`condition_variable_any` over `detail::condition_variable`, an abstract user lock and the
execution agent).  Every theorem quantifies over *all* accepted event logs of the model,
i.e. over every number of threads, every program of lock / unlock / set / notify_one /
notify_all / wait / wait(pred) / wait_for / wait_for(pred) / wait(stop_token, pred) /
request_stop operations and every interleaving (including deadline expiry as a schedule event).  `Reachable s` = `s` is the
state after some accepted log from `init n flag`.

History fields used in the statements (all updated by `step`, see `Model/CV.lean`):
`waiting t`  — `t` released the user lock inside a wait (`ul.rel` at pc `locked`) and its
               entry has since been removed neither by a notifier (`cv.pop`/`cv.popall`)
               nor by itself (`cv.woke` with the entry still linked);
`poppedOp t` — a notifier popped `t` since `t` last took the internal lock to wait;
`enqs/pops`  — per-thread counts of `cv.enq` events / of resumes issued by notifiers.
-/
namespace PikaVerif.C07
open PikaVerif PikaVerif.CV

def Reachable (s : St) : Prop := ∃ n f log, runLog step (init n f) log = some s

theorem Reachable.inv {s : St} (h : Reachable s) : Inv s ∧ Inv2 s := by
  obtain ⟨n, f, log, hl⟩ := h
  exact inv2_of_accepted hl

theorem Reachable.inv3 {s : St} (h : Reachable s) : Inv3 s := by
  obtain ⟨n, f, log, hl⟩ := h
  exact (inv3_of_accepted hl).2.2

theorem Reachable.step {s s' : St} {e : Ev} (h : Reachable s) (hs : step s e = some s') : Reachable s' := by
  obtain ⟨n, f, log, hl⟩ := h
  exact ⟨n, f, log ++ [e], by rw [runLog_snoc, hl]; exact hs⟩

/-! ## Atomic release -/

/-- **Atomic release.**  Whoever holds the internal lock of the condition variable (every
    notifier does while it examines the queue) finds every other thread that has released
    the user lock in a wait — and has not been woken since — linked in the queue.  A waiter
    is never "between" releasing the user lock and being enqueued as far as a notifier can
    observe; in particular a notifier that acquired the user lock after the waiter released
    it finds the waiter in the queue. -/
theorem C07_atomic_release (s : St) (hr : Reachable s) (u w : Nat) (hl : s.lock = some u)
    (hne : w ≠ u) (hw : s.waiting w = true) : w ∈ s.queue :=
  hr.inv.1.waiting_mem_queue hl hne hw

/-- While the window between `ul.rel` and `cv.enq` is open the waiter owns the internal
    lock, so no notify operation can examine the queue in that window. -/
theorem C07_release_window_locked (s : St) (hr : Reachable s) (w : Nat)
    (hw : s.waiting w = true) (hq : w ∉ s.queue) : s.lock = some w ∧ s.pc w = .released := by
  obtain ⟨hi, _⟩ := hr.inv
  have h1 := hi.waitingIff w
  rw [hw] at h1
  have h2 : inQ (s.pc w) = false := by
    cases h : inQ (s.pc w) with
    | false => rfl
    | true => exact absurd ((hi.qIff w).2 h) hq
  cases hp : s.pc w <;> simp [hp, waitExp, inQ] at h1 h2 <;> try (simp [h1] at h2)
  exact ⟨hi.lockHolder w (by simp [hp, holds]), rfl⟩

/-! ## notify_one / notify_all -/

/-- **notify_one wakes exactly one waiter if any exist.**  When `notify_one` pops (event
    `cv.pop` + `resume`), the target `g` is the *front* of the queue, was waiting (had
    released the user lock in a wait and had not been woken), stops waiting, receives the
    wake-up (a token, or — for a thread polling its deadline — its entry is marked
    signalled), and the waiting status of every other thread is unchanged. -/
theorem C07_notify_one_wakes (s s' : St) (hr : Reachable s) (u z g : Nat) (d : Bool)
    (h : step s (.popResume u z g d) = some s') :
    s.queue.head? = some g ∧ s.waiting g = true ∧ s'.waiting g = false ∧ s'.poppedOp g = true ∧
    (∀ w, w ≠ g → s'.waiting w = s.waiting w) ∧
    (s'.tok g = s.tok g + 1 ∨ s.pc g = .slp false) := by
  obtain ⟨_, _, _, _, _, ⟨_, _, hq, _, _, hd⟩, rfl⟩ := Step.of_step h
  exact ⟨hq, popped_was_waiting hr.inv.1 hq, upd_same .., upd_same .., fun w hne => upd_other _ _ _ _ hne,
    pop_wakes hd⟩

/-- **notify_one finds the queue empty only if nobody waits.**  If `notify_one` reports
    "no waiter" (`cv.none`), no thread has released the user lock in a wait without having
    been woken: together with `C07_notify_one_wakes`, `notify_one` wakes a waiter whenever
    one exists. -/
theorem C07_notify_one_none_only_if_no_waiter (s s' : St) (hr : Reachable s) (u : Nat)
    (h : step s (.cvNone u) = some s') : ∀ w, s.waiting w = false := by
  obtain ⟨_, _, _, hpc, hloc, ⟨hl, hq, _⟩, _⟩ := Step.of_step h
  cases hloc
  exact no_waiter_of_empty hr.inv.1 hl hq (by rw [show s.pc u = _ from hpc]; rfl)

/-- **notify_all wakes all.**  When `notify_all` leaves its critical section (the `sl.rel`
    that ends the `cv.all`/`cv.popall` loop), no thread is waiting any more: every thread
    that had released the user lock in a wait before the notifier took the internal lock has
    been popped and resumed. -/
theorem C07_notify_all_wakes_all (s s' : St) (hr : Reachable s) (u : Nat)
    (hpc : s.pc u = .nAll) (h : step s (.slRel u) = some s') : ∀ w, s.waiting w = false :=
  no_waiter_at_loop_exit hr.inv.1 (by rw [hpc]; rfl) h

/-- The callback of a stop-token wait is a `notify_all`: when it leaves its critical section
    no thread is waiting any more (same statement as `C07_notify_all_wakes_all`, for the
    callback run by `request_stop` (`k = false`) or by the registering thread (`k = true`)). -/
theorem C07_stop_callback_wakes_all (s s' : St) (hr : Reachable s) (u : Nat) (k : Bool)
    (hpc : s.pc u = .cAll k) (h : step s (.slRel u) = some s') : ∀ w, s.waiting w = false :=
  no_waiter_at_loop_exit hr.inv.1 (by rw [hpc]; rfl) h

/-- Each iteration of `notify_all` pops a thread that was waiting and wakes it. -/
theorem C07_notify_all_pops_waiter (s s' : St) (hr : Reachable s) (u z g : Nat) (d : Bool)
    (h : step s (.popAll u z g d) = some s') :
    s.waiting g = true ∧ s'.waiting g = false ∧ s'.poppedOp g = true ∧
    (s'.tok g = s.tok g + 1 ∨ s.pc g = .slp false) := by
  obtain ⟨_, _, _, _, _, ⟨_, hq, _, _, hd⟩, rfl⟩ := Step.of_step h
  exact ⟨popped_was_waiting hr.inv.1 hq, upd_same .., upd_same .., pop_wakes hd⟩

/-- **notify_all wakes every waiter (trace form).**  Take any reachable state in which
    `notify_all` by `u` — the public call or the stop callback of a stop-token
    wait — starts its critical work (`cv.all`), any thread `w` that is waiting
    at that moment (released the user lock in a wait, not yet woken), and any continuation
    of the execution up to the `sl.rel` with which this `notify_all` leaves its critical
    section: the continuation contains the event "u pops and resumes w". -/
theorem C07_notify_all_wakes_each (s s1 s2 s3 : St) (hr : Reachable s) (u w z : Nat) (log : List Ev)
    (h1 : step s (.cvAll u z) = some s1) (hw : s.waiting w = true)
    (h2 : runLog step s1 log = some s2) (hnr : ∀ e ∈ log, e ≠ .slRel u)
    (h3 : step s2 (.slRel u) = some s3) :
    ∃ z' d, Ev.popAll u z' w d ∈ log := by
  have hs1 : s1.waiting w = true ∧ s1.lock = some u ∧ allPc (s1.pc u) = true := by
    obtain ⟨_, _, _, _, hloc, hg, rfl⟩ := Step.of_step h1
    cases hloc <;> exact ⟨hw, hg.1, congrArg allPc (upd_same ..)⟩
  -- until `u` pops `w` or leaves the loop, `w` stays waiting and `u` stays in the loop (`nall_step`)
  rcases runLog_until Reachable (fun sa => sa.waiting w = true ∧ sa.lock = some u ∧ allPc (sa.pc u) = true)
      (fun e => e = .slRel u ∨ ∃ z' d, e = .popAll u z' w d) (fun _ _ _ h hs => h.step hs)
      (fun sa e sb _ hsa hs => by
        by_cases he : e = .slRel u
        · exact .inl (.inl he)
        · exact (nall_step sa sb e u w hsa.2.1 hsa.2.2 hsa.1 he hs).imp .inr id)
      (hr.step h1) hs1 h2 with ⟨e, hm, he | ⟨z', d, rfl⟩⟩ | ⟨hra, hsa⟩
  · exact absurd he (hnr e hm)
  · exact ⟨z', d, hm⟩
  · -- `u` cannot leave the loop while `w` is waiting
    have := hsa.1
    rw [no_waiter_at_loop_exit hra.inv.1 hsa.2.2 h3 w] at this; cases this

/-! ## No lost notification: progress and quiescence -/

/-- **Progress.**  The model can only be stuck in states where every thread is between
    operations, finished, parked in an untimed wait *without having been notified*, or
    queueing for the user lock that an idle thread keeps.  No reachable state is stuck with
    a thread inside notify, holding the internal lock, notified-but-not-resumed, sleeping on
    a deadline, or about to return. -/
theorem C07_stuck_only_when_blocked (s : St) (hr : Reachable s) (hs : Stuck s) :
    ∀ t, t < s.n → s.pc t = .idle ∨ s.pc t = .fin ∨ Parked s t ∨ BlockedOnUserLock s t :=
  fun _ ht => hs.blocked hr.inv.1 hr.inv.2 hr.inv3 ht

/-- **No lost notification (quiescence form).**  In every reachable stuck state a thread
    that is still parked in `wait` has not been notified since it released the user lock:
    no notifier popped it (`poppedOp = false`), it is still linked in the queue and still
    counted as waiting.  Hence — by `C07_notify_one_none_only_if_no_waiter`,
    `C07_notify_one_wakes` and `C07_notify_all_wakes_all` — every notify_all issued after it
    released the lock would have woken it, and every such notify_one woke some waiter. -/
theorem C07_no_lost_notification (s : St) (hr : Reachable s) (t : Nat)
    (hb : s.pc t = .susp false) : s.poppedOp t = false ∧ t ∈ s.queue ∧ s.waiting t = true := by
  obtain ⟨hi, hi2⟩ := hr.inv
  have h1 := hi2.popped t
  rw [hb] at h1
  refine ⟨by simpa [poppedOk] using h1, (hi.qIff t).2 (by simp [hb, inQ]), ?_⟩
  rw [hi.waitingIff t, hb]; simp [waitExp]

/-- A notified waiter is never parked without a pending wake-up: a thread suspended in the
    agent whose entry was popped by a notifier owns a wake-up token (so `ag.woke` is
    enabled).  This is the "no wake-up is lost between pop and suspend" half. -/
theorem C07_notified_waiter_has_token (s : St) (hr : Reachable s) (t : Nat)
    (hb : s.pc t = .susp true ∨ s.pc t = .unl false true) : 0 < s.tok t := by
  obtain ⟨hi, _⟩ := hr.inv
  exact hi.wake t (by rcases hb with h | h <;> simp [h, needTok])

/-! ## Results -/

/-- The program counters at which `ret` is accepted: the result of a wait form, the end of a
    notify, and the two ends of `request_stop` (it lost the race for the stop bit, or ran the callbacks). -/
theorem ret_pc {s s' : St} {t r : Nat} (h : step s (.ret t r) = some s') :
    s.pc t = .retn r ∨ (s.pc t = .nRet ∧ r = 0) ∨ ((∃ b, s.pc t = .rsRet b) ∨ s.pc t = .rsWant) := by
  obtain ⟨_, _, _, hp, hloc, _⟩ := Step.of_step h
  cases hloc
  · exact .inl hp
  · exact .inr (.inl ⟨hp, rfl⟩)
  · exact .inr (.inr (.inl ⟨_, hp⟩))
  · exact .inr (.inr (.inr hp))

theorem ret_wait_pc {s s' : St} (hr : Reachable s) {t r : Nat} (h : step s (.ret t r) = some s')
    (hw : isWait (s.curOp t) = true) : s.pc t = .retn r := by
  -- the other program counters `ret` is accepted at belong to `notify` and `request_stop`
  have hop := hr.inv.2.opOk t
  have hnw : ∀ {c : Op}, isWait c = true → isNotify c = false ∧ c ≠ .stop := fun {c} hw => by
    cases c with
    | wait _ _ | swait _ => exact ⟨rfl, nofun⟩
    | _ => cases hw
  have hnw := hnw hw
  rcases ret_pc h with h | h | ⟨b, h⟩ | h
  · exact h
  · rw [h.1] at hop; exact absurd (hnw.1.symm.trans hop) Bool.false_ne_true
  · rw [h] at hop; exact absurd (of_decide_eq_true hop) hnw.2
  · rw [h] at hop; exact absurd (of_decide_eq_true hop) hnw.2

/-- **wait returns with the user lock held.**  Whenever a wait operation (any form)
    returns, the returning thread owns the user lock. -/
theorem C07_returns_locked (s s' : St) (hr : Reachable s) (t r : Nat)
    (hw : isWait (s.curOp t) = true) (h : step s (.ret t r) = some s') :
    s.ulock = some t ∧ s'.ulock = some t := by
  have hp := ret_wait_pc hr h hw
  have hu := hr.inv.1.uHolder t (by rw [hp]; rfl)
  obtain ⟨_, _, _, _, _, _, rfl⟩ := Step.of_step h
  exact ⟨hu, hu⟩

/-- **Predicate forms return the value of the predicate.**  The value returned by
    `wait(lock, pred)` / `wait_for(lock, d, pred)` equals the current value of the shared
    variable the predicate reads (which nobody can change before the caller releases the
    user lock it now holds). -/
theorem C07_pred_value (s s' : St) (hr : Reachable s) (t r : Nat)
    (hp : isPred (s.curOp t) = true) (h : step s (.ret t r) = some s') : r = b2n s.flag := by
  have hw : isWait (s.curOp t) = true := by
    cases hc : s.curOp t <;> simp [hc, isPred, isWait] at hp ⊢
  exact hr.inv.2.predRes t r (ret_wait_pc hr h hw) hp

/-- The untimed predicate form returns only when the predicate holds. -/
theorem C07_wait_pred_returns_true (s s' : St) (hr : Reachable s) (t r : Nat)
    (hc : s.curOp t = .wait false true) (h : step s (.ret t r) = some s') : s.flag = true := by
  have hpc := ret_wait_pc hr h (by simp [hc, isWait])
  have h1 := hr.inv.2.predRes t r hpc (by simp [hc, isPred])
  have h2 := hr.inv.2.untimedRes t r hpc (by simp [hc, isTimed]) (by simp [hc, isStop])
  rw [hc] at h2
  simp [isPred, b2n] at h2
  cases hf : s.flag with
  | true => rfl
  | false => rw [hf] at h1; simp [b2n] at h1; omega

/-- **A timed wait reports a timeout iff it was not notified.**  `wait_for/until` (plain
    form) returns `cv_status::timeout` (r = 1) exactly when no notifier popped the thread
    between its taking the internal lock and its re-examination of the entry; in
    particular a timed wait that was notified before (or even after) its deadline event,
    but before it re-took the internal lock, does not report a timeout. -/
theorem C07_timed_timeout_iff_not_notified (s s' : St) (hr : Reachable s) (t r : Nat)
    (hc : s.curOp t = .wait true false) (h : step s (.ret t r) = some s') :
    (r = 1 ↔ s.poppedOp t = false) ∧ (r = 0 ↔ s.poppedOp t = true) := by
  have hpc := ret_wait_pc hr h (by simp [hc, isWait])
  have := hr.inv.2.timedRes t r hpc hc
  cases hpo : s.poppedOp t <;> simp [hpo, b2n] at this <;> simp [this]

/-! ## One resume per enqueue / per suspension -/

/-- Number of `cv.enq` events of thread `t` in a log. -/
def enqCount (t : Nat) : List Ev → Nat
  | [] => 0
  | .cvEnq u _ _ :: l => enqCount t l + (if u = t then 1 else 0)
  | _ :: l => enqCount t l

/-- Number of resumes (`cv.pop`/`cv.popall` + agent call) aimed at thread `t` in a log. -/
def resumeCount (t : Nat) : List Ev → Nat
  | [] => 0
  | .popResume _ _ g _ :: l => resumeCount t l + (if g = t then 1 else 0)
  | .popAll _ _ g _ :: l => resumeCount t l + (if g = t then 1 else 0)
  | _ :: l => resumeCount t l

theorem counters_step (s s' : St) (e : Ev) (t : Nat) (h : step s e = some s') :
    s'.enqs t = s.enqs t + enqCount t [e] ∧ s'.pops t = s.pops t + resumeCount t [e] := by
  -- `cv.enq` counts an entry of its thread, a pop counts a resume of its target; nothing else counts
  have upd1 : ∀ (f : Nat → Nat) (u : Nat), upd f u (f u + 1) t = f t + (0 + if u = t then 1 else 0) := fun f u => by
    by_cases hu : u = t
    · rw [if_pos hu, ← hu, Nat.zero_add]; exact upd_same ..
    · rw [if_neg hu]; exact upd_other _ _ _ _ (Ne.symm hu)
  obtain ⟨p, p', ht, hp, hl, hg, rfl⟩ := Step.of_step h
  clear ht hp hl hg
  cases e
  case cvEnq | popResume | popAll => first | exact ⟨upd1 s.enqs _, rfl⟩ | exact ⟨rfl, upd1 s.pops _⟩
  case cvWoke _ b _ | stUnlink _ b => cases b <;> exact ⟨rfl, rfl⟩
  all_goals exact ⟨rfl, rfl⟩

theorem counters_log (t : Nat) (log : List Ev) : ∀ (s s' : St), runLog step s log = some s' →
    s'.enqs t = s.enqs t + enqCount t log ∧ s'.pops t = s.pops t + resumeCount t log := by
  induction log with
  | nil => intro s s' h; cases h; exact ⟨rfl, rfl⟩
  | cons e es ih =>
    intro s s' h
    obtain ⟨s1, hs, h⟩ := runLog_cons_some h
    have h1 := counters_step s s1 e t hs
    have h2 := ih s1 s' h
    have ht : enqCount t (e :: es) = enqCount t [e] + enqCount t es := by
      cases e <;> simp [enqCount] <;> omega
    have ha : resumeCount t (e :: es) = resumeCount t [e] + resumeCount t es := by
      cases e <;> simp [resumeCount] <;> omega
    omega

/-- **At most one resume per enqueue.**  In every execution, the number of resumes that
    notifiers have aimed at thread `t` never exceeds the number of wait entries `t` has
    pushed; while an entry of `t` is still linked it is strictly smaller. -/
theorem C07_one_resume_per_enqueue (n : Nat) (f : Bool) (log : List Ev) (s : St) (t : Nat)
    (h : runLog step (init n f) log = some s) :
    resumeCount t log + b2n (inQ (s.pc t)) ≤ enqCount t log := by
  obtain ⟨_, hi2⟩ := inv2_of_accepted h
  have hc := counters_log t log _ s h
  have := hi2.counts t
  simp only [init] at hc
  omega

/-- A notifier only ever resumes a thread whose entry is linked in the queue, i.e. a thread
    inside a wait between its enqueue and its re-examination of the entry. -/
theorem C07_resume_targets_linked_waiter (s s' : St) (hr : Reachable s) (u z g : Nat) (d : Bool)
    (h : step s (.popResume u z g d) = some s' ∨ step s (.popAll u z g d) = some s') :
    g ∈ s.queue ∧ inQ (s.pc g) = true ∧ g ≠ u := by
  obtain ⟨hi, _⟩ := hr.inv
  have hq : s.queue.head? = some g ∧ inQ (s.pc u) = false := by
    rcases h with h | h <;> obtain ⟨_, _, _, hpc, hloc, hg, _⟩ := Step.of_step h <;> cases hloc <;>
      first | exact ⟨hg.2.2.1, by rw [show s.pc u = _ from hpc]; rfl⟩
            | exact ⟨hg.2.1, by rw [show s.pc u = _ from hpc]; rfl⟩
  obtain ⟨hq, hu⟩ := hq
  have hg : g ∈ s.queue := List.mem_of_mem_head? hq
  have hin := (hi.qIff g).1 hg
  exact ⟨hg, hin, fun he => by rw [he, hu] at hin; cases hin⟩

/-- **Exactly one resume per suspension (programs without timed waits).**  As long as no
    timed wait has been enqueued, a thread owns at most one wake-up token, and owns one
    exactly when it has been popped by a notifier and has not yet returned from
    `agent.suspend`; no untimed waiter ever wakes up without having been notified. -/
theorem C07_one_resume_per_suspend (s : St) (hr : Reachable s) (hu : s.everTimed = false) (t : Nat) :
    s.tok t ≤ 1 ∧ (s.tok t = 1 ↔ (s.pc t = .susp true ∨ s.pc t = .unl false true)) ∧
    s.pc t ≠ .wokeNL false false ∧ s.pc t ≠ .relk false false := by
  obtain ⟨_, hi2⟩ := hr.inv
  obtain ⟨h1, h2⟩ := hi2.untimed t hu
  cases hp : s.pc t <;> simp [hp, badU, needTok, b2n] at h1 h2 ⊢ <;> try omega
  case unl tm p => subst h1; cases p <;> simp at h2 ⊢ <;> omega
  case susp p => cases p <;> simp at h2 ⊢ <;> omega
  case wokeNL tm p => simp [h1]; omega
  case relk tm p => simp [h1]; omega

/-! ## Stop-token wait

`condition_variable_any::wait(lock, stop_token, pred)` (operation `swait false`), its timed
form `wait_until/wait_for(lock, stop_token, t, pred)` (`swait true`; `isStop` = either) and
`request_stop` (operation `stop`).  State fields used in the statements: `stopReq` (the stop-requested bit),
`cbs` (the callback list of the stop state; a callback is named by the waiting thread that
owns it), `cur` (the callback `request_stop` has dequeued and not yet marked finished), `kept`
(the thread's `stop_callback` is registered), `stopDone` (the winning `request_stop` has left
its callback loop), `reqT` (the thread of that call).  Classification of program counters
(`Lemmas/CVInvStop.lean`): `exposed` = passed the `stop_requested()` re-check under the internal lock
(S1) and not notified since (pcs `locked`, `released`, `enq`, `unl _ false`, `susp false`);
`popPending` = inside the stop callback before the end of its `notify_all`. -/

/-- **(a) Result of a stop-token wait.**  Whenever `wait(lock, stop_token, pred)` returns, the
    value returned is the current value of the predicate, the predicate holds or stop has been
    requested, and the caller owns the user lock. -/
theorem C07_stop_wait_result (s s' : St) (hr : Reachable s) (t r : Nat)
    (hc : s.curOp t = .swait false) (h : step s (.ret t r) = some s') :
    r = b2n s.flag ∧ (s.flag = true ∨ s.stopReq = true) ∧ s.ulock = some t ∧ s'.ulock = some t := by
  have hw : isWait (s.curOp t) = true := by simp [hc, isWait]
  have hpc := ret_wait_pc hr h hw
  have h1 := hr.inv.2.predRes t r hpc (by simp [hc, isPred])
  have h2 := hr.inv3.swRes t r hc (by simp [hpc, resAll])
  have h3 := C07_returns_locked s s' hr t r hw h
  refine ⟨h1, ?_, h3.1, h3.2⟩
  rcases h2 with h2 | h2
  · left
    cases hf : s.flag with
    | true => rfl
    | false => rw [hf] at h1; simp [b2n] at h1; omega
  · exact Or.inr h2

/-- **(b) No window between the check and the enqueue.**  Once stop has been requested, every
    thread of a stop-token wait that has passed the re-check of `stop_requested()` under the
    internal lock and has not been notified since — in particular every such thread that is on
    its way to, or parked in, `agent.suspend` — still has its callback linked in the stop
    state, or `request_stop` holds that callback and has not finished its `notify_all` (which
    by `C07_stop_callback_wakes_all` pops every waiting thread before it ends). -/
theorem C07_stop_covered (s : St) (hr : Reachable s) (hq : s.stopReq = true) (t : Nat)
    (hc : isStop (s.curOp t) = true) (he : exposed (s.pc t) = true) :
    t ∈ s.cbs ∨ (s.cur = some t ∧ popPending (s.pc s.reqT) = true) :=
  hr.inv3.covered hq t hc he

/-- At the moment `request_stop` sets the stop bit, every stop-token waiter that has passed
    its re-check finds its callback in the list `request_stop` is about to run: a stop request
    cannot fall between the waiter's `stop_requested()` check and its enqueue unseen. -/
theorem C07_stop_request_finds_callbacks (s s' : St) (hr : Reachable s) (u : Nat)
    (h : step s (.stAcq u 1) = some s') :
    s'.stopReq = true ∧ ∀ t, isStop (s.curOp t) = true → exposed (s.pc t) = true → t ∈ s.cbs := by
  obtain ⟨_, _, _, _, hloc, _, rfl⟩ := Step.of_step h
  cases hloc
  exact ⟨rfl, hr.inv3.preLinked ‹_›⟩

/-- **(b) No lost stop.**  After the winning `request_stop` has run its callbacks (in every
    state from the end of its callback loop on, in particular after it returned), no thread of
    a stop-token wait is past its re-check and un-notified: none is parked in, or on its way
    to, `agent.suspend` without a wake-up. -/
theorem C07_no_lost_stop (s : St) (hr : Reachable s) (hd : s.stopDone = true) (t : Nat)
    (hc : isStop (s.curOp t) = true) : exposed (s.pc t) = false ∧ ¬ Parked s t := by
  have hi3 := hr.inv3
  obtain ⟨hq, hcb, hcu⟩ := hi3.doneOk hd
  have he : exposed (s.pc t) = false := by
    cases he : exposed (s.pc t) with
    | false => rfl
    | true =>
      rcases hi3.covered hq t hc he with h | h
      · rw [hcb] at h; simp at h
      · rw [hcu] at h; simp at h
  exact ⟨he, fun hp => by rw [hp.1] at he; simp [exposed] at he⟩

/-- **(b) No lost stop, trace form.**  Take the event with which `request_stop` sets the stop
    bit, any stop-token waiter `w` that at that moment has passed its re-check and has not been
    notified (it is parked in, or on its way to, `agent.suspend`), and any continuation of the
    execution up to a state in which that `request_stop` has left its callback loop: the
    continuation contains an event that pops and resumes `w` (`cv.pop`/`cv.popall` + resume) or
    an agent wake-up of `w`. -/
theorem C07_stop_wakes_each (s s1 s2 : St) (hr : Reachable s) (u w : Nat) (log : List Ev)
    (h1 : step s (.stAcq u 1) = some s1) (hc : s.curOp w = .swait false) (he : exposed (s.pc w) = true)
    (h2 : runLog step s1 log = some s2) (hd : s2.stopDone = true) :
    ∃ e ∈ log, (∃ x z d, e = .popAll x z w d) ∨ (∃ x z d, e = .popResume x z w d) ∨ e = .woke w := by
  have hs1 : s1.curOp w = .swait false ∧ exposed (s1.pc w) = true := by
    rcases exposed_step s s1 hr.inv.2 _ w hc he h1 with ⟨_, _, _, h⟩ | ⟨_, _, _, h⟩ | h | h
    · cases h
    · cases h
    · cases h
    · exact h
  -- until it is popped or woken, `w` stays exposed (`exposed_step`)
  rcases runLog_until Reachable (fun sa => sa.curOp w = .swait false ∧ exposed (sa.pc w) = true)
      (fun e => (∃ x z d, e = .popAll x z w d) ∨ (∃ x z d, e = .popResume x z w d) ∨ e = .woke w)
      (fun _ _ _ h hs => h.step hs)
      (fun sa e sb hra hsa hs => by
        rcases exposed_step sa sb hra.inv.2 e w hsa.1 hsa.2 hs with h | h | h | h
        · exact .inl (.inl h)
        · exact .inl (.inr (.inl h))
        · exact .inl (.inr (.inr h))
        · exact .inr h)
      (hr.step h1) hs1 h2 with h | ⟨hra, hsa⟩
  · exact h
  · have := (C07_no_lost_stop s2 hra hd w (by rw [hsa.1]; rfl)).1
    rw [hsa.2] at this; cases this

/-- **(b) A stop-token wait returns once stop is requested (progress form).**  In a reachable
    stuck state in which stop has been requested, the winning `request_stop` has completed, and
    no thread is blocked in a stop-token wait: every such thread is between operations,
    finished, or (user error) queueing for the user lock that an idle thread keeps. -/
theorem C07_stop_wait_returns (s : St) (hr : Reachable s) (hs : Stuck s) (hq : s.stopReq = true) :
    s.stopDone = true ∧
    ∀ t, t < s.n → isStop (s.curOp t) = true → s.pc t = .idle ∨ s.pc t = .fin ∨ BlockedOnUserLock s t := by
  have hi3 := hr.inv3
  have hd : s.stopDone = true := by
    cases hd : s.stopDone with
    | true => rfl
    | false =>
      exfalso
      have ha := hi3.activeOk hq hd
      have hrn : s.reqT < s.n := by
        apply Classical.byContradiction
        intro hge
        have := hr.inv.1.outside s.reqT (by omega)
        rw [this] at ha; simp [reqPc] at ha
      rcases C07_stuck_only_when_blocked s hr hs s.reqT hrn with h | h | h | h
      · rw [h] at ha; simp [reqPc] at ha
      · rw [h] at ha; simp [reqPc] at ha
      · rw [h.1] at ha; simp [reqPc] at ha
      · rcases h.1 with h | ⟨b, h⟩ <;> (rw [h] at ha; simp [reqPc] at ha)
  refine ⟨hd, fun t htn hc => ?_⟩
  rcases C07_stuck_only_when_blocked s hr hs t htn with h | h | h | h
  · exact Or.inl h
  · exact Or.inr (Or.inl h)
  · exact absurd h (C07_no_lost_stop s hr hd t hc).2
  · exact Or.inr (Or.inr h)

/-- **(c) The callback is deregistered before wait returns.**  When a stop-token wait
    returns, its stop callback is neither linked in the stop state nor in the hands of
    `request_stop`, and the `stop_callback` object has given up its stop state. -/
theorem C07_stop_callback_deregistered (s s' : St) (hr : Reachable s) (t r : Nat)
    (hc : isStop (s.curOp t) = true) (h : step s (.ret t r) = some s') :
    s.kept t = false ∧ t ∉ s.cbs ∧ s.cur ≠ some t := by
  have hpc := ret_wait_pc hr h (by cases hc' : s.curOp t <;> simp [hc', isStop] at hc <;> simp [isWait])
  have hi3 := hr.inv3
  have hk : s.kept t = false := by
    cases hk : s.kept t with
    | false => rfl
    | true =>
      have := (hi3.keptOk t hk).2
      rw [hpc] at this
      simp [bodyPc, dtorPc] at this
  refine ⟨hk, fun hm => ?_, fun hm => ?_⟩
  · have := (hi3.cbsOk t hm).1; rw [hk] at this; simp at this
  · have := (hi3.curOk t hm).1; rw [hk] at this; simp at this

/-- **(c) No dangling callback.**  As long as a callback is linked in the stop state or in the
    hands of `request_stop`, the thread that owns it is inside its stop-token wait (in the
    loop or in `~stop_callback`), so the locals the callback captured by reference are alive,
    and its finished flag is not yet set. -/
theorem C07_stop_callback_owner_inside_wait (s : St) (hr : Reachable s) (c : Nat)
    (h : c ∈ s.cbs ∨ s.cur = some c) :
    isStop (s.curOp c) = true ∧ (bodyPc (s.pc c) = true ∨ dtorPc (s.pc c) = true) ∧ s.cbFin c = false := by
  have hi3 := hr.inv3
  rcases h with h | h
  · obtain ⟨hk, hf⟩ := hi3.cbsOk c h
    exact ⟨(hi3.keptOk c hk).1, (hi3.keptOk c hk).2, hf⟩
  · obtain ⟨hk, _, hf⟩ := hi3.curOk c h
    exact ⟨(hi3.keptOk c hk).1, (hi3.keptOk c hk).2, hf⟩

/-- **(c) `~stop_callback` waits for a running callback.**  The destructor's wait for
    `callback_finished_executing_` ends only when `request_stop` has let go of the callback. -/
theorem C07_stop_dtor_waits (s s' : St) (hr : Reachable s) (t : Nat)
    (h : step s (.stWaited t) = some s') : s.cur ≠ some t ∧ t ∉ s.cbs ∧ s'.kept t = false := by
  have hi3 := hr.inv3
  obtain ⟨_, _, _, _, _, hf, rfl⟩ := Step.of_step h
  refine ⟨fun hm => ?_, fun hm => ?_, upd_same ..⟩
  · have := (hi3.curOk t hm).2.2; rw [hf] at this; cases this
  · have := (hi3.cbsOk t hm).2; rw [hf] at this; cases this

/-! ## Non-vacuity: concrete accepted logs reaching the interesting states -/

/-- thread 0 waits, thread 1 locks, sets the flag, unlocks, notifies one; 0 wakes, re-locks,
    returns -/
def exampleLog : List Ev :=
  [.inv 0 .lock, .ulAcq 0, .inv 0 (.wait false false), .slAcq 0, .ulRel 0, .cvEnq 0 1 false, .slRel 0,
   .suspend 0,
   .inv 1 .lock, .ulAcq 1, .inv 1 (.set true), .setFlag 1 true, .inv 1 .unlock, .ulRel 1,
   .inv 1 (.notify false), .slAcq 1, .popResume 1 0 0 false, .slRel 1, .ret 1 0,
   .woke 0, .slAcq 0, .cvWoke 0 false false, .slRel 0, .ulAcq 0, .ret 0 0]

example : (runLog step (init 2 false) exampleLog).isSome = true := by decide

/-- a state with a parked, un-notified waiter exists (`C07_no_lost_notification`) -/
example : ∃ s, runLog step (init 1 false)
    [.inv 0 .lock, .ulAcq 0, .inv 0 (.wait false false), .slAcq 0, .ulRel 0, .cvEnq 0 1 false,
     .slRel 0, .suspend 0] = some s ∧ Parked s 0 := by
  refine ⟨_, rfl, ?_⟩
  simp [Parked, upd, init]

/-- notify_all with two waiters (one timed, sleeping: its resume is dropped) empties the queue -/
example : (runLog step (init 3 false)
    [.inv 0 .lock, .ulAcq 0, .inv 0 (.wait false false), .slAcq 0, .ulRel 0, .cvEnq 0 1 false, .slRel 0,
     .suspend 0,
     .inv 1 .lock, .ulAcq 1, .inv 1 (.wait true false), .slAcq 1, .ulRel 1, .cvEnq 1 2 true, .slRel 1,
     .sleep 1,
     .inv 2 (.notify true), .slAcq 2, .cvAll 2 2, .popAll 2 1 0 false, .popAll 2 0 1 true, .slRel 2,
     .ret 2 0, .timeout 1, .slAcq 1, .cvWoke 1 false true, .slRel 1, .ulAcq 1, .ret 1 0]).isSome = true := by
  decide

/-- a timed predicate wait that times out returns the (false) value of the predicate -/
example : (runLog step (init 1 false)
    [.inv 0 .lock, .ulAcq 0, .inv 0 (.wait true true), .pred 0 false, .slAcq 0, .ulRel 0,
     .cvEnq 0 1 true, .slRel 0, .sleep 0, .timeout 0, .slAcq 0, .cvWoke 0 true true, .slRel 0,
     .ulAcq 0, .pred 0 false, .ret 0 0]).isSome = true := by decide

/-- notify_one on an empty queue reports "none" -/
example : (runLog step (init 1 false)
    [.inv 0 (.notify false), .slAcq 0, .cvNone 0, .slRel 0, .ret 0 0]).isSome = true := by decide

/-- stop-token wait: thread 0 parks; thread 1 requests stop, its callback pops 0; thread 0
    wakes, sees the stop bit under the internal lock, runs `~stop_callback` while thread 1 has
    not yet stored the finished flag (waits for it), returns false; `request_stop` returns true -/
def stopLog : List Ev :=
  [.inv 0 .lock, .ulAcq 0, .inv 0 (.swait false), .stop0 0 false, .stAcq 0 2, .stPush 0 false, .pred 0 false,
   .slAcq 0, .stop1 0 false, .ulRel 0, .cvEnq 0 1 false, .slRel 0, .suspend 0,
   .inv 1 .stop, .stAcq 1 1, .stDeq 1 0 false, .slAcq 1, .cvAll 1 1, .popAll 1 0 0 false, .slRel 1,
   .woke 0, .slAcq 0, .cvWoke 0 false false, .slRel 0, .ulAcq 0, .pred 0 false, .slAcq 0, .stop1 0 true,
   .slRel 0, .stAcq 0 0, .stUnlink 0 false, .stSelf 0 false,
   .stFin 1 0 false, .stWaited 0, .ret 0 0, .stAcq 1 0, .stRsDone 1, .ret 1 1]

example : (runLog step (init 2 false) stopLog).isSome = true := by decide

/-- the stop request falls between the waiter's re-check (S1) and its enqueue: the callback
    queues for the internal lock, finds the waiter enqueued and pops it before it suspends -/
example : (runLog step (init 2 false)
    [.inv 0 .lock, .ulAcq 0, .inv 0 (.swait false), .stop0 0 false, .stAcq 0 2, .stPush 0 false, .pred 0 false,
     .slAcq 0, .stop1 0 false,
     .inv 1 .stop, .stAcq 1 1, .stDeq 1 0 false,
     .ulRel 0, .cvEnq 0 1 false, .slRel 0,
     .slAcq 1, .cvAll 1 1, .popAll 1 0 0 false, .slRel 1, .stFin 1 0 false, .stAcq 1 0, .stRsDone 1, .ret 1 1,
     .suspend 0, .woke 0, .slAcq 0, .cvWoke 0 false false, .slRel 0, .ulAcq 0, .pred 0 false, .slAcq 0,
     .stop1 0 true, .slRel 0, .stAcq 0 0, .stUnlink 0 false, .stSelf 0 false, .stWaited 0, .ret 0 0]).isSome = true := by
  decide

/-- stop requested before the wait: S0 sees it, no callback, the predicate's value is returned;
    stop requested during the registration: the callback runs on the registering thread -/
example : (runLog step (init 2 false)
    [.inv 1 .stop, .stAcq 1 1, .stRsDone 1, .ret 1 1,
     .inv 0 .lock, .ulAcq 0, .inv 0 (.swait false), .stop0 0 true, .pred 0 false, .ret 0 0]).isSome = true := by decide

example : (runLog step (init 2 false)
    [.inv 0 .lock, .ulAcq 0, .inv 0 (.swait false), .stop0 0 false,
     .inv 1 .stop, .stAcq 1 1, .stRsDone 1, .ret 1 1,
     .stSeen 0, .slAcq 0, .cvAll 0 0, .slRel 0, .stInFin 0, .pred 0 false, .slAcq 0, .stop1 0 true, .slRel 0,
     .ret 0 0]).isSome = true := by decide

/-- timed stop-token wait: enqueued with a deadline, the stop callback marks it signalled (the
    resume is dropped by the deadline poller), it wakes at the deadline, `should_stop` is true
    (stop requested), the predicate's value is returned after `~stop_callback` -/
example : (runLog step (init 2 false)
    [.inv 0 .lock, .ulAcq 0, .inv 0 (.swait true), .stop0 0 false, .stAcq 0 2, .stPush 0 false, .pred 0 false,
     .slAcq 0, .stop1 0 false, .ulRel 0, .cvEnq 0 1 true, .slRel 0, .sleep 0,
     .inv 1 .stop, .stAcq 1 1, .stDeq 1 0 false, .slAcq 1, .cvAll 1 1, .popAll 1 0 0 true, .slRel 1,
     .stFin 1 0 false, .stAcq 1 0, .stRsDone 1, .ret 1 1,
     .timeout 0, .slAcq 0, .cvWoke 0 false true, .stop2 0 true, .slRel 0, .ulAcq 0, .pred 0 false,
     .stAcq 0 0, .stUnlink 0 false, .stSelf 0 false, .stWaited 0, .ret 0 0]).isSome = true := by decide

/-- predicate satisfied without a stop request: the waiter unlinks its callback itself -/
example : (runLog step (init 1 true)
    [.inv 0 .lock, .ulAcq 0, .inv 0 (.swait false), .stop0 0 false, .stAcq 0 2, .stPush 0 false, .pred 0 true,
     .stAcq 0 0, .stUnlink 0 true, .ret 0 1]).isSome = true := by decide

end PikaVerif.C07
