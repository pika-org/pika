import PikaVerif.Lemmas.BulkC
import PikaVerif.Props.C11Proto
/-!
# C11 — bulk calls `f` once per index, then completes once: the composition

Theorems about the composed model `PikaVerif.BulkC` (`Model/BulkC.lean`): `set_value` computes the
chunk size and the per-worker queue ranges with the **generated** arithmetic
(`Gen/BulkArith.lean`, regenerated from `thread_pool_scheduler_bulk.hpp` on every run), the
workers pop / steal chunks through load / compare-exchange steps whose per-iteration computation
is the **generated** `popLeftTry` / `popRightTry` (`Gen/IndexRange.lean`), `do_work_chunk` runs
the index loop over the **generated** `chunkRange`, the join counter and the exception latch of
the protocol model `PikaVerif.Bulk` decide the completion.  The value pack and the exceptions are
opaque tokens.

Every theorem quantifies over all accepted logs from `init S w n L v` — every interleaving of
the workers' loads, compare-exchanges, calls, returns, throws and decrements, every number of
workers `w`, every local worker `L < w`, every shape `n` and shape type `S` under the explicit
no-wrap guard `Safe S w n` (`Props/C11.lean`; outside it the property is false of the pinned
tree, `C11_unsafe_*`), every set of throwing calls.
-/
namespace PikaVerif.C11c
open PikaVerif.BulkC PikaVerif.Gen.BulkArith PikaVerif.BulkPlan
open PikaVerif.BulkArith PikaVerif.Partition PikaVerif.C11

/-- `s` is reachable: `bulk(sender, n, f)` with shape type `S` on a pool of `w` workers, the
    predecessor completing with value pack `v` on worker `L`, under the no-wrap guard. -/
def Reachable (S : CTy) (w n L : Nat) (v : Int) (s : St) : Prop :=
  Safe S w n ∧ L < w ∧ ∃ log, runLog step (init S w n L v) log = some s

/-- **Every index at most once.**  In every reachable state `f` has been called at most once
    with index `i`, for every integer `i`. -/
theorem C11c_at_most_once (S : CTy) (w n L : Nat) (v : Int) (s : St)
    (h : Reachable S w n L v s) (i : Int) : ncalls s i ≤ 1 := by
  obtain ⟨_, _, ⟨e1, _⟩ | ⟨_, hi⟩⟩ := reach_cases h
  · simp [ncalls, e1]
  · by_cases hin : 0 ≤ i ∧ i < s.n
    · have A := (hi.acct i.toNat (by omega)).1
      have P := Bulk.popped_le_one s.p hi.pq (i.toNat / s.c)
      have : ((i.toNat : Nat) : Int) = i := by omega
      rw [this] at A
      omega
    · have := ncalls_eq_zero_of_outside s i (fun e he => ⟨(hi.callsB e he).1, (hi.callsB e he).2.1⟩)
        (by omega)
      omega

/-- **No other index.**  `f` is never called with an index outside `[0, n)`. -/
theorem C11c_no_index_outside (S : CTy) (w n L : Nat) (v : Int) (s : St)
    (h : Reachable S w n L v s) (i : Int) (ho : i < 0 ∨ (n : Int) ≤ i) : ncalls s i = 0 := by
  obtain ⟨en, _, ⟨e1, _⟩ | ⟨_, hi⟩⟩ := reach_cases h
  · simp [ncalls, e1]
  · exact ncalls_eq_zero_of_outside s i (fun e he => ⟨(hi.callsB e he).1, (hi.callsB e he).2.1⟩)
      (by rw [en]; exact ho)

/-- **The predecessor's values reach every call unchanged.**  Every call of `f` was made with
    the value pack `v` the predecessor sent. -/
theorem C11c_calls_get_predecessor_values (S : CTy) (w n L : Nat) (v : Int) (s : St)
    (h : Reachable S w n L v s) (e : Int × Int) (he : e ∈ s.calls) : e.2 = v := by
  obtain ⟨_, ev, ⟨e1, _⟩ | ⟨_, hi⟩⟩ := reach_cases h
  · rw [e1] at he; simp at he
  · rw [← ev]; exact (hi.callsB e he).2.2

/-- **Exactly one completion.**  The receiver is completed at most once (value or error). -/
theorem C11c_complete_at_most_once (S : CTy) (w n L : Nat) (v : Int) (s : St)
    (h : Reachable S w n L v s) : s.done.length ≤ 1 := by
  obtain ⟨_, _, ⟨_, _, _, e3⟩ | ⟨_, hi⟩⟩ := reach_cases h
  · rcases e3 with e3 | ⟨e3, _⟩ <;> simp [e3]
  · rw [hi.doneLen]; exact hi.pinv.sig1

/-- **Completion with a value ⇒ every index exactly once, after the last call returned, with
    the predecessor's values.**  If the receiver got `set_value(t)` then `t` is the
    predecessor's value pack, `f` has been called exactly once for every `i < n`, no worker is
    inside the index loop or inside a call (every participant has decremented the join counter),
    and no call threw. -/
theorem C11c_value_implies_all_once (S : CTy) (w n L : Nat) (v : Int) (s : St)
    (h : Reachable S w n L v s) (t : Int) (hd : (false, t) ∈ s.done) :
    t = v ∧ (∀ i : Nat, i < n → ncalls s (i : Int) = 1) ∧ (∀ k, s.lp k = .out) ∧ s.thrown = [] := by
  obtain ⟨en, ev, ⟨_, e2, e5, e3⟩ | ⟨_, hi⟩⟩ := reach_cases h
  · rcases e3 with e3 | ⟨e3, hn⟩ <;> rw [e3] at hd
    · simp at hd
    · simp only [List.mem_singleton, Prod.mk.injEq, true_and] at hd
      exact ⟨hd, fun i hi => by omega, e5, e2⟩
  · obtain ⟨htv, ho⟩ := hi.doneV t hd
    have hout := lp_out_of_outcome s hi false ho
    obtain ⟨h0, hex⟩ := hi.pinv.outc false ho
    have hthr : s.thrown = [] := Classical.byContradiction fun h =>
      absurd ((outcome_iff_thrown s hi false ho).2 h) nofun
    refine ⟨by rw [htv, ev], ?_, hout, hthr⟩
    intro i hin
    rw [← en] at hin
    have A := (hi.acct i hin).2 hthr
    have z : sumTo s.w (fun u => pend s.c i (s.lp u)) = 0 :=
      sumTo_eq_zero (fun u _ => by rw [hout u]; rfl)
    have hc1 : 1 ≤ s.c := hi.safe.2.1
    have hw1 : 1 ≤ s.w := hi.safe.2.2.2.1
    have P := Bulk.popped_eq_one_of_value s.p hi.pinv hi.pq ho (i / s.c)
      (by rw [hi.pa 0 (by omega), part_zero]; exact Nat.zero_le _)
      (by rw [hi.pw, hi.pa s.w (by omega), part_last _ _ (by omega)]
          exact div_lt_nchunks s.c s.n i hc1 hin)
    omega

/-- **A throwing call ⇒ no value.**  Once some call of `f` has thrown the receiver never gets
    a value: every completion is an error. -/
theorem C11c_throw_implies_no_value (S : CTy) (w n L : Nat) (v : Int) (s : St)
    (h : Reachable S w n L v s) (ht : s.thrown ≠ []) (e : Bool × Int) (he : e ∈ s.done) :
    e.1 = true := by
  cases hb : e.1 with
  | true => rfl
  | false =>
    have : e = (false, e.2) := by rw [← hb]
    rw [this] at he
    exact absurd (C11c_value_implies_all_once S w n L v s h e.2 he).2.2.2 ht

/-- **The error is one of the thrown exceptions, delivered after the last call.**  If the
    receiver got `set_error(x)` then `x` is the exception of a call that threw, and no worker is
    inside the index loop or inside a call any more. -/
theorem C11c_error_is_thrown (S : CTy) (w n L : Nat) (v : Int) (s : St)
    (h : Reachable S w n L v s) (x : Int) (hd : (true, x) ∈ s.done) :
    x ∈ s.thrown ∧ ∀ k, s.lp k = .out := by
  obtain ⟨_, _, ⟨_, _, _, e3⟩ | ⟨_, hi⟩⟩ := reach_cases h
  · rcases e3 with e3 | ⟨e3, _⟩ <;> rw [e3] at hd <;> simp at hd
  · obtain ⟨hx, ho⟩ := hi.doneE x hd
    exact ⟨hx, lp_out_of_outcome s hi true ho⟩

/-- **`n == 0` completes immediately with the values.**  With shape 0 the only first event is
    the fast path, the completion with the predecessor's value pack is enabled right after it,
    and in every reachable state `f` has not been called and the receiver has at most that one
    value. -/
theorem C11c_zero_completes_immediately (S : CTy) (w L : Nat) (v : Int) :
    (∀ e s', step (init S w 0 L v) e = some s' → e = .zero) ∧
    (∃ s, runLog step (init S w 0 L v) [.zero, .sig false v] = some s ∧ s.done = [(false, v)] ∧
      s.calls = []) ∧
    (∀ s, Reachable S w 0 L v s → s.calls = [] ∧ (s.done = [] ∨ s.done = [(false, v)])) := by
  refine ⟨?_, ?_, ?_⟩
  · intro e s' h
    cases e <;> simp [step, init] at h ⊢
  · exact ⟨{ (init S w 0 L v) with ph := 2, done := [(false, v)] }, by simp [runLog, step, init], rfl, rfl⟩
  · intro s h
    obtain ⟨_, _, ⟨e1, _, _, e3⟩ | ⟨hn, _⟩⟩ := reach_cases h
    · exact ⟨e1, e3.imp id And.left⟩
    · exact absurd rfl hn

/-- **The queues are initialised from the regenerated arithmetic.**  Under `Safe`, for `n ≠ 0`
    the model accepts `set_value`'s plan with the chunk size the generated `get_chunk_size`
    returns (which satisfies `SafeC`), and worker `k`'s queue then holds exactly the generated
    `queueRange S w n c k`. -/
theorem C11c_plan_from_generated (S : CTy) (w n L : Nat) (v : Int) (hs : Safe S w n) (hn : n ≠ 0) :
    ∃ (c : Nat) (s' : St), chunkSizeOf S fuel w n = some (c : Int) ∧ SafeC S w n c ∧
      step (init S w n L v) (.plan c) = some s' ∧
      ∀ k, k < w → word (s'.p.qs k) = queueRange S w n c k := by
  obtain ⟨c, hc, hsafe⟩ := chunkSize_safe S w n hs
  have hp := planOK_of_safeC S w n c hsafe
  let s1 : St := { (init S w n L v) with ph := 1, c := c, ts := some v, p := Bulk.init w L (cutsOf S w n c) }
  refine ⟨c, s1, hc, hsafe, ?_, ?_⟩
  · show step (init S w n L v) (.plan c) = some s1
    simp only [step]
    rw [if_pos ⟨rfl, hn, hc, hp⟩]
    rfl
  · intro k hk
    show word ((Bulk.init w L (cutsOf S w n c)).qs k) = _
    simp only [Bulk.init, word]
    rw [cutsOf_ideal S w n c hsafe k (by omega), cutsOf_ideal S w n c hsafe (k + 1) (by omega),
      queueRange_ideal S w n c k hsafe hk]

/-- **Refinement (the stack is a theorem, not prose).**  While the workers run, the protocol
    component `p` of the composed state is a reachable state of the protocol model
    `PikaVerif.Bulk` started on the cut points of the *generated* queue ranges (which are
    monotone): every theorem of `Props/C11Proto.lean` applies to it. -/
theorem C11c_refines_protocol (S : CTy) (w n L : Nat) (v : Int) (s : St)
    (h : Reachable S w n L v s) (hp : s.ph = 1) :
    C11Proto.Reachable w L (cutsOf S w n s.c) s.p := by
  have hsafe := (running h hp).safe
  obtain ⟨hs, hL, log, hl⟩ := h
  obtain ⟨eS, ew, en, _⟩ := params_of_accepted hl
  have eL := L_of_accepted hl
  obtain ⟨plog, hpl⟩ := protoReach_of_accepted hl hp
  rw [eS, ew, en, eL] at hpl
  rw [eS, ew, en] at hsafe
  exact ⟨hL, cutsOf_mono S w n s.c hsafe, plog, hpl⟩

/-- **The decision uses the flag as it is after the last decrement.**  The model accepts
    `finish()` taking the `set_error` / `set_value` branch (`bulk.decide`, logged in the branch
    actually taken) only when every participant has decremented and is outside the index loop,
    and only with `err = true` exactly when some call threw: a decision made from a value of
    `exception_thrown` read *before* the decrement — while a call that throws later is still
    running — is rejected, and so is a `set_value` after a throw. -/
theorem C11c_decision_after_last_decrement (S : CTy) (w n L : Nat) (v : Int) (s s' : St)
    (h : Reachable S w n L v s) (k : Nat) (err : Bool) (hd : step s (.decide k err) = some s') :
    s.p.remaining = 0 ∧ (∀ u, s.lp u = .out) ∧ (err = true ↔ s.thrown ≠ []) := by
  cases step_iff.1 hd with | run hph hr =>
  cases hr with | decide _ _ ho =>
  have hi := running h hph
  exact ⟨(hi.pinv.outc err ho).1, lp_out_of_outcome s hi err ho, outcome_iff_thrown s hi err ho⟩

/-! ## Non-vacuity -/

/-- `bulk<int>(3)` on 2 workers, predecessor on worker 1, value pack 7: chunk size 1, queues
    `[0,1)` and `[1,3)`; worker 0 runs chunk 0 and steals chunk 2 from the right end of worker
    1's queue, worker 1 runs chunk 1; value completion after the last decrement. -/
def exampleLog : List Ev :=
  [.plan 1, .spawn 0, .task 1, .task 0, .load 0 0 0 1, .cas 0 0 true 1 1, .chunk 0 0, .call 0 0 7,
   .load 1 1 1 3, .cas 1 1 true 2 3, .ret 0, .chunk 1 1, .call 1 1 7, .ret 1, .load 0 0 1 1,
   .load 0 1 2 3, .cas 0 1 true 2 2, .chunk 0 2, .call 0 2 7, .ret 0, .load 1 1 2 2, .load 1 0 1 1,
   .dec 1 false, .load 0 1 2 2, .dec 0 true, .decide 0 false, .sig false 7]

example : (runLog step (init CTy.i32 2 3 1 7) exampleLog).map (fun s => (s.done, s.calls)) =
    some ([(false, 7)], [(2, 7), (1, 7), (0, 7)]) := by decide +kernel

/-- the calls with index 0 and 2 throw; the first exception wins the `exchange`, the second
    participant decrements without storing: one error (the exception of index 0), no value -/
def exampleThrowLog : List Ev :=
  [.plan 1, .spawn 0, .task 1, .task 0, .load 0 0 0 1, .cas 0 0 true 1 1, .chunk 0 0, .call 0 0 7,
   .throw 0, .load 1 1 1 3, .exc 0, .cas 1 1 true 2 3, .dec 0 false, .chunk 1 1, .call 1 1 7, .ret 1,
   .load 1 1 2 3, .cas 1 1 true 3 3, .chunk 1 2, .call 1 2 7, .throw 1, .dec 1 true, .decide 1 true, .sig true 0]

example : (runLog step (init CTy.i32 2 3 1 7) exampleThrowLog).map (fun s => (s.done, s.thrown)) =
    some ([(true, 0)], [2, 0]) := by decide +kernel

/-- the stale decision (worker 1 read `exception_thrown = false` before its decrement, worker 0's
    call threw meanwhile) is rejected: after the last decrement only `decide _ true` is accepted -/
example : (runLog step (init CTy.i32 2 3 1 7)
    [.plan 1, .spawn 0, .task 1, .task 0, .load 0 0 0 1, .cas 0 0 true 1 1, .chunk 0 0, .load 1 1 1 3,
     .cas 1 1 true 2 3, .chunk 1 1, .call 1 1 7, .ret 1, .load 1 1 2 3, .cas 1 1 true 3 3, .chunk 1 2,
     .call 1 2 7, .ret 1, .load 1 1 3 3, .load 1 0 1 1, .call 0 0 7, .throw 0, .exc 0, .dec 0 false,
     .dec 1 true, .decide 1 false]) = none ∧
    (runLog step (init CTy.i32 2 3 1 7)
    [.plan 1, .spawn 0, .task 1, .task 0, .load 0 0 0 1, .cas 0 0 true 1 1, .chunk 0 0, .load 1 1 1 3,
     .cas 1 1 true 2 3, .chunk 1 1, .call 1 1 7, .ret 1, .load 1 1 2 3, .cas 1 1 true 3 3, .chunk 1 2,
     .call 1 2 7, .ret 1, .load 1 1 3 3, .load 1 0 1 1, .call 0 0 7, .throw 0, .exc 0, .dec 0 false,
     .dec 1 true, .decide 1 true, .sig true 0]).isSome = true := by decide +kernel

/-- a failed compare-exchange (the word changed between load and CAS) retries on the observed word -/
example : (runLog step (init CTy.i32 2 3 0 7)
    [.plan 1, .spawn 1, .task 0, .task 1, .load 1 1 1 3, .load 0 0 0 1, .cas 0 0 true 1 1, .chunk 0 0,
     .call 0 0 7, .ret 0, .load 0 0 1 1, .load 0 1 1 3, .cas 1 1 true 2 3, .cas 0 1 false 2 3,
     .cas 0 1 true 2 2]).isSome = true := by decide +kernel

end PikaVerif.C11c
