import PikaVerif.Lemmas.RwProgress
/-!
# C04 — async_rw_mutex: exclusive writers, grouped readers, request-order grants

Property theorems about the model `PikaVerif.Rw`.  Every theorem quantifies over *all*
accepted event logs of the model (`Reachable s`), i.e. over every request sequence over
{read, readwrite}, every placement of starts / drops / copies / releases on threads and every
interleaving of the atomic steps of `add_op_state`, `done()` and the shared-state destructors.
Accesses are numbered in request order; `s.grp a` is the shared state ("group") of access `a`.
`Reachable`, `Started`, `WasGranted`, `Internal` and `Stuck` are defined in `Lemmas/RwProgress.lean`,
beside the progress theorem for every state with the invariant.
-/
namespace PikaVerif.C04
open PikaVerif PikaVerif.Rw

/-- access `a` has been granted and at least one of its wrappers is alive -/
def Held (s : St) (a : Nat) : Prop := ∃ c, s.acc a = .granted c

/-- `a` was requested with `readwrite()` -/
def IsRw (s : St) (a : Nat) : Prop := s.rw (s.grp a) = true

private theorem held_lt {s : St} (hi : Inv s) {a : Nat} (h : Held s a) :
    a < s.na ∧ post (s.acc a) = true ∧ s.acc a ≠ .released := by
  obtain ⟨c, hc⟩ := h
  exact ⟨lt_of_acc hi (hc ▸ nofun), hc ▸ rfl, hc ▸ nofun⟩

/-- **Read groups.**  Two accesses that are held at the same time belong to the same shared
    state, i.e. they are reads requested between the same two read-write accesses. -/
theorem C04_read_groups (s : St) (hr : Reachable s) (a b : Nat) (ha : Held s a) (hb : Held s b) :
    s.grp a = s.grp b := by
  obtain ⟨log, hlog⟩ := hr
  have hi := inv_of_accepted hlog
  obtain ⟨ha1, ha2, ha3⟩ := held_lt hi ha
  obtain ⟨hb1, hb2, hb3⟩ := held_lt hi hb
  exact Nat.le_antisymm (Nat.le_of_not_lt fun h => hb3 (granted_pred_released hi ha1 hb1 ha2 h))
    (Nat.le_of_not_lt fun h => ha3 (granted_pred_released hi hb1 ha1 hb2 h))

/-- **Exclusive writers.**  A held read-write access overlaps no other held access. -/
theorem C04_rw_exclusive (s : St) (hr : Reachable s) (a b : Nat) (ha : Held s a) (hb : Held s b)
    (hw : IsRw s a) : a = b := by
  have hg := C04_read_groups s hr a b ha hb
  obtain ⟨log, hlog⟩ := hr
  have hi := inv_of_accepted hlog
  exact hi.rwSingle a b (held_lt hi ha).1 (held_lt hi hb).1 hg hw

/-- **Request order of the groups.**  Groups are numbered in request order: a later request is
    never in an earlier group; a read-write request is alone in its group. -/
theorem C04_groups_in_request_order (s : St) (hr : Reachable s) (a b : Nat) (hab : a ≤ b)
    (hb : b < s.na) : s.grp a ≤ s.grp b ∧ (s.grp a = s.grp b → IsRw s a → a = b) := by
  obtain ⟨log, hlog⟩ := hr
  have hi := inv_of_accepted hlog
  exact ⟨hi.grpMono a b hab hb, fun h1 h2 => hi.rwSingle a b (by omega) hb h1 h2⟩

/-- **Request-order grants.**  When an access has been granted, every access of every earlier
    group has been granted and completely released before. -/
theorem C04_order (s : St) (hr : Reachable s) (a b : Nat) (ha : a < s.na) (hb : b < s.na)
    (hg : WasGranted s a) (hlt : s.grp b < s.grp a) : s.acc b = .released := by
  obtain ⟨log, hlog⟩ := hr
  exact granted_pred_released (inv_of_accepted hlog) ha hb hg hlt

/-- **Granted exactly once.**  The continuation of an access runs at most once, and it has run
    exactly once for every access that is held or released. -/
theorem C04_granted_once (s : St) (hr : Reachable s) (a : Nat) :
    s.grants a ≤ 1 ∧ (WasGranted s a ↔ s.grants a = 1) := by
  obtain ⟨log, hlog⟩ := hr
  have h := (inv_of_accepted hlog).grantsOk a
  unfold WasGranted
  by_cases hp : post (s.acc a) = true <;> simp [hp] at h ⊢ <;> omega

/-- **The value outlives the wrappers.**  As long as any requested access has not been
    completely released (in particular while a wrapper is alive) the wrapped value has not been
    destroyed - also after the mutex object itself is gone. -/
theorem C04_value_outlives (s : St) (hr : Reachable s) (a : Nat) (ha : a < s.na)
    (hn : s.acc a ≠ .released) : s.vfreed = false := by
  obtain ⟨log, hlog⟩ := hr
  have hi := inv_of_accepted hlog
  cases hv : s.vfreed with
  | false => rfl
  | true =>
    obtain ⟨_, h2⟩ := hi.vf hv
    have hg := hi.grpLt a ha
    rcases h2 with h2 | h2
    · omega
    · exact absurd (((dead_iff hi (by omega)).1 h2).2 a ha (by omega)) hn

/-- **The wrapped value outlives every access that is held.** -/
theorem C04_value_outlives_held (s : St) (hr : Reachable s) (a : Nat) (ha : Held s a) :
    s.vfreed = false := by
  have ⟨log, hlog⟩ := hr
  obtain ⟨h1, _, h3⟩ := held_lt (inv_of_accepted hlog) ha
  exact C04_value_outlives s hr a h1 h3

/-- **Every access observes all earlier modifications.**  While access `a` is held, the version
    of the wrapped value (`s.ver`; the acceptor accepts `readv t a v` only with `v = s.ver`, see
    `C04_value_events`) is exactly the number of modifications made through the accesses of the
    groups up to and including `a`'s group; every access of an earlier group has been released,
    so those modifications are complete; and no access of a later group has modified the value. -/
theorem C04_sees_writes (s : St) (hr : Reachable s) (a : Nat) (ha : Held s a) :
    s.ver = sumTo s.na (fun b => if s.grp b ≤ s.grp a then s.wr b else 0) ∧
    (∀ b, b < s.na → s.grp b < s.grp a → s.acc b = .released) ∧
    (∀ b, s.grp a < s.grp b → s.wr b = 0) := by
  obtain ⟨log, hlog⟩ := hr
  obtain ⟨hi, hw⟩ := invW_of_accepted hlog
  obtain ⟨ha1, ha2, ha3⟩ := held_lt hi ha
  have hlater : ∀ b, s.grp a < s.grp b → s.wr b = 0 := by
    intro b hlt
    by_cases hb : b < s.na
    · refine Nat.eq_zero_of_not_pos fun hz => ha3 ?_
      exact granted_pred_released hi hb ha1 (hw.wrPost b hz) hlt
    · exact hw.wrOut b (by omega)
  refine ⟨?_, fun b hb hlt => granted_pred_released hi ha1 hb ha2 hlt, hlater⟩
  rw [hw.verSum]
  apply sumTo_congr
  intro b _
  by_cases hle : s.grp b ≤ s.grp a
  · simp [hle]
  · simp [hle, hlater b (by omega)]

/-- The value events of the acceptor: a read through access `a` is accepted only while `a` is held
    and only with the current version; a write only through a held read-write access, and it
    produces the next version. -/
theorem C04_value_events (s s' : St) (t a v : Nat) :
    (step s (.readv t a v) = some s' → Held s a ∧ v = s.ver) ∧
    (step s (.write t a v) = some s' → Held s a ∧ IsRw s a ∧ v = s.ver + 1 ∧ s'.ver = v) := by
  constructor
  · intro h
    cases Step.of_step h with
    | readv _ hx => exact ⟨⟨_, hx⟩, rfl⟩
  · intro h
    cases Step.of_step h with
    | write _ hx hr => exact ⟨⟨_, hx⟩, hr, rfl, rfl⟩

/-- **Progress.**  A state in which no internal step is enabled has no thread inside
    `add_op_state` (no access between `start()` and its push / inline grant) and no unfinished
    `done()` frame: every call of `done()` has exchanged the head and run all continuations. -/
theorem C04_progress (s : St) (hr : Reachable s) (hs : Stuck s) :
    (∀ a t d, s.acc a ≠ .starting t d) ∧ (∀ a t d h, s.acc a ≠ .loaded t d h) ∧
    (∀ g, g < s.ng → s.dn g = .idle ∨ ∃ t, s.dn g = .drain t []) := by
  obtain ⟨log, hlog⟩ := hr
  exact progress (inv_of_accepted hlog) hs

/-- **No stall.**  In every reachable state in which the implementation has no step left to take
    (no thread inside `add_op_state`, `done()` or a destructor), every started access whose
    predecessors - all accesses of all earlier groups - have been released has been granted.
    Together with `C04_progress` (a thread inside one of these functions always has an enabled
    step): under any schedule that keeps running enabled threads, a started access is granted
    once all earlier accesses have been released. -/
theorem C04_no_stall (s : St) (hr : Reachable s) (hs : Stuck s) (a : Nat) (ha : a < s.na)
    (hst : Started s a) (hall : ∀ b, b < s.na → s.grp b < s.grp a → s.acc b = .released) :
    WasGranted s a := by
  obtain ⟨log, hlog⟩ := hr
  exact no_stall (inv_of_accepted hlog) hs a ha hst hall

/-- **Solo completion of `add_op_state`.**  A thread that is inside `start()` finishes it within
    three of its own steps if it runs alone: it either pushes its operation state or runs the
    continuation inline (lock-freedom of the CAS loop: a CAS can only fail because the head moved). -/
theorem C04_solo_start (s : St) (a : Nat)
    (hx : (∃ t det, s.acc a = .starting t det) ∨ (∃ t det h, s.acc a = .loaded t det h)) :
    ∃ es s', es.length ≤ 3 ∧ (∀ e, e ∈ es → Internal e) ∧ runLog step s es = some s' ∧
      (isQ (s'.acc a) = true ∨ post (s'.acc a) = true) := by
  -- a CAS whose expected value is current pushes; after a load or a failed CAS it is current
  have push : ∀ {s : St} {t det} {q : List Nat}, s.acc a = .loaded t det q.length →
      s.head (s.grp a) = some q → ∃ s', step s (.cas t a true 0 false false) = some s' ∧
        (isQ (s'.acc a) = true ∨ post (s'.acc a) = true) := fun hx hq =>
    ⟨_, (Step.casPush 0 hx hq).step, .inl (by simp only [upd_same, isQ])⟩
  have one : ∀ {e : Ev} {t det}, step s e = some (grant s t a det) → Internal e →
      ∃ es s', es.length ≤ 3 ∧ (∀ e, e ∈ es → Internal e) ∧ runLog step s es = some s' ∧
        (isQ (s'.acc a) = true ∨ post (s'.acc a) = true) := fun {e t det} h he =>
    ⟨[e], _, by simp, fun e' he' => List.mem_singleton.1 he' ▸ he, by simp only [runLog, h],
      .inr (grant_acc_post s t a det)⟩
  have two : ∀ {e : Ev} {s1 : St} {t det} {q : List Nat}, step s e = some s1 →
      s1.acc a = .loaded t det q.length → s1.head (s1.grp a) = some q → Internal e →
      ∃ es s', es.length ≤ 3 ∧ (∀ e, e ∈ es → Internal e) ∧ runLog step s es = some s' ∧
        (isQ (s'.acc a) = true ∨ post (s'.acc a) = true) := fun {e s1 t det q} h hx1 hq1 he => by
    obtain ⟨s', hs', hfin⟩ := push hx1 hq1
    refine ⟨[e, .cas t a true 0 false false], s', by simp, fun e' he' => ?_, by simp only [runLog, h, hs'], hfin⟩
    rcases List.mem_cons.1 he' with rfl | he'
    · exact he
    · rw [List.mem_singleton.1 he']; trivial
  rcases hx with ⟨t, det, hx⟩ | ⟨t, det, h, hx⟩ <;> cases hh : s.head (s.grp a) with
  | none => first | exact one (Step.loadDone hx hh).step trivial | exact one (Step.casDone hx hh).step trivial
  | some q =>
    first
    | exact two (Step.loadOpen hx hh).step (upd_same _ _ _) hh trivial
    | exact two (Step.casRetry hx hh).step (upd_same _ _ _) hh trivial

/-- **Solo completion of `done()`.**  A `done()` frame with `n` continuations left finishes in `n`
    steps of its thread (each runs one continuation; the frames it may open on later groups are
    separate obligations of the same kind). -/
theorem C04_solo_done (g t : Nat) : ∀ (r : List Nat) (s : St), Reachable s → g < s.ng → s.dn g = .drain t r →
    ∃ es s', es.length = r.length ∧ (∀ e, e ∈ es → Internal e) ∧ runLog step s es = some s' ∧
      s'.dn g = .drain t [] := by
  intro r s hr
  obtain ⟨log, hlog⟩ := hr
  have hi := inv_of_accepted hlog
  clear hlog
  induction r generalizing s with
  | nil => intro _ hd; exact ⟨[], s, rfl, nofun, rfl, hd⟩
  | cons a' rest ih =>
    intro hg hd
    obtain ⟨_, _, hga, det, hx⟩ := drain_front hi hg hd
    have hstep := (Step.cont hd hx hga).step
    have hne : g ≠ s.grp a' + 1 := hga ▸ (Nat.succ_ne_self _).symm
    obtain ⟨es, s', e1, e2, e3, e4⟩ := ih _ (step_inv _ _ _ hi hstep)
      (by rw [(grant_fields _ t a' det).2.2.1]; exact hg)
      ((grant_dn { s with dn := upd s.dn g (.drain t rest) } t a' det hne).trans (upd_same _ _ _))
    refine ⟨.cont t g (ackOf det a') (grantDies s a' det) :: es, s', by rw [List.length_cons, e1, List.length_cons], fun e he => ?_,
      by simp only [runLog, hstep]; exact e3, e4⟩
    rcases List.mem_cons.1 he with rfl | he
    · trivial
    · exact e2 e he

/-! ## Non-vacuity: concrete accepted logs reaching the interesting states -/

/-- w0, r1, r2 requested; 0 started and granted inline; 1 started while 0 is held: queued;
    0 released: its shared state dies, `done()` on the read group grants 1 from the queue;
    2 started: granted inline; 1 and 2 are held together. -/
def exampleLog : List Ev :=
  [.req 0 0 true true false, .xchg 0 0 0, .req 0 1 false true false, .req 0 2 false false false,
   .start 1 0 false, .load 1 0 2 true false,
   .start 2 1 false, .load 2 1 0 false false, .cas 2 1 true 0 false false,
   .write 1 0 1, .rel 1 0 true, .xchg 1 1 1, .cont 1 1 (some 1) false,
   .start 0 2 false, .load 0 2 2 true false, .readv 2 1 1]

example : (runLog step init exampleLog).isSome = true := by decide

/-- evaluate a Boolean observation on the state reached by a log -/
def reaches (log : List Ev) (p : St → Bool) : Bool :=
  match runLog step init log with
  | some s => p s
  | none => false

/-- at the end 1 and 2 (reads of one group) are held together, 0 has been released -/
example : reaches exampleLog (fun s => s.acc 1 == .granted 0 && s.acc 2 == .granted 0 &&
    s.acc 0 == .released && s.grp 1 == s.grp 2) = true := by decide

/-- a started access that is legitimately waiting: 1 is queued behind the held access 0 -/
example : reaches (exampleLog.take 9) (fun s => s.acc 1 == .queued false && s.acc 0 == .granted 0) = true := by
  decide

/-- mutex destroyed early, last access released afterwards, then the value is destroyed -/
example : (runLog step init
    [.req 0 0 true true false, .xchg 0 0 0, .destroy 0 false, .start 1 0 false,
     .load 1 0 2 true false, .rel 1 0 true, .vfree 1]).isSome = true := by decide

end PikaVerif.C04
