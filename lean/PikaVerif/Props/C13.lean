import PikaVerif.Lemmas.JoinSteps
/-!
# C13 — `pika::thread` / `pika::jthread`: join waits for completion, always returns

Property theorems about the model `PikaVerif.Join` (thread handle `id_`/`mtx_`, `thread::join`,
`detach`, `joinable`, the exit-callback list of a task with `add_thread_exit_callback` /
`run_thread_exit_callbacks`, wake-up tokens of suspended joiners, interruption flags and
interruption points, `~jthread`).  Every theorem quantifies over *all* accepted event logs of the
model (`Reachable s`): any number of tasks and handles, any program, any interleaving.

The exit-callback loop of the model is the one of the repaired tree.  The loop of the pinned tree
(run `front()` unlocked, then `pop_front()`) is modelled in `OldLoop` below with the machine-checked
counterexample `C13_pinned_loop_drops_callback` (a callback registered while another one runs is
dropped and the running one is run twice; with the join callback this makes `join` never return) —
reproduced on the real code, see `findings/C13-*.json`.
-/
namespace PikaVerif.C13
open PikaVerif PikaVerif.Join

def Reachable (s : St) : Prop := ∃ log, runLog step init log = some s

theorem Reachable.inv {s : St} (h : Reachable s) : Inv s := by
  obtain ⟨log, hl⟩ := h
  exact inv_of_accepted hl

/-- **join returns only after the thread function returned.**  Whenever the model accepts the end of
    a `join` (`jn.done`: `detach_locked()` at the end of `thread::join`) by task `j` on handle `h`, the
    joined target `o` has left its thread function and has begun (or completed) running its exit
    callbacks — on the suspended path the joiner's own callback was invoked by `o`, on the refused
    path `ran_exit_funcs_` was set or `o` was terminated. -/
theorem C13_join_after_body (s s' : St) (hr : Reachable s) (h j : Nat)
    (hs : step s (.jnDone h j) = some s') :
    ∃ o, (s.jpc j = .refused h o ∨ s.jpc j = .woke h o) ∧ started (s.phase o) = true ∧
      afterBody (s.phase o) = true ∧ s'.lastJoin j = some (h, o) :=
  hr.inv.join_after_body hs

/-- A completed join stays justified: at any later reachable state the target recorded by the last
    completed join of `j` is past its thread function (its exit-callback phase has started). -/
theorem C13_joined_target_finished (s : St) (hr : Reachable s) (j h o : Nat)
    (hl : s.lastJoin j = some (h, o)) : started (s.phase o) = true ∧ afterBody (s.phase o) = true := by
  have hst := hr.inv.lastJoinOk j h o hl
  exact ⟨hst, started_afterBody _ hst⟩

/-- **After join or detach the handle is not joinable.** -/
theorem C13_not_joinable_after (s s' : St) (h j : Nat) :
    (step s (.jnDone h j) = some s' → s'.hid h = none) ∧
    (∀ r, step s (.detach h j r) = some s' → s'.hid h = none) ∧
    (∀ r, step s (.joinable h j r) = some s' → r = (s.hid h).isSome) := by
  refine ⟨fun hs => ?_, fun r hs => ?_, fun r hs => ?_⟩
  · cases Step.of_step hs <;> exact upd_same ..
  · cases Step.of_step hs; exact upd_same ..
  · cases Step.of_step hs with
    | joinable hr => exact hr

/-- **Joining twice / joining a detached handle is reported as an error; joining oneself too.**
    At the check inside `join` (task `j` holds `mtx_` of `h`): if the handle is not joinable the model
    accepts only the `invalid_status` error (code 1) and rejects the continuation; if the handle
    refers to `j` itself only the `thread_resource_error` (code 2). -/
theorem C13_double_self_join_error (s : St) (h j : Nat) (hp : s.jpc j = .locked h) (hm : s.mtx h = some j) :
    (s.hid h = none → (step s (.jnErr h j 1)).isSome = true ∧ (∀ o, step s (.jnChecked h j o) = none) ∧
        step s (.jnErr h j 2) = none) ∧
    (s.hid h = some j → (step s (.jnErr h j 2)).isSome = true ∧ (∀ o, step s (.jnChecked h j o) = none) ∧
        step s (.jnErr h j 1) = none) := by
  refine ⟨?_, ?_⟩
  · intro hn
    refine ⟨by simp [step, hp, hm, hn], ?_, by simp [step, hp, hm, hn]⟩
    intro o; simp [step, hn]
  · intro hn
    refine ⟨by simp [step, hp, hm, hn], ?_, by simp [step, hp, hm, hn]⟩
    intro o
    simp only [step]
    rw [if_neg]
    intro hg
    obtain ⟨_, _, hid, hne⟩ := hg
    rw [hn] at hid
    exact hne (by simpa using hid.symm)

/-- the error leaves the handle unchanged and releases `mtx_` -/
theorem C13_join_error_effect (s s' : St) (h j c : Nat) (hs : step s (.jnErr h j c) = some s') :
    s'.hid = s.hid ∧ s'.mtx h = none ∧ s'.jpc j = .out := by
  cases Step.of_step hs; exact ⟨rfl, upd_same .., upd_same ..⟩

/-! ## join always returns -/

/-- Events that are the environment's choice (a task starting a new operation, the thread function
    ending, the scheduler storing `terminated`, interruption requests, …).  Everything else continues
    an operation in progress. -/
def External (s : St) : Ev → Prop
  | .term _ | .start _ _ _ | .body _ | .bodyDone _ | .jnLock _ _ | .joinable _ _ _ | .detach _ _ _
  | .uadd _ _ _ | .ipEnable _ _ _ | .ipRefuse _ | .ipReq _ _ | .jtDtor _ _ | .jtStop _ _ _ | .jtJoined _ _ => True
  -- (C13m) handle operations are the program's choice, too
  | .mvCtor _ _ _ | .mvAssign _ _ _ | .mvTerm _ _ | .swap _ _ _ | .dtorOk _ _ | .dtorTerm _ _ | .jtSkip _ _ => True
  | .ipHit o _ | .ipMiss o => s.jpc o = .out
  | _ => False

/-- A state is *stuck* when the model accepts no event that continues an operation in progress. -/
def Stuck (s : St) : Prop := ∀ e, step s e ≠ none → External s e

/-- **join always returns (progress).**  In every reachable stuck state, every task is outside
    `join` or is suspended in `join` without a wake-up token while its target has not left its thread
    function; and no task is in the middle of its exit-callback processing.  In particular, for all
    three orders of {callback added, exit callbacks run, joiner suspended} the model cannot come to
    rest with a joiner whose target has finished: a refused callback lets `join` continue at once, a
    callback run before the suspension leaves a token that the suspension consumes, a callback run
    after it wakes the joiner. -/
theorem C13_join_returns (s : St) (hr : Reachable s) (hs : Stuck s) :
    (∀ j, s.jpc j = .out ∨ ∃ h o, s.jpc j = .susp h o ∧ s.tok j = 0 ∧
        (s.phase o = .fresh ∨ s.phase o = .body)) ∧
    (∀ o, s.phase o = .fresh ∨ s.phase o = .body ∨ s.phase o = .exited) :=
  join_returns_of_inv s hr.inv fun e hc => Classical.not_not.mp fun h =>
    (by cases e <;> simp_all [External, Continues] : ¬ External s e) (hs e h)

/-- **The joiner's callback is neither dropped nor run twice**, whatever else is registered on the
    target (arbitrary numbers of user callbacks and of other joiners' callbacks, registered at any
    time, also while the loop is running): while `j` waits for `o`, exactly one of the following
    exists — its callback in `o`'s list (once), its callback taken out by `o`'s exit loop and about
    to be invoked, or the wake-up token the invocation left. -/
theorem C13_join_callback_exactly_once (s : St) (hr : Reachable s) (j o : Nat)
    (hw : waitsB (s.jpc j) o = true) :
    s.tok j + (cntL (s.funcs o) j + runCnt (s.phase o) j) = 1 :=
  hr.inv.balance j o hw

/-- No stale wake-up: a task that is not waiting in `join` has no wake-up token and no callback of
    it is registered anywhere (so a later `join` of the same task cannot be released early). -/
theorem C13_no_stale_wakeup (s : St) (hr : Reachable s) (j : Nat) (hw : waitsAny (s.jpc j) = false) :
    s.tok j = 0 ∧ ∀ o, cntL (s.funcs o) j + runCnt (s.phase o) j = 0 :=
  hr.inv.no_stale j hw

/-! ## jthread -/

/-- **Destroying a jthread requests stop and joins.**  When `join()` inside `~jthread` has returned
    (`jt.joined`), the stop request was made before (`request_stop()` returned and
    `stop_requested()` was observed true), the join was on this handle, and its target has left its
    thread function. -/
theorem C13_jthread_dtor (s s' : St) (hr : Reachable s) (h j : Nat)
    (hs : step s (.jtJoined h j) = some s') :
    s.dt j = some (h, true) ∧ ∃ o, s.lastJoin j = some (h, o) ∧ started (s.phase o) = true ∧
      afterBody (s.phase o) = true := by
  cases Step.of_step hs with
  | jtJoined hd hj =>
    refine ⟨hd, ?_⟩
    cases hl : s.lastJoin j with
    | none => rw [hl] at hj; cases hj
    | some p =>
      obtain ⟨h', o⟩ := p
      rw [hl, joinedH_some, beq_iff_eq] at hj
      subst hj
      exact ⟨o, rfl, C13_joined_target_finished s hr j h' o hl⟩

/-- Inside the destructor the join can only start after the stop request, and only on the
    destructor's own handle. -/
theorem C13_jthread_stop_before_join (s s' : St) (h j h' : Nat) (b : Bool)
    (hd : s.dt j = some (h', b)) (hs : step s (.jnLock h j) = some s') : h' = h ∧ b = true := by
  cases Step.of_step hs with
  | jnLock _ _ _ ha => rw [hd] at ha; simpa using ha

/-! ## interruption -/

/-- **An interruption is delivered only at an interruption point and only while enabled.**  The only
    events that take a task out of its thread function are the normal return and an interruption
    point (`ip.test` hit) that found `enabled_interrupt_ ∧ requested_interrupt_`. -/
theorem C13_interrupt_only_at_points_when_enabled (s s' : St) (e : Ev) (o : Nat)
    (hs : step s e = some s') (h1 : s.phase o = .body) (h2 : s'.phase o ≠ .body) :
    (e = .ipHit o true ∧ s.en o = true ∧ s.req o = true ∧ s'.phase o = .hit) ∨
    (e = .bodyDone o ∧ s'.phase o = .finished) := by
  cases Step.of_step hs with
  | @body x | @bodyDone x | @interrupted x | @exited x | @ecBegin x | @ecTake x | @ecNext x | @ecRan x
  | @resume _ x | @ucb x | @ipHit x | @ipHitJoin x | @ipClear x =>
    by_cases hx : o = x <;> simp_all [upd]
  | _ => exact absurd h1 h2

/-- **A delivered interruption ends only that thread.**  The delivery changes nothing of any other task and of no
    handle's `id_`. -/
theorem C13_interrupt_local (s s' : St) (o : Nat) (thr : Bool) (hs : step s (.ipHit o thr) = some s') :
    s'.hid = s.hid ∧ ∀ o', o' ≠ o → s'.phase o' = s.phase o' ∧ s'.jpc o' = s.jpc o' ∧
      s'.tok o' = s.tok o' ∧ s'.funcs o' = s.funcs o' ∧ s'.req o' = s.req o' ∧ s'.en o' = s.en o' ∧
      s'.ran o' = s.ran o' ∧ s'.interrupted o' = s.interrupted o' := by
  cases Step.of_step hs <;> exact ⟨rfl, fun o' hne => by simp [upd, hne]⟩

/-- A request only sets the flag of its target (and is refused while the target has interruption
    disabled: `ip.refuse`). -/
theorem C13_interrupt_request_local (s s' : St) (o : Nat) (f : Bool) (hs : step s (.ipReq o f) = some s') :
    s'.phase = s.phase ∧ s'.jpc = s.jpc ∧ s'.tok = s.tok ∧ s'.hid = s.hid ∧ (s.en o = true ∨ f = false) ∧
      ∀ o', o' ≠ o → s'.req o' = s.req o' := by
  cases Step.of_step hs with
  | ipReq hg => exact ⟨rfl, rfl, rfl, rfl, hg, fun o' hne => upd_other _ _ _ _ hne⟩

/-- **A delivered interruption ends the thread**: from the delivery on, the task never returns to its
    thread function; it reaches `finished` marked as interrupted (and then runs its exit callbacks like
    any other thread: `C13_join_returns` shows that the states in between are never stuck). -/
theorem C13_interrupt_ends_thread (s s' : St) (e : Ev) (o : Nat) (hs : step s e = some s')
    (h1 : s.phase o = .hit ∨ s.phase o = .unwinding) :
    s'.phase o = .hit ∨ s'.phase o = .unwinding ∨ (s'.phase o = .finished ∧ s'.interrupted o = true) := by
  have keep : s.phase o = .hit ∨ s.phase o = .unwinding ∨ (s.phase o = .finished ∧ s.interrupted o = true) :=
    h1.elim .inl fun h => .inr (.inl h)
  cases Step.of_step hs with
  | @body x | @bodyDone x | @interrupted x | @exited x | @ecBegin x | @ecTake x | @ecNext x | @ecRan x
  | @resume _ x | @ucb x | @ipHit x | @ipHitJoin x | @ipClear x =>
    by_cases hx : o = x <;> simp_all [upd]
  | _ => exact keep

/-! ## The exit-callback loop of the pinned tree and its counterexample -/

namespace OldLoop

/-! `thread_data::run_thread_exit_callbacks` of the pinned tree:
    `lock; while (!exit_funcs_.empty()) { unlock; exit_funcs_.front()(); lock; exit_funcs_.pop_front(); } ran = true`.
    `add_thread_exit_callback` (`push`) needs the same lock, so it interleaves exactly in the unlocked
    window (before or after the invocation).  `Pc` is the position in that loop, `St` the callback list with
    the history of invocations, `step` the acceptor over `begin iter call pop ran` and `push`. -/

inductive Pc where
  | before | head | window | called | done
  deriving DecidableEq, Repr

structure St where
  funcs : List Nat := []
  pc : Pc := .before
  runs : List Nat := []     -- history: invocations
  ran : Bool := false
  deriving Repr

inductive Ev where
  | begin | iter | call (c : Nat) | pop | ran
  | push (c : Nat) (ok : Bool)
  deriving Repr

def step (s : St) : Ev → Option St
  | .begin => if s.pc = .before then some { s with pc := .head } else none
  | .iter => if s.pc = .head ∧ s.funcs ≠ [] then some { s with pc := .window } else none
  | .call c =>
    match s.pc, s.funcs with
    | .window, f :: _ => if c = f then some { s with pc := .called, runs := c :: s.runs } else none
    | _, _ => none
  | .pop =>
    match s.pc, s.funcs with
    | .called, _ :: rest => some { s with pc := .head, funcs := rest }
    | _, _ => none
  | .ran => if s.pc = .head ∧ s.funcs = [] then some { s with pc := .done, ran := true } else none
  | .push c ok =>
    if (s.pc = .before ∨ s.pc = .window ∨ s.pc = .called ∨ s.pc = .done) ∧ ok = !s.ran then
      some { s with funcs := if ok then c :: s.funcs else s.funcs }
    else none

/-- the history observed on the pinned tree (findings/C13-exit-callback-dropped-pinned-tree.json):
    callback 1 is running when callback 2 (the joiner's) is registered -/
def witness : List Ev := [.push 1 true, .begin, .iter, .call 1, .push 2 true, .pop, .iter, .call 1, .pop, .ran]

end OldLoop

/-- **Counterexample for the pinned tree** (machine-checked): with two callbacks the old loop accepts
    a history in which callback 2 was accepted (`push 2 true`), the loop has finished
    (`ran_exit_funcs_ = true`), callback 2 was never invoked and callback 1 was invoked twice.  If
    callback 2 is the one `thread::join` registered, that `join` never returns. -/
theorem C13_pinned_loop_drops_callback :
    ∃ s, runLog OldLoop.step {} OldLoop.witness = some s ∧ s.ran = true ∧ s.funcs = [] ∧
      s.runs = [1, 1] ∧ 2 ∉ s.runs := by
  refine ⟨_, rfl, ?_⟩
  decide

/-- Single-callback case of the pinned loop (`_partial`): if nothing is registered while the loop
    runs, the pinned loop invokes every callback exactly once, front to back. -/
theorem C13_pinned_loop_sequential_partial (l : List Nat) :
    ∀ (runs : List Nat), ∃ s, runLog OldLoop.step { funcs := l, pc := .head, runs := runs }
        (l.flatMap (fun c => [OldLoop.Ev.iter, .call c, .pop]) ++ [.ran]) = some s ∧
      s.ran = true ∧ s.runs = l.reverse ++ runs := by
  induction l with
  | nil => intro runs; exact ⟨_, rfl, rfl, by simp⟩
  | cons c l ih =>
    intro runs
    obtain ⟨s, h1, h2, h3⟩ := ih (c :: runs)
    refine ⟨s, ?_, h2, by simp [h3]⟩
    simp only [List.flatMap_cons, List.cons_append, List.nil_append, runLog, OldLoop.step]
    simpa using h1

/-! ## Non-vacuity: the three orders of {callback added, exit callbacks run, joiner suspended} -/

/-- handle 1 bound to task 2 by task 1; task 1 joins -/
def prefixLog : List Ev :=
  [.body 1, .start 1 2 1, .body 2, .jnLock 1 1, .jnChecked 1 1 2, .ipMiss 1]

/-- callback added, joiner suspended, then the target exits and runs the callback -/
def normalLog : List Ev := prefixLog ++
  [.ecAdd 2 1 1, .jnUnlock 1 1, .jnSusp 1 1, .bodyDone 2, .ecBegin 2 1, .ecTake 2 0, .resume 1 2,
   .ecNext 2 0, .ecRan 2, .exited 2, .term 2, .jnWoke 1 1, .jnDone 1 1]

/-- callback added, the target runs it before the joiner has suspended -/
def earlyLog : List Ev := prefixLog ++
  [.ecAdd 2 1 1, .jnUnlock 1 1, .bodyDone 2, .ecBegin 2 1, .ecTake 2 0, .resume 1 2, .jnSusp 1 1,
   .jnWoke 1 1, .ecNext 2 0, .jnDone 1 1, .ecRan 2, .exited 2]

/-- the target ran its exit callbacks first: the callback is refused, join does not suspend -/
def refusedLog : List Ev :=
  [.body 1, .start 1 2 1, .body 2, .bodyDone 2, .ecBegin 2 0, .ecRan 2, .jnLock 1 1, .jnChecked 1 1 2,
   .ipMiss 1, .ecAdd 2 1 0, .jnDone 1 1, .joinable 1 1 false, .jnLock 1 1, .jnErr 1 1 1]

example : (runLog step init normalLog).isSome = true := by decide
example : (runLog step init earlyLog).isSome = true := by decide
example : (runLog step init refusedLog).isSome = true := by decide

/-- a user callback registered while the target's exit loop is running another one, and a joiner:
    all are run (the scenario of the pinned-tree counterexample, on the repaired loop) -/
example : (runLog step init
    [.body 1, .start 1 2 1, .body 2, .body 3, .uadd 2 3 7, .ecAdd 2 3 1, .bodyDone 2, .ecBegin 2 1, .ecTake 2 0,
     .jnLock 1 1, .jnChecked 1 1 2, .ipMiss 1, .ecAdd 2 1 1, .jnUnlock 1 1, .jnSusp 1 1,
     .ucb 2 2 7, .ecNext 2 1, .ecTake 2 0, .resume 1 2, .ecNext 2 0, .ecRan 2, .jnWoke 1 1, .jnDone 1 1]).isSome = true := by
  decide

/-- a stuck state with a legitimately blocked joiner (its target never returns) exists -/
example : ∃ s, runLog step init (prefixLog ++ [.ecAdd 2 1 1, .jnUnlock 1 1, .jnSusp 1 1]) = some s ∧
    s.jpc 1 = .susp 1 2 ∧ s.tok 1 = 0 ∧ s.phase 2 = .body := by
  refine ⟨_, rfl, ?_⟩
  decide

/-- an interruption delivered at an interruption point; the thread ends and its joiner is released -/
example : (runLog step init
    [.body 1, .start 1 2 1, .body 2, .ipReq 2 true, .ipHit 2 true, .ipClear 2, .interrupted 2, .bodyDone 2,
     .ecBegin 2 0, .ecRan 2, .exited 2, .jnLock 1 1, .jnChecked 1 1 2, .ipMiss 1, .ecAdd 2 1 0, .jnDone 1 1]).isSome = true := by
  decide

/-- a jthread destructor: stop request, then join -/
example : (runLog step init
    [.body 1, .start 1 2 1, .body 2, .joinable 1 1 true, .jtDtor 1 1, .jtStop 1 1 true, .jnLock 1 1,
     .jnChecked 1 1 2, .ipMiss 1, .ecAdd 2 1 1, .jnUnlock 1 1, .jnSusp 1 1, .bodyDone 2, .ecBegin 2 1,
     .ecTake 2 0, .resume 1 2, .ecNext 2 0, .ecRan 2, .jnWoke 1 1, .jnDone 1 1, .jtJoined 1 1]).isSome = true := by
  decide

end PikaVerif.C13
