import PikaVerif.Lemmas.Agent
/-!
# C07h — the hand-shake of `default_agent` never loses a resume

Property theorems about the model `PikaVerif.Agent` (`Model/Agent.lean`): suspend / resume / abort /
yield / sleep of `pika::execution::detail::default_agent` (`libs/pika/execution_base/src/this_thread.cpp`),
the execution agent through which every PLAIN OS THREAD blocks on a pika condition variable.  The theorems
of `Props/C07.lean` treat the agent abstractly ("a resume leaves a wake-up token, suspend returns when a
token exists"); the theorems below show that the real agent's mutex / two-condition-variable protocol
implements exactly that, for every number of resuming threads and every interleaving, with NO assumption on
when `resume` / `abort` are called (before, during or after the owner's `suspend`).

`Reachable s` = `s` is the state after some accepted log of the variant `.code` (the pinned tree's text).
The variant `.noWait` (the line `resume_cv_.wait(l, [&] { return !running_; });` removed from `resume()` /
`abort()`) has a `decide`-checked counterexample at the end of the file.
-/
namespace PikaVerif.C07Agent
open PikaVerif PikaVerif.Agent

def Reachable (s : St) : Prop := ∃ ow log, runLog (step .code) (init ow) log = some s

theorem Reachable.inv {s : St} (h : Reachable s) : Inv s := by
  obtain ⟨ow, log, hl⟩ := h
  exact inv_of_accepted hl

theorem Reachable.step {s s' : St} {e : Ev} (h : Reachable s) (hs : step .code s e = some s') :
    Reachable s' := by
  obtain ⟨ow, log, hl⟩ := h
  exact ⟨ow, log ++ [e], by rw [runLog_snoc, hl]; exact hs⟩

/-! ## counters of the state = counts of events in the log -/

def cnt (f : Ev → Bool) : List Ev → Nat
  | [] => 0
  | e :: l => (if f e then 1 else 0) + cnt f l

def isPark : Ev → Bool | .sPark _ => true | _ => false
def isGo : Ev → Bool | .rGo _ => true | _ => false
def isSRet : Ev → Bool | .sRet _ _ => true | _ => false
def isRRel : Ev → Bool | .rRel _ => true | _ => false

theorem counters_step {v : Variant} {s s' : St} {e : Ev} (es : List Ev) (h : Agent.step v s e = some s') :
    s'.parks + cnt isPark es = s.parks + cnt isPark (e :: es) ∧
    s'.gos + cnt isGo es = s.gos + cnt isGo (e :: es) ∧
    s'.sRets + cnt isSRet es = s.sRets + cnt isSRet (e :: es) ∧
    s'.rRets + cnt isRRel es = s.rRets + cnt isRRel (e :: es) := by
  obtain ⟨h1, h2, h3, h4, -⟩ := step_frame h
  cases e <;> simp only [cnt, isPark, isGo, isSRet, isRRel] <;> simp at h1 h2 h3 h4 ⊢ <;> omega

theorem counters_log (v : Variant) (log : List Ev) : ∀ (s s' : St), runLog (Agent.step v) s log = some s' →
    s'.parks = s.parks + cnt isPark log ∧ s'.gos = s.gos + cnt isGo log ∧
    s'.sRets = s.sRets + cnt isSRet log ∧ s'.rRets = s.rRets + cnt isRRel log :=
  fun _ _ h =>
    ⟨runLog_tally (·.parks) (cnt isPark) rfl (fun _ _ _ es h => (counters_step es h).1) h,
     runLog_tally (·.gos) (cnt isGo) rfl (fun _ _ _ es h => (counters_step es h).2.1) h,
     runLog_tally (·.sRets) (cnt isSRet) rfl (fun _ _ _ es h => (counters_step es h).2.2.1) h,
     runLog_tally (·.rRets) (cnt isRRel) rfl (fun _ _ _ es h => (counters_step es h).2.2.2) h⟩

/-! ## safety -/

/-- **Mutual exclusion on `mtx_`.**  At most one thread is inside a critical section of the agent. -/
theorem C07h_mutex_exclusive {s : St} (hr : Reachable s) (t u : Nat)
    (ht : (s.pc t).holds = true) (hu : (s.pc u).holds = true) : t = u := by
  have hi := hr.inv
  have h1 := hi.mtx1 t ht
  have h2 := hi.mtx1 u hu
  rw [h1] at h2
  exact (Option.some.inj h2)

/-- `PIKA_ASSERT(running_)` at the head of `suspend()` never fires: whenever the owner is about to execute
    `running_ = false` the flag is true (nobody resumes an agent that is not suspended, nobody clears the
    flag twice). -/
theorem C07h_suspend_entry_running {s s' : St} {t : Nat} (hr : Reachable s)
    (h : step .code s (.sPark t) = some s') : s.running = true ∧ t = s.owner := by
  have hi := hr.inv
  obtain ⟨hp, _⟩ := step_sPark_some h
  have hown : t = s.owner := hi.isOwner (by rw [hp]; rfl)
  refine ⟨?_, hown⟩
  cases hrun : s.running with
  | true => rfl
  | false =>
    have := hi.run1 hrun
    rw [← hown, hp] at this; nomatch this

/-- **`resume` / `abort` hand over only to a suspended agent.**  The store `running_ = true` of a resumer
    happens in a state in which the owner has executed `running_ = false` and sits in `suspend_cv_.wait`;
    the same step leaves a pending wake-up for the owner (the `notify_one`), and `abort` additionally leaves
    `aborted_` set. -/
theorem C07h_resume_hands_over_to_suspended {s s' : St} {t : Nat} (hr : Reachable s)
    (h : step .code s (.rGo t) = some s') :
    s.running = false ∧ (s.pc s.owner).isSWait = true ∧ s'.pc s'.owner = .sWait true ∧
      s'.running = true ∧ (s.pc t = .rSet true → s'.aborted = true) := by
  have hi := hr.inv
  obtain ⟨ab, hp, rfl⟩ := step_rGo_some h
  have hrun := hi.run4 t ab hp
  have hsw := hi.run1 hrun
  have hne : s.owner ≠ t := Ne.symm (hi.notOwner (by rw [hp]; rfl))
  refine ⟨hrun, hsw, ?_, rfl, ?_⟩
  · dsimp only
    rw [upd_other _ _ _ _ hne]
    simp only [wakeOwner, if_true]
    cases hpo : s.pc s.owner <;> simp [hpo, Pc.isSWait] at hsw ⊢
  · intro hp2
    rw [hp] at hp2
    cases hp2
    simp

/-- **A resumed waiter is notified.**  Whenever the owner is inside `suspend_cv_.wait` and `running_` is
    true (some resumer has stored it), the owner's wake-up is pending: the model's `sWake _ true` — the
    return of the wait — is enabled as soon as the mutex is free.  The flag is never true "silently". -/
theorem C07h_resumed_waiter_is_notified {s : St} (hr : Reachable s) (sig : Bool)
    (hp : s.pc s.owner = .sWait sig) (hrun : s.running = true) : sig = true := by
  cases sig with
  | true => rfl
  | false =>
    have := hr.inv.run2 hp
    rw [hrun] at this
    cases this

/-- **Counting form, state.**  Resumes that have returned ≤ resumes that stored `running_ = true` ≤
    suspensions that stored `running_ = false`; returns from `suspend` ≤ stores of `running_ = true`; and
    `running_` is false exactly when one more suspension than hand-over has happened. -/
theorem C07h_counters {s : St} (hr : Reachable s) :
    s.rRets ≤ s.gos ∧ s.gos ≤ s.parks ∧ s.sRets ≤ s.gos ∧ s.parks ≤ s.gos + 1 ∧
      (s.running = false ↔ s.parks = s.gos + 1) := by
  have hi := hr.inv
  have h1 := hi.cnt1
  have h2 := hi.cnt2
  have h3 := hi.cnt3
  cases hrun : s.running <;> simp [hrun, b2n] at h1 <;> refine ⟨?_, ?_, ?_, ?_, ?_⟩ <;>
    first | omega | (simp; omega)

/-- **`resume()` returns only after the target really suspended** (log form, hence at every moment of every
    execution, because every prefix of an accepted log is accepted): the k-th return from `resume`/`abort` is
    preceded by the k-th `running_ = false` of the owner, and the k-th return from `suspend` by the k-th
    `running_ = true` of a resumer. -/
theorem C07h_resume_returns_after_suspend (ow : Nat) (log : List Ev) (s : St)
    (h : runLog (step .code) (init ow) log = some s) :
    cnt isRRel log ≤ cnt isGo log ∧ cnt isGo log ≤ cnt isPark log ∧ cnt isSRet log ≤ cnt isGo log := by
  have hc := counters_log .code log _ s h
  have hk := C07h_counters ⟨ow, log, h⟩
  simp only [init] at hc
  omega

/-- **A resume that returned is never lost.**  If as many `resume`/`abort` calls have *returned* as the owner
    has executed suspensions, the owner is not blocked: it is outside `suspend_cv_.wait`, or `running_` is
    true and its wake-up is pending. -/
theorem C07h_returned_resume_not_lost {s : St} (hr : Reachable s) (sig : Bool)
    (hp : s.pc s.owner = .sWait sig) (hk : s.parks ≤ s.rRets) : s.running = true ∧ sig = true := by
  have hc := C07h_counters hr
  have hrun : s.running = true := by
    cases hrun : s.running with
    | true => rfl
    | false => have := hc.2.2.2.2.1 hrun; omega
  exact ⟨hrun, C07h_resumed_waiter_is_notified hr sig hp hrun⟩

/-- `abort` marks the agent for good: `aborted_` is never cleared (every later `suspend()` of this OS thread
    throws `yield_aborted` — behaviour of the code as it is). -/
theorem C07h_aborted_sticky {s s' : St} {e : Ev} (h : step .code s e = some s') (ha : s.aborted = true) :
    s'.aborted = true :=
  (step_frame h).2.2.2.2 ha

/-- `suspend()` throws iff `aborted_` is set, and it returns (either way) only with `running_` true. -/
theorem C07h_suspend_result {s s' : St} {t : Nat} {ab : Bool} (hr : Reachable s)
    (h : step .code s (.sRet t ab) = some s') : ab = s.aborted ∧ s.running = true ∧ s'.mtx = none := by
  have hi := hr.inv
  obtain ⟨hp, hab, rfl⟩ := step_sRet_some h
  refine ⟨hab, ?_, rfl⟩
  cases hrun : s.running with
  | true => rfl
  | false =>
    have h1 := hi.run1 hrun
    rw [← hi.isOwner (t := t) (by rw [hp]; rfl), hp] at h1; nomatch h1

/-- sleep_for / sleep_until take no part in the hand-shake: an agent inside `sleep_until` has
    `running_ = true`, so a `resume` aimed at it BLOCKS (it reads `running_ = true` and waits) until the
    owner's next `suspend`. -/
theorem C07h_sleep_is_not_a_suspension {s : St} (hr : Reachable s) (hp : s.pc s.owner = .sleeping) :
    s.running = true ∧ ∀ t s', step .code s (.rChk t true) = some s' → ∃ ab, s'.pc t = .rWait ab false := by
  have hi := hr.inv
  have hrun : s.running = true := by
    cases hrun : s.running with
    | true => rfl
    | false =>
      have := hi.run1 hrun
      rw [hp] at this
      simp [Pc.isSWait] at this
  refine ⟨hrun, ?_⟩
  intro t s' h
  obtain ⟨ab, _, _, rfl⟩ := step_rChk_some h
  exact ⟨ab, upd_same ..⟩

/-- yield / yield_k / spin_k change nothing at all (either variant). -/
theorem C07h_yield_no_effect {v : Variant} {s s' : St} {t : Nat} (h : step v s (.yield t) = some s') : s' = s := by
  exact (step_yield_some h).2.2

/-! ## progress -/

/-- **No stuck state except "waiting for a call that was not issued".**  In a reachable state in which no
    thread can take a step inside an operation it has begun (only new calls / naps and spurious wake-ups are
    possible), every thread is
    * outside the agent (`idle`), or
    * the owner, blocked in `suspend` with `running_ = false` while NO thread is inside `resume`/`abort` and
      every `running_ = true` ever stored has been consumed (`gos = rRets`, `parks = gos + 1`): it waits for
      a resume that was not issued, or
    * a resumer blocked in `resume_cv_.wait` with `running_ = true` while the owner is outside `suspend`: it
      waits for a suspend that was not issued.
    In particular the two kinds of blocked thread never coexist. -/
theorem C07h_stuck_only_unresumed {s : St} (hr : Reachable s) (hs : Stuck .code s) (t : Nat) :
    s.pc t = .idle ∨
    (t = s.owner ∧ s.pc t = .sWait false ∧ s.running = false ∧ s.gos = s.rRets ∧ s.parks = s.gos + 1 ∧
      ∀ u, u ≠ s.owner → s.pc u = .idle) ∨
    (t ≠ s.owner ∧ (∃ ab, s.pc t = .rWait ab false) ∧ s.running = true ∧ s.pc s.owner = .idle) := by
  have hi := hr.inv
  -- the mutex is free: its holder could step
  have hm : s.mtx = none := by
    cases hmx : s.mtx with
    | none => rfl
    | some u =>
      exfalso
      have hh := (hi.mtxIff u).1 hmx
      cases hp : s.pc u <;> simp [hp, Pc.holds] at hh
      · have := hs (.sPark u) rfl; simp [step, hp] at this
      · have := hs (.sRet u s.aborted) rfl; simp [step, hp] at this
      · have := hs (.rChk u s.running) rfl; simp [step, hp] at this
        cases hrun : s.running <;> simp [hrun] at this
      · have := hs (.rGo u) rfl; simp [step, hp] at this
      · have := hs (.rRel u) rfl; simp [step, hp] at this
  -- classification of a single thread in a stuck state
  have cls : ∀ u, s.pc u = .idle ∨ s.pc u = .sWait false ∨ ∃ ab, s.pc u = .rWait ab false := by
    intro u
    cases hp : s.pc u with
    | idle => exact Or.inl rfl
    | sleeping => have := hs (.sleepE u) rfl; simp [step, hp] at this
    | sLock => have := hs (.sAcq u) rfl; simp [step, hp, hm] at this
    | sHold | sHold2 | rHold _ | rSet _ | rDone _ =>
      have := hi.mtx1 u (by simp [hp, Pc.holds]); rw [hm] at this; cases this
    | rLock ab => have := hs (.rAcq u) rfl; simp [step, hp, hm] at this
    | sWait sig =>
      cases sig with
      | false => exact Or.inr (Or.inl rfl)
      | true =>
        have := hs (.sWake u s.running) rfl
        simp [step, hp, hm] at this
        cases hrun : s.running <;> simp [hrun] at this
    | rWait ab sig =>
      cases sig with
      | false => exact Or.inr (Or.inr ⟨ab, rfl⟩)
      | true => have := hs (.rWake u) rfl; simp [step, hp, hm] at this
  have hdh : doneHeld s = 0 := by simp [doneHeld, hm]
  have hc3 := hi.cnt3
  have hc1 := hi.cnt1
  rcases cls t with h | h | ⟨ab, h⟩
  · exact Or.inl h
  · -- t is the owner, blocked
    have hto : t = s.owner := by
      apply Classical.byContradiction
      intro hne
      have := hi.own t hne
      rw [h] at this; nomatch this
    have hrun : s.running = false := hi.run2 (hto ▸ h)
    refine Or.inr (Or.inl ⟨hto, h, hrun, by omega, by simp [hrun, b2n] at hc1; omega, ?_⟩)
    intro u hu
    rcases cls u with h' | h' | ⟨ab', h'⟩
    · exact h'
    · have := hi.own u hu; rw [h'] at this; nomatch this
    · have := hi.run3 u ab' h'; rw [hrun] at this; cases this
  · have hrun := hi.run3 t ab h
    have hne : t ≠ s.owner := by
      intro he
      have := hi.ownR
      rw [← he, h] at this
      simp [Pc.inResume] at this
    refine Or.inr (Or.inr ⟨hne, ⟨ab, h⟩, hrun, ?_⟩)
    rcases cls s.owner with h' | h' | ⟨ab', h'⟩
    · exact h'
    · have := hi.run2 h'; rw [hrun] at this; cases this
    · have := hi.ownR; rw [h'] at this; simp [Pc.inResume] at this

/-- **An issued resume is never lost.**  In a reachable stuck state in which some thread is still inside
    `resume()` / `abort()` (the call was issued and has not returned) the owner is NOT blocked in `suspend`;
    equivalently: if the owner is blocked at quiescence, every resume ever issued has returned and was
    consumed by an earlier suspension. -/
theorem C07h_issued_resume_not_lost {s : St} (hr : Reachable s) (hs : Stuck .code s) (u : Nat)
    (hu : (s.pc u).inResume = true) : s.pc s.owner = .idle := by
  rcases C07h_stuck_only_unresumed hr hs u with h | ⟨_, h, _⟩ | ⟨_, _, _, h⟩
  · rw [h] at hu; simp [Pc.inResume] at hu
  · rw [h] at hu; simp [Pc.inResume] at hu
  · exact h

/-! ## non-vacuity and the counterexample for the variant without the wait in `resume()` -/

/-- suspend first, then resume; resume first (it waits), then suspend; abort; a nap. -/
def exampleLog : List Ev :=
  [.sCall 0, .sAcq 0, .sPark 0, .rCall 1 false, .rAcq 1, .rChk 1 false, .rGo 1, .rRel 1, .sWake 0 true, .sRet 0 false,
   .rCall 2 false, .rAcq 2, .rChk 2 true, .sCall 0, .sAcq 0, .sPark 0, .spur 0, .sWake 0 false, .rWake 2, .rChk 2 false, .rGo 2,
   .rRel 2, .sWake 0 true, .sRet 0 false, .yield 0, .sleepB 0, .sleepE 0,
   .sCall 0, .rCall 1 true, .sAcq 0, .sPark 0, .rAcq 1, .rChk 1 false, .rGo 1, .rRel 1, .sWake 0 true, .sRet 0 true]

example : (runLog (step .code) (init 0) exampleLog).isSome = true := by decide

/-- The window of the seeded change: the resumer runs completely between the waiter's publication (its
    `sCall`: the cv's internal lock is released, `suspend()` is entered) and the waiter's `running_ = false`. -/
def lostLog : List Ev :=
  [.sCall 0, .rCall 1 false, .rAcq 1, .rChk 1 true, .rGo 1, .rRel 1, .sAcq 0, .sPark 0]

/-- The pinned tree's text does not admit this history: the resumer that reads `running_ = true` waits. -/
theorem C07h_code_rejects_lost_history : (runLog (step .code) (init 0) lostLog).isSome = false := by decide

/-- **Counterexample for the variant without `resume_cv_.wait` in `resume()`** (`decide`-checked): the same
    history is accepted, and in its final state the only resume has returned (`rRets = parks = 1`), the mutex
    is free, the resumer is gone, and the owner sits in `suspend_cv_.wait` with `running_ = false` and no
    pending wake-up — `C07h_returned_resume_not_lost` fails for that variant. -/
theorem C07h_noWait_loses_resume :
    (match runLog (step .noWait) (init 0) lostLog with
     | some s => decide (s.pc s.owner = .sWait false) && !s.running && decide (s.rRets = 1) &&
                 decide (s.parks = 1) && decide (s.mtx = none) && decide (s.pc 1 = .idle)
     | none => false) = true := by decide

/-- ... and that final state is *stuck*: no thread can take a step, the owner is blocked in `suspend` with
    `running_ = false` although every issued resume has returned (`rRets = parks`) — the negation of
    `C07h_stuck_only_unresumed` / `C07h_returned_resume_not_lost` for the variant.  Only a further `resume`
    could wake the owner, and in the condition-variable protocol nobody will issue one: the waiter's queue
    entry was popped by the notifier whose resume is the one that was lost. -/
theorem C07h_noWait_lost_state_is_stuck (s : St) (h : runLog (step .noWait) (init 0) lostLog = some s) :
    Stuck .noWait s ∧ s.pc s.owner = .sWait false ∧ s.running = false ∧ s.rRets = s.parks := by
  simp [lostLog, runLog, step, init, upd, wakeOwner] at h
  subst h
  refine ⟨stuck_of_all_blocked _ _ ?_, ?_, rfl, rfl⟩
  · intro t
    dsimp only
    by_cases h0 : t = 0 <;> by_cases h1 : t = 1 <;> simp [h0, h1, upd, wakeResumers, wakeOwner]
  · simp [upd]

end PikaVerif.C07Agent
