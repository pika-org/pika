import PikaVerif.Lemmas.Life
/-!
# C05 — runtime life cycle: wait/stop drain all work, restart works

Theorems about the life-cycle model `PikaVerif.Life` (global activity counter with the
increment/decrement separated from thread-object creation/destruction exactly as in the
schedulers' `create_thread` / `destroy_thread`, `thread_manager::wait`'s sample, the
`runtime::wait` = `wait_finalize; thread_manager::wait` ordering inside `pika::stop`, runtime
phase machine with incarnations and configuration, pool suspend/resume through the workers'
`sleeping` state).  They hold for every accepted log: every number of OS threads, thread objects,
tasks, incarnations, and every interleaving of the instrumented operations.

"Unit of activity" = one `create_thread` call from its increment to the matching decrement.  A
unit is, at any time, in exactly one of: creation in flight (`creating`), staged task description
(`staged`), a live thread object (`live o`), destruction in flight (`destroying`).

How the statement of the property maps to the theorems:
* "wait() returns only after every task submitted before the call, and every task those tasks
  spawn, has finished": `C05_wait_sound` (the returning sample sees *no* unit at all besides the
  caller's own task) + `C05_spawn_counted` (a task can only create a unit while it is itself a
  live, counted unit, so the counter cannot pass through the returning value between a parent
  and its child) + `C05_idle_closed` (with the counter at zero no task body is executing: new
  work can only come from outside the runtime).
* "stop() returns only after finalize() was called and the runtime is drained, and returns the
  entry function's result": `C05_stop_order`, `C05_stop_after_finalize`, `C05_stop_result`.
* "after stop() the runtime can be started again … with a different configuration":
  `C05_restart_fresh`, `C05_restart_config`, `C05_config_used`.
* "while the runtime is suspended no task body executes": `C05_suspended_no_body`.
* "stop() … on a runtime that is still suspended" (part C05h): `C05_stop_suspended_enterable`,
  `C05_stop_suspended_no_stuck`, `C05_stop_suspended_all_resumed`, `C05_wake_only_by_resume_or_stop`,
  `C05_stop_suspended_pending_waits`.
* "all queued work runs after resume()": `C05_resume_runs_queued` (after resume every worker is
  awake and can take any queued thread) together with `C05_wait_sound` / `C05_stop_after_finalize`
  (the next wait/stop returns only when that work is gone).
-/
namespace PikaVerif.C05
open PikaVerif PikaVerif.Life

def Reachable (s : St) : Prop := ∃ na no log, runLog step (init na no) log = some s

theorem inv_of_reachable {s : St} (h : Reachable s) : Inv s := by
  obtain ⟨na, no, log, hl⟩ := h
  exact inv_of_accepted hl

/-- Nothing the counter covers exists, except (when the caller is itself a pika task) the
    caller's own thread object. -/
def DrainedExcept (s : St) (self : Option Nat) : Prop :=
  s.creating = 0 ∧ s.staged = 0 ∧ s.destroying = 0 ∧ ∀ o, s.live o = true → self = some o

/-- **The counter is exact.**  In every reachable state the global activity counter equals the
    number of units of activity that have been started and not finished: creations in flight +
    staged descriptions + live thread objects + destructions in flight. -/
theorem C05_count_exact (s : St) (hr : Reachable s) :
    s.cnt = s.creating + s.staged + s.destroying + nlive s :=
  (inv_of_reachable hr).count

/-- **Every unit started before an idle sample has finished.**  The counter is the number of
    `create_thread` increments minus the number of `destroy_thread` decrements performed so far;
    when it reads zero, every unit of activity ever started (in particular every task submitted
    before the sampling call) has been completely destroyed. -/
theorem C05_started_finished (s : St) (hr : Reachable s) :
    s.cnt + s.finished = s.started ∧ (s.cnt = 0 → s.finished = s.started) := by
  have h := (inv_of_reachable hr).history
  exact ⟨h, fun h0 => by omega⟩

/-- **wait() is sound.**  Whenever `thread_manager::wait`'s predicate samples a value that lets
    the wait return (`v ≤ 1` if the caller is a pika task, `v ≤ 0` otherwise), no unit of activity
    exists besides the caller's own task: every `create_thread` whose increment happened before
    the sample has been matched by `destroy_thread`, no task description is staged, no thread
    object holds a task. -/
theorem C05_wait_sound (s s' : St) (hr : Reachable s) (a v self : Nat)
    (h : step s (.sample a v self) = some s') (hret : v ≤ self) :
    DrainedExcept s (s.cur a) := by
  have hi := inv_of_reachable hr
  obtain ⟨⟨_, rfl, rfl⟩, _⟩ := step_sample h
  have hcount := hi.count
  cases hc : s.cur a with
  | none =>
    rw [hc] at hret
    obtain ⟨h1, h2, h3, h4⟩ := drained_of_cnt_zero hi (Nat.le_zero.1 hret)
    exact ⟨h1, h2, h3, fun o ho => by rw [h4 o] at ho; cases ho⟩
  | some o =>
    rw [hc] at hret
    have h1 : s.cnt ≤ 1 := hret
    have hlo := (hi.curLive a o hc).1
    have := nlive_pos hi hlo
    refine ⟨by omega, by omega, by omega, fun o' ho' => ?_⟩
    -- a second live object would make the counter 2
    refine Decidable.byContradiction fun hne => ?_
    have h2 := sumTo_upd s.no b2n s.live o false (hi.liveBound o hlo)
    have h3 := le_sumTo (f := fun u => b2n (upd s.live o false u)) (hi.liveBound o' ho')
    rw [upd_other _ _ _ _ (fun e => hne (by rw [e])), ho'] at h3
    simp only [hlo, b2n_true, b2n_false, nlive] at h2 h3 hcount
    omega

/-- **An observed return of wait() is backed by an idle sample.**  The harness' observation
    "`pika::wait()` returned on OS thread `a`" is accepted only if the most recent sample of the
    counter taken on that thread let the predicate return (`C05_wait_sound` then applies to that
    sample), and that flag is raised by nothing but such a sample. -/
theorem C05_wait_exit_backed (s s' : St) (a : Nat) (h : step s (.waitExit a) = some s') :
    s.lastRet a = true :=
  (of_ite_some h).1.2

theorem C05_lastRet_only_by_idle_sample (s s' : St) (e : Ev) (a : Nat) (h : step s e = some s')
    (h0 : s.lastRet a = false) (h1 : s'.lastRet a = true) :
    ∃ v self, e = .sample a v self ∧ v ≤ self := by
  obtain ⟨_, _, e | ⟨b, x, e, hx⟩⟩ := step_frame h
  · rw [e, h0] at h1; cases h1
  · rw [e] at h1
    by_cases hab : a = b
    · rw [hab, upd_same] at h1; exact hab ▸ hx h1
    · rw [upd_other _ _ _ _ hab, h0] at h1; cases h1

/-- **Children are created while the parent is counted.**  When a running task body performs the
    increment of a `create_thread` call, the task's own thread object is live, hence the counter
    is at least 1 before and at least 2 after: no sample in between can see the idle value. -/
theorem C05_spawn_counted (s s' : St) (hr : Reachable s) (a n o : Nat)
    (h : step s (.inc a n) = some s') (hc : s.cur a = some o) :
    s.live o = true ∧ 1 ≤ s.cnt ∧ s'.cnt = s.cnt + 1 ∧ s'.live o = true := by
  have hlo := ((inv_of_reachable hr).curLive a o hc).1
  obtain ⟨_, rfl⟩ := of_ite_some h
  exact ⟨hlo, cnt_pos_of_live (inv_of_reachable hr) hlo, rfl, hlo⟩

/-- **An idle runtime stays idle unless work arrives from outside.**  With the counter at zero no
    worker is inside a phase of any task, so no task body can create, resume or spawn anything:
    the only event that can raise the counter is an increment by a thread that is not running a
    task (an external submission). -/
theorem C05_idle_closed (s : St) (hr : Reachable s) (h0 : s.cnt = 0) :
    (∀ a, s.cur a = none) ∧
    (∀ s' a n, step s (.inc a n) = some s' → s.cur a = none) ∧
    (∀ a o, step s (.body a o) = none) ∧ (∀ a o, step s (.phaseEnd a o) = none) := by
  have hcur := cur_none_of_cnt_zero (inv_of_reachable hr) h0
  refine ⟨hcur, fun _ a _ _ => hcur a, ?_, ?_⟩ <;> (intro a o; simp [step, hcur a])

/-- **Inside stop(), the drain check runs only after finalize.**  Every sample of the counter
    taken by the thread that is inside `pika::stop()` happens after `wait_finalize` has returned,
    and `wait_finalize` returns only after `finalize()` was signalled. -/
theorem C05_stop_order (s s' : St) (hr : Reachable s) (a v self : Nat)
    (h : step s (.sample a v self) = some s') (hst : s.stopper = some a) :
    s.spc = .waitedFin ∧ s.fin = true := by
  have hi := inv_of_reachable hr
  have hw : s.spc = .waitedFin := by
    obtain ⟨_, ⟨_, hw, _⟩ | ⟨hw, _⟩⟩ := step_sample h
    · exact hw
    · exact (hw hst).1
  exact ⟨hw, hi.stopFin (hw ▸ nofun) (hw ▸ nofun)⟩

/-- **stop() returns only after finalize() and with the runtime drained.**  When the model
    accepts the return of `pika::stop()`, `finalize()` has been signalled, the counter is zero and
    no unit of activity exists. -/
theorem C05_stop_after_finalize (s s' : St) (hr : Reachable s) (a r : Nat)
    (h : step s (.stopExit a r) = some s') :
    s.fin = true ∧ s.cnt = 0 ∧ DrainedExcept s none := by
  have hi := inv_of_reachable hr
  obtain ⟨⟨_, hspc, _, _⟩, _⟩ := of_ite_some h
  have h0 := hi.stoppingDrained (.inl (hi.stopPc.1 (.inr (.inr hspc))))
  obtain ⟨h1, h2, h3, h4⟩ := drained_of_cnt_zero hi h0
  exact ⟨hi.stopFin (hspc ▸ nofun) (hspc ▸ nofun), h0, h1, h2, h3, fun o ho => by rw [h4 o] at ho; cases ho⟩

/-- **Each incarnation runs its own work completely.**  When `pika::stop()` returns, every unit of
    activity ever started — in this incarnation or an earlier one — has finished; together with
    `C05_restart_config` (a new runtime starts from an idle counter) each incarnation starts with
    nothing left over and ends with nothing left behind. -/
theorem C05_incarnation_complete (s s' : St) (hr : Reachable s) (a r : Nat)
    (h : step s (.stopExit a r) = some s') : s.finished = s.started ∧ s'.finished = s'.started := by
  have hh := (C05_started_finished s hr).2 (C05_stop_after_finalize s s' hr a r h).2.1
  obtain ⟨_, rfl⟩ := of_ite_some h
  exact ⟨hh, hh⟩

/-- **stop() returns the entry function's result.**  The value returned by `pika::stop()` is the
    runtime's `result_` … -/
theorem C05_stop_result (s s' : St) (a r : Nat) (h : step s (.stopExit a r) = some s') :
    r = s.result :=
  (of_ite_some h).1.2.2.1

/-- … and `result_` is 0 when the runtime is constructed and is afterwards only ever written with
    the value the entry function returned. -/
theorem C05_result_is_entry (s s' : St) (e : Ev) (h : step s e = some s') :
    s'.result = s.result ∨ (∃ a r, e = .result a r ∧ s'.result = r) ∨
      (∃ a, e = .rtState a rsInitialized ∧ s'.result = 0) :=
  (step_frame h).2.1

/-- **After stop() nothing of the old incarnation is left.**  The state after `pika::stop()`
    returned has no runtime, no worker, no sleeping worker, no finalize signal, no thread inside
    `stop()`, no unit of activity, and no actor inside a task. -/
theorem C05_restart_fresh (s s' : St) (hr : Reachable s) (a r : Nat)
    (h : step s (.stopExit a r) = some s') :
    s'.ph = .none ∧ s'.cnt = 0 ∧ DrainedExcept s' none ∧ s'.nworkers = 0 ∧ s'.nsleep = 0 ∧
    s'.fin = false ∧ s'.stopper = none ∧ s'.spc = .out ∧
    (∀ b, s'.cur b = none ∧ s'.worker b = false ∧ s'.asleep b = false) ∧
    s'.incarnation = s.incarnation := by
  obtain ⟨_, h0, hd⟩ := C05_stop_after_finalize s s' hr a r h
  have hcur := cur_none_of_cnt_zero (inv_of_reachable hr) h0
  obtain ⟨_, rfl⟩ := of_ite_some h
  exact ⟨rfl, h0, hd, rfl, rfl, rfl, rfl, rfl, fun b => ⟨hcur b, rfl, rfl⟩, rfl⟩

/-- **A restart is a new incarnation with the new configuration.**  Constructing a runtime is only
    possible when none exists; it starts a new incarnation whose configuration is the one
    requested for *this* start, with the finalize signal and the result cleared, no workers yet
    and an idle counter. -/
theorem C05_restart_config (s s' : St) (hr : Reachable s) (a : Nat)
    (h : step s (.rtState a rsInitialized) = some s') :
    s.ph = .none ∧ s'.ph = .starting ∧ s'.incarnation = s.incarnation + 1 ∧ s'.cfg = s.cfgReq ∧
    s'.fin = false ∧ s'.result = 0 ∧ s'.nworkers = 0 ∧ s'.cnt = 0 := by
  have hi := inv_of_reachable hr
  obtain ⟨hn, rfl⟩ := step_rtState_init h
  exact ⟨hn, rfl, rfl, rfl, rfl, rfl, hi.noneOut hn, hi.stoppingDrained (.inr hn)⟩

/-- **The configuration in use is the one of the current incarnation.**  Once the runtime of an
    incarnation has reached `running`, the number of worker threads that entered the scheduling
    loop in this incarnation equals the thread count of this incarnation's configuration. -/
theorem C05_config_used (s : St) (hr : Reachable s) (h1 : s.ph ≠ .none) (h2 : s.ph ≠ .starting) :
    s.nworkers = s.cfg.th ∧ s.nworkers = sumTo s.na (fun a => b2n (s.worker a)) :=
  ⟨(inv_of_reachable hr).cfgWorkers h1 h2, (inv_of_reachable hr).nworkersSum⟩

/-- **While the runtime is suspended no task body executes.**  In every reachable state whose
    runtime phase is `suspended` (between the return of `suspend()` and the next `resume()`) every
    worker is asleep, no actor is inside a phase of any task, and the model accepts neither the
    start of a phase nor a task-body event. -/
theorem C05_suspended_no_body (s : St) (hr : Reachable s) (hs : s.ph = .suspended) :
    (∀ a, s.worker a = true → s.asleep a = true) ∧ (∀ a, s.cur a = none) ∧
    (∀ a o, step s (.phaseBegin a o) = none) ∧ (∀ a o, step s (.body a o) = none) := by
  obtain ⟨hall, hcur⟩ := suspended_asleep (inv_of_reachable hr) hs
  refine ⟨hall, hcur, fun a o => ?_, fun a o => ?_⟩
  · cases h : step s (.phaseBegin a o) with
    | none => rfl
    | some s' =>
      obtain ⟨⟨_, _, _, _, _, hw, hs⟩, _⟩ := of_ite_some h
      rw [hall a hw] at hs; cases hs
  · cases h : step s (.body a o) with
    | none => rfl
    | some s' => have := (of_ite_some h).1.2; rw [hcur a] at this; cases this

/-- **After resume() every worker is awake and can take queued work.**  In every reachable state
    whose phase is `running` (in particular after `resume()` returned) no worker is asleep, and
    the model accepts the start of a phase of *any* live, not running thread object by *any* idle
    worker: nothing queued during the suspension is held back by a sleeping worker. -/
theorem C05_resume_runs_queued (s : St) (hr : Reachable s) (hrun : s.ph = .running) :
    (∀ a, s.asleep a = false) ∧
    (∀ a o, s.worker a = true → s.cur a = none → s.live o = true → s.running o = false →
      (step s (.phaseBegin a o)).isSome = true) := by
  have hi := inv_of_reachable hr
  have h0 := hi.awake (hrun ▸ nofun) (hrun ▸ nofun) (hrun ▸ nofun) (hrun ▸ nofun)
  have hall : ∀ a, s.asleep a = false := fun a => by
    cases ha : s.asleep a with
    | false => rfl
    | true => have := nsleep_pos hi ha; omega
  refine ⟨hall, fun a o hw hc hl hrn => ?_⟩
  simp [step, hi.workerBound a hw, hi.liveBound o hl, hl, hrn, hc, hw, hall a]

/-- The transition `resuming → running` (the return of `resume()`) is only accepted when every
    worker has left the `sleeping` state. -/
theorem C05_resume_waits_for_all (s s' : St) (a : Nat) (h : step s (.rtState a rsRunning) = some s')
    (hp : s.ph = .resuming) : s.nsleep = 0 ∧ s'.ph = .running := by
  obtain ⟨hg, rfl⟩ := step_rtState_running h
  rcases hg with ⟨hs, _⟩ | ⟨_, h0⟩
  · rw [hp] at hs; cases hs
  · exact ⟨h0, rfl⟩

/-! ## C05h: `stop()` entered while the runtime is SUSPENDED

`pika::stop()` only requires an initialised runtime and a caller that is not a pika task.  After
`finalize()` (called while running) and `suspend()`, `stop()` finds every worker parked in
`scheduler_base::suspend`; `runtime::wait` succeeds at once if the runtime was drained,
`runtime::stopping` stores `stopped`, and the pool's `stop_locked` wakes the workers ("wake up if
suspended": `resume_internal`) before joining them.  The statements are in enabledness /
no-stuck-state form (the model has no fairness): at every program counter of the stopping thread
the next event of the stop path is enabled, a parked worker's wake-up is enabled once
`runtime::stopping` ran, and the return of `stop()` is enabled exactly when no worker is parked. -/

/-- **stop() may be entered on a running or on a suspended runtime** (documented precondition:
    initialised, caller not a pika task). -/
theorem C05_stop_suspended_enterable (s : St) (a : Nat) (ha : a < s.na)
    (hph : s.ph = .running ∨ s.ph = .suspended) (hst : s.stopper = none) (hspc : s.spc = .out)
    (hc : s.cur a = none) (hw : s.worker a = false) :
    ∃ s', step s (.stopEnter a) = some s' ∧ s'.stopper = some a ∧ s'.spc = .entered ∧ s'.ph = s.ph ∧
      s'.nsleep = s.nsleep := by
  refine ⟨{ s with stopper := some a, spc := .entered }, ?_, rfl, rfl, rfl, rfl⟩
  simp [step, ha, hph, hst, hspc, hc, hw]

/-- **stop() entered in the suspended phase is never stuck** (and neither is one entered while
    running).  In every reachable state with thread `a` inside `pika::stop()`:
    * after `finalize()` the return of `wait_finalize` is enabled;
    * with `wait_finalize` passed and the counter at zero, the idle sample is enabled in phase
      `running` *and* in phase `suspended`, it moves the runtime to `stopping` and leaves every
      parked worker parked (no body can run: `C05_suspended_no_body`);
    * then `runtime::wait`'s return with `result_` and `runtime::stopping` are enabled;
    * once `runtime::stopping` ran, the wake-up of *every* parked worker is enabled, the return of
      `stop()` with `result_` is enabled as soon as no worker is parked, and as long as the parked
      count is not zero some parked worker exists (whose wake-up is enabled): no state on the stop
      path is stuck. -/
theorem C05_stop_suspended_no_stuck (s : St) (hr : Reachable s) (a : Nat) (hst : s.stopper = some a) :
    (s.spc = .entered → s.fin = true → (step s (.waitFin a)).isSome = true) ∧
    (s.spc = .waitedFin → s.cnt = 0 → (s.ph = .running ∨ s.ph = .suspended) →
      ∃ s', step s (.sample a 0 0) = some s' ∧ s'.spc = .drained ∧ s'.ph = .stopping ∧
        s'.nsleep = s.nsleep ∧ s'.asleep = s.asleep) ∧
    (s.spc = .drained → (step s (.waited a s.result)).isSome = true) ∧
    (s.spc = .waited → (step s (.rtState a rsStopped)).isSome = true) ∧
    (s.spc = .halted →
      (∀ b, s.asleep b = true → ∃ s', step s (.wake b) = some s' ∧ s'.nsleep + 1 = s.nsleep) ∧
      (s.nsleep = 0 → (step s (.stopExit a s.result)).isSome = true) ∧
      (s.nsleep ≠ 0 → ∃ b, s.asleep b = true)) := by
  have hi := inv_of_reachable hr
  have ha : a < s.na := hi.stopperBound a hst
  have hcur := cur_none_of_not_worker hi (hi.stopperNotWorker a hst)
  refine ⟨?_, ?_, ?_, ?_, ?_⟩
  · intro hp hf
    simp [step, hst, hp, hf]
  · intro hp h0 hph
    refine ⟨{ s with spc := .drained, ph := .stopping, lastRet := upd s.lastRet a true }, ?_, rfl, rfl, rfl, rfl⟩
    simp [step, ha, h0, hcur, b2n, hst, hp, hph]
  · intro hp
    simp [step, hst, hp]
  · intro hp
    have hph : s.ph = .stopping := hi.stopPc.1 (Or.inr (Or.inl hp))
    simp [step, ha, hph, hp, hst, rsStopped, rsInitialized, rsPreStartup, rsStartup, rsPreMain, rsRunning, rsSleeping]
  · intro hp
    have hph : s.ph = .stopping := hi.stopPc.1 (Or.inr (Or.inr hp))
    refine ⟨?_, ?_, ?_⟩
    · intro b hb
      have hbb : b < s.na := hi.workerBound b (hi.asleepWorker b hb)
      have := nsleep_pos hi hb
      refine ⟨{ s with asleep := upd s.asleep b false, nsleep := s.nsleep - 1 }, ?_, ?_⟩
      · simp [step, hbb, hph, hp, hb]
      · show s.nsleep - 1 + 1 = s.nsleep
        omega
    · intro h0
      simp [step, hst, hp, h0]
    · intro hne
      obtain ⟨t, _, ht⟩ := exists_asleep hi (Nat.pos_of_ne_zero hne)
      exact ⟨t, ht⟩

/-- **stop() returns only with the runtime drained and every worker resumed.**  When the model
    accepts the return of `pika::stop()` — whether it was entered running or suspended — the counter
    is zero, no unit of activity exists, finalize was signalled, and no worker is parked in
    `scheduler_base::suspend` any more (each one that slept has logged its wake-up: the join in
    `remove_processing_unit_internal` cannot complete for a parked worker). -/
theorem C05_stop_suspended_all_resumed (s s' : St) (hr : Reachable s) (a r : Nat)
    (h : step s (.stopExit a r) = some s') :
    s.fin = true ∧ s.cnt = 0 ∧ DrainedExcept s none ∧ s.nsleep = 0 ∧ (∀ b, s.asleep b = false) := by
  have hi := inv_of_reachable hr
  obtain ⟨hf, h0, hd⟩ := C05_stop_after_finalize s s' hr a r h
  have hz := (of_ite_some h).1.2.2.2
  refine ⟨hf, h0, hd, hz, fun b => ?_⟩
  cases hb : s.asleep b with
  | false => rfl
  | true => have := nsleep_pos hi hb; omega

/-- **A parked worker is woken only by resume() or by stop() after `runtime::stopping`.**  In
    particular nothing wakes a worker while the phase is `suspended`, also not a `stop()` that is
    still waiting for finalize or for the counter. -/
theorem C05_wake_only_by_resume_or_stop (s s' : St) (b : Nat) (h : step s (.wake b) = some s') :
    s.asleep b = true ∧ (s.ph = .resuming ∨ (s.ph = .stopping ∧ s.spc = .halted)) :=
  ⟨(of_ite_some h).1.2.2, (of_ite_some h).1.2.1⟩

/-- **stop() on a suspended runtime that holds queued work keeps waiting** (what the unchanged code
    does: `thread_manager::wait` polls the counter and "no progress will be made" while suspended).
    A sample by the stopping thread that sees more than its own task leaves the stop program
    counter, the phase, the counter and the parked workers unchanged; with `C05_suspended_no_body`
    (no body or phase event is possible in phase `suspended`) the queued work is neither run nor
    dropped, and `C05_stop_suspended_all_resumed` shows that `stop()` cannot return in between. -/
theorem C05_stop_suspended_pending_waits (s s' : St) (a v self : Nat) (hst : s.stopper = some a)
    (h : step s (.sample a v self) = some s') (hbusy : self < v) :
    s'.spc = s.spc ∧ s'.ph = s.ph ∧ s'.cnt = s.cnt ∧ s'.nsleep = s.nsleep ∧ s'.live = s.live ∧
      s'.staged = s.staged := by
  have _ := hst  -- not needed: the same holds for a sample by any thread
  obtain ⟨_, ⟨_, _, hle, _⟩ | ⟨_, rfl⟩⟩ := step_sample h
  · omega
  · exact ⟨rfl, rfl, rfl, rfl, rfl, rfl⟩

/-! ## Non-vacuity: a complete history with two incarnations is accepted

Actors: 0 = main thread, 1 = helper OS thread, 2,3 = workers of incarnation 1, 4 = worker of
incarnation 2.  Objects: 0 = run_helper's thread object, 1 = a task's (recycled).
Incarnation 1 (2 threads): start, an externally submitted staged task runs and spawns a child,
`wait()` from outside returns on 0, suspend / resume, a task is queued while suspended and runs
after resume, `stop()` is entered *before* finalize, the helper submits a task and finalizes,
stop drains and returns 7.  Incarnation 2 (1 thread): start with the other configuration, stop. -/
def exampleLog : List Ev :=
  [ .reqCfg 0 2 1, .rtState 0 0, .worker 2, .worker 3,
    .inc 0 1, .new 0 0,                         -- run_helper created (run_now)
    .phaseBegin 2 0, .rtState 2 1, .rtState 2 2, .rtState 2 5, .result 2 7, .phaseEnd 2 0,
    .destroy 2 0, .dec 2 0,
    .seenCfg 0 2 1,
    -- external staged task, converted by worker 3, spawns a child while running
    .inc 1 1, .stage 1, .unstage 3, .new 3 1, .phaseBegin 3 1, .body 3 1,
    .inc 3 2, .new 3 0, .body 3 1, .phaseEnd 3 1,
    .sample 0 2 0,                              -- wait(): 2 > 0, keeps waiting
    .destroy 3 1, .dec 3 1, .phaseBegin 2 0, .body 2 0, .phaseEnd 2 0, .destroy 2 0,
    .sample 0 1 0, .dec 2 0, .waitEnter 0, .sample 0 0 0, .waitExit 0,     -- wait() returns
    -- suspend / resume with a task queued in between
    .suspendEnter 0, .sample 0 0 0, .sleep 2, .sleep 3, .rtState 0 8,
    .inc 1 1, .new 1 1,
    .resumeEnter 0, .wake 3, .wake 2, .rtState 0 5,
    .phaseBegin 3 1, .body 3 1, .phaseEnd 3 1, .destroy 3 1, .dec 3 0,
    -- stop() entered before finalize; helper submits, then finalizes
    .stopEnter 0, .inc 1 1, .new 1 1, .fin 1, .waitFin 0, .sample 0 1 0,
    .phaseBegin 2 1, .body 2 1, .phaseEnd 2 1, .destroy 2 1, .dec 2 0,
    .sample 0 0 0, .waited 0 7, .rtState 0 13, .stopExit 0 7,
    -- second incarnation, one thread, other policy
    .reqCfg 0 1 4, .rtState 0 0, .worker 4, .inc 0 1, .new 0 0, .phaseBegin 4 0, .rtState 4 5,
    .phaseEnd 4 0, .destroy 4 0, .dec 4 0, .seenCfg 0 1 4,
    .fin 0, .stopEnter 0, .waitFin 0, .sample 0 0 0, .waited 0 0, .rtState 0 13, .stopExit 0 0 ]

example : (runLog step (init 5 2) exampleLog).isSome = true := by decide

/-- C05h: finalize while running, suspend (twice: the second call has no event), `stop()`
    entered while SUSPENDED; the workers wake only after `runtime::stopping`, then stop returns.
    Actors: 0 main, 1,2 workers. -/
def exampleStopSuspended : List Ev :=
  [ .reqCfg 0 2 1, .rtState 0 0, .worker 1, .worker 2, .inc 0 1, .new 0 0, .phaseBegin 1 0, .rtState 1 5,
    .result 1 9, .phaseEnd 1 0, .destroy 1 0, .dec 1 0, .seenCfg 0 2 1,
    .fin 0, .suspendEnter 0, .sample 0 0 0, .sleep 1, .sleep 2, .rtState 0 8,
    .waitEnter 0, .sample 0 0 0, .waitExit 0,                       -- wait() on the idle suspended runtime
    .stopEnter 0, .waitFin 0, .sample 0 0 0, .waited 0 9, .rtState 0 13, .wake 2, .wake 1, .stopExit 0 9,
    .reqCfg 0 1 2, .rtState 0 0 ]

example : (runLog step (init 3 1) exampleStopSuspended).isSome = true := by decide

/-- the seeded removal of "wake up if suspended" cannot return from stop(): with a worker still
    parked the return of `stop()` is not a model history -/
example : runLog step (init 3 1)
    [ .reqCfg 0 2 1, .rtState 0 0, .worker 1, .worker 2, .inc 0 1, .new 0 0, .phaseBegin 1 0, .rtState 1 5,
      .phaseEnd 1 0, .destroy 1 0, .dec 1 0, .fin 0, .suspendEnter 0, .sample 0 0 0, .sleep 1, .sleep 2,
      .rtState 0 8, .stopEnter 0, .waitFin 0, .sample 0 0 0, .waited 0 0, .rtState 0 13, .wake 2,
      .stopExit 0 0 ] = none := by decide

/-- a worker does not wake while `stop()` on a suspended runtime is still before `runtime::stopping` -/
example : runLog step (init 3 1)
    [ .reqCfg 0 1 1, .rtState 0 0, .worker 1, .inc 0 1, .new 0 0, .phaseBegin 1 0, .rtState 1 5,
      .phaseEnd 1 0, .destroy 1 0, .dec 1 0, .fin 0, .suspendEnter 0, .sample 0 0 0, .sleep 1,
      .rtState 0 8, .stopEnter 0, .waitFin 0, .sample 0 0 0, .wake 1 ] = none := by decide

/-- the seeded reordering (`thread_manager::wait` before `wait_finalize`) is not a model history -/
example : runLog step (init 5 2)
    [ .reqCfg 0 1 1, .rtState 0 0, .worker 2, .inc 0 1, .new 0 0, .phaseBegin 2 0, .rtState 2 5,
      .phaseEnd 2 0, .destroy 2 0, .dec 2 0, .stopEnter 0, .sample 0 0 0 ] = none := by decide

/-- a body event while suspended is not a model history -/
example : runLog step (init 5 2)
    [ .reqCfg 0 1 1, .rtState 0 0, .worker 2, .inc 0 1, .new 0 0, .phaseBegin 2 0, .rtState 2 5,
      .phaseEnd 2 0, .destroy 2 0, .dec 2 0, .suspendEnter 0, .sample 0 0 0, .sleep 2, .rtState 0 8,
      .inc 1 1, .new 1 1, .phaseBegin 2 1 ] = none := by decide

end PikaVerif.C05
