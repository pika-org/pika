import PikaVerif.Lemmas.StopProgress
import PikaVerif.Lemmas.StopRef
/-!
# C14 — stop_token: one winning stop request, each callback exactly once

Property theorems about the model `PikaVerif.Stop` (one stop state, any number of threads,
activities and callbacks).  Three reachability predicates, each for the repaired code
(`fixCas = true`): `Reachable` (any thread identities), `ReachableF` (`K > 0` threads and identities
that tell exactly the threads apart) and `ReachableP` (`ReachableF` with the repaired constructor,
`fixCtor = true`).  The pinned tree (`fixCas = false`) has machine-checked counterexamples below.
-/
namespace PikaVerif.C14
open PikaVerif PikaVerif.Stop

/-- reachable in the model of the repaired code, any thread identities, any source count -/
def Reachable (s : St) : Prop :=
  ∃ n K ident fixCtor srcs log, runLog step (init n K ident true fixCtor srcs) log = some s

theorem invA_of_reachable {s : St} (h : Reachable s) : InvA s := by
  obtain ⟨n, K, ident, fc, srcs, log, hl⟩ := h
  exact (inv_of_accepted hl).A

/-- **One winner.**  In every execution at most one `request_stop` call returns true
    (`rsTrue` counts the accepted `ret a true` events of request_stop activities); when one
    has, stop is requested. -/
theorem C14_one_winner (s : St) (hr : Reachable s) : s.rsTrue ≤ 1 ∧ (0 < s.rsTrue → s.req = true) := by
  have hi := invA_of_reachable hr
  cases hw : s.winner with
  | none => have := hi.winNone hw; omega
  | some w =>
    have h1 := (hi.winOne w hw).1
    refine ⟨by omega, fun _ => ?_⟩
    cases hq : s.req with
    | true => rfl
    | false => have := hi.winReq hq; rw [hw] at this; simp at this

/-- the ghost counter `rsTrue` is exactly the number of `true` returns of request_stop -/
theorem rsTrue_step (s s' : St) (e : Ev) (h : step s e = some s') :
    s'.rsTrue = s.rsTrue ∨ (∃ a, e = .ret a true ∧ s.pc a = .retn .rs true ∧ s'.rsTrue = s.rsTrue + 1) :=
  (step_frame h).rsTrue

/-- **A losing call returns false only after the stop request exists**: whenever the model
    accepts a `false` return of request_stop, stop is requested. -/
theorem C14_false_means_requested (s s' : St) (hr : Reachable s) (a : Nat)
    (hp : s.pc a = .retn .rs false) (_h : step s (.ret a false) = some s') : s.req = true := by
  -- `retn rs false` is only entered from a load / re-load / failed CAS that observed the bit
  obtain ⟨n, K, ident, fc, srcs, log, hl⟩ := hr
  exact rs_false_of_accepted hl a hp

/-- **Sticky.**  A stop request is never withdrawn: once the stop-requested bit is set it is
    set in every later state, and every query (`stop_requested()` on any token) the model
    accepts reports the current bit. -/
theorem C14_sticky_step (s s' : St) (e : Ev) (h : step s e = some s') (hq : s.req = true) :
    s'.req = true :=
  (step_frame h).req hq

theorem C14_sticky (s s' : St) (log : List Ev) (h : runLog step s log = some s') (hq : s.req = true) :
    s'.req = true :=
  inv_of_runLog (fun s => s.req = true) (fun s e s' hi hs => C14_sticky_step s s' e hs hi) hq h

theorem C14_query_reports_bit (s s' : St) (a : Nat) (rq poss : Bool)
    (h : step s (.query a rq poss) = some s') :
    rq = s.req ∧ poss = (s.req || decide (0 < s.srcs)) := by
  obtain ⟨-, h1, h2, -⟩ := step_query h
  exact ⟨h1, h2⟩


/-! ## Callback life cycle (invariant B) -/

theorem invAB_of_reachable {s : St} (h : Reachable s) : InvA s ∧ InvB s := by
  obtain ⟨n, K, ident, fc, srcs, log, hl⟩ := h
  exact ⟨(inv_of_accepted hl).A, (inv_of_accepted hl).B⟩

/-- **At most once.**  In every execution every callback body is entered at most once. -/
theorem C14_at_most_once (s : St) (hr : Reachable s) (c : Nat) : s.runs c ≤ 1 :=
  ((invAB_of_reachable hr).2.cb c).runsLe

/-- **Exactly once if stop is requested.**  In every reachable state in which stop is requested
    and the winning `request_stop` has left its callback loop (in particular in every state in
    which all activities are idle), every callback whose constructor has returned, whose
    destructor has not been started and that was registered (`add_callback` returned true) or
    run from its constructor has been invoked exactly once. -/
theorem C14_exactly_once_if_requested (s : St) (hr : Reachable s) (hq : s.req = true)
    (hdone : ∀ w, s.winner = some w → wAct (s.pc w) = 0)
    (c : Nat) (hl : s.life c = .live) (hreg : s.kept c = true ∨ s.ranInl c = true) :
    s.runs c = 1 := by
  obtain ⟨hA, hB⟩ := invAB_of_reachable hr
  rcases hreg with hk | hi
  · have hp : s.pushed c = true := by
      have := (hB.cb c).keptP (by simp [hl, started]); rw [← this]; exact hk
    rcases (hB.cb c).pushedWhere hp with h1 | h1 | h1 | h1
    · rw [list_nil_of_done hA hq hdone] at h1; cases h1
    · exact runs_of_deqd_of_done hB hdone h1
    · rw [hl] at h1; cases h1
    · rw [hl] at h1; cases h1
  · exact (hB.cb c).inlRuns hi

/-- the loop-exit hypothesis of `C14_exactly_once_if_requested` holds whenever every activity is idle or
    finished -/
theorem C14_quiescent_loop_done (s : St) (hq : ∀ a, s.pc a = .idle ∨ s.pc a = .fin) :
    ∀ w, s.winner = some w → wAct (s.pc w) = 0 := by
  intro w _
  rcases hq w with h | h <;> simp [h, wAct]

/-- **Immediately in the constructor if stop was already requested.**  `reqAtReg c` records the
    stop-requested bit at the moment the constructor of `c` was invoked (`reqAtReg_spec`); if it
    was set, then once the constructor has returned the callback has been run from inside that
    constructor, exactly once. -/
theorem C14_immediate_if_already (s : St) (hr : Reachable s) (c : Nat)
    (hl : started (s.life c) = true) (hq : s.reqAtReg c = true) :
    s.ranInl c = true ∧ s.runs c = 1 := by
  obtain ⟨_, hB⟩ := invAB_of_reachable hr
  have h1 := (hB.cb c).atRegLive hl hq
  exact ⟨h1, (hB.cb c).inlRuns h1⟩

theorem reqAtReg_spec (s s' : St) (a c : Nat) (h : step s (.inv a (.reg c)) = some s') :
    s'.reqAtReg c = s.req := by
  obtain ⟨-, -, -, ⟨hk, -⟩ | ⟨c', hk, -, rfl⟩ | ⟨c', hk, -, -⟩⟩ := step_inv h <;> cases hk
  exact upd_same ..

/-- **A callback is invoked only while its object is alive, from the constructor, or after it
    was dequeued** (partial form of "never after its destructor has returned"): whenever the model
    accepts `cb.begin`, the callback has never run before, and it is either being constructed by
    the invoking activity or was dequeued by the invoking `request_stop`.  This form needs no thread
    identities; the full clause (the object's destructor has not returned) needs the program order of
    each thread and is `C14_not_after_dtor` below. -/
theorem C14_not_after_dtor_partial (s s' : St) (hr : Reachable s) (a c : Nat)
    (h : step s (.cbBegin a c) = some s') :
    s.runs c = 0 ∧ s.owner c = a ∧ (s.life c = .ctor ∨ s.deqd c = true) := by
  obtain ⟨_, hB⟩ := invAB_of_reachable hr
  obtain ⟨inl, -, hp, -⟩ := step_cbBegin h
  cases inl with
  | true =>
    have hph : regPhase (s.pc a) = some c := by rw [hp]; rfl
    have h2 := hB.runsR a c hph
    rw [hp] at h2
    exact ⟨h2, hB.ownerR a c hph, Or.inl (hB.regP a c hph).1⟩
  | false =>
    have hph : winPhase (s.pc a) = some c := by rw [hp]; rfl
    have h2 := hB.runsW a c hph
    rw [hp] at h2
    exact ⟨h2, hB.ownerW a c hph, Or.inr (hB.winP a c hph)⟩

/-! ## Program order of a thread (call stack), destructor versus running callback

`thr K a = a % K` is the *thread* of activity `a`: the pika thread when the caller is a pika
task, the OS thread for a plain OS thread (that is what `remove_callback` compares after the
repair: `get_self_id()`, and the OS thread id only when that id is invalid).  `ReachableF`
adds to `Reachable` that the identities `ident` tell exactly these threads apart. -/

/-- reachable in the model of the repaired code, `K > 0` threads, faithful thread identities -/
def ReachableF (s : St) : Prop :=
  ∃ n K ident fixCtor srcs log, 0 < K ∧ (∀ a b, ident a = ident b ↔ a % K = b % K) ∧
    runLog step (init n K ident true fixCtor srcs) log = some s

theorem ReachableF.reachable {s : St} (h : ReachableF s) : Reachable s := by
  obtain ⟨n, K, ident, fc, srcs, log, _, _, hl⟩ := h
  exact ⟨n, K, ident, fc, srcs, log, hl⟩

theorem invAll_of_reachableF {s : St} (h : ReachableF s) : Inv s ∧ Faith s := by
  obtain ⟨n, K, ident, fc, srcs, log, hK, hid, hl⟩ := h
  exact ⟨inv_of_accepted hl, (consts_of_accepted hK hid hl).1⟩

/-- the callback `c` is being invoked or processed by activity `w`: from the constructor
    (`regPhase`, stop already requested) or by request_stop between dequeue and finished-store
    (`winPhase`); in particular `s.pc w = .body c _` (the body is running) -/
def processes (s : St) (w c : Nat) : Prop :=
  winPhase (s.pc w) = some c ∨ (regPhase (s.pc w) = some c ∧ regLockPhase (s.pc w) = none)

theorem body_processes {s : St} {w c : Nat} {inl : Bool} (h : s.pc w = .body c inl) : processes s w c := by
  cases inl <;> simp [processes, h, winPhase, regPhase, regLockPhase]

/-- **Never after the destructor has returned** (full clause 1).  Whenever the model accepts
    `cb.begin` for callback `c`, the object exists (constructor invoked, destructor not
    returned), and no destructor of `c` is even past its last access to the stop state
    (`retUnreg`: only the `return` of `remove_callback` is left).  `cb.begin` is the only event
    that enters a callback body, `life c = dead` is set by the return of the destructor. -/
theorem C14_not_after_dtor (s s' : St) (hr : ReachableF s) (a c : Nat)
    (h : step s (.cbBegin a c) = some s') :
    s.life c ≠ .dead ∧ s.life c ≠ .new ∧ ∀ b, retUnreg (s.pc b) ≠ some c := by
  obtain ⟨hI, hF⟩ := invAll_of_reachableF hr
  obtain ⟨inl, -, hp, -⟩ := step_cbBegin h
  cases inl with
  | true => exact hI.ctor_intact (hI.B.regP a c (by rw [hp]; rfl)).1
  | false =>
    have hph : winPhase (s.pc a) = some c := by rw [hp]; rfl
    exact hI.pending_intact hF (hI.B.winP a c hph) (by have := hI.B.runsW a c hph; rwa [hp] at this)

/-- once returned, a destructor stays returned: `life c = dead` is never left -/
theorem C14_dead_is_final (s s' : St) (e : Ev) (hr : Reachable s) (h : step s e = some s') (c : Nat)
    (hd : s.life c = .dead) : s'.life c = .dead := by
  have hB := (invAB_of_reachable hr).2
  -- `life` is written by invocations (of a callback that is new or live) and returns (of the
  -- constructor of a callback under construction, or of a destructor)
  rcases (step_frame h).life with h' | ⟨a, k, rfl⟩ | ⟨a, r, rfl⟩
  · rw [h']; exact hd
  · obtain ⟨-, -, -, ⟨-, rfl⟩ | ⟨c', -, hl, rfl⟩ | ⟨c', -, hl, rfl⟩⟩ := step_inv h
    · exact hd
    · grind [upd]
    · grind [upd]
  · obtain ⟨-, ⟨-, rfl⟩ | ⟨c', b, hp, rfl⟩ | ⟨c', b, hp, rfl⟩⟩ := step_ret h
    · exact hd
    · have := (hB.retRegP a c' b hp).1
      grind [upd]
    · grind [upd]

/-- **The destructor waits for a callback running on another thread** (clause 2, first half).
    In every reachable state: if callback `c` is being processed by activity `w` (in particular
    while its body runs) and the destructor of `c` has returned, or has passed its last access
    and is about to return, then that destructor runs on the thread of `w` (it was called from
    inside the callback).  Contrapositive: a destructor on *another* thread does not return
    before request_stop has stored `callback_finished_executing_`. -/
theorem C14_dtor_waits_for_other_thread (s : St) (hr : ReachableF s) (w c : Nat)
    (hw : processes s w c) :
    (s.life c = .dead → thr s.K (s.dtorBy c) = thr s.K w) ∧
    (∀ b, retUnreg (s.pc b) = some c → thr s.K b = thr s.K w) := by
  obtain ⟨hI, hF⟩ := invAll_of_reachableF hr
  rcases hw with hw | ⟨hw, _⟩
  · exact ⟨(hI.D hF).sameThrD w c hw, fun b hb => (hI.D hF).sameThrR w b c hw hb⟩
  · have h := hI.ctor_intact (hI.B.regP w c hw).1
    exact ⟨fun hd => absurd hd h.1, fun b hb => absurd hb (h.2.2 b)⟩

/-- event form: a destructor that returns while the callback body is running returns on the
    thread that runs the callback -/
theorem C14_dtor_return_while_running (s s' : St) (hr : ReachableF s) (b c w : Nat) (r r' inl : Bool)
    (hb : s.pc b = .retn (.unreg c) r') (_h : step s (.ret b r) = some s') (hw : s.pc w = .body c inl) :
    thr s.K b = thr s.K w :=
  (C14_dtor_waits_for_other_thread s hr w c (body_processes hw)).2 b (by simp [hb, retUnreg])

/-- **… but not for one running on its own thread** (clause 2, second half).  An activity that
    waits in `remove_callback` for `callback_finished_executing_` of `c` is never on the thread
    that processes `c`: a destructor called from inside the callback (at any nesting depth)
    does not wait. -/
theorem C14_dtor_does_not_wait_for_own_thread (s : St) (hr : ReachableF s) (b c w : Nat)
    (hb : s.pc b = .wait c) (hw : processes s w c) : thr s.K w ≠ thr s.K b := by
  obtain ⟨hI, hF⟩ := invAll_of_reachableF hr
  rcases hw with hw | ⟨hw, _⟩
  · intro ht
    have hwin := hI.A.winPhaseWinner w c hw
    have hs := hI.S.sigW w hwin
    have := (hI.D hF).waitOther b c hb
    apply this
    rw [hs]; exact (hF.2 w b).2 ht
  · have := hI.B.unregP b c (by rw [hb]; rfl)
    rw [(hI.B.regP w c hw).1] at this; cases this

/-- the decision of `remove_callback` (`stop.self`): it takes the non-waiting branch exactly
    when it runs on the thread of the request_stop that won -/
theorem C14_self_check_iff_signalling_thread (s s' : St) (hr : ReachableF s) (b c w : Nat) (eq hadPtr : Bool)
    (h : step s (.selfChk b c eq hadPtr) = some s') (hw : s.winner = some w) :
    (eq = true ↔ thr s.K b = thr s.K w) := by
  obtain ⟨hI, hF⟩ := invAll_of_reachableF hr
  have hs := hI.S.sigW w hw
  obtain ⟨-, -, he, -⟩ := step_selfChk h
  rw [he, hs, decide_eq_true_eq]
  exact ⟨fun he => ((hF.2 w b).1 he).symm, fun ht => (hF.2 w b).2 ht.symm⟩

/-! ### Progress (clause 3)

`productive e`: every event except the environment's choices (invoking a new operation,
finishing a thread, copying / dropping a stop_source, a query) and futile spins (a failed CAS
or a re-load that saw the lock bit held).  `enabled s e`: the model accepts `e` in `s`.
Callback bodies are the harness' scripts (a body can always return once its nested operation
has returned); blocking bodies are outside the model. -/

/-- reachable with the repaired constructor (`fixCtor = true`) as well -/
def ReachableP (s : St) : Prop :=
  ∃ n K ident srcs log, 0 < K ∧ (∀ a b, ident a = ident b ↔ a % K = b % K) ∧
    runLog step (init n K ident true true srcs) log = some s

theorem ReachableP.reachableF {s : St} (h : ReachableP s) : ReachableF s := by
  obtain ⟨n, K, ident, srcs, log, hK, hid, hl⟩ := h
  exact ⟨n, K, ident, true, srcs, log, hK, hid, hl⟩

theorem invProg_of_reachableP {s : St} (h : ReachableP s) : Inv s ∧ Faith s ∧ s.fixCtor = true := by
  obtain ⟨n, K, ident, srcs, log, hK, hid, hl⟩ := h
  exact ⟨inv_of_accepted hl, consts_of_accepted hK hid hl⟩

/-- **Progress.**  In every reachable state every activity `a` that is inside a stop_state
    operation (at any nesting depth)
    1. is inside a callback body whose nested operation `a + K` is active (the thread is busy
       there, and the theorem applies to `a + K`), or
    2. can perform a productive step itself, or
    3. spins in a lock loop while another activity holds the lock, and that holder can perform
       its next step, which releases the lock (the lock is never held across a wait), or
    4. *legitimately* waits in `remove_callback`: the finished flag of `c` is not yet stored and
       `c` is being processed by request_stop on **another** thread (which by this theorem is
       not stuck, and by `C14_dtor_does_not_wait_for_own_thread` never waits itself).
    In particular a callback that destroys itself or another callback never blocks. -/
theorem C14_progress (s : St) (hr : ReachableP s) (a : Nat) (ha : act (s.pc a) = true) :
    (isBody (s.pc a) = true ∧ act (s.pc (a + s.K)) = true)
    ∨ (∃ e, actor e = a ∧ productive e = true ∧ enabled s e = true)
    ∨ (∃ h e, s.lock = some h ∧ h ≠ a ∧ lockLoop (s.pc a) = true ∧ actor e = h ∧ productive e = true ∧
          enabled s e = true ∧ ∀ s', step s e = some s' → s'.lock = none)
    ∨ (∃ c w, s.pc a = .wait c ∧ s.fin c = false ∧ winPhase (s.pc w) = some c ∧ thr s.K w ≠ thr s.K a) :=
  have ⟨hI, hF, hc⟩ := invProg_of_reachableP hr
  progress_local hI hF hc a ha

/-- **No deadlock.**  A reachable state in which the model accepts no productive event has
    every activity idle or finished: no thread is stuck inside a stop_state operation, whatever
    the callbacks destroy, register or request (nesting of any depth). -/
theorem C14_no_deadlock (s : St) (hr : ReachableP s)
    (hstuck : ∀ e, productive e = true → enabled s e = false) (a : Nat) :
    s.pc a = .idle ∨ s.pc a = .fin := by
  obtain ⟨hI, hF, hc⟩ := invProg_of_reachableP hr
  have := stuck_all_idle hI hF hc hstuck a
  cases hp : s.pc a <;> simp_all [act]

/-! ## The pinned tree (`fixCas = false`): machine-checked counterexamples -/

/-- Two threads; thread 1 loads the word before thread 0 wins, dequeues a callback and
    unlocks; thread 1's CAS then fails against an *unlocked* word with the stop-requested bit
    set and the loop retries without looking at the bit: the second CAS succeeds. -/
def pinnedTwoWinners : List Ev :=
  [.inv 0 (.reg 0), .load 0 false false 2, .acq 0, .push 0 0 false, .ret 0 false,
   .inv 0 .rs, .load 0 false false 2, .inv 1 .rs, .load 1 false false 2,
   .acq 0, .deq 0 0 false,
   .casFail 1 false true 2, .acq 1, .rsDone 1, .ret 1 true,
   .preExec 0 0, .cbBegin 0 0, .cbEnd 0 0, .finStore 0 0 false, .load 0 false true 2, .acq 0,
   .rsDone 0, .ret 0 true]

/-- In the pinned tree two `request_stop` calls return true. -/
theorem C14_pinned_two_winners :
    ∃ s, runLog step (init 4 2 (fun a => a % 2 + 1) false false 2) pinnedTwoWinners = some s ∧
      s.rsTrue = 2 := by
  refine ⟨_, rfl, ?_⟩
  decide

/-- The same window in `lock_if_not_stopped`: the callback is queued after the stop request
    has completed and is never invoked. -/
def pinnedLateRegistration : List Ev :=
  [.inv 1 (.reg 0), .load 1 false false 2,
   .inv 0 .rs, .load 0 false false 2, .acq 0, .rsDone 0, .ret 0 true,
   .casFail 1 false true 2, .acq 1, .push 1 0 false, .ret 1 false]

theorem C14_pinned_registered_after_stop :
    ∃ s, runLog step (init 4 2 (fun a => a % 2 + 1) false false 2) pinnedLateRegistration = some s ∧
      s.req = true ∧ s.rsTrue = 1 ∧ s.list = [0] ∧ s.runs 0 = 0 ∧ s.life 0 = .live ∧
      (∀ a, a < 4 → s.pc a = .idle) := by
  refine ⟨_, rfl, ?_⟩
  decide

/-- the repaired model rejects both logs at the retried CAS -/
example : runLog step (init 4 2 (fun a => a % 2 + 1) true true 2) pinnedTwoWinners = none := by decide
example : runLog step (init 4 2 (fun a => a % 2 + 1) true true 2) pinnedLateRegistration = none := by decide



/-- Pinned tree, plain OS threads: `get_self_id()` is the same invalid id on every OS thread
    (`ident = fun _ => 0`), so `remove_callback` on thread 1 takes the "own thread" branch while
    the callback runs on thread 0 inside `request_stop`: the destructor returns (and even sets
    `*is_removed_`) while the callback is still running on another thread. -/
def pinnedOsThreads : List Ev :=
  [.inv 0 (.reg 0), .load 0 false false 2, .acq 0, .push 0 0 false, .ret 0 false,
   .inv 0 .rs, .load 0 false false 2, .acq 0, .deq 0 0 false, .preExec 0 0, .cbBegin 0 0,
   .inv 1 (.unreg 0), .load 1 false true 2, .acq 1, .unlink 1 0 false, .selfChk 1 0 true true,
   .ret 1 false]

theorem C14_pinned_os_thread_dtor_does_not_wait :
    ∃ s, runLog step (init 4 2 (fun _ => 0) false false 2) pinnedOsThreads = some s ∧
      s.life 0 = .dead ∧ s.running 0 = true ∧ s.owner 0 = 0 ∧ s.pc 1 = .idle ∧ s.remFlag 0 = true := by
  refine ⟨_, rfl, ?_⟩
  decide

/-- with identities that tell the threads apart the same log is rejected at the comparison -/
example : runLog step (init 4 2 (fun a => a % 2 + 1) false false 2) pinnedOsThreads = none := by decide

/-- Pinned tree: a stop_callback constructed on a token whose state has no source left and no
    stop request is not registered, but its destructor still calls `remove_callback`, which on a
    pika task (identity differs from the default-constructed `signalling_thread_`) waits for
    `callback_finished_executing_` — which nobody will ever set. -/
def pinnedDtorHang : List Ev :=
  [.inv 0 (.reg 0), .load 0 false false 0, .ret 0 false,
   .inv 0 (.unreg 0), .load 0 false false 0, .acq 0, .unlink 0 0 false, .selfChk 0 0 false false]

theorem C14_pinned_dtor_waits_for_ever :
    ∃ s, runLog step (init 2 1 (fun a => a % 1 + 1) false false 0) pinnedDtorHang = some s ∧
      s.pc 0 = .wait 0 ∧ s.fin 0 = false ∧ s.runs 0 = 0 ∧ s.running 0 = false ∧ s.req = false ∧
      s.srcs = 0 ∧ s.pc 1 = .idle := by
  refine ⟨_, rfl, ?_⟩
  decide

/-- repaired constructor: the destructor returns at once -/
example : (runLog step (init 2 1 (fun a => a % 1 + 1) true true 0)
    [.inv 0 (.reg 0), .load 0 false false 0, .ret 0 false, .inv 0 (.unreg 0), .ret 0 false]).isSome = true := by
  decide

/-! ## Reference-count histories (model `PikaVerif.StopRef`) -/

/-- **stop_possible.**  After every history of construction, copy, move, copy-assignment,
    move-assignment, swap and destruction of stop_sources and stop_tokens (and stop requests)
    on any number of stop states, the source count stored in each state word is the number of
    live stop_source objects owning that state; hence a token that owns state `st` reports
    `stop_possible()` exactly when stop was requested on `st` or a stop_source for `st` still
    exists.  (Repaired code; the pinned tree fails, see below.) -/
theorem C14_stop_possible_iff (H : Nat) (log : List StopRef.Op) (s : StopRef.St)
    (h : runLog StopRef.step (StopRef.init true H) log = some s) (k st : Nat)
    (hk : s.tok k = some (some st)) :
    s.srcs st = StopRef.liveSources s st ∧
    (StopRef.possible s (s.tok k) = true ↔ (s.req st = true ∨ 0 < StopRef.liveSources s st)) := by
  have hi := StopRef.inv_of_accepted h
  have hc := hi.cnt st
  refine ⟨hc, ?_⟩
  rw [hk]
  simp [StopRef.possible, hc]

/-- Pinned tree, copy-assignment: `b = a` leaves the source count of `b`'s previous state
    untouched; after every source of that state is gone its token still reports
    `stop_possible()`. -/
theorem C14_pinned_copy_assign_leaks :
    ∃ s, runLog StopRef.step (StopRef.init false 4)
        [.snew 0, .snew 1, .tget 0 1, .sassign 1 0, .sdel 1, .sdel 0] = some s ∧
      s.tok 0 = some (some 1) ∧ StopRef.liveSources s 1 = 0 ∧ s.req 1 = false ∧
      StopRef.possible s (s.tok 0) = true := by
  refine ⟨_, rfl, ?_⟩
  decide

/-- Pinned tree, (defaulted) move-assignment: the same leak. -/
theorem C14_pinned_move_assign_leaks :
    ∃ s, runLog StopRef.step (StopRef.init false 4)
        [.snew 0, .snew 1, .tget 0 1, .smassign 1 0, .sdel 1, .sdel 0] = some s ∧
      s.tok 0 = some (some 1) ∧ StopRef.liveSources s 1 = 0 ∧ s.req 1 = false ∧
      StopRef.possible s (s.tok 0) = true := by
  refine ⟨_, rfl, ?_⟩
  decide

/-- the repaired model on the same histories: once the last source is dropped stop is not possible -/
example : ∃ s, runLog StopRef.step (StopRef.init true 4)
    [.snew 0, .snew 1, .tget 0 1, .sassign 1 0, .sdel 1, .sdel 0] = some s ∧
    StopRef.possible s (s.tok 0) = false := by
  refine ⟨_, rfl, ?_⟩
  decide

/-! ## Non-vacuity -/

/-- a stop request that runs one registered callback, with a losing concurrent request -/
def exampleLog : List Ev :=
  [.inv 0 (.reg 0), .load 0 false false 2, .acq 0, .push 0 0 false, .ret 0 false,
   .inv 0 .rs, .load 0 false false 2, .inv 1 .rs, .load 1 false false 2,
   .acq 0, .deq 0 0 false, .casFail 1 false true 2, .ret 1 false,
   .preExec 0 0, .cbBegin 0 0, .cbEnd 0 0, .finStore 0 0 false, .load 0 false true 2, .acq 0,
   .rsDone 0, .ret 0 true, .query 1 true true]

example : ∃ s, runLog step (init 4 2 (fun a => a % 2 + 1) true true 2) exampleLog = some s ∧
    s.rsTrue = 1 ∧ s.runs 0 = 1 := by
  refine ⟨_, rfl, ?_⟩
  decide

/-- a callback that destroys itself from inside its body (nested activity `2 = 0 + K`):
    the destructor takes the own-thread branch, sets `is_removed`, returns without waiting;
    request_stop skips the finished store and completes -/
def selfDestroyLog : List Ev :=
  [.inv 0 (.reg 0), .load 0 false false 2, .acq 0, .push 0 0 false, .ret 0 false,
   .inv 0 .rs, .load 0 false false 2, .acq 0, .deq 0 0 false, .preExec 0 0, .cbBegin 0 0,
   .inv 2 (.unreg 0), .load 2 false true 2, .acq 2, .unlink 2 0 false, .selfChk 2 0 true true, .ret 2 false,
   .cbEnd 0 0, .finStore 0 0 true, .load 0 false true 2, .acq 0, .rsDone 0, .ret 0 true]

example : ∃ s, runLog step (init 4 2 (fun a => a % 2 + 1) true true 2) selfDestroyLog = some s ∧
    s.life 0 = .dead ∧ s.runs 0 = 1 ∧ s.rsTrue = 1 ∧ (∀ a, a < 4 → s.pc a = .idle) := by
  refine ⟨_, rfl, ?_⟩
  decide

/-- the destructor on another thread takes the waiting branch, `stop.waited` is rejected
    while the body runs and accepted after the finished store -/
def otherThreadWaitsLog : List Ev :=
  [.inv 0 (.reg 0), .load 0 false false 2, .acq 0, .push 0 0 false, .ret 0 false,
   .inv 0 .rs, .load 0 false false 2, .acq 0, .deq 0 0 false, .preExec 0 0, .cbBegin 0 0,
   .inv 1 (.unreg 0), .load 1 false true 2, .acq 1, .unlink 1 0 false, .selfChk 1 0 false false]

example : ∃ s, runLog step (init 4 2 (fun a => a % 2 + 1) true true 2) otherThreadWaitsLog = some s ∧
    s.pc 1 = .wait 0 ∧ s.pc 0 = .body 0 false ∧ step s (.waited 1 0) = none ∧
    (runLog step s [.cbEnd 0 0, .finStore 0 0 false, .waited 1 0, .ret 1 false]).isSome = true := by
  refine ⟨_, rfl, ?_⟩
  decide

end PikaVerif.C14
