import PikaVerif.Lemmas.Elastic
import PikaVerif.Lemmas.ElasticRefuse
import PikaVerif.Props.C01
/-!
# C19 — suspending and resuming pools or workers never loses work

Theorems about the model `PikaVerif.Elastic` (one pool: per worker `runtime_state`, pu mutex,
sleep path of the scheduling loop, `scheduler_base::{suspend, resume, select_active_pu}`,
`suspend_processing_unit_internal`, `resume_processing_unit_direct`, the pool-level unlocked CAS of
`suspend_internal`, the queue length counters) for **every** accepted log, i.e. every number of
workers, submitters, suspenders and resumers and every interleaving of the instrumented steps.

Vocabulary.  A *placement* is the increment of a queue counter of worker `w` by an actor.  It is
*guarded* when the actor holds `w`'s pu mutex after `select_active_pu` saw `state ≤ suspended`
without escalation.  `late w` bounds the entries of `w`'s queues that were placed unguarded since
the worker's last emptiness check; `dirty w` records that `w` was moved to `pre_sleep` by the pool
suspend's CAS that does not take the pu mutex.

Liveness clauses ("the calls return", "after resume it runs") are stated as solo-completion
theorems: from every reachable state of the hand-shake there is a short continuation consisting of
steps of the thread that owes the next step (and, for resume, one more `notify` of the resume loop)
after which the caller's exit condition holds.
-/
namespace PikaVerif.C19
open PikaVerif PikaVerif.Elastic

def Reachable (cfg : Cfg) (s : St) : Prop := ∃ log, runLog step (init cfg) log = some s

theorem inv_of_reachable {cfg : Cfg} {s : St} (h : Reachable cfg s) : Inv s := by
  obtain ⟨log, hl⟩ := h
  exact inv_of_accepted hl

theorem cfg_of_reachable {cfg : Cfg} {s : St} (h : Reachable cfg s) : s.cfg = cfg := by
  obtain ⟨log, hl⟩ := h
  exact inv_of_runLog (fun t => t.cfg = cfg) (fun s e s' hi hs => (step_cfg hs).trans hi) rfl hl

/-! ## No task is stranded -/

/-- **A guarded placement lands on a schedulable worker.**  While an actor holds `w`'s pu mutex from a
    non-escalated `select_active_pu` — in particular at the moment it places work on `w` — the worker's
    state is `≤ suspended` (not merely when it was tested), unless a pool suspend changed the state
    behind the mutex' back (`dirty`).  (The accepted placement `_h` is not needed for the conclusion.) -/
theorem C19_guarded_placement_running (cfg : Cfg) (s s' : St) (hr : Reachable cfg s) (a w : Nat)
    (_h : step s (.inc a w) = some s') (hg : (s.wk w).lk = some (a, .sel true))
    (hd : (s.wk w).dirty = false) : (s.wk w).st ≤ rsSuspended := by
  have hi := (inv_of_reachable hr) w
  cases hi.selRun a hg with
  | inl h1 => exact h1
  | inr h1 => rw [hd] at h1; cases h1

/-- **A worker goes to sleep only with its queues empty of guarded work.**  In every reachable
    state in which worker `w` has committed to sleeping (it is past the final test, storing
    `sleeping`, waiting, or just woken), every entry counted in its queues was placed there
    *unguarded* after the worker's final emptiness check: `q ≤ late`.  (No claim for a worker put to
    sleep by the unlocked pool-suspend CAS.) -/
theorem C19_sleeping_queue_late (cfg : Cfg) (s : St) (hr : Reachable cfg s) (w : Nat)
    (hpc : (s.wk w).pc ≠ .loop) (hd : (s.wk w).dirty = false) : (s.wk w).q ≤ (s.wk w).late :=
  ((inv_of_reachable hr) w).strand (Or.inr hpc) hd

/-- the same at the moment `sleeping` is stored: the state is `pre_sleep` and whatever is queued was placed
    unguarded since the worker's last empty check (`q ≤ late`; the queue need not be empty) -/
theorem C19_sleep_with_empty_queue (cfg : Cfg) (s s' : St) (hr : Reachable cfg s) (w : Nat)
    (h : step s (.sleep w) = some s') (hd : (s.wk w).dirty = false) :
    (s.wk w).st = rsPreSleep ∧ (s.wk w).q ≤ (s.wk w).late := by
  have hi := (inv_of_reachable hr) w
  cases Step.of_step h with
  | wk hw => cases hw with
    | sleep hc => exact ⟨hi.commitSt hc, hi.strand (Or.inr (by rw [hc]; decide)) hd⟩

/-- **No stranding.**  In every reachable state, if worker `w`'s queues hold work then either
    * `w` is in its scheduling loop (running, or draining its own queue in `pre_sleep` — it cannot
      leave the loop before it has seen the queue empty), or
    * `w` is on the sleep path; then its state is `pre_sleep`/`sleeping` (a resume is owed and
      `C19_resume_returns` shows it brings the worker back into the loop), and — unless the pool
      suspend's unlocked CAS was involved — all of that work was placed unguarded after the final
      emptiness check (`q ≤ late`): guarded placements never end up on a sleeping worker. -/
theorem C19_no_strand (cfg : Cfg) (s : St) (hr : Reachable cfg s) (w : Nat) (_hq : 0 < (s.wk w).q) :
    (s.wk w).pc = .loop ∨
    ((s.wk w).pc ≠ .loop ∧ ((s.wk w).st = rsPreSleep ∨ (s.wk w).st = rsSleeping) ∧
      ((s.wk w).dirty = true ∨ (s.wk w).q ≤ (s.wk w).late)) := by
  have hi := (inv_of_reachable hr) w
  by_cases hl : (s.wk w).pc = .loop
  · exact Or.inl hl
  · refine Or.inr ⟨hl, ?_, ?_⟩
    · by_cases hc : (s.wk w).pc = .commit
      · exact Or.inl (hi.commitSt hc)
      · exact Or.inr (hi.sleepSt hl hc)
    · exact hi.late_or_dirty hl

/-- A sleeping worker is exactly one that is inside `scheduler_base::suspend`, and a worker that is
    inside it (after the store) is `sleeping`: the state word never lies about the thread. -/
theorem C19_sleeping_iff_in_suspend (cfg : Cfg) (s : St) (hr : Reachable cfg s) (w : Nat) :
    (s.wk w).st = rsSleeping ↔ ((s.wk w).pc ≠ .loop ∧ (s.wk w).pc ≠ .commit) := by
  have hi := (inv_of_reachable hr) w
  exact ⟨hi.stPc, fun h => hi.sleepSt h.1 h.2⟩

/-! ## No duplication (C01's token discipline; the same logs are replayed through `Sched`) -/

/-- Suspending/resuming workers adds no way to run a task twice: activation of a task object is
    still exclusive (theorem of C01 about the scheduler protocol model, which the E2 logs of the
    suspend/resume histories are also replayed through). -/
theorem C19_no_dup (s s' : Sched.St) (hr : C01.Reachable s) (a o : Nat) (b af : Sched.W)
    (h : Sched.step s (.tagged a o b af) = some s') :
    (s.obj o).w.st = Sched.sPending ∧ (s.obj o).owner = none ∧ (s.obj o).holder = some a ∧
    (s.obj o).q = 0 ∧ (s.obj o).pusher = none ∧ (s'.obj o).owner = some a :=
  C01.C01_activation_exclusive s s' hr a o b af h

/-! ## The calls return -/

/-- **`suspend_processing_unit` returns.**  From every reachable state in which worker `w` has been
    asked to sleep (`pre_sleep`) and its queues are empty, at most four steps of the worker alone
    (loop-top sample, queue length, final test, store) make it `sleeping` and empty the set of
    suspenders that still have to wait — after that every suspender's exit test succeeds. -/
theorem C19_suspend_returns (cfg : Cfg) (s : St) (hr : Reachable cfg s) (w a : Nat)
    (hst : (s.wk w).st = rsPreSleep) (ha : (s.wk w).actor = some a) (hq : (s.wk w).q = 0)
    (hlow : w = s.cfg.last → s.lowq = 0) :
    ∃ evs s', evs.length ≤ 4 ∧ runLog step s evs = some s' ∧ (s'.wk w).st = rsSleeping ∧
      (s'.wk w).waiters = [] ∧ ∀ b, (step s' (.sdone b w rsSleeping)).isSome = true := by
  have hi := (inv_of_reachable hr) w
  by_cases hl : (s.wk w).pc = .loop
  · refine ⟨[.top w rsPreSleep, .qlen a w 0, .chk w rsPreSleep true, .sleep w], ?_⟩
    by_cases hw : w = s.cfg.last
    · have h0 := hlow hw
      simp [runLog, step, hst, hl, ha, hq, upd, h0]
    · simp [runLog, step, hst, hl, ha, hq, upd, hw]
  · by_cases hc : (s.wk w).pc = .commit
    · refine ⟨[.sleep w], ?_⟩
      simp [runLog, step, hc, upd]
    · have := hi.sleepSt hl hc
      rw [hst] at this
      cases this

/-- a suspender that moved the worker to `pre_sleep` cannot return before the worker has stored
    `sleeping` (it is in `waiters` until then, and `waiters ≠ []` implies `pre_sleep`) -/
theorem C19_suspend_return_sound (cfg : Cfg) (s s' : St) (hr : Reachable cfg s) (a w v : Nat)
    (h : step s (.sdone a w v) = some s') : a ∉ (s.wk w).waiters ∧
      ((s.wk w).waiters ≠ [] → (s.wk w).st = rsPreSleep) := by
  cases Step.of_step h with
  | sdone hg => exact ⟨hg, (inv_of_reachable hr w).waitPre⟩
  | wk hw => cases hw

/-- **`resume_processing_unit` returns, and the lost-notify window is covered.**  From every
    reachable state in which worker `w` is `sleeping` — including the window between
    `store(sleeping)` and `wait`, in which a notify is lost — a continuation of at most four steps
    (the worker entering `wait` if it has not yet, one more `notify` of the resume loop, the wake-up,
    the CAS) brings it back to `running` inside its scheduling loop, where the resume loop's test
    `state == sleeping` fails (the call returns) and the worker serves its queue again. -/
theorem C19_resume_returns (cfg : Cfg) (s : St) (hr : Reachable cfg s) (w a : Nat)
    (hst : (s.wk w).st = rsSleeping) :
    ∃ evs s', evs.length ≤ 4 ∧ runLog step s evs = some s' ∧ (s'.wk w).st = rsRunning ∧
      (s'.wk w).pc = .loop ∧ (s'.wk w).q = (s.wk w).q ∧
      (step s' (.rload a w rsRunning)).isSome = true := by
  have hi := (inv_of_reachable hr) w
  have hp := hi.stPc hst
  cases hpc : (s.wk w).pc with
  | loop => exact absurd hpc hp.1
  | commit => exact absurd hpc hp.2
  | stored =>
    refine ⟨[.wait w, .notify a w, .woke w, .wake w rsSleeping rsRunning], ?_⟩
    simp [runLog, step, hpc, hst, upd]
  | waiting =>
    refine ⟨[.notify a w, .woke w, .wake w rsSleeping rsRunning], ?_⟩
    simp [runLog, step, hpc, hst, upd]
  | woken =>
    refine ⟨[.wake w rsSleeping rsRunning], ?_⟩
    simp [runLog, step, hpc, hst, upd]

/-- a notify that arrives between `store(sleeping)` and `wait` changes nothing (it is lost) — which
    is why `resume_processing_unit_direct` has to keep notifying (`C19_resume_returns` starts from
    exactly this state as well) -/
theorem C19_lost_notify (s : St) (w a : Nat) (hpc : (s.wk w).pc = .stored) :
    step s (.notify a w) = some s := by
  simp [step, hpc]

/-- the resume loop exits only on a state other than `sleeping` actually read from the worker -/
theorem C19_resume_return_sound (s s' : St) (a w v : Nat) (h : step s (.rload a w v) = some s') :
    v = (s.wk w).st ∧ s' = s := by
  cases Step.of_step h with
  | rload hg => exact ⟨hg, rfl⟩
  | wk hw => cases hw

/-! ## Unsupported operations are refused and leave the pool running -/

/-- **A refused call does nothing** (stated as: its state-changing steps are rejected).  After the refusal note of an actor (error set) and until its
    call returns, the model of the *fixed* tree (`refuseReturns`) accepts from that actor neither the
    pu-mutex acquisition of `suspend_processing_unit_internal` nor the pool suspend's CAS; the only
    other state-changing step of a suspender, the locked CAS, needs that acquisition. -/
theorem C19_refused_leaves_running (cfg : Cfg) (s : St) (hr : Reachable cfg s)
    (hc : cfg.refuseReturns = true) (a : Nat) (ha : s.apc a = .refused) (w b af : Nat) :
    step s (.slock a w) = none ∧ step s (.ucas a w b af) = none ∧
    (∀ s', step s (.cas a w b af) = some s' → (s.wk w).lk = some (a, .susp)) := by
  have hcfg := cfg_of_reachable hr
  refine ⟨?_, ?_, ?_⟩
  · simp [step, mayAct, ha, hcfg, hc]
  · simp [step, mayAct, ha, hcfg, hc]
  · intro s' h
    cases Step.of_step h with
    | wk hw => cases hw with
      | cas hg => exact hg.1

/-- **A refused call changes nothing, for the whole window until it returns.**  From a reachable
    state of the fixed tree in which actor `a` has just been refused (and, being at the entry of the
    API function, holds no pu mutex for a suspension), after *any* accepted continuation that does
    not contain `a`'s return, the model accepts from `a` none of the three steps by which a
    suspender can act on a worker: taking the pu mutex for a suspension, the locked CAS and the
    pool suspend's unlocked CAS.  Hence no worker state is ever changed on behalf of a refused call. -/
theorem C19_refused_window (cfg : Cfg) (s s' : St) (hr : Reachable cfg s) (hc : cfg.refuseReturns = true)
    (a : Nat) (ha : s.apc a = .refused) (hn : NoSusp s a) (log : List Ev)
    (h : runLog step s log = some s') (hnot : Ev.ret a ∉ log) (w b af : Nat) :
    step s' (.slock a w) = none ∧ step s' (.cas a w b af) = none ∧ step s' (.ucas a w b af) = none := by
  have hcfg := cfg_of_reachable hr
  obtain ⟨ha', hn', hc'⟩ := refused_log a log s s' (by rw [hcfg]; exact hc) ha hn h hnot
  have hm : mayAct s' a = false := by simp [mayAct, ha', hc']
  refine ⟨?_, ?_, ?_⟩
  · simp [step, hm]
  · have := hn' w
    simp [step, this]
  · simp [step, hm]


/-- every state change of a worker by a suspender goes through `running → pre_sleep`: a suspender
    never touches a worker that is not running, and never writes anything but `pre_sleep` -/
theorem C19_suspender_only_requests (s s' : St) (a w b af : Nat)
    (h : step s (.cas a w b af) = some s' ∨ step s (.ucas a w b af) = some s') :
    b = (s.wk w).st ∧ (s'.wk w).st = (if (s.wk w).st = rsRunning then rsPreSleep else (s.wk w).st) := by
  rcases h with h | h <;> cases Step.of_step h with
  | wk hw => cases hw <;> simp_all [casResult]

/-! ## The defect of the pinned tree (before the `fix:` commit), machine-checked

`suspend_processing_unit_direct` set the error for a pool without elasticity and then *continued*
into `suspend_processing_unit_internal` when the `error_code` was non-throwing.  The model of that
code (`refuseReturns := false`) accepts the following history, which ends with worker 0 asleep
although the call was refused.  Replayed on the real code by the harness program `refuse`. -/
def buggyCfg : Cfg := { elastic := false, stealing := true, last := 1, refuseReturns := false }

def defectLog : List Ev :=
  [.start 1 0 0, .start 2 1 0, .refuse 9, .slock 9 0, .cas 9 0 rsRunning rsPreSleep, .sunl 9 0,
   .top 0 rsPreSleep, .qlen 1 0 0, .chk 0 rsPreSleep true, .sleep 0, .sdone 9 0 rsSleeping, .ret 9]

theorem C19_refuse_defect_witness :
    ∃ s, runLog step (init buggyCfg) defectLog = some s ∧ (s.wk 0).st = rsSleeping ∧
      (s.wk 0).pc = .stored := by
  refine ⟨_, rfl, ?_, ?_⟩ <;> decide

/-- … and the same history is rejected by the model of the fixed tree -/
theorem C19_refuse_fixed_rejects :
    runLog step (init { buggyCfg with refuseReturns := true }) defectLog = none := by decide

/-! ## Non-vacuity -/

def cfg2 : Cfg := { elastic := true, stealing := true, last := 1, refuseReturns := true }

/-- two workers start; actor 7 places a task on worker 0 under the pu mutex; actor 9 suspends
    worker 0, which drains its queue, sleeps, and is resumed through the lost-notify window -/
def exampleLog : List Ev :=
  [.start 1 0 0, .start 2 1 0,
   .sel 7 0 rsRunning rsSuspended true true, .inc 7 0, .unl 7 0,
   .slock 9 0, .cas 9 0 rsRunning rsPreSleep, .sunl 9 0,
   .top 0 rsPreSleep, .dec 1 0, .top 0 rsPreSleep, .qlen 1 0 0, .chk 0 rsPreSleep true,
   .sel 7 0 rsPreSleep rsSuspended true false, .sel 7 1 rsRunning rsSuspended true true, .inc 7 1, .unl 7 1,
   .sleep 0, .sdone 9 0 rsSleeping,
   .notify 8 0, .rload 8 0 rsSleeping, .wait 0, .notify 8 0, .woke 0, .wake 0 rsSleeping rsRunning,
   .rload 8 0 rsRunning, .dec 2 1]

example : (runLog step (init cfg2) exampleLog).isSome = true := by decide

/-- a state satisfying the hypotheses of `C19_no_strand`'s second alternative with `late > 0`: a
    placement hinted to a sleeping worker after escalation -/
example : ∃ s, runLog step (init cfg2)
    [.start 1 0 0, .slock 9 0, .cas 9 0 rsRunning rsPreSleep, .sunl 9 0, .top 0 rsPreSleep, .qlen 1 0 0,
     .chk 0 rsPreSleep true, .sleep 0, .sel 7 0 rsSleeping rsSleeping true true, .inc 7 0, .unl 7 0] = some s ∧
    (s.wk 0).q = 1 ∧ (s.wk 0).late = 1 ∧ (s.wk 0).st = rsSleeping := by
  refine ⟨_, rfl, ?_, ?_, ?_⟩ <;> decide

/-- a state satisfying the hypotheses of `C19_refused_window` -/
example : ∃ s, runLog step (init cfg2) [.start 1 0 0, .refuse 9] = some s ∧ s.apc 9 = .refused ∧ NoSusp s 9 := by
  refine ⟨_, rfl, by decide, ?_⟩
  intro w
  simp only [init, upd]
  split <;> simp

end PikaVerif.C19
