import PikaVerif.Lemmas.WhenAllLife
import PikaVerif.Props.C03
/-!
# C03 — life cycle of the `when_all` / `when_all_vector` operation state (C03w)

"Exactly one completion signal ... nothing is signalled after the operation state may be destroyed, every
object stored by the operation is destroyed exactly once" for `when_all` and `when_all_vector` under
concurrency.

`PikaVerif.WhenAllLife.step` (Model/WhenAllLife.lean) is a layer on the protocol acceptor
`PikaVerif.WhenAll.step` (Model/WhenAll.lean): `n` child receivers run concurrently on any
threads or inline in the start loop; per child the events are `fire` (the child's leaf completes its
receiver), `sig` (flag access: value child = load + store of its value, error child = `exchange(true)` + store
of its error if it won, stopped child = store `true`), `store` / `latch` (notes of the hooks: this call stored
its value / won the exchange), `dec` (`--predecessors_remaining`), and for the child whose decrement reached
zero `zero` (reads flag and `error.has_value()`), `rcv` (reads the results, completes the downstream receiver),
return.  Completing the downstream receiver destroys the whole operation state when `selfdel` (start_detached,
sync_wait, the harness' self-deleting operation state); every later event that reads or writes the operation
state (`touches`) raises `uaf`; the acceptor never refuses such an event.

All theorems quantify over every `n` (`when_all_vector`: `n ≥ 0`, `n = 0` completes in `start()` as the
code does; `when_all`: `n ≥ 1`, the code's `static_assert`), every choice of completion channel and payload of
every child, every accepted log (every interleaving of any number of threads, inline completions in the
start loop included).

Not a theorem because the code does not do it: pika's when_all has no stop source, a failing child does not
request stop of its siblings (they run to completion; a value child that finds the flag set stores nothing).
-/
namespace PikaVerif.C03

def WLReach (c : WhenAllLife.Cfg) (n : Nat) (s : WhenAllLife.St) : Prop :=
  ∃ log, runLog WhenAllLife.step (WhenAllLife.init c n) log = some s

def WLQuiet (s : WhenAllLife.St) : Prop := ∀ t, s.b.pc t = .idle ∨ s.b.pc t = .fin

/-- every child sent a value -/
def AllValues (s : WhenAllLife.St) (n : Nat) : Prop := ∀ i, i < n → ∃ a, s.b.compl i = some (0, a)

/-- The protocol state underneath a reachable state of the life-cycle model is a reachable state of the
    protocol model: `C03_when_all_at_most_once`, `C03_when_all_exactly_once`, `C03_when_all_decision` apply
    to `s.b`. -/
theorem C03w_refines (c : WhenAllLife.Cfg) (n : Nat) (s : WhenAllLife.St) (hr : WLReach c n s)
    (hn : 0 < n) : WReach s.b := by
  obtain ⟨log, hl⟩ := hr
  exact ⟨n, log, WhenAllLife.runLog_proj log _ s (by simp [WhenAllLife.init, WhenAll.init]; omega) hl⟩

/-- **Exactly one downstream completion, issued by the child that performed the last decrement.**
    In every reachable state the downstream receiver has been completed at most once.  If it has (`n > 0`):
    the call was made by the child `k` whose `--predecessors_remaining` reached zero (`lastC`), from inside that
    child's receiver call (thread `lastT`, the thread that runs child `k`), after every child's decrement.
    `n = 0` (`when_all_vector`): the call was made by `start()` itself.  In a state in which `start()` has been
    called, every child has completed and every call has returned, the receiver has been completed exactly
    once. -/
theorem C03w_exactly_one_completion (c : WhenAllLife.Cfg) (n : Nat) (s : WhenAllLife.St)
    (hr : WLReach c n s) (hw : c.vector = true ∨ 0 < n) :
    s.b.delivered ≤ 1 ∧
    (s.b.delivered = 1 → 0 < n →
      ∃ k, s.lastC = some k ∧ s.issuer = some k ∧ k < n ∧ s.b.remaining = 0 ∧
        (∀ i, i < n → s.b.stage i = 3) ∧ s.issuerT = some s.b.lastT ∧ s.b.who k = s.b.lastT) ∧
    (s.b.delivered = 1 → n = 0 →
      s.issuer = none ∧ s.issuerT = some s.starterT ∧ s.b.result = some (0, WhenAll.enc (WhenAll.vals s.b) 0)) ∧
    (WLQuiet s → s.started = true → (∀ i, i < n → s.b.firedI i = true) → s.b.delivered = 1) := by
  cases n with
  | zero =>
    have hv : c.vector = true := hw.resolve_right (Nat.lt_irrefl 0)
    obtain ⟨log, hl⟩ := hr
    have hz := WhenAllLife.zinv_of_accepted hv hl
    refine ⟨by rcases hz.del with h | h <;> omega, fun _ h => absurd h (Nat.lt_irrefl 0), fun hd _ => ?_,
      fun hq hs _ => ?_⟩
    · have := hz.delRes hd
      exact ⟨hz.noChild.2, this.2.2, by rw [this.1]; rfl⟩
    · rcases hz.del with h | h
      · have := hz.startedPc hs h
        rcases hq s.starterT with h' | h' <;> rw [h'] at this <;> simp at this
      · exact h
  | succ m =>
    have hn : 0 < m + 1 := Nat.succ_pos m
    have hnn := WhenAllLife.n_of_reach hr hn
    have hf := WhenAllLife.full_of_reach hr hn
    refine ⟨by rcases hf.winv.w2.delOnce with h | ⟨h, _⟩ <;> omega, fun hd _ => ?_,
      fun _ h => absurd h (Nat.succ_ne_zero m), fun hq _ hall => ?_⟩
    · have hz : s.b.remaining = 0 := by rcases hf.winv.w2.delOnce with h | ⟨_, hz⟩ <;> omega
      have hiss := hf.linv.issued hd
      cases hk : s.lastC with
      | none => exact absurd hz (fun h => (hf.linv.lastSome.mpr h) hk)
      | some k =>
        have hst := hf.linv.lastStage k hk
        refine ⟨k, rfl, by rw [hiss.1, hk], by omega, hz, ?_, hiss.2, hst.2.2⟩
        intro i hi
        exact WhenAll.all_decremented s.b hf.winv.cnt hz i (by omega)
    · exact (C03_when_all_exactly_once s.b (C03w_refines c _ s hr hn) hq (by omega)
        (fun i hi => hall i (by omega))).1

/-- **The completion is the one the composition denotes.**  Once the downstream receiver has been completed
    (`n > 0`): it is `set_value` iff every child sent a value, and then it carries every child's value — the
    slot the last child reads for child `i` holds exactly the value child `i` sent, the payload is their
    encoding in child order; otherwise the decision is that of `first`, the first non-value child to reach the
    flag: stopped if that child was stopped, else the error that child sent (`first` is a child that really
    completed with that signal); if some child failed and none was stopped it is the error of the failing
    child that won the exchange. -/
theorem C03w_completion_is_the_denoted_one (c : WhenAllLife.Cfg) (n : Nat) (s : WhenAllLife.St)
    (hr : WLReach c n s) (hn : 0 < n) (hd : s.b.delivered = 1) :
    ((∃ v, s.b.result = some (0, v)) ↔ AllValues s n) ∧
    (AllValues s n → s.b.result = some (0, WhenAll.enc (WhenAll.vals s.b) n) ∧
      ∀ i, i < n → ∃ a, s.b.compl i = some (0, a) ∧ s.b.slots i = some a) ∧
    (∀ i ch e, s.b.first = some (i, ch, e) → i < n ∧ s.b.compl i = some (ch, e) ∧ ch ≠ 0 ∧
      s.b.result = some (if ch = 1 then (1, 0) else (2, e))) ∧
    (¬ AllValues s n → ∃ i ch e, s.b.first = some (i, ch, e)) ∧
    (¬ AllValues s n → (∀ i a, i < n → s.b.compl i ≠ some (1, a)) →
      ∃ i ch e, s.b.first = some (i, ch, e) ∧ ch ≠ 0 ∧ ch ≠ 1 ∧ s.b.compl i = some (ch, e) ∧
        s.b.result = some (2, e)) := by
  have hnn := WhenAllLife.n_of_reach hr hn
  have hf := WhenAllLife.full_of_reach hr hn
  have wr := C03w_refines c n s hr hn
  obtain ⟨hz, hst, hres⟩ := (C03_when_all_at_most_once s.b wr).2 hd
  obtain ⟨d1, d2, d3⟩ := C03_when_all_decision s.b wr hz
  rw [hnn] at d1 d3 hst
  have hval : AllValues s n → s.b.first = none := by
    intro hv
    cases hfi : s.b.first with
    | none => rfl
    | some p =>
      obtain ⟨j, ch, e⟩ := p
      have h3 := d3 j ch e hfi
      obtain ⟨a, ha⟩ := hv j h3.1
      rw [ha] at h3
      have := h3.2.1
      simp only [Option.some.injEq, Prod.mk.injEq] at this
      exact absurd this.1.symm h3.2.2.1
  have hnv : ¬ AllValues s n → ∃ i ch e, s.b.first = some (i, ch, e) := by
    intro hv
    cases hfi : s.b.first with
    | none =>
      exfalso; apply hv
      have := d2 hfi
      exact d1.mp (by rw [this])
    | some p => exact ⟨p.1, p.2.1, p.2.2, rfl⟩
  refine ⟨⟨?_, ?_⟩, ?_, ?_, hnv, ?_⟩
  · rintro ⟨v, hv⟩
    apply d1.mp
    rw [hres] at hv
    simp only [Option.some.injEq] at hv
    rw [hv]
  · intro hv
    have := d2 (hval hv)
    exact ⟨_, by rw [hres, this]⟩
  · intro hv
    have hfi := hval hv
    refine ⟨by rw [hres, d2 hfi, hnn], fun i hi => ?_⟩
    obtain ⟨a, ha⟩ := hv i hi
    exact ⟨a, ha, (hf.winv.w3.valuesStored hfi i 0 a (by rw [hst i hi]; omega) ha).2⟩
  · intro i ch e hfi
    have := d3 i ch e hfi
    exact ⟨this.1, this.2.1, this.2.2.1, by rw [hres, this.2.2.2]⟩
  · intro hv hns
    obtain ⟨i, ch, e, hfi⟩ := hnv hv
    have := d3 i ch e hfi
    have hc1 : ch ≠ 1 := by
      intro h1; subst h1
      exact hns i e this.1 this.2.1
    exact ⟨i, ch, e, hfi, this.2.2.1, hc1, this.2.1, by rw [hres, this.2.2.2]; simp [hc1]⟩

/-- **What "first" means: the winner of the exchange.**  In the protocol model, a non-value child whose flag
    access finds the flag clear (its `exchange(true)` returned `false`; a stopped child's plain store of `true`
    likewise) becomes `first` and sets the flag; a child that finds the flag set changes neither `first` nor
    the stored error; and `first`, once set, never changes. -/
theorem C03w_first_is_the_exchange_winner (s s' : WhenAll.St) (hr : WReach s) :
    (∀ t i ch arg cx, s.pc t = .fired i ch arg cx → ch ≠ 0 → WhenAll.step s (.sig t ch) = some s' →
      (s.latch = false → s'.first = some (i, ch, arg) ∧ s'.latch = true) ∧
      (s.latch = true → s'.first = s.first ∧ s'.err = s.err)) ∧
    (∀ e p, WhenAll.step s e = some s' → s.first = some p → s'.first = some p) := by
  obtain ⟨n, log, hl⟩ := hr
  have hlf := (WhenAll.winv_of_accepted hl).w3.latchFirst
  have hnone : s.latch = false → s.first = none := fun hl =>
    Decidable.byContradiction fun hf => by rw [hlf.mpr hf] at hl; cases hl
  refine ⟨fun t i ch arg cx hpc hch h => ?_, fun e p h hp => ?_⟩
  · cases WhenAll.Step.of_step h with | sig hp' hs => ?_
    rw [hpc] at hp'; cases hp'
    rcases hs with ⟨hl, _, rfl, rfl, rfl, rfl⟩ | ⟨_, h0, _⟩ | ⟨_, rfl, rfl, rfl, rfl⟩ |
      ⟨hl, _, rfl, rfl, rfl, rfl⟩
    · exact ⟨fun h => (by rw [hl] at h; cases h), fun _ => ⟨rfl, rfl⟩⟩
    · exact absurd h0 hch
    · exact ⟨fun h => ⟨if_pos (hnone h), rfl⟩, fun h => ⟨if_neg (hlf.mp h), rfl⟩⟩
    · exact ⟨fun h => ⟨if_pos (hnone h), rfl⟩, fun h => (by rw [hl] at h; cases h)⟩
  · -- only the flag access writes `first`, and only when there is none
    cases WhenAll.Step.of_step h with
    | sig _ hs =>
      have : s.first ≠ none := by rw [hp]; nofun
      rcases hs with ⟨_, _, _, _, _, rfl⟩ | ⟨_, _, _, _, _, rfl⟩ | ⟨_, _, _, _, rfl⟩ | ⟨_, _, _, _, _, rfl⟩
      · exact hp
      · exact hp
      · exact (if_neg this).trans hp
      · exact (if_neg this).trans hp
    | _ => exact hp

/-- **No access to the operation state after the last decrement, except by the last child.**  In a reachable
    state in which some child `k`'s decrement has reached zero, every accepted event that reads or writes the
    operation state (start loop, a leaf completing, any step of a child receiver call, the downstream
    completion) belongs to child `k` and is made from inside `k`'s receiver call; and `k` stays the last
    child. -/
theorem C03w_no_access_after_last_decrement (c : WhenAllLife.Cfg) (n : Nat) (s s' : WhenAllLife.St)
    (hr : WLReach c n s) (hn : 0 < n) (e : WhenAll.Ev) (h : WhenAllLife.step s e = some s') (k : Nat)
    (hk : s.lastC = some k) :
    (WhenAllLife.touches e = true →
      WhenAllLife.actor s e = some k ∧ WhenAll.isLast (s.b.pc (WhenAllLife.tidOf e)) = true) ∧
    s'.lastC = some k := by
  have hf := WhenAllLife.full_of_reach hr hn
  refine ⟨fun ht => ?_, WhenAllLife.lastC_stable s s' e hf.linv h k hk⟩
  have hz : s.b.remaining = 0 := hf.linv.lastSome.mp (by rw [hk]; simp)
  have hb := (WhenAllLife.step_proj hf.linv.npos h).1
  have := WhenAllLife.touch_after_zero s s'.b e hf.winv.w1 hf.winv.cnt hf.a hf.linv hb ht hz
  exact ⟨by rw [this.2, hk], this.1⟩

/-- Over logs, the part about whose event it is: if `pre ++ e :: post` is accepted and child `k`'s decrement reached zero within `pre`,
    then `e`, if it reads or writes the operation state, is an event of child `k`. -/
theorem C03w_no_access_after_last_decrement_log (c : WhenAllLife.Cfg) (n : Nat) (hn : 0 < n)
    (pre post : List WhenAll.Ev) (e : WhenAll.Ev) (s s' : WhenAllLife.St)
    (hpre : runLog WhenAllLife.step (WhenAllLife.init c n) pre = some s)
    (hall : runLog WhenAllLife.step (WhenAllLife.init c n) (pre ++ e :: post) = some s') (k : Nat)
    (hk : s.lastC = some k) (ht : WhenAllLife.touches e = true) : WhenAllLife.actor s e = some k := by
  obtain ⟨s1, hs⟩ := runLog_mid hpre hall
  exact ((C03w_no_access_after_last_decrement c n s s1 ⟨pre, hpre⟩ hn e hs k hk).1 ht).1

/-- **No child touches the operation state after its own decrement unless it is the last one.**  Every accepted
    event of child `i` that reads or writes the operation state happens before `i`'s decrement
    (`stage i < 3`), or `i` is the child whose decrement reached zero. -/
theorem C03w_child_access_before_own_decrement (c : WhenAllLife.Cfg) (n : Nat) (s s' : WhenAllLife.St)
    (hr : WLReach c n s) (hn : 0 < n) (e : WhenAll.Ev) (h : WhenAllLife.step s e = some s')
    (ht : WhenAllLife.touches e = true) (i : Nat) (hact : WhenAllLife.actor s e = some i) :
    s.b.stage i < 3 ∨ s.lastC = some i := by
  have hf := WhenAllLife.full_of_reach hr hn
  exact WhenAllLife.touch_own s s'.b e hf.winv.w1 hf.linv (WhenAllLife.step_proj hf.linv.npos h).1 ht i hact

/-- **Nothing touches the operation state after the completing call destroyed it; it is destroyed at most
    once.**  `uaf = false` in every reachable state; the operation state is destroyed iff the downstream
    receiver is self-deleting and has been completed, at most once; and once it is destroyed the start loop has
    started every child and no thread is inside a child receiver call any more. -/
theorem C03w_no_touch_after_release (c : WhenAllLife.Cfg) (n : Nat) (s : WhenAllLife.St)
    (hr : WLReach c n s) (hw : c.vector = true ∨ 0 < n) :
    s.uaf = false ∧ s.nfree ≤ 1 ∧ (s.freed = true ↔ s.nfree = 1) ∧
    (s.freed = true ↔ (c.selfdel = true ∧ s.b.delivered = 1)) ∧
    (s.freed = true → s.b.armedTo = n ∧
      ∀ t, WhenAll.curOf (s.b.pc t) = none ∧ WhenAll.isLast (s.b.pc t) = false) := by
  have hcfg : s.cfg = c := by obtain ⟨log, hl⟩ := hr; exact WhenAllLife.cfg_of_accepted hl
  have hnf : ∀ b : Bool, WhenAllLife.b2n b ≤ 1 ∧ (b = true ↔ WhenAllLife.b2n b = 1) := by
    intro b; cases b <;> simp [WhenAllLife.b2n]
  cases n with
  | zero =>
    have hv : c.vector = true := hw.resolve_right (Nat.lt_irrefl 0)
    obtain ⟨log, hl⟩ := hr
    have hz := WhenAllLife.zinv_of_accepted hv hl
    refine ⟨hz.noUaf, by rw [hz.nfreeEq]; exact (hnf _).1, by rw [hz.nfreeEq]; exact (hnf _).2,
      by rw [← hcfg]; exact hz.freedIff, fun _ => ⟨hz.armed0, fun t => ?_⟩⟩
    rcases hz.pcKinds t with h | h | h <;> rw [h] <;> simp [WhenAll.curOf, WhenAll.isLast]
  | succ m =>
    have hn : 0 < m + 1 := Nat.succ_pos m
    have hnn := WhenAllLife.n_of_reach hr hn
    have hf := WhenAllLife.full_of_reach hr hn
    refine ⟨hf.noUaf, by rw [hf.linv.nfreeEq]; exact (hnf _).1, by rw [hf.linv.nfreeEq]; exact (hnf _).2,
      by rw [← hcfg]; exact hf.linv.freedIff, fun hfr => ?_⟩
    have hd := (hf.linv.freedIff.mp hfr).2
    have hz : s.b.remaining = 0 := by rcases hf.winv.w2.delOnce with h | ⟨_, hz⟩ <;> omega
    have hst := WhenAll.all_decremented s.b hf.winv.cnt hz
    constructor
    · have h1 := hf.a.firedArmed m ((hf.winv.w1.firedStage m).mpr (by rw [hst m (by omega)]; omega))
      have h2 := hf.a.armedLe
      omega
    · intro t
      refine ⟨WhenAll.no_call_after_zero hf.winv.w1 hf.winv.cnt hz t, ?_⟩
      cases hl : WhenAll.isLast (s.b.pc t) with
      | false => rfl
      | true => have := (hf.winv.w2.lastPc t hl).2.2; omega

/-- **Destroyed exactly once.**  With a self-deleting downstream receiver, once `start()` was called, every
    child has completed and every call has returned, the operation state has been destroyed exactly once (and
    nothing touched it afterwards). -/
theorem C03w_destroyed_exactly_once (c : WhenAllLife.Cfg) (n : Nat) (s : WhenAllLife.St)
    (hr : WLReach c n s) (hw : c.vector = true ∨ 0 < n) (hsd : c.selfdel = true) (hq : WLQuiet s)
    (hs : s.started = true) (hall : ∀ i, i < n → s.b.firedI i = true) :
    s.freed = true ∧ s.nfree = 1 ∧ s.uaf = false := by
  have hd := (C03w_exactly_one_completion c n s hr hw).2.2.2 hq hs hall
  obtain ⟨hu, _, h1, h2, _⟩ := C03w_no_touch_after_release c n s hr hw
  have hfr := h2.mpr ⟨hsd, hd⟩
  exact ⟨hfr, h1.mp hfr, hu⟩

/-! ### Non-vacuity -/

/-- Three children, self-deleting downstream receiver.  Thread 0 starts; child 0 (thread 1) sends the value 5;
    child 1 (thread 2) fails with error 7 and wins the exchange; child 2 is slow: its value 9 arrives last on
    thread 3, finds the flag set (stores nothing), its decrement reaches zero, it reads flag and error and
    completes the downstream receiver with error 7, which destroys the operation state.  Child 1 decremented
    before child 0: the order of the decrements does not matter. -/
def wlDemo : List WhenAll.Ev :=
  [.invStart 0, .ret 0, .tdone 0,
   .invComplete 1 0 0 5, .fire 1 0 0 5, .sig 1 0, .store 1 0,
   .invComplete 2 1 2 7, .fire 2 1 2 7, .sig 2 2, .latch 2, .dec 2, .ret 2,
   .dec 1, .ret 1,
   .invComplete 3 2 0 9, .fire 3 2 0 9, .sig 3 0, .dec 3, .zero 3 true true, .rcv 3 2 7, .ret 3]

example : (runLog WhenAllLife.step (WhenAllLife.init ⟨false, true⟩ 3) wlDemo).map
    (fun s => (s.b.delivered, s.b.result, s.b.first)) = some (1, some (2, 7), some (1, 2, 7)) := by decide
example : (runLog WhenAllLife.step (WhenAllLife.init ⟨false, true⟩ 3) wlDemo).map
    (fun s => ((s.lastC, s.issuer, s.issuerT), (s.freed, s.nfree, s.uaf))) =
    some ((some 2, some 2, some 3), (true, 1, false)) := by decide

/-- the slow child is needed: before it completes nothing is delivered, the counter is 1 -/
example : (runLog WhenAllLife.step (WhenAllLife.init ⟨false, true⟩ 3) (wlDemo.take 15)).map
    (fun s => (s.b.delivered, s.b.remaining, s.lastC, s.freed)) = some (0, 1, none, false) := by decide

/-- after the last decrement a step of another child is not accepted any more, nor a second completion -/
example : runLog WhenAllLife.step (WhenAllLife.init ⟨false, true⟩ 3) (wlDemo ++ [.dec 1]) = none ∧
    runLog WhenAllLife.step (WhenAllLife.init ⟨false, true⟩ 3) (wlDemo.take 21 ++ [.rcv 3 2 7]) = none := by
  decide

/-- all three values, every completion requested before `start()`, so that all children complete inline in the
    start loop, in child order: the last child (child 2) delivers the values of all children in child order -/
example : (runLog WhenAllLife.step (WhenAllLife.init ⟨false, true⟩ 3)
    [.invComplete 1 2 0 3, .ret 1, .invComplete 2 1 0 2, .ret 2, .invComplete 3 0 0 1, .ret 3,
     .invStart 0, .fire 0 0 0 1, .sig 0 0, .store 0 0, .dec 0,
     .fire 0 1 0 2, .sig 0 0, .store 0 1, .dec 0,
     .fire 0 2 0 3, .sig 0 0, .store 0 2, .dec 0, .zero 0 false false, .rcv 0 0 (1 + 2 * 16 + 3 * 256),
     .ret 0]).map
    (fun s => ((s.b.delivered, s.b.result), (s.lastC, s.issuer), (s.freed, s.nfree, s.uaf))) =
    some ((1, some (0, 801)), (some 2, some 2), (true, 1, false)) := by decide

/-- `when_all_vector` without predecessors: `start()` itself completes the downstream receiver with the empty
    vector, exactly once; `when_all` with `n = 0` does not exist (`static_assert`): no event is accepted. -/
example : (runLog WhenAllLife.step (WhenAllLife.init ⟨true, true⟩ 0)
    [.invStart 0, .rcv 0 0 0, .ret 0, .tdone 0]).map
    (fun s => ((s.b.delivered, s.b.result, s.issuerT), (s.freed, s.nfree, s.uaf))) =
    some ((1, some (0, 0), some 0), (true, 1, false)) := by decide
example : runLog WhenAllLife.step (WhenAllLife.init ⟨true, true⟩ 0) [.invStart 0, .ret 0] = none ∧
    runLog WhenAllLife.step (WhenAllLife.init ⟨true, true⟩ 0) [.invStart 0, .rcv 0 0 0, .rcv 0 0 0] = none ∧
    runLog WhenAllLife.step (WhenAllLife.init ⟨false, true⟩ 0) [.invStart 0] = none := by decide

end PikaVerif.C03
