import PikaVerif.Props.C14
/-!
# C14q — request_stop never touches a destroyed callback object

`Props/C14.lean` proves that a callback body is never *entered* after the destructor of
its `stop_callback` has returned.  After the body has returned, `request_stop` still writes into
the callback object (`cb->is_removed_ = nullptr; cb->callback_finished_executing_ = true`)
unless its stack local `is_removed` was set by a destructor that ran on the same thread from
inside the callback.  This file proves that the flag is exact — it is set **iff** the destructor
has returned or is at its `return` — hence the stores after the callback only ever go into an
object that still exists, whether the object is destroyed on the running thread (inside its own
invocation: the stores are skipped) or on another thread (the destructor is still waiting).

`ReachableF` (from `Props/C14.lean`): state after an accepted log of the repaired code with
`K > 0` threads and thread identities that tell exactly the threads apart.  `intact s c`: the
object exists and no destructor of `c` has returned or is even at its `return`.
`gone s c` (`Lemmas/StopPhase.lean`) is the opposite for a callback whose destructor was invoked.
-/
namespace PikaVerif.C14q
open PikaVerif PikaVerif.Stop PikaVerif.C14

theorem invSafe_of_reachableF {s : St} (h : ReachableF s) : InvSafe s := by
  obtain ⟨hI, hF⟩ := invAll_of_reachableF h
  exact ⟨hI, hF⟩

/-- `intact`, spelled out -/
theorem intact_spec (s : St) (c : Nat) :
    intact s c ↔ (s.life c ≠ .dead ∧ s.life c ≠ .new ∧ ∀ b, retUnreg (s.pc b) ≠ some c) := Iff.rfl

/-- what the acceptor demands of `stop.fin` -/
theorem finStore_pre {s s' : St} {a c : Nat} {r : Bool} (h : step s (.finStore a c r) = some s') :
    a < s.n ∧ s.pc a = .post c false ∧ r = s.remFlag a := by
  obtain ⟨h1, h2, h3, -⟩ := step_finStore h
  exact ⟨h1, h2, h3⟩

/-! ## The stores after the callback go into an existing object -/

/-- **The finished store never goes into a destroyed object.**  Whenever the model accepts
    `stop.fin` of request_stop for callback `c` with `is_removed = false` — the only case in
    which `request_stop` writes `cb->is_removed_` and `cb->callback_finished_executing_` after the
    callback has returned — the object of `c` exists, its destructor has not returned, and no
    destructor of `c` (on any thread, at any nesting depth) is even past its last access to the
    stop state. -/
theorem C14q_finished_store_into_live_object (s s' : St) (hr : ReachableF s) (a c : Nat)
    (h : step s (.finStore a c false) = some s') :
    s.life c ≠ .dead ∧ s.life c ≠ .new ∧ ∀ b, retUnreg (s.pc b) ≠ some c := by
  -- the flag decides: not set ⇒ not dead, not new (it was dequeued), no destructor at its `return`
  obtain ⟨_, hp, hf⟩ := finStore_pre h
  obtain ⟨hP, hF⟩ := invSafe_of_reachableF hr
  have hw : runPhase (s.pc a) = some c := by rw [hp]; rfl
  have hpu := (hP.B.cb c).deqPushed (hP.B.winP a c (runPhase_win hw))
  refine ⟨fun hl => ?_, fun hl => ?_, fun b hb => ?_⟩
  · rw [(hP.C hF).convD a c hw hl] at hf; cases hf
  · rw [((hP.B.cb c).fresh hl).1] at hpu; cases hpu
  · rw [(hP.C hF).convR a c b hw hb] at hf; cases hf

/-- **Destroyed on the running thread** (the callback destroyed its own `stop_callback`, or
    code called from it did): if the destructor of `c` has returned, or is at its `return`,
    when request_stop comes back from the callback, then `stop.fin` is only accepted with
    `is_removed = true`, and that step does not write to the callback object at all: finished
    flag, `is_removed_` pointer and every other field of every callback are unchanged. -/
theorem C14q_no_store_after_own_thread_dtor (s s' : St) (hr : ReachableF s) (a c : Nat) (removed : Bool)
    (h : step s (.finStore a c removed) = some s') (hg : gone s c) :
    removed = true ∧ s'.fin = s.fin ∧ s'.remPtr = s.remPtr ∧ s'.life = s.life ∧ s'.running = s.running := by
  obtain ⟨-, hp, hf, hs⟩ := step_finStore h
  obtain ⟨hP, hF⟩ := invSafe_of_reachableF hr
  have hfl := (hP.flag_iff_gone hF (w := a) (by rw [hp]; rfl)).2 hg
  rcases hs with ⟨hrm, rfl⟩ | ⟨hrm, -⟩
  · exact ⟨hrm, rfl, rfl, rfl, rfl⟩
  · rw [hf, hfl] at hrm; cases hrm

/-- … and such a destructor ran on the thread of that request_stop (it was called from inside the
    invocation of `c`; `thr K x = x % K`) -/
theorem C14q_removed_means_own_thread (s s' : St) (hr : ReachableF s) (a c : Nat)
    (h : step s (.finStore a c true) = some s') :
    gone s c ∧ thr s.K (s.dtorBy c) = thr s.K a := by
  obtain ⟨_, hp, hf⟩ := finStore_pre h
  obtain ⟨hP, hF⟩ := invSafe_of_reachableF hr
  have hw : runPhase (s.pc a) = some c := by simp [hp, runPhase]
  have hg := (hP.flag_iff_gone hF hw).1 hf.symm
  refine ⟨hg, ?_⟩
  rcases hg with hd | hd
  · exact (hP.D hF).sameThrD a c (runPhase_win hw) hd
  · exact (hP.D hF).sameThrR a _ c (runPhase_win hw) hd

/-- **Destroyed on another thread**: a destructor of `c` that is in progress on any thread when
    request_stop stores the finished flag is still inside `remove_callback`, before its `return`
    (in its lock loop, at the thread comparison, or waiting for exactly this store); together
    with `C14_dtor_does_not_wait_for_own_thread` / `C14_dtor_waits_for_other_thread`: the one
    on another thread waits, and `stop.waited` is only accepted after this store. -/
theorem C14q_other_thread_dtor_still_inside (s s' : St) (hr : ReachableF s) (a c b : Nat)
    (h : step s (.finStore a c false) = some s') (hb : unregOf (s.pc b) = some c) :
    unregPath (s.pc b) = some c ∧ s.fin c = false ∧ s'.fin c = true := by
  have h3 := (C14q_finished_store_into_live_object s s' hr a c h).2.2 b
  obtain ⟨hP, hF⟩ := invSafe_of_reachableF hr
  obtain ⟨-, hp, -, ⟨hrm, -⟩ | ⟨-, rfl⟩⟩ := step_finStore h
  · cases hrm
  · exact ⟨(unregOf_split hb).resolve_right h3,
      (hP.D hF).winNoFin a c (by rw [hp]; rfl), upd_same ..⟩

/-! ## The bookkeeping fact: `is_removed` is exact -/

/-- **`is_removed` is set iff the object is gone** (state form; `→` is `InvU.rem`,
    `←` is layer C, `InvC.convR/convD`).  While request_stop `w` is between the store
    `cb->is_removed_ = &is_removed` and the finished store for `c` (about to call the callback,
    inside it, or back from it), its local `is_removed` is true exactly when the destructor of
    `c` has returned or is at its `return`. -/
theorem C14q_is_removed_iff_gone (s : St) (hr : ReachableF s) (w c : Nat)
    (hw : runPhase (s.pc w) = some c) : (s.remFlag w = true ↔ gone s c) :=
  have ⟨hP, hF⟩ := invSafe_of_reachableF hr
  hP.flag_iff_gone hF hw

/-- event form: the value of `is_removed` that `stop.fin` reports (and the acceptor compares
    with the implementation's) is true iff the destructor of `c` has returned or is at its
    `return` -/
theorem C14q_fin_removed_iff_gone (s s' : St) (hr : ReachableF s) (a c : Nat) (removed : Bool)
    (h : step s (.finStore a c removed) = some s') : (removed = true ↔ gone s c) := by
  obtain ⟨_, hp, hf⟩ := finStore_pre h
  rw [hf]
  exact C14q_is_removed_iff_gone s hr a c (by simp [hp, runPhase])

/-- during that window `is_removed_` of the callback points into the frame of the request_stop
    that processes it (`runPhase ⇒ remPtr = some w`), and conversely a pointer seen by a
    destructor that has not passed its thread check belongs to a request_stop that is still in
    that window: the store `*cb->is_removed_ = true` of `remove_callback` (`stop.self` with the
    own-thread branch and a non-null pointer) goes into a live stack frame. -/
theorem C14q_setrem_into_live_frame (s s' : St) (hr : ReachableF s) (b c : Nat)
    (h : step s (.selfChk b c true true) = some s') :
    ∃ w, s.remPtr c = some w ∧ runPhase (s.pc w) = some c ∧ thr s.K b = thr s.K w ∧
      s'.remFlag w = true := by
  obtain ⟨hP, hF⟩ := invSafe_of_reachableF hr
  obtain ⟨-, hp, he, ⟨w, -, -, hw, rfl⟩ | ⟨-, hpt, -⟩ | ⟨he', -⟩⟩ := step_selfChk h
  · have hrun := hP.U.ptr w c hw (.inr ⟨b, by rw [hp]; rfl⟩)
    refine ⟨w, hw, hrun, ?_, upd_same ..⟩
    have hs := hP.S.sigW w (hP.A.winPhaseWinner w c (runPhase_win hrun))
    have he : s.sig = s.ident b := by simpa using he.symm
    exact (hF.2 b w).1 (by rw [← he, hs])
  · cases hpt
  · cases he'

theorem C14q_ptr_during_run (s : St) (hr : ReachableF s) (w c : Nat)
    (hw : runPhase (s.pc w) = some c) : s.remPtr c = some w :=
  have ⟨hP, hF⟩ := invSafe_of_reachableF hr
  (hP.C hF).ptrRun w c hw

/-! ## Never after the destructor: every access, not only the invocation -/

/-- the callback object an event of `request_stop` / `add_callback` reads or writes: unlinking
    the list head (`stop.deq`), `cb->is_removed_ = &is_removed` (`stop.pre_exec`), the invocation
    (`cb.begin`), the stores after it (`stop.fin` with `is_removed = false`, `stop.infin`), and
    linking it into the list (`stop.push`) -/
def touches : Ev → Option Nat
  | .deq _ c _ | .preExec _ c | .cbBegin _ c | .finStore _ c false | .inFin _ c | .push _ c _ => some c
  | _ => none

/-- **No access after the destructor** (full statement; `C14_not_after_dtor_partial` and
    `C14_not_after_dtor` of `Props/C14.lean` are the `cb.begin` instance and are kept).
    Whenever the model accepts an event by which `request_stop` or a constructor reads or writes
    the object of callback `c` — dequeue, publishing `is_removed_`, the invocation itself, the
    stores after the invocation, the push — the object exists, its destructor has not returned
    and no destructor of `c` is past its last access to the stop state. -/
theorem C14q_no_access_after_dtor (s s' : St) (hr : ReachableF s) (e : Ev) (c : Nat)
    (h : step s e = some s') (ht : touches e = some c) :
    s.life c ≠ .dead ∧ s.life c ≠ .new ∧ ∀ b, retUnreg (s.pc b) ≠ some c := by
  obtain ⟨hP, hF⟩ := invSafe_of_reachableF hr
  have hB := hP.B
  cases e with
  | deq a c' more =>
    cases ht
    obtain ⟨rest, -, -, -, hl, -⟩ := step_deq h
    have hm : c ∈ s.list := by rw [hl]; exact List.mem_cons_self
    have h := (hB.cb c).inList hm
    exact ⟨h.2.2.2.2, h.2.2.2.1, fun b hb => (hB.unregOut b c (retUnreg_unregDone hb)).1 hm⟩
  | preExec a c' =>
    cases ht
    obtain ⟨-, hp, -⟩ := step_preExec h
    have hw : winPhase (s.pc a) = some c := by rw [hp]; rfl
    exact hP.pending_intact hF (hB.winP a c hw) (by have := hB.runsW a c hw; rwa [hp] at this)
  | cbBegin a c' => cases ht; exact C14_not_after_dtor s s' hr a c h
  | finStore a c' r =>
    cases r with
    | true => cases ht
    | false => cases ht; exact C14q_finished_store_into_live_object s s' hr a c h
  | inFin a c' =>
    cases ht
    obtain ⟨-, hp, -⟩ := step_inFin h
    exact hP.ctor_intact (hB.regP a c (by rw [hp]; rfl)).1
  | push a c' hn =>
    cases ht
    obtain ⟨-, -, hp, -⟩ := step_push h
    exact hP.ctor_intact (hB.regP a c (by rw [hp]; rfl)).1
  | _ => cases ht

theorem reachableF_step {s s' : St} {e : Ev} (hr : ReachableF s) (h : step s e = some s') : ReachableF s' := by
  obtain ⟨n, K, ident, fc, srcs, log, hK, hid, hl⟩ := hr
  exact ⟨n, K, ident, fc, srcs, log ++ [e], hK, hid, by rw [runLog_snoc, hl]; exact h⟩

theorem reachableF_run {s s' : St} {l : List Ev} (hr : ReachableF s) (h : runLog step s l = some s') :
    ReachableF s' :=
  inv_of_runLog ReachableF (fun _ _ _ hi hs => reachableF_step hi hs) hr h

theorem dead_run {s s' : St} {l : List Ev} (hr : ReachableF s) (h : runLog step s l = some s') (c : Nat)
    (hd : s.life c = .dead) : s'.life c = .dead :=
  (inv_of_runLog (fun s => ReachableF s ∧ s.life c = .dead)
    (fun s e s' hi hs => ⟨reachableF_step hi.1 hs, C14_dead_is_final s s' e hi.1.reachable hs c hi.2⟩)
    ⟨hr, hd⟩ h).2

/-- **Log form.**  In an accepted log of the repaired code no event that accesses the object of
    callback `c` (in particular `cb.begin` and the finished store) comes after the return of the
    destructor of `c`: if `l₁ ++ [ret b r] ++ l₂ ++ [e]` is accepted, where `ret b r` is the return
    of `remove_callback(c)`, then `e` does not touch `c`. -/
theorem C14q_never_after_dtor_returned (n K : Nat) (ident : Nat → Nat) (fc : Bool) (srcs : Nat)
    (hK : 0 < K) (hid : ∀ a b, ident a = ident b ↔ a % K = b % K)
    (l₁ l₂ : List Ev) (b c : Nat) (r r' : Bool) (e : Ev) (s₁ s : St)
    (h1 : runLog step (init n K ident true fc srcs) l₁ = some s₁) (hb : s₁.pc b = .retn (.unreg c) r')
    (h2 : runLog step s₁ (.ret b r :: (l₂ ++ [e])) = some s) : touches e ≠ some c := by
  intro ht
  have hr1 : ReachableF s₁ := ⟨n, K, ident, fc, srcs, l₁, hK, hid, h1⟩
  obtain ⟨s2, hs, h2⟩ := runLog_cons_some h2
  have hd2 : s2.life c = .dead := by
    obtain ⟨-, ⟨hp, -⟩ | ⟨c', b', hp, -⟩ | ⟨c', b', hp, rfl⟩⟩ := step_ret hs <;> rw [hb] at hp <;> cases hp
    exact upd_same ..
  obtain ⟨s3, h3, h4⟩ := runLog_prefix h2
  obtain ⟨s4, hs4, -⟩ := runLog_cons_some h4
  have hr2 := reachableF_step hr1 hs
  exact (C14q_no_access_after_dtor s3 s4 (reachableF_run hr2 h3) e c hs4 ht).1 (dead_run hr2 h3 c hd2)

/-! ## Bounded termination of the spin loops (solo continuations)

The lock is only ever held for one step of its holder: every productive event of the holder
releases it (`holder_releases` — dequeue + unlock, end of loop + unlock, push + unlock, unlink +
unlock), and one is always enabled.  A thread that runs alone while the lock is free leaves its
lock loop after at most two of its own productive steps (`spinDist ≤ 2`): re-load, CAS — not
counting spurious failures of the weak CAS, which the model (like the hardware) allows without
bound.  Hence:
under the assumption that the lock holder takes its next step, every spin loop of the model
terminates within a bound; nothing is claimed for schedules in which other threads keep taking
the lock (the loops are not starvation free, in the code as in the model). -/

/-- **The lock holder releases the lock with its next step**: in every reachable state with the
    lock held by `h`, `h` has an enabled productive event, and *every* productive event of `h`
    that the model accepts leaves the lock free (bound 1 for every maximal solo continuation of
    the holder). -/
theorem C14q_holder_releases_in_one_step (s : St) (hr : Reachable s) (h : Nat) (hl : s.lock = some h) :
    (∃ e, actor e = h ∧ productive e = true ∧ enabled s e = true) ∧
    (∀ e s', actor e = h → productive e = true → step s e = some s' → s'.lock = none) := by
  have hA := invA_of_reachable hr
  obtain ⟨e, h1, h2, h3, _⟩ := holder_steps hA hl
  exact ⟨⟨e, h1, h2, h3⟩, fun e s' he hp hs => holder_releases hA hl he hp hs⟩

/-- **A spinning thread that runs alone gets out within two steps.**  While the lock is free,
    an activity `a` in a lock loop (`cas` / `spin`) always has an enabled productive event that
    is not a spurious CAS failure, and every such event of `a` that the model accepts strictly
    decreases `spinDist` (`≤ 2`) and leaves the lock free while `a` is still in the loop; so after
    at most two solo steps `a` has left the loop (it holds the lock, or took the function's own
    exit: stop already requested / stop not possible).  `spurious`: a failed CAS although lock bit
    and stop bit of the word equal the expected ones (stale source count in the expected value,
    or `compare_exchange_weak` failing spuriously) — the model accepts these without bound, as
    the hardware may. -/
theorem C14q_spin_solo_progress (s : St) (hr : Reachable s) (a : Nat) (hn : a < s.n)
    (hloop : lockLoop (s.pc a) = true) (hl : s.lock = none) :
    spinDist s a ≤ 2 ∧
    (∃ e, actor e = a ∧ productive e = true ∧ spurious s e = false ∧ enabled s e = true) ∧
    (∀ e s', actor e = a → productive e = true → spurious s e = false → step s e = some s' →
      spinDist s' a < spinDist s a ∧ (lockLoop (s'.pc a) = true → s'.lock = none)) := by
  have hA := invA_of_reachable hr
  obtain ⟨e, he⟩ := next_loop hloop hl
  exact ⟨spinDist_le s a, ⟨e, (next_spec he hn (hA.lockHolder a)).1, (next_spec he hn (hA.lockHolder a)).2⟩,
    fun e s' he hp hq hs => spin_decreases hA hloop hl he hp hq hs⟩

/-- **Bound.**  From a reachable state with the lock held by `h` and `a` spinning: after the
    holder's next productive step and any two productive, non-spurious steps of `a` alone, `a` is
    out of its lock loop (bound 1 + 2 on every such continuation). -/
theorem C14q_spin_loop_bound (s s1 s2 s3 : St) (hr : Reachable s) (a h : Nat) (eh e1 e2 : Ev)
    (hloop : lockLoop (s.pc a) = true) (hl : s.lock = some h)
    (hh : actor eh = h) (hph : productive eh = true) (hsh : step s eh = some s1)
    (ha1 : actor e1 = a) (hp1 : productive e1 = true) (hq1 : spurious s1 e1 = false) (hs1 : step s1 e1 = some s2)
    (ha2 : actor e2 = a) (hp2 : productive e2 = true) (hq2 : spurious s2 e2 = false) (hs2 : step s2 e2 = some s3) :
    lockLoop (s2.pc a) = false ∨ lockLoop (s3.pc a) = false := by
  have hA := invA_of_reachable hr
  have hA1 := stepA s s1 eh hA hsh
  have hA2 := stepA s1 s2 e1 hA1 hs1
  have hl1 := holder_releases hA hl hh hph hsh
  -- the holder is not in a lock loop, so it is not `a`, and its step does not move `a`
  have hne : a ≠ actor eh := fun e => by
    have := (hA.lockConv h hl).1
    rw [← hh, ← e] at this
    cases hp : s.pc a <;> rw [hp] at this hloop <;> cases this <;> cases hloop
  have hloop1 : lockLoop (s1.pc a) = true := by rw [step_pc_other hsh hne]; exact hloop
  obtain ⟨hd1, hk1⟩ := spin_decreases hA1 hloop1 hl1 ha1 hp1 hq1 hs1
  by_cases hloop2 : lockLoop (s2.pc a) = true
  · obtain ⟨hd2, _⟩ := spin_decreases hA2 hloop2 (hk1 hloop2) ha2 hp2 hq2 hs2
    have := spinDist_le s1 a
    exact Or.inr (spinDist_zero (by omega))
  · exact Or.inl (by simpa using hloop2)

/-! ## Non-vacuity -/

theorem ident2_faithful : ∀ a b : Nat, (fun a => a % 2 + 1) a = (fun a => a % 2 + 1) b ↔ a % 2 = b % 2 := by
  intro a b; simp

/-- the callback destroys its own `stop_callback` from inside its body (nested activity
    `2 = 0 + K` on thread 0), up to the point where request_stop is back from the callback -/
def selfDestroyPrefix : List Ev :=
  [.inv 0 (.reg 0), .load 0 false false 2, .acq 0, .push 0 0 false, .ret 0 false,
   .inv 0 .rs, .load 0 false false 2, .acq 0, .deq 0 0 false, .preExec 0 0, .cbBegin 0 0,
   .inv 2 (.unreg 0), .load 2 false true 2, .acq 2, .unlink 2 0 false, .selfChk 2 0 true true, .ret 2 false,
   .cbEnd 0 0]

/-- … the object is gone (destructor returned), `stop.fin` is accepted with `is_removed = true`
    only, does not write, and request_stop completes -/
example : ∃ s, runLog step (init 4 2 (fun a => a % 2 + 1) true true 2) selfDestroyPrefix = some s ∧
    s.life 0 = .dead ∧ s.pc 0 = .post 0 false ∧ s.remFlag 0 = true ∧
    step s (.finStore 0 0 false) = none ∧
    (∃ s', step s (.finStore 0 0 true) = some s' ∧ s'.fin 0 = false ∧
      (runLog step s' [.load 0 false true 2, .acq 0, .rsDone 0, .ret 0 true]).isSome = true) := by
  refine ⟨_, rfl, ?_⟩
  decide

example : ∃ s s', ReachableF s ∧ step s (.finStore 0 0 true) = some s' ∧ gone s 0 ∧
    thr s.K (s.dtorBy 0) = thr s.K 0 ∧ s.dtorBy 0 ≠ 0 :=
  ⟨_, _, ⟨4, 2, _, true, 2, selfDestroyPrefix, by decide, ident2_faithful, rfl⟩, rfl, Or.inl (by decide), by decide⟩

/-- the same with the destructor still at its `return` (nested activity not yet returned is
    impossible — `cb.end` needs the child idle — so the `retUnreg` half of `gone` is met inside
    the body): the flag is already set there -/
example : ∃ s, runLog step (init 4 2 (fun a => a % 2 + 1) true true 2) (selfDestroyPrefix.take 16) = some s ∧
    s.pc 2 = .retn (.unreg 0) false ∧ s.life 0 = .dying ∧ runPhase (s.pc 0) = some 0 ∧ s.remFlag 0 = true := by
  refine ⟨_, rfl, ?_⟩
  decide

/-- another thread destroys the callback while it runs: it has to wait; up to the point where
    request_stop is back from the callback -/
def otherThreadPrefix : List Ev :=
  [.inv 0 (.reg 0), .load 0 false false 2, .acq 0, .push 0 0 false, .ret 0 false,
   .inv 0 .rs, .load 0 false false 2, .acq 0, .deq 0 0 false, .preExec 0 0, .cbBegin 0 0,
   .inv 1 (.unreg 0), .load 1 false true 2, .acq 1, .unlink 1 0 false, .selfChk 1 0 false false,
   .cbEnd 0 0]

/-- … the destructor is waiting, the object is intact, `stop.fin` is accepted with
    `is_removed = false` only and stores the flag; only then may the destructor return -/
example : ∃ s, runLog step (init 4 2 (fun a => a % 2 + 1) true true 2) otherThreadPrefix = some s ∧
    s.pc 1 = .wait 0 ∧ s.life 0 = .dying ∧ s.remFlag 0 = false ∧ step s (.waited 1 0) = none ∧
    step s (.finStore 0 0 true) = none ∧
    (∃ s', step s (.finStore 0 0 false) = some s' ∧ s'.fin 0 = true ∧ s'.remPtr 0 = none ∧
      (runLog step s' [.waited 1 0, .ret 1 false, .load 0 false true 2, .acq 0, .rsDone 0, .ret 0 true]).isSome = true) := by
  refine ⟨_, rfl, ?_⟩
  decide

example : ∃ s s', ReachableF s ∧ step s (.finStore 0 0 false) = some s' ∧
    unregOf (s.pc 1) = some 0 ∧ unregPath (s.pc 1) = some 0 ∧ thr s.K 1 ≠ thr s.K 0 :=
  ⟨_, _, ⟨4, 2, _, true, 2, otherThreadPrefix, by decide, ident2_faithful, rfl⟩, rfl, by decide⟩

/-- log form: after the return of the waiting destructor the model accepts neither another
    invocation nor another finished store of callback 0 -/
example : ∃ s, runLog step (init 4 2 (fun a => a % 2 + 1) true true 2)
      (otherThreadPrefix ++ [.finStore 0 0 false, .waited 1 0, .ret 1 false]) = some s ∧
    step s (.cbBegin 0 0) = none ∧ step s (.finStore 0 0 false) = none ∧ step s (.preExec 0 0) = none := by
  refine ⟨_, rfl, ?_⟩
  decide

/-- spin loops: thread 1 spins while thread 0 holds the lock for its push; the holder's step
    frees the lock, then thread 1 alone needs re-load + CAS -/
def spinPrefix : List Ev :=
  [.inv 0 (.reg 0), .load 0 false false 2, .inv 1 (.reg 1), .load 1 false false 2, .acq 0,
   .casFail 1 true false 2]

example : ∃ s, runLog step (init 4 2 (fun a => a % 2 + 1) true true 2) spinPrefix = some s ∧
    s.lock = some 0 ∧ lockLoop (s.pc 1) = true ∧ spinDist s 1 = 2 ∧
    (∃ s3, runLog step s [.push 0 0 false, .reload 1 false false 2, .acq 1] = some s3 ∧
      lockLoop (s3.pc 1) = false ∧ s3.lock = some 1) := by
  refine ⟨_, rfl, ?_⟩
  decide

end PikaVerif.C14q
