import PikaVerif.Lemmas.SchedFromLife
import PikaVerif.Lemmas.LetLife
/-!
# C03 — life cycle of the `schedule_from` and `let_value` / `let_error` operation states under concurrency (C03x)

"Exactly one completion signal, the denoted one ... nothing is signalled after the operation state may be
destroyed, every object stored by the operation is destroyed exactly once" for `schedule_from` (the
implementation behind `continues_on` / `transfer` / `transfer_just`).

`PikaVerif.SchedFromLife.step` (Model/SchedFromLife.lean) follows
`libs/pika/execution/include/pika/execution/algorithms/schedule_from.hpp` statement by statement: `start`
(`start(sender_os)`), `pred` (the predecessor completes its receiver: inline in `start()` or on any other thread),
`store` (`ts.emplace`), `conn` (`scheduler_op_state.emplace(connect(schedule(scheduler), ...))`), `sstart`
(`start(*scheduler_op_state)`), `sch` (the scheduler completes its receiver: inside `sstart` on the same thread, or
on the target context while the first thread has not yet returned), `reset` (`scheduler_op_state.reset()` - FIRST
statement of `set_*_scheduler_sender`), `fwd` (the downstream completion - LAST statement; error / stopped of the
predecessor are forwarded directly), `ret`, `destroy` (the owner destroys the operation state, `selfdel = false`).
With `selfdel` the downstream receiver destroys the whole operation state inside `fwd` (start_detached, the
harness' self-deleting operation state); every later event that reads or writes the operation state
(`touches`) raises `uaf`; the acceptor never refuses such an event.

All theorems are for the code as it is (`Cfg.ok`: no statement order swapped; any `selfdel`, any `poison`) and
quantify over every completion channel and payload of the predecessor and of the scheduler, every accepted log
(every interleaving of any number of threads, inline completions included).

**Not a theorem because the code does not do it**: "an exception thrown while storing the values / connecting the
scheduler's sender becomes `set_error`".  `set_value_predecessor_sender` is declared `noexcept` and has no
try/catch: such an exception ends in `std::terminate` (model: `aborted`, witness
`C03x_sf_throwing_store_terminates_counterexample`).  The completion clauses below therefore carry the hypothesis
`aborted = false` where they claim that a completion *happens*; everything else holds in aborted states too.
(let_value / let_error do catch: second part of this file.)
-/
namespace PikaVerif.C03
open PikaVerif PikaVerif.SchedFromLife

def SFReach (c : SchedFromLife.Cfg) (s : SchedFromLife.St) : Prop :=
  ∃ log, runLog SchedFromLife.step (SchedFromLife.init c) log = some s

/-- **Exactly one downstream completion.**  In every reachable state the downstream receiver has been completed
    at most once, and before the completion there is no result.  In a state in which the predecessor has
    completed, the scheduler has completed if its operation state was started, every call has returned and the
    process was not terminated, the receiver has been completed exactly once. -/
theorem C03x_sf_exactly_one_completion (c : SchedFromLife.Cfg) (hc : c.ok) (s : SchedFromLife.St)
    (hr : SFReach c s) :
    s.delivered ≤ 1 ∧
    (s.delivered = 0 → s.result = none) ∧
    (quiescent s → s.aborted = false → s.predSig ≠ none → (s.sopArmed = true → s.schSig ≠ none) →
      s.delivered = 1) := by
  obtain ⟨log, hl⟩ := hr
  obtain ⟨h1, h2, h3⟩ := (full_of_runLog hc hl).view.exactly_one
  exact ⟨h1, h2, fun hq => h3 fun t => by
    show busy (s.pc t) = false
    rcases hq t with h | h <;> rw [h] <;> rfl⟩

/-- **The completion is the denoted one.**  If the downstream receiver has been completed: an error / stopped of
    the predecessor arrived unchanged; the values of the predecessor arrived unchanged (`value v`) when the
    scheduler completed with a value, otherwise the scheduler's error / stopped arrived; in every case
    `result = expected s` (the denotation as far as the history determines it) and the predecessor - and, on the
    value path, the scheduler - had completed before. -/
theorem C03x_sf_completion_is_the_denoted_one (c : SchedFromLife.Cfg) (hc : c.ok) (s : SchedFromLife.St)
    (hr : SFReach c s) (hd : s.delivered = 1) :
    (∀ p, s.predSig = some p → p.isValue = false → s.result = some p) ∧
    (∀ v w, s.predSig = some (.value v) → s.schSig = some (.value w) → s.result = some (.value v)) ∧
    (∀ v q, s.predSig = some (.value v) → s.schSig = some q → q.isValue = false → s.result = some q) ∧
    s.predSig ≠ none ∧ (∀ v, s.predSig = some (.value v) → s.schSig ≠ none) ∧
    s.result = expected s ∧ s.result ≠ none := by
  obtain ⟨log, hl⟩ := hr
  have hf := full_of_runLog hc hl
  have hp : s.predSig ≠ none := fun h => by have : s.delivered = 0 := (hf.view.predNone h).2.1; omega
  obtain ⟨r1, r2, r3⟩ : _ ∧ _ ∧ _ := ⟨hf.loc.resP, hf.loc.resV, hf.loc.resS⟩
  refine ⟨fun p => r1 p hd, fun v w h1 h2 => r2 v _ hd h1 h2,
    fun v q h1 h2 h3 => (r2 v q hd h1 h2).trans (by rw [denote_value_nonvalue v q h3]), hp, fun v => r3 v hd, ?_, ?_⟩ <;>
  · -- by cases on what the predecessor and the scheduler sent
    cases hps : s.predSig with
    | none => exact absurd hps hp
    | some p =>
      cases p with
      | value v =>
        cases hq : s.schSig with
        | none => exact absurd hq (r3 v hd hps)
        | some q => simp [expected, hps, hq, r2 v q hd hps hq]
      | _ => simp [expected, hps, r1 _ hd hps rfl]

/-- **The forwarding call is the last access of the adaptor to its operation state.**  In a reachable state in
    which the downstream completion has been issued, no event that reads or writes the operation state is
    accepted any more: not `start`, not a completion of the predecessor or the scheduler, no `store` / `conn` /
    `sstart` / `reset` / `fwd` of any thread - only returns and the owner's `destroy`. -/
theorem C03x_sf_forward_is_last_access (c : SchedFromLife.Cfg) (hc : c.ok) (s s' : SchedFromLife.St)
    (e : SchedFromLife.Ev) (hr : SFReach c s) (hd : s.delivered = 1) (h : SchedFromLife.step s e = some s') :
    touches e = false := by
  obtain ⟨log, hl⟩ := hr
  cases ht : touches e with
  | false => rfl
  | true => have := touch_before_delivery (full_of_runLog hc hl) h ht; omega

/-- The same along a log: in an accepted log no event after the downstream completion touches the operation
    state. -/
theorem C03x_sf_forward_is_last_access_log (c : SchedFromLife.Cfg) (hc : c.ok) (pre post : List SchedFromLife.Ev)
    (e : SchedFromLife.Ev) (s1 s' : SchedFromLife.St)
    (h1 : runLog SchedFromLife.step (SchedFromLife.init c) pre = some s1) (hd : s1.delivered = 1)
    (h : runLog SchedFromLife.step (SchedFromLife.init c) (pre ++ e :: post) = some s') : touches e = false := by
  obtain ⟨s3, hs⟩ := runLog_mid h1 h
  exact C03x_sf_forward_is_last_access c hc s1 s3 e ⟨pre, h1⟩ hd hs

/-- **`scheduler_op_state.reset()` precedes the forwarding.**  Whenever a downstream completion is accepted in a
    reachable state, the scheduler's operation state is not engaged: every one ever constructed has been
    destroyed already (by `reset`, or never constructed on the predecessor's error / stopped path), and nothing
    has been delivered before. -/
theorem C03x_sf_reset_precedes_forward (c : SchedFromLife.Cfg) (hc : c.ok) (s s' : SchedFromLife.St) (t : Nat)
    (q : SchedFromLife.Sig) (hr : SFReach c s) (h : SchedFromLife.step s (.fwd t q) = some s') :
    s.sop = false ∧ s.sopDtor = s.sopCtor ∧ s.delivered = 0 ∧ s.freed = false := by
  obtain ⟨log, hl⟩ := hr
  have hf := full_of_runLog hc hl
  -- the forwarding thread holds the chain of control: nothing delivered, nothing destroyed
  have key : ∀ {p}, s.pc t = p → busy p = true → s.sop = false →
      s.sop = false ∧ s.sopDtor = s.sopCtor ∧ s.delivered = 0 ∧ s.freed = false := fun hp hb hs => by
    subst hp
    have hd : s.delivered = 0 := hf.view.holderDeliv t (hf.view.busyHolder t hb)
    have hnf : s.freed = false := hf.view.not_freed hd
    have : s.sopCtor = s.sopDtor + b2n s.sop := hf.view.sopCount hnf
    rw [hs] at this
    exact ⟨hs, this.symm, hd, hnf⟩
  have hobj := hf.loc.obj t
  cases Step.of_step h with
  | fwdPred hp _ => rw [hp] at hobj; exact key hp rfl hobj.2.2.2
  | fwdRst hp _ => rw [hp] at hobj; exact key hp rfl hobj.2
  | @fwdSwapped _ _ q _ hq => rw [hf.loc.nsw q] at hq; cases hq

/-- **Nothing touches the operation state after it was destroyed.**  `uaf = false` in every reachable state (also
    with a self-deleting downstream receiver); the operation state is destroyed at most once, only after the
    downstream completion, and with a self-deleting receiver exactly at the completion. -/
theorem C03x_sf_no_touch_after_release (c : SchedFromLife.Cfg) (hc : c.ok) (s : SchedFromLife.St)
    (hr : SFReach c s) :
    s.uaf = false ∧ s.nfree ≤ 1 ∧ (s.freed = true ↔ s.nfree = 1) ∧ (s.freed = true → s.delivered = 1) ∧
    (c.selfdel = true → (s.freed = true ↔ s.delivered = 1)) := by
  obtain ⟨log, hl⟩ := hr
  have hcfg : s.cfg.selfdel = c.selfdel := congrArg (·.selfdel) (cfg_of_runLog hl)
  exact hcfg ▸ (full_of_runLog hc hl).view.release

/-- **Every stored object is destroyed exactly once.**  The value tuple `ts` and the scheduler's operation state
    are constructed at most once each and never destroyed more often than constructed; once the downstream
    completion has been issued the scheduler's operation state is destroyed (it was reset before the forwarding);
    once the operation state is destroyed (inside the completion with a self-deleting receiver, by the owner
    otherwise) every constructed object has been destroyed exactly once. -/
theorem C03x_sf_destroyed_exactly_once (c : SchedFromLife.Cfg) (hc : c.ok) (s : SchedFromLife.St)
    (hr : SFReach c s) :
    s.tsCtor ≤ 1 ∧ s.sopCtor ≤ 1 ∧ s.tsDtor ≤ s.tsCtor ∧ s.sopDtor ≤ s.sopCtor ∧
    (s.delivered = 1 → s.sopDtor = s.sopCtor) ∧
    (s.freed = true → s.tsDtor = s.tsCtor ∧ s.sopDtor = s.sopCtor ∧ s.nfree = 1) ∧
    (c.selfdel = true → s.delivered = 1 → s.freed = true ∧ s.tsDtor = s.tsCtor ∧ s.sopDtor = s.sopCtor ∧ s.nfree = 1) := by
  obtain ⟨log, hl⟩ := hr
  have hcfg : s.cfg.selfdel = c.selfdel := congrArg (·.selfdel) (cfg_of_runLog hl)
  have hf := full_of_runLog hc hl
  obtain ⟨h1, h2, h3, h4, h5, h6⟩ := hf.view.destroyed_once
  refine ⟨h1, h2, h3, h4, fun hd => ?_, h5, hcfg ▸ h6⟩
  -- the scheduler's operation state was reset before the forwarding
  cases hfr : s.freed with
  | true => exact (hf.view.sopCountF hfr).symm
  | false =>
    have : s.sopCtor = s.sopDtor + b2n s.sop := hf.view.sopCount hfr
    rw [hf.loc.delivSop hd hfr] at this
    exact this.symm

/-! ## The swapped order (forward first, reset afterwards): `seeded/C03f/patch.diff` -/

/-- the seeded variant: only `set_value_scheduler_sender` is swapped; self-deleting downstream receiver;
    poisoning allocator -/
def sfSwapped : SchedFromLife.Cfg := { selfdel := true, swapV := true, swapE := false, swapS := false, poison := true }
/-- the code as it is, same environment -/
def sfPinned : SchedFromLife.Cfg := { selfdel := true, swapV := false, swapE := false, swapS := false, poison := true }

/-- thread 0 starts, the predecessor completes inline with the value 5, the scheduler's operation state is started
    and thread 0 returns; the scheduler completes on thread 1 -/
def sfPrefix : List SchedFromLife.Ev :=
  [.start 0, .pred 0 (.value 5), .store 0 true, .conn 0 true, .sstart 0, .ret 0, .sch 1 (.value 0)]

/-- what the examples observe of a final state -/
structure SfObs where
  uaf : Bool
  nfree : Nat
  tsCtor : Nat
  tsDtor : Nat
  sopCtor : Nat
  sopDtor : Nat
  delivered : Nat
  result : Option SchedFromLife.Sig
  deriving DecidableEq, Repr

def sfObs (s : SchedFromLife.St) : SfObs :=
  ⟨s.uaf, s.nfree, s.tsCtor, s.tsDtor, s.sopCtor, s.sopDtor, s.delivered, s.result⟩

/-- **Counterexample for the swapped order.**  With `set_value_scheduler_sender` forwarding first: the log
    `… sch, fwd, reset` is accepted; the forwarding destroys the operation state (self-deleting receiver), the
    following `reset()` touches it after the release (`uaf = true`) and - the freed memory reading as an engaged
    optional - destroys the scheduler's operation state a second time (`sopDtor = 2`, `sopCtor = 1`).  Without
    poisoning the touch remains (`uaf = true`), the second destruction does not happen.  The swapped variant does
    not accept the order of the code (`reset` before `fwd`). -/
theorem C03x_sf_swapped_counterexample :
    (runLog SchedFromLife.step (SchedFromLife.init sfSwapped) (sfPrefix ++ [.fwd 1 (.value 5), .reset 1, .ret 1])).map sfObs
      = some ⟨true, 1, 1, 1, 1, 2, 1, some (.value 5)⟩ ∧
    (runLog SchedFromLife.step (SchedFromLife.init { sfSwapped with poison := false })
        (sfPrefix ++ [.fwd 1 (.value 5), .reset 1, .ret 1])).map sfObs
      = some ⟨true, 1, 1, 1, 1, 1, 1, some (.value 5)⟩ ∧
    (runLog SchedFromLife.step (SchedFromLife.init sfSwapped) (sfPrefix ++ [.reset 1])).isNone = true := by
  decide

/-- **Counterexample to "an exception while storing becomes `set_error`"** (the code as it is):
    `set_value_predecessor_sender` is `noexcept` without try/catch - a throwing `ts.emplace` (or a throwing
    `schedule` / `connect`) terminates the process: `aborted`, nothing delivered, no further event accepted. -/
theorem C03x_sf_throwing_store_terminates_counterexample :
    (runLog SchedFromLife.step (SchedFromLife.init sfPinned) [.start 0, .pred 0 (.value 5), .store 0 false]).map
        (fun s => (s.aborted, s.delivered, s.result)) = some (true, 0, none) ∧
    (runLog SchedFromLife.step (SchedFromLife.init sfPinned) [.start 0, .pred 0 (.value 5), .store 0 true, .conn 0 false]).map
        (fun s => (s.aborted, s.delivered, s.result)) = some (true, 0, none) ∧
    (runLog SchedFromLife.step (SchedFromLife.init sfPinned)
        [.start 0, .pred 0 (.value 5), .store 0 false, .fwd 0 (.error 1)]).isNone = true := by
  decide

/-! ## Non-vacuity -/

/-- the code as it is on the schedule of the counterexample: `reset` then `fwd`; value 5 delivered once, freed
    once, every object destroyed once, no touch after the release -/
example : (runLog SchedFromLife.step (SchedFromLife.init sfPinned) (sfPrefix ++ [.reset 1, .fwd 1 (.value 5), .ret 1])).map sfObs
    = some ⟨false, 1, 1, 1, 1, 1, 1, some (.value 5)⟩ := by decide
/-- and does not accept the swapped order -/
example : (runLog SchedFromLife.step (SchedFromLife.init sfPinned) (sfPrefix ++ [.fwd 1 (.value 5)])).isNone = true := by decide
/-- everything inline on one thread (inline scheduler), scheduler fails: its error arrives, `ts` destroyed once -/
example : (runLog SchedFromLife.step (SchedFromLife.init sfPinned)
    [.start 0, .pred 0 (.value 5), .store 0 true, .conn 0 true, .sstart 0, .sch 0 (.error 7), .reset 0, .fwd 0 (.error 7), .ret 0]).map sfObs
    = some ⟨false, 1, 1, 1, 1, 1, 1, some (.error 7)⟩ := by decide
/-- the scheduler completes on thread 1 while thread 0 is still inside `start(*scheduler_op_state)`; thread 0
    returns after the operation state is gone: accepted, no touch -/
example : (runLog SchedFromLife.step (SchedFromLife.init sfPinned)
    [.start 0, .pred 0 (.value 5), .store 0 true, .conn 0 true, .sstart 0, .sch 1 .stopped, .reset 1, .fwd 1 .stopped, .ret 0, .ret 1]).map sfObs
    = some ⟨false, 1, 1, 1, 1, 1, 1, some .stopped⟩ := by decide
/-- predecessor error on another thread: forwarded directly, nothing stored -/
example : (runLog SchedFromLife.step (SchedFromLife.init sfPinned)
    [.start 0, .ret 0, .pred 1 (.error 3), .fwd 1 (.error 3), .ret 1]).map sfObs
    = some ⟨false, 1, 0, 0, 0, 0, 1, some (.error 3)⟩ := by decide
/-- no second completion, no completion of the predecessor twice -/
example : (runLog SchedFromLife.step (SchedFromLife.init sfPinned)
    [.start 0, .ret 0, .pred 1 (.error 3), .fwd 1 (.error 3), .fwd 1 (.error 3)]).isNone = true := by decide
example : (runLog SchedFromLife.step (SchedFromLife.init sfPinned)
    [.start 0, .ret 0, .pred 1 (.error 3), .fwd 1 (.error 3), .ret 1, .pred 1 .stopped]).isNone = true := by decide
/-- owner-destroyed operation state (`selfdel = false`): `ts` lives until `destroy` -/
example : (runLog SchedFromLife.step (SchedFromLife.init { sfPinned with selfdel := false })
    (sfPrefix ++ [.reset 1, .fwd 1 (.value 5), .ret 1])).map sfObs = some ⟨false, 0, 1, 0, 1, 1, 1, some (.value 5)⟩ := by decide
example : (runLog SchedFromLife.step (SchedFromLife.init { sfPinned with selfdel := false })
    (sfPrefix ++ [.reset 1, .fwd 1 (.value 5), .ret 1, .destroy 1])).map sfObs = some ⟨false, 1, 1, 1, 1, 1, 1, some (.value 5)⟩ := by decide

/-! # let_value / let_error

`PikaVerif.LetLife.step` (Model/LetLife.lean) follows `let_value.hpp` / `let_error.hpp` (`Cfg.onError`) statement by
statement: `start`, `pred`, then on the stored channel inside `try_catch_exception_ptr`: `store` (emplace of the
predecessor's values / error into the operation state), `call` (the user function is invoked with references to the
stored values), `conn` (the successor sender is connected - the downstream receiver moves into the successor's
operation state, which is emplaced into `successor_op_state`), `sstart` (start of the successor); an exception of any
of the three goes to the handler, which forwards `set_error`; `succ` = the successor completes the downstream
receiver (THE completion of the adaptor; with `selfdel` the receiver destroys the whole operation state, stored
values and successor operation state included, inside the call); other channels are forwarded directly (`fwd`).
All theorems: every `Cfg` (let_value and let_error, self-deleting or owner-destroyed), every completion of the
predecessor and of the successor, every throwing point, every accepted log (every interleaving). -/

def LTReach (c : LetLife.Cfg) (s : LetLife.St) : Prop :=
  ∃ log, runLog LetLife.step (LetLife.init c) log = some s

/-- **Exactly one downstream completion** (let_value / let_error): at most one in every reachable state; exactly
    one once the predecessor has completed, the successor has completed if it was started, and every call has
    returned. -/
theorem C03x_let_exactly_one_completion (c : LetLife.Cfg) (s : LetLife.St) (hr : LTReach c s) :
    s.delivered ≤ 1 ∧
    (s.delivered = 0 → s.result = none) ∧
    (LetLife.quiescent s → s.predSig ≠ none → (s.sopArmed = true → s.succSig ≠ none) → s.delivered = 1) := by
  obtain ⟨log, hl⟩ := hr
  obtain ⟨h1, h2, h3⟩ := (LetLife.full_of_runLog hl).view.exactly_one
  exact ⟨h1, h2, fun hq => h3 (fun t => by
    show LetLife.busy (s.pc t) = false
    rcases hq t with h | h <;> rw [h] <;> rfl) rfl⟩

/-- **The completion is the denoted one** (let_value / let_error).  If the downstream receiver has been completed:
    a predecessor completion on a channel that is not stored arrived unchanged; an exception `e` thrown while
    storing the values, by the user function, or while connecting the successor arrived as `set_error e`
    (`thrown = some e`: the handler was entered with `e`); otherwise the completion of the successor sender arrived,
    whatever it is (value, error or stopped).  In every case `result = expected s`. -/
theorem C03x_let_completion_is_the_denoted_one (c : LetLife.Cfg) (s : LetLife.St) (hr : LTReach c s)
    (hd : s.delivered = 1) :
    (∀ p, s.predSig = some p → s.cfg.stores p = false → s.result = some p) ∧
    (∀ p e, s.predSig = some p → s.cfg.stores p = true → s.thrown = some e → s.result = some (.error e)) ∧
    (∀ p, s.predSig = some p → s.cfg.stores p = true → s.thrown = none → s.result = s.succSig ∧ s.succSig ≠ none) ∧
    s.predSig ≠ none ∧ s.result = LetLife.expected s ∧ s.result ≠ none := by
  obtain ⟨log, hl⟩ := hr
  have hf := LetLife.full_of_runLog hl
  have hp : s.predSig ≠ none := fun h => by have : s.delivered = 0 := (hf.view.predNone h).2.1; omega
  have hres := hf.loc.res hd
  refine ⟨fun p h => (hres p h).1, fun p e h hs => (hres p h).2.1 hs e, fun p h => (hres p h).2.2, hp, ?_⟩
  -- by cases on what the predecessor sent, whether its channel is stored, and whether something was thrown
  cases hps : s.predSig with
  | none => exact absurd hps hp
  | some p =>
    obtain ⟨r1, r2, r3⟩ := hres p hps
    cases hst : s.cfg.stores p with
    | false => simp [LetLife.expected, hps, hst, r1 hst]
    | true =>
      cases hth : s.thrown with
      | some e => simp [LetLife.expected, hps, hst, hth, r2 hst e hth]
      | none => have := r3 hst hth; simp [LetLife.expected, hps, hst, hth, this.1, this.2]

/-- **The completion is the last access** (let_value / let_error): once the downstream completion has been issued
    (by the successor, or by the adaptor's own forwarding), no event that reads or writes the operation state is
    accepted any more - only returns and the owner's `destroy`. -/
theorem C03x_let_completion_is_last_access (c : LetLife.Cfg) (s s' : LetLife.St) (e : LetLife.Ev)
    (hr : LTReach c s) (hd : s.delivered = 1) (h : LetLife.step s e = some s') : LetLife.touches e = false := by
  obtain ⟨log, hl⟩ := hr
  cases ht : LetLife.touches e with
  | false => rfl
  | true => have := LetLife.touch_before_delivery (LetLife.full_of_runLog hl) h ht; omega

/-- **The stored values outlive the user function and the successor** (let_value / let_error).  Whenever the user
    function is invoked (`call`) the stored values exist in a live operation state; while the successor operation is
    running (started, not completed) the stored values and the successor's operation state exist and the operation
    state is not destroyed; the stored payload is the predecessor's, unchanged. -/
theorem C03x_let_values_outlive_successor (c : LetLife.Cfg) (s : LetLife.St) (hr : LTReach c s) :
    (∀ t r s', LetLife.step s (.call t r) = some s' → s.ts ≠ none ∧ s.freed = false) ∧
    (s.sopArmed = true → s.succSig = none → s.ts ≠ none ∧ s.sop = true ∧ s.freed = false) ∧
    (∀ v p, s.ts = some v → s.predSig = some p → LetLife.payload p = v ∧ s.cfg.stores p = true) := by
  obtain ⟨log, hl⟩ := hr
  have hf := LetLife.full_of_runLog hl
  refine ⟨fun t r s' h => ?_, fun h1 h2 => ?_, hf.loc.tsPred⟩
  · have hp : s.pc t = .stored := by cases LetLife.Step.of_step h <;> assumption
    have hobj := hf.loc.obj t
    rw [hp] at hobj
    exact ⟨hobj.1, hf.view.not_freed (LetLife.touch_before_delivery hf h rfl)⟩
  · have := hf.view.armedO h1 h2
    exact ⟨this.1, this.2, hf.view.not_freed (hf.view.armedWait h1 h2).2⟩

/-- **Nothing touches the operation state after it was destroyed** (let_value / let_error): `uaf = false` in every
    reachable state; destroyed at most once, only after the downstream completion, with a self-deleting receiver
    exactly at the completion. -/
theorem C03x_let_no_touch_after_release (c : LetLife.Cfg) (s : LetLife.St) (hr : LTReach c s) :
    s.uaf = false ∧ s.nfree ≤ 1 ∧ (s.freed = true ↔ s.nfree = 1) ∧ (s.freed = true → s.delivered = 1) ∧
    (c.selfdel = true → (s.freed = true ↔ s.delivered = 1)) := by
  obtain ⟨log, hl⟩ := hr
  have hcfg : s.cfg.selfdel = c.selfdel := congrArg (·.selfdel) (LetLife.cfg_of_runLog hl)
  exact hcfg ▸ (LetLife.full_of_runLog hl).view.release

/-- **Every stored object is destroyed exactly once** (let_value / let_error): the stored values and the successor's
    operation state are constructed at most once each, never destroyed more often than constructed, and once the
    operation state is destroyed each constructed object has been destroyed exactly once; with a self-deleting
    receiver that is the case as soon as the completion has been issued. -/
theorem C03x_let_destroyed_exactly_once (c : LetLife.Cfg) (s : LetLife.St) (hr : LTReach c s) :
    s.tsCtor ≤ 1 ∧ s.sopCtor ≤ 1 ∧ s.tsDtor ≤ s.tsCtor ∧ s.sopDtor ≤ s.sopCtor ∧
    (s.freed = true → s.tsDtor = s.tsCtor ∧ s.sopDtor = s.sopCtor ∧ s.nfree = 1) ∧
    (c.selfdel = true → s.delivered = 1 → s.freed = true ∧ s.tsDtor = s.tsCtor ∧ s.sopDtor = s.sopCtor ∧ s.nfree = 1) := by
  obtain ⟨log, hl⟩ := hr
  have hcfg : s.cfg.selfdel = c.selfdel := congrArg (·.selfdel) (LetLife.cfg_of_runLog hl)
  exact hcfg ▸ (LetLife.full_of_runLog hl).view.destroyed_once

/-- **A moved-from receiver is completed only after a late-throwing connect** (let_value / let_error).  The
    adaptor's own forwarding uses `op_state.receiver`; `hollow` (that receiver had been moved from) can only become
    true when `connect` of the successor threw after it had moved the receiver into the partially built
    successor operation state. -/
theorem C03x_let_hollow_only_after_late_connect_throw (c : LetLife.Cfg) (s : LetLife.St) (hr : LTReach c s) :
    s.hollow = true → s.lateThrow = true := by
  obtain ⟨log, hl⟩ := hr
  exact (LetLife.full_of_runLog hl).loc.hollowLate

def ltValue : LetLife.Cfg := { selfdel := true, onError := false }
def ltError : LetLife.Cfg := { selfdel := true, onError := true }

structure LtObs where
  uaf : Bool
  hollow : Bool
  nfree : Nat
  tsCtor : Nat
  tsDtor : Nat
  sopCtor : Nat
  sopDtor : Nat
  delivered : Nat
  result : Option SchedFromLife.Sig
  deriving DecidableEq, Repr

def ltObs (s : LetLife.St) : LtObs :=
  ⟨s.uaf, s.hollow, s.nfree, s.tsCtor, s.tsDtor, s.sopCtor, s.sopDtor, s.delivered, s.result⟩

/-- **Witness for the late-throwing connect** (the code as it is; by inspection, outside C03's scope of
    non-throwing `connect`): `connect` of the successor throws after moving `op_state.receiver`; the handler then
    completes the moved-from receiver (`hollow = true`). -/
theorem C03x_let_late_connect_throw_counterexample :
    (runLog LetLife.step (LetLife.init ltValue)
      [.start 0, .pred 0 (.value 5), .store 0 none, .call 0 none, .conn 0 (some 9) true, .fwd 0 (.error 9), .ret 0]).map ltObs
      = some ⟨false, true, 1, 1, 1, 0, 0, 1, some (.error 9)⟩ := by decide

/-! ## Non-vacuity (let_value / let_error) -/

/-- let_value: the successor completes on thread 1 while thread 0 is still inside the start of the successor; the
    completion destroys everything once; thread 0 returns afterwards without a touch -/
example : (runLog LetLife.step (LetLife.init ltValue)
    [.start 0, .pred 0 (.value 5), .store 0 none, .call 0 none, .conn 0 none false, .sstart 0, .succ 1 (.value 8), .ret 0, .ret 1]).map ltObs
    = some ⟨false, false, 1, 1, 1, 1, 1, 1, some (.value 8)⟩ := by decide
/-- the user function throws: `set_error` with that exception, the stored values destroyed once, no successor -/
example : (runLog LetLife.step (LetLife.init ltValue)
    [.start 0, .ret 0, .pred 1 (.value 5), .store 1 none, .call 1 (some 4), .fwd 1 (.error 4), .ret 1]).map ltObs
    = some ⟨false, false, 1, 1, 1, 0, 0, 1, some (.error 4)⟩ := by decide
/-- storing throws: `set_error`, nothing stored -/
example : (runLog LetLife.step (LetLife.init ltValue)
    [.start 0, .pred 0 (.value 5), .store 0 (some 2), .fwd 0 (.error 2), .ret 0]).map ltObs
    = some ⟨false, false, 1, 0, 0, 0, 0, 1, some (.error 2)⟩ := by decide
/-- let_value passes an error / stopped through; let_error passes a value through and stores an error -/
example : (runLog LetLife.step (LetLife.init ltValue) [.start 0, .pred 0 .stopped, .fwd 0 .stopped, .ret 0]).map ltObs
    = some ⟨false, false, 1, 0, 0, 0, 0, 1, some .stopped⟩ := by decide
example : (runLog LetLife.step (LetLife.init ltValue) [.start 0, .pred 0 (.error 3), .store 0 none]).isNone = true := by decide
example : (runLog LetLife.step (LetLife.init ltError)
    [.start 0, .pred 0 (.error 3), .store 0 none, .call 0 none, .conn 0 none false, .sstart 0, .succ 0 (.value 1), .ret 0]).map ltObs
    = some ⟨false, false, 1, 1, 1, 1, 1, 1, some (.value 1)⟩ := by decide
example : (runLog LetLife.step (LetLife.init ltError) [.start 0, .pred 0 (.value 3), .fwd 0 (.value 3), .ret 0]).map ltObs
    = some ⟨false, false, 1, 0, 0, 0, 0, 1, some (.value 3)⟩ := by decide
/-- no second completion: neither by the successor twice nor by the adaptor after the successor -/
example : (runLog LetLife.step (LetLife.init ltValue)
    [.start 0, .pred 0 (.value 5), .store 0 none, .call 0 none, .conn 0 none false, .sstart 0, .succ 0 (.value 8), .succ 0 (.value 8)]).isNone = true := by decide
example : (runLog LetLife.step (LetLife.init ltValue)
    [.start 0, .pred 0 (.value 5), .store 0 none, .call 0 none, .conn 0 none false, .sstart 0, .succ 0 (.value 8), .fwd 0 (.error 1)]).isNone = true := by decide

end PikaVerif.C03
