import PikaVerif.Props.C14q
import PikaVerif.Lemmas.StopProg
/-!
# C14t — termination of the stop_state operations

`Props/C14.lean` states progress as enabledness (`C14_progress`, `C14_no_deadlock`: no stuck
state), `Props/C14q.lean` bounds the lock loops in *solo* continuations.  This file turns that
into TERMINATION for the model `PikaVerif.Stop`, all interleavings:

**Event classes.**
* `envEv`: `inv` (the program invokes request_stop / a stop_callback constructor / destructor —
  from a thread or from a callback script), `done`, `src.inc`, `src.dec`, `q` — the program's moves;
* `stutter s e`: an accepted `stop.casfail` / `stop.reload` after which the activity is exactly
  where it was.  Such an event leaves the **whole state unchanged** (`C14t_measure_decreases`) and
  is one of exactly two things (`C14t_stutter_is_spin_or_spurious`):
  a spin re-load that saw the lock bit (somebody holds the lock), or a *spurious* CAS failure
  against an unlocked word whose stop bit is the expected one (weak CAS / only the source count
  differs) — in which case the CAS itself (`stop.acq`) is accepted in the same state;
* `moving s e`: everything else — pika's own steps, **including** the failed CAS that saw the
  lock bit (`cas → spin`) and the re-load that saw the lock free (`spin → cas`).

A destructor polling `callback_finished_executing_` of a callback running on another thread is
not a stutter of the model, because the polling is not an event of the model at all: `stop.waited` is
emitted (and accepted) only when the flag is set, so the polling rounds are invisible and the
waiting activity simply has no accepted event of its own.

**Measure.**  `mu s` (`Lemmas/StopT.lean`) strictly decreases with every moving event, in every
state (reachable or not) of both code variants; an `inv` adds at most `invCost = 10 n + 21`
(`n` = number of activities), the other environment events nothing.  Hence every accepted log
with `N` invoked operations contains at most `n + (10 n + 21) N` moving events (`C14t_bounded`), and a
run without new invocations at most `mu s` (`C14t_bounded_from`): every maximal run of a finite
program is finite modulo the stutter.

**Maximal runs.**  `Maximal s`: no productive event (`productive` of `Lemmas/StopStep.lean`) is accepted.  Every
reachable state extends by at most `mu s` of pika's own steps to a maximal state
(`C14t_maximal_exists`); `C14t_final_state` characterises these states (every operation returned,
lock free, no destructor in progress, and — if stop was requested — list empty, every registered
callback dequeued or destroyed, every dequeued callback invoked exactly once, …);
`C14t_waiting_dtor_released` / `C14t_dtor_inside_own_callback_never_waits` are the two halves of
the deadlock-freedom clause in maximal-run form.
-/
namespace PikaVerif.C14t
open PikaVerif PikaVerif.Stop PikaVerif.C14 PikaVerif.C14q

/-! ## The measure -/

/-- **The measure decreases.**  For every state (reachable or not, pinned or repaired code) and
    every accepted event: a stutter leaves the state unchanged; every event that is neither a
    stutter nor a move of the environment strictly decreases `mu`; an `inv` adds at most
    `invCost s = 10 n + 21`, the other environment events do not increase `mu`; `n` is constant. -/
theorem C14t_measure_decreases (s s' : St) (e : Ev) (h : step s e = some s') :
    s'.n = s.n ∧
    (stutter s e = true → s' = s) ∧
    (moving s e = true → mu s' < mu s) ∧
    (envEv e = true → mu s' ≤ mu s + (if isInv e then invCost s else 0)) ∧
    (∀ a, e = .done a → mu s' < mu s) :=
  mu_step s s' e h

/-- the cost of one operation, spelled out -/
theorem C14t_invCost (s : St) : invCost s = 10 * s.n + 21 := by
  simp only [invCost, muL, muW]; omega

/-- every event is in exactly one class -/
theorem C14t_event_classes (s : St) (e : Ev) :
    (envEv e = true ∧ stutter s e = false ∧ moving s e = false) ∨
    (envEv e = false ∧ stutter s e = true ∧ moving s e = false) ∨
    (envEv e = false ∧ stutter s e = false ∧ moving s e = true) := by
  cases he : envEv e
  · cases hs : stutter s e <;> simp [moving, he, hs]
  · simp [moving, he, not_stutter_of_envEv he]

/-- **The stutter, precisely.**  An accepted stutter is either a spin re-load that saw the lock
    bit (the lock is held, the activity stays in `spin`), or a CAS failure against an *unlocked*
    word whose stop bit equals the expected one (spurious failure of the weak CAS, or only the
    source count changed) — and then the successful CAS `stop.acq` is accepted in the same state.
    A failed CAS that saw the lock bit is **not** a stutter (it moves `cas → spin`, and `mu`
    decreases). -/
theorem C14t_stutter_is_spin_or_spurious (s s' : St) (e : Ev) (h : step s e = some s')
    (hs : stutter s e = true) :
    (∃ a rq src k, e = .reload a true rq src ∧ s.lock.isSome = true ∧ s.pc a = .spin k) ∨
    (∃ a rq src k, e = .casFail a false rq src ∧ s.lock = none ∧ s.pc a = .cas k s.req ∧
        enabled s (.acq a) = true) := by
  cases e with
  | reload a lk rq src =>
    obtain ⟨h1, h2, k, hk⟩ := stutter_reload s s' a lk rq src h hs
    subst h1
    exact Or.inl ⟨a, rq, src, k, rfl, h2, hk⟩
  | casFail a lk rq src =>
    obtain ⟨h1, h2, k, hk⟩ := stutter_casFail s s' a lk rq src h hs
    subst h1
    obtain ⟨_, _, ha, -⟩ := step_casFail h
    exact Or.inr ⟨a, rq, src, k, rfl, h2, hk, acq_enabled_of_cas s a k ha h2 hk⟩
  | _ => simp [stutter] at hs

/-- **The stutter needs somebody else to stand still.**  In a reachable state of the repaired code
    an accepted stutter of activity `a` is either a spin re-load while *another* activity holds the
    lock — and that holder has an enabled step of its own, which is a moving event (`mu`
    decreases) and releases the lock: the spinning goes on only as long as the holder is not
    scheduled — or a spurious CAS failure, in which case `a`'s own successful CAS is enabled.
    Hence under any scheduler that eventually runs the lock holder, and with a CAS that does not
    fail spuriously for ever, every run of a finite program terminates. -/
theorem C14t_stutter_while_holder_stands_still (s s' : St) (e : Ev) (hr : Reachable s)
    (h : step s e = some s') (hs : stutter s e = true) :
    (∃ hd eh, s.lock = some hd ∧ hd ≠ actor e ∧ actor eh = hd ∧ enabled s eh = true ∧
        moving s eh = true ∧ ∀ s1, step s eh = some s1 → s1.lock = none ∧ mu s1 < mu s) ∨
    (s.lock = none ∧ enabled s (.acq (actor e)) = true ∧ moving s (.acq (actor e)) = true) := by
  have hA := invA_of_reachable hr
  rcases C14t_stutter_is_spin_or_spurious s s' e h hs with ⟨a, rq, src, k, he, hl, hk⟩ | ⟨a, rq, src, k, he, hl, hk, hen⟩
  · left
    subst he
    cases hlk : s.lock with
    | none => rw [hlk] at hl; simp at hl
    | some hd =>
      obtain ⟨eh, h1, h2, h3, h4⟩ := holder_steps hA hlk
      have hne : hd ≠ a := by
        intro heq
        have := (hA.lockConv hd hlk).1
        rw [heq, hk] at this; simp [holds] at this
      have hmv : moving s eh = true := by
        have henv : envEv eh = false := not_envEv_of_productive h2
        cases hst : stutter s eh
        · simp [moving, henv, hst]
        · exfalso
          simp only [enabled, Option.isSome_iff_exists] at h3
          obtain ⟨s1, hs1⟩ := h3
          have h5 := h4 s1 hs1
          have h6 := (mu_step s s1 eh hs1).2.1 hst
          rw [h6, hlk] at h5; simp at h5
      refine ⟨hd, eh, rfl, hne, h1, h3, hmv, fun s1 hs1 => ⟨h4 s1 hs1, (mu_step s s1 eh hs1).2.2.1 hmv⟩⟩
  · right
    subst he
    exact ⟨hl, hen, by simp [moving, envEv, stutter]⟩

/-- the stutter is genuinely accepted, any number of times (`decide`-checked): thread 1 spins
    while thread 0 holds the lock -/
theorem C14t_stutter_witness :
    (runLog step (init 4 2 (fun a => a % 2 + 1) true true 2)
      ([.inv 0 (.reg 0), .load 0 false false 2, .inv 1 (.reg 1), .load 1 false false 2, .acq 0,
        .casFail 1 true false 2] ++ List.replicate 5 (.reload 1 true false 2))).isSome = true := by
  decide

/-- … so no measure can decrease with *every* non-environment event: the stuttering re-load is
    accepted and leaves the state unchanged -/
theorem C14t_unrestricted_measure_impossible :
    ¬ ∃ m : St → Nat, ∀ s s' e, step s e = some s' → envEv e = false → m s' < m s := by
  intro ⟨m, hm⟩
  have h2 : ∃ s s', runLog step (init 4 2 (fun a => a % 2 + 1) true true 2)
      [.inv 0 (.reg 0), .load 0 false false 2, .inv 1 (.reg 1), .load 1 false false 2, .acq 0,
        .casFail 1 true false 2] = some s ∧ step s (.reload 1 true false 2) = some s' ∧
      stutter s (.reload 1 true false 2) = true := ⟨_, _, rfl, rfl, by decide⟩
  obtain ⟨s, s', _, h3, h4⟩ := h2
  have h5 := (mu_step s s' _ h3).2.1 h4
  have := hm s s' _ h3 rfl
  rw [h5] at this
  exact Nat.lt_irrefl _ this

/-- **Bounded runs (termination modulo the stutter).**  Every accepted log of the model — any
    number of threads, callbacks, nesting depth, any interleaving, pinned or repaired code —
    contains at most `n + (10 n + 21) · N` moving events, `N` = number of operations invoked in the
    log (by threads or by callback scripts).  (`mu` of the initial state is `n`: `idle` ranks 1, so
    that `done` decreases `mu` too.)  For a finite program `N` is at most the number of
    operations in its thread lists and callback scripts (a script runs at most once:
    `C14_at_most_once`). -/
theorem C14t_bounded (n K : Nat) (ident : Nat → Nat) (fixCas fixCtor : Bool) (srcs : Nat) (log : List Ev)
    (s : St) (h : runLog step (init n K ident fixCas fixCtor srcs) log = some s) :
    nMoves (init n K ident fixCas fixCtor srcs) log + mu s ≤ n + (10 * n + 21) * nInv log := by
  have := run_bound _ _ _ h
  rw [C14t_invCost] at this
  have h0 : mu (init n K ident fixCas fixCtor srcs) = n := mu_init n K ident fixCas fixCtor srcs
  rw [h0] at this
  simpa [init] using this

/-- the same from any state: a run in which no new operation is invoked makes at most `mu s`
    moving steps -/
theorem C14t_bounded_from (s s' : St) (log : List Ev) (h : runLog step s log = some s') :
    nMoves s log + mu s' ≤ mu s + (10 * s.n + 21) * nInv log := by
  have := run_bound _ _ _ h
  rwa [C14t_invCost] at this

/-! ## Maximal runs and their final states -/

/-- no step of pika's own is possible (`productive`: everything except the program's
    moves and futile spins) -/
def Maximal (s : St) : Prop := ∀ e, productive e = true → enabled s e = false

theorem reachableP_step {s s' : St} {e : Ev} (hr : ReachableP s) (h : step s e = some s') : ReachableP s' := by
  obtain ⟨n, K, ident, srcs, log, hK, hid, hl⟩ := hr
  exact ⟨n, K, ident, srcs, log ++ [e], hK, hid, by rw [runLog_snoc, hl]; exact h⟩

theorem reachableP_run {s s' : St} {l : List Ev} (hr : ReachableP s) (h : runLog step s l = some s') :
    ReachableP s' :=
  inv_of_runLog ReachableP (fun _ _ _ hi hs => reachableP_step hi hs) hr h

/-- **Maximal runs exist and are short.**  Every state extends — by pika's own productive,
    non-stutter steps only — to a maximal state within `mu s` events.  (With `C14t_bounded_from`:
    *every* continuation without new invocations has at most `mu s` moving events, so every
    maximal run is finite modulo the stutter.) -/
theorem C14t_maximal_exists (s : St) :
    ∃ l s', runLog step s l = some s' ∧ Maximal s' ∧ l.length ≤ mu s ∧ nMoves s l = l.length ∧
      ∀ e ∈ l, productive e = true := by
  -- not an instance of `exists_maximal_run`: `nMoves s l = l.length` counts events by a predicate that
  -- depends on the state, which the lemma's predicate on logs cannot express
  generalize hm : mu s = m
  induction m using Nat.strongRecOn generalizing s with
  | _ m ih =>
    by_cases hmax : Maximal s
    · exact ⟨[], s, rfl, hmax, Nat.zero_le _, rfl, fun e he => by simp at he⟩
    · obtain ⟨e, hp, he⟩ : ∃ e, productive e = true ∧ enabled s e = true := by
        simpa [Maximal, Classical.not_forall] using hmax
      obtain ⟨e', hp', he', hmv⟩ := not_maximal_moves s e hp he
      simp only [enabled, Option.isSome_iff_exists] at he'
      obtain ⟨s1, hs1⟩ := he'
      have hlt := (mu_step s s1 e' hs1).2.2.1 hmv
      obtain ⟨l, s', hl, hmx, hlen, hnm, hall⟩ := ih (mu s1) (by omega) s1 rfl
      exact ⟨e' :: l, s', by simp [runLog, hs1, hl], hmx, by simp only [List.length_cons]; omega,
        by simp only [nMoves, hs1, hmv, if_true, List.length_cons, hnm]; omega, List.forall_mem_cons.2 ⟨hp', hall⟩⟩

/-- **Final states of maximal runs** (the property as a theorem about maximal runs).  In a
    reachable maximal state of the repaired code:
    1. every operation has returned (every activity is idle or its thread has finished), the lock
       is free, and no destructor is in progress (`life c` is never `dying`);
    and, if stop was requested (some request_stop won),
    2. the callback list is empty;
    3. every callback that was ever registered was taken by the winning request_stop (`deqd`) or
       its destructor has returned;
    4. every callback taken by request_stop was invoked **exactly once**;
    5. every callback whose constructor found stop already requested was invoked exactly once,
       inside that constructor;
    6. every callback that exists (constructed, not destroyed) and was registered or run inline
       was invoked exactly once;
    and in any case
    7. no callback was invoked more than once. -/
theorem C14t_final_state (s : St) (hr : ReachableP s) (hm : Maximal s) :
    (∀ a, s.pc a = .idle ∨ s.pc a = .fin) ∧ s.lock = none ∧ (∀ c, s.life c ≠ .dying) ∧
    (s.req = true →
      s.list = [] ∧
      (∀ c, s.pushed c = true → s.deqd c = true ∨ s.life c = .dead) ∧
      (∀ c, s.deqd c = true → s.runs c = 1) ∧
      (∀ c, s.reqAtReg c = true → started (s.life c) = true → s.ranInl c = true ∧ s.runs c = 1) ∧
      (∀ c, s.life c = .live → s.kept c = true ∨ s.ranInl c = true → s.runs c = 1)) ∧
    (∀ c, s.runs c ≤ 1) := by
  have hidle := C14_no_deadlock s hr hm
  have hR := hr.reachableF.reachable
  obtain ⟨hA, hB⟩ := invAB_of_reachable hR
  have hdy : ∀ c, s.life c ≠ .dying := by
    intro c hd
    have := hB.dying c hd
    rcases hidle (s.dtorBy c) with h | h <;> rw [h] at this <;> simp [unregOf] at this
  have hlock : s.lock = none := by
    cases hl : s.lock with
    | none => rfl
    | some r =>
      have := (hA.lockConv r hl).1
      rcases hidle r with h | h <;> rw [h] at this <;> simp [holds] at this
  have hdone := C14_quiescent_loop_done s hidle
  refine ⟨hidle, hlock, hdy, fun hq => ?_, fun c => (hB.cb c).runsLe⟩
  have hlist := list_nil_of_done hA hq hdone
  refine ⟨hlist, ?_, ?_, fun c h1 h2 => C14_immediate_if_already s hR c h2 h1,
    fun c hl hk => C14_exactly_once_if_requested s hR hq hdone c hl hk⟩
  · intro c hp
    rcases (hB.cb c).pushedWhere hp with h | h | h | h
    · rw [hlist] at h; simp at h
    · exact Or.inl h
    · exact absurd h (hdy c)
    · exact Or.inr h
  · exact fun c hd => runs_of_deqd_of_done hB hdone hd

/-- conversely a state all of whose activities are idle or finished is maximal: the maximal states
    are exactly the states in which every operation has returned -/
theorem C14t_maximal_iff (s : St) (hr : ReachableP s) :
    Maximal s ↔ ∀ a, s.pc a = .idle ∨ s.pc a = .fin := by
  refine ⟨fun hm => C14_no_deadlock s hr hm, fun hidle e hp => ?_⟩
  cases he : enabled s e
  · rfl
  · obtain ⟨s', hs⟩ := Option.isSome_iff_exists.mp he
    have := envEv_of_idle hs (hidle _)
    rw [not_envEv_of_productive hp] at this; cases this

/-- **Why a callback was invoked** (every reachable state): an invoked callback was taken from the
    list by request_stop, or was run from its constructor (recorded at the constructor's finished
    store), or that inline run is still in progress. -/
theorem C14t_invoked_why (s : St) (hr : Reachable s) (c : Nat) (h : 0 < s.runs c) :
    s.deqd c = true ∨ s.ranInl c = true ∨ inlRun s c := by
  obtain ⟨n, K, ident, fc, srcs, log, hl⟩ := hr
  exact (inv_of_accepted hl).Run.ranWhy c h

/-- **Invoked exactly once or never, and which** (maximal runs).  In a reachable maximal state a
    callback was invoked exactly once if request_stop took it from the list or its constructor ran
    it inline, and never otherwise.  In particular a callback whose destructor **returned before
    request_stop dequeued it** (unlinked by `remove_callback`) was never invoked, and without a
    stop request nothing was dequeued. -/
theorem C14t_invoked_iff (s : St) (hr : ReachableP s) (hm : Maximal s) (c : Nat) :
    (s.runs c = 1 ↔ (s.deqd c = true ∨ s.ranInl c = true)) ∧
    (s.runs c = 0 ↔ (s.deqd c = false ∧ s.ranInl c = false)) ∧
    (s.req = false → s.deqd c = false) := by
  have hidle := C14_no_deadlock s hr hm
  have hR := hr.reachableF.reachable
  obtain ⟨hA, hB⟩ := invAB_of_reachable hR
  have hle := (hB.cb c).runsLe
  have h1 : s.deqd c = true → s.runs c = 1 := runs_of_deqd_of_done hB (C14_quiescent_loop_done s hidle)
  have h2 : s.ranInl c = true → s.runs c = 1 := (hB.cb c).inlRuns
  have h3 : 0 < s.runs c → s.deqd c = true ∨ s.ranInl c = true := by
    intro h
    rcases C14t_invoked_why s hR c h with h | h | ⟨a, h⟩
    · exact Or.inl h
    · exact Or.inr h
    · rcases hidle a with h' | h' <;> rw [h'] at h <;> simp at h
  refine ⟨⟨fun h => h3 (by omega), fun h => h.elim h1 h2⟩, ⟨fun h => ?_, fun h => ?_⟩, fun hq => ?_⟩
  · exact ⟨Bool.eq_false_iff.mpr fun hd => by have := h1 hd; omega,
      Bool.eq_false_iff.mpr fun hi => by have := h2 hi; omega⟩
  · exact Nat.eq_zero_of_not_pos fun hp => by rcases h3 hp with h' | h' <;> simp [h.1, h.2] at h'
  · cases hd : s.deqd c
    · rfl
    · have := (hB.cb c).deqWinner hd
      rw [hA.winReq hq] at this; simp at this

/-- a maximal state accepts only moves of the program: a run is over when the program has no
    operation left to invoke -/
theorem C14t_maximal_only_env (s s' : St) (e : Ev) (hr : ReachableP s) (hm : Maximal s)
    (h : step s e = some s') : envEv e = true :=
  envEv_of_idle h (C14_no_deadlock s hr hm _)

/-! ## Finite programs

`Lemmas/StopProg.lean`: a program gives every thread a finite list of operations and every
callback a finite script (construct / destroy a callback — itself or another one —, request_stop,
queries, copy / drop a stop_source); `pstep` accepts exactly the model logs in which every
environment event is an operation of the acting activity's list (thread list at nesting level 0,
the script of the running callback inside a body). -/

/-- accepted logs of a program are accepted logs of the model: everything proved about the model
    (C14, C14q and the theorems above) holds along every run of every program -/
theorem C14t_program_refines (p p' : PSt) (log : List Ev) (h : runLog pstep p log = some p') :
    runLog step p.s log = some p'.s := by
  simpa only [List.map_id] using runLog_map PSt.s id (fun p e p' => pstep_step p p' e) h

/-- **Every accepted event of a program is a stutter or strictly decreases `phi`** (`phi` = `mu` +
    `10 n + 22` per operation not yet started); a stutter changes neither state nor program. -/
theorem C14t_program_measure (p p' : PSt) (e : Ev) (h : pstep p e = some p') :
    (stutter p.s e = true ∧ p'.s = p.s ∧ p'.ops = p.ops ∧ p'.m = p.m) ∨ phi p' < phi p :=
  phi_step p p' e h

/-- **Termination of finite programs, modulo the stutter.**  Every accepted log of a program with
    `n` activities and `N` operations in its thread lists and callback scripts contains at most
    `n + (10 n + 22) N` events that are not stutters — whatever the interleaving, the number of
    threads and callbacks, the nesting depth, pinned or repaired code. -/
theorem C14t_program_bounded (n K : Nat) (ident : Nat → Nat) (fixCas fixCtor : Bool) (srcs : Nat)
    (ops : Nat → List Op) (m : Nat) (log : List Ev) (p' : PSt)
    (h : runLog pstep (pinit n K ident fixCas fixCtor srcs ops m) log = some p') :
    nSteps (pinit n K ident fixCas fixCtor srcs ops m) log + phi p' ≤
      n + (10 * n + 22) * sumTo m (fun i => (ops i).length) := by
  have := prog_bound _ _ _ h
  have h0 : phi (pinit n K ident fixCas fixCtor srcs ops m) = n + (10 * n + 22) * sumTo m (fun i => (ops i).length) := by
    simp only [phi, pinit, C14t_invCost, todo]
    rw [mu_init]
    simp [init]
  omega

/-- … in terms of the length of the log: an accepted log of a program is at most the bound plus
    its number of stutters long — every accepted log longer than `n + (10 n + 22) N` consists, beyond
    that length, of spin re-loads that saw the lock bit and spurious CAS failures only. -/
theorem C14t_program_length (n K : Nat) (ident : Nat → Nat) (fixCas fixCtor : Bool) (srcs : Nat)
    (ops : Nat → List Op) (m : Nat) (log : List Ev) (p' : PSt)
    (h : runLog pstep (pinit n K ident fixCas fixCtor srcs ops m) log = some p') :
    log.length ≤ n + (10 * n + 22) * sumTo m (fun i => (ops i).length) +
      nStut (pinit n K ident fixCas fixCtor srcs ops m) log := by
  have h1 := C14t_program_bounded n K ident fixCas fixCtor srcs ops m log p' h
  have h2 := steps_add_stut _ _ _ h
  omega

/-- **No callback runs, and nothing touches its object, after its destructor returned — along
    every run of every program** (`C14q_never_after_dtor_returned` through the refinement): if the
    log of a program (repaired code, faithful thread identities) contains the return `ret b r` of
    `remove_callback(c)`, no later event of the log is a dequeue, `is_removed_` publication,
    invocation, finished store or push of `c`. -/
theorem C14t_program_never_after_dtor (n K : Nat) (ident : Nat → Nat) (fc : Bool) (srcs : Nat)
    (ops : Nat → List Op) (m : Nat) (hK : 0 < K) (hid : ∀ a b, ident a = ident b ↔ a % K = b % K)
    (l₁ l₂ : List Ev) (b c : Nat) (r r' : Bool) (e : Ev) (p₁ p : PSt)
    (h1 : runLog pstep (pinit n K ident true fc srcs ops m) l₁ = some p₁)
    (hb : p₁.s.pc b = .retn (.unreg c) r')
    (h2 : runLog pstep p₁ (.ret b r :: (l₂ ++ [e])) = some p) : touches e ≠ some c :=
  C14q_never_after_dtor_returned n K ident fc srcs hK hid l₁ l₂ b c r r' e p₁.s p.s
    (C14t_program_refines _ _ _ h1) hb (C14t_program_refines _ _ _ h2)

/-- **Maximal runs of a program exist and are short**: every program state extends, by at most
    `mu` of pika's own non-stutter steps and without consuming the program, to a state in which all
    operations invoked so far have returned (`Maximal`). -/
theorem C14t_program_maximal_exists (p : PSt) :
    ∃ l s', runLog pstep p l = some ⟨s', p.ops, p.m⟩ ∧ Maximal s' ∧ l.length ≤ mu p.s := by
  obtain ⟨l, s', hl, hm, hlen, _, hall⟩ := C14t_maximal_exists p.s
  exact ⟨l, s', lift_run l p s' (fun e he => not_envEv_of_productive (hall e he)) hl, hm, hlen⟩

/-- the run of a program is over: the program state accepts nothing but stutters -/
def PMaximal (p : PSt) : Prop := ∀ e p', pstep p e = some p' → stutter p.s e = true

/-- **Final states of the maximal runs of a program.**  When a program state accepts nothing but
    stutters, the model state is maximal — so `C14t_final_state` and `C14t_invoked_iff` describe
    it — and every thread whose list is exhausted has finished. -/
theorem C14t_program_final (p : PSt) (hr : ReachableP p.s) (hm : PMaximal p) :
    Maximal p.s ∧ (∀ a, p.s.pc a = .idle ∨ p.s.pc a = .fin) ∧
    (∀ t, t < p.s.n → t < p.s.K → p.ops t = [] → p.s.pc t = .fin) := by
  have hmax : Maximal p.s := fun e hp => Bool.eq_false_iff.mpr fun he => by
    obtain ⟨e', hp', he', hmv⟩ := not_maximal_moves p.s e hp he
    obtain ⟨s1, hs1⟩ := Option.isSome_iff_exists.mp he'
    have := hm _ _ (pstep_own p e' s1 (not_envEv_of_productive hp') hs1)
    simp [moving, this] at hmv
  have hidle := C14_no_deadlock p.s hr hmax
  refine ⟨hmax, hidle, fun t htn htK hops => ?_⟩
  rcases hidle t with h | h
  · exfalso
    have h2 : pstep p (.done t) = some ⟨{ p.s with pc := upd p.s.pc t .fin }, p.ops, p.m⟩ := by
      simp [pstep, hops, lift, step, htn, htK, h]
    exact absurd (hm _ _ h2) (by simp [stutter])
  · exact h

/-! ## Deadlock freedom, maximal-run form -/

/-- **A waiting destructor is always released.**  If the destructor of `c` waits (`wait c`: the
    callback runs on another thread — `C14_progress` case 4, `C14_dtor_does_not_wait_for_own_thread`)
    then in *every* run from that state that ends in a maximal state — whatever the interleaving,
    whatever the callback scripts invoke — its `stop.waited` is accepted (the finished flag was
    stored: the callback finished), and the destructor has returned.  Such maximal runs exist and
    take at most `mu s` of pika's steps (`C14t_maximal_exists`), and no run has more moving steps
    than `C14t_bounded_from` allows. -/
theorem C14t_waiting_dtor_released (s s' : St) (l : List Ev) (a c : Nat) (hr : ReachableP s)
    (hw : s.pc a = .wait c) (h : runLog step s l = some s') (hm : Maximal s') :
    Ev.waited a c ∈ l ∧ (s'.pc a = .idle ∨ s'.pc a = .fin) ∧ s'.life c ≠ .dying := by
  have hr' := reachableP_run hr h
  have hfin := C14t_final_state s' hr' hm
  have hidle := hfin.1 a
  refine ⟨wait_released s s' l a c h hw ?_, hidle, hfin.2.2.1 c⟩
  rcases hidle with h1 | h1 <;> rw [h1] <;> simp

/-- … and when `stop.waited` is accepted the callback has run exactly once and is over: the
    finished flag is set, which request_stop stores after the callback returned. -/
theorem C14t_released_after_callback (s s' : St) (a c : Nat) (hr : Reachable s)
    (h : step s (.waited a c) = some s') : s.fin c = true ∧ s.runs c = 1 := by
  obtain ⟨_, hB⟩ := invAB_of_reachable hr
  obtain ⟨-, -, hf, -⟩ := step_waited h
  exact ⟨hf, (hB.cb c).finRuns hf⟩

/-- **A destructor called from inside its own callback never waits**: while the body of `c` runs
    on activity `w`, no activity of the same thread (in particular the nested activity that the
    callback script uses to destroy `c`) is ever in `wait c`.  (Contrapositive of
    `C14_dtor_does_not_wait_for_own_thread`.) -/
theorem C14t_dtor_inside_own_callback_never_waits (s : St) (hr : ReachableF s) (w b c : Nat) (inl : Bool)
    (hbody : s.pc w = .body c inl) (hthr : thr s.K b = thr s.K w) : s.pc b ≠ .wait c := by
  intro hb
  exact C14_dtor_does_not_wait_for_own_thread s hr b c w hb (body_processes hbody) hthr.symm

/-! ## Non-vacuity: complete runs of three small programs (2 threads, nesting depth 2) -/

/-- thread 0 registers callback 0 and requests stop; the script of callback 0 destroys callback 0
    (nested activity 2 = thread 0 inside the body): it does not wait -/
def selfLog : List Ev :=
  [.inv 0 (.reg 0), .load 0 false false 2, .acq 0, .push 0 0 false, .ret 0 false,
   .inv 0 .rs, .load 0 false false 2, .acq 0, .deq 0 0 false, .preExec 0 0, .cbBegin 0 0,
   .inv 2 (.unreg 0), .load 2 false true 2, .acq 2, .unlink 2 0 false, .selfChk 2 0 true true, .ret 2 false,
   .cbEnd 0 0, .finStore 0 0 true, .load 0 false true 2, .acq 0, .rsDone 0, .ret 0 true, .done 0, .done 1]

def selfOps : Nat → List Op :=
  fun i => if i = 0 then [.call (.reg 0), .call .rs] else if i = 2 then [.call (.unreg 0)] else []

def P0 : PSt := pinit 4 2 (fun a => a % 2 + 1) true true 2 selfOps 3

/-- the whole log is a run of the program; `phi` goes from `4 + 62 · 3 = 190` to 2 (the two nested
    activities stay idle); all 25 events count (no stutter); callback 0 ran once, is destroyed, and
    every activity is idle or finished -/
example : phi P0 = 190 := by decide
example : (runLog pstep P0 selfLog).map (fun p => (phi p, todo p, p.s.runs 0, nSteps P0 selfLog,
    decide (p.s.life 0 = .dead), (List.range 4).all (fun a => decide (p.s.pc a = .idle ∨ p.s.pc a = .fin)))) =
    some (2, 0, 1, 25, true, true) := by decide
/-- `mu` inside the body of the callback -/
example : (runLog step P0.s (selfLog.take 11)).map mu = some 30 := by decide

/-- thread 1 destroys callback 0 while it runs on thread 0: it waits (`selfChk … false`), is
    released by `stop.waited` after the finished store, and returns -/
def otherLog : List Ev :=
  [.inv 0 (.reg 0), .load 0 false false 2, .acq 0, .push 0 0 false, .ret 0 false,
   .inv 0 .rs, .load 0 false false 2, .acq 0, .deq 0 0 false, .preExec 0 0, .cbBegin 0 0,
   .inv 1 (.unreg 0), .load 1 false true 2, .acq 1, .unlink 1 0 false, .selfChk 1 0 false false,
   .cbEnd 0 0, .finStore 0 0 false, .waited 1 0, .ret 1 false, .load 0 false true 2, .acq 0, .rsDone 0, .ret 0 true,
   .done 0, .done 1]

def otherOps : Nat → List Op :=
  fun i => if i = 0 then [.call (.reg 0), .call .rs] else if i = 1 then [.call (.unreg 0)] else []

def P1 : PSt := pinit 4 2 (fun a => a % 2 + 1) true true 2 otherOps 2

example : (runLog pstep P1 otherLog).map (fun p => (phi p, todo p, p.s.runs 0, nSteps P1 otherLog,
    decide (p.s.life 0 = .dead), (List.range 4).all (fun a => decide (p.s.pc a = .idle ∨ p.s.pc a = .fin)))) =
    some (2, 0, 1, 26, true, true) := by decide
/-- the hypotheses of `C14t_waiting_dtor_released` are met after 16 events: thread 1 is in `wait 0`,
    `stop.waited` is rejected there (flag not stored) and is in the rest of the log -/
example : ∃ s, runLog step P1.s (otherLog.take 16) = some s ∧ s.pc 1 = .wait 0 ∧
    step s (.waited 1 0) = none := by
  refine ⟨_, rfl, ?_⟩
  decide
example : (otherLog.drop 16).take 3 = [.cbEnd 0 0, .finStore 0 0 false, .waited 1 0] := rfl
example : ∃ s, ReachableP s ∧ s.pc 1 = .wait 0 :=
  ⟨_, ⟨4, 2, _, 2, otherLog.take 16, by decide, ident2_faithful, rfl⟩, by decide⟩

/-- same program, other schedule: thread 1 destroys callback 0 **before** request_stop takes the
    list; thread 0 spins meanwhile (two spin re-loads that see the lock bit and one spurious CAS
    failure: three stutters).  The callback is never invoked; 19 of the 22 events count. -/
def earlyLog : List Ev :=
  [.inv 0 (.reg 0), .load 0 false false 2, .acq 0, .push 0 0 false, .ret 0 false,
   .inv 1 (.unreg 0), .load 1 false false 2, .inv 0 .rs, .load 0 false false 2,
   .acq 1, .casFail 0 true false 2, .reload 0 true false 2, .reload 0 true false 2,
   .unlink 1 0 true, .reload 0 false false 2, .casFail 0 false false 2,
   .acq 0, .rsDone 0, .ret 0 true, .ret 1 false, .done 0, .done 1]

example : (runLog pstep P1 earlyLog).map (fun p => (phi p, todo p, p.s.runs 0, p.s.deqd 0, nSteps P1 earlyLog,
    earlyLog.length)) = some (2, 0, 0, false, 19, 22) := by decide
example : (runLog pstep P1 earlyLog).map (fun p => (decide (p.s.life 0 = .dead),
    (List.range 4).all (fun a => decide (p.s.pc a = .idle ∨ p.s.pc a = .fin)))) = some (true, true) := by decide
/-- `mu` is constant across the two spin stutters (after 11 and after 13 events) and across the
    spurious CAS failure (after 15 and after 16 events) -/
example : ((runLog step P1.s (earlyLog.take 11)).map mu, (runLog step P1.s (earlyLog.take 13)).map mu,
    (runLog step P1.s (earlyLog.take 15)).map mu, (runLog step P1.s (earlyLog.take 16)).map mu) =
    (some 75, some 75, some 26, some 26) := by decide
/-- an operation that is not in the program is rejected; so is `done` before the list is empty -/
example : pstep P1 (.inv 1 .rs) = none ∧ pstep P1 (.done 0) = none ∧ (pstep P1 (.done 2)).isNone = true := by decide

end PikaVerif.C14t
