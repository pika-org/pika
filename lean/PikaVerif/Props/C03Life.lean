import PikaVerif.Lemmas.SharedLife
import PikaVerif.Props.C03
/-!
# C03 — lifetime clauses for the shared-state adaptors (split / split_tuple / ensure_started)

"Nothing is signalled after the operation state may be destroyed, and every object stored by the
operation is destroyed exactly once", for the reference-counted shared state.
The clauses: (a) `C03_shared_no_touch_after_release`, (b) `C03_shared_destroyed_exactly_once`,
(c) the pinned `split_tuple`, which violates (a): `C03_split_tuple_pinned_touch_after_release`.

`PikaVerif.SharedLife.step` (Model/SharedLife.lean) layers ownership on the protocol acceptor
`PikaVerif.Shared.step`: the list `holders` of live `intrusive_ptr`s (the handle, each consumer's sender,
each consumer's operation state, the predecessor's receiver), the reference count = its length (every
count logged by the hooks `sh.ref` / `sh.unref` in `intrusive_ptr_add_ref` / `intrusive_ptr_release` is
compared with it), the flag `freed` / counter `nfree` set by the release that reaches zero (hook
`sh.free` at the deallocation), and the flag `uaf` raised by any event that reads or writes the shared
state after `freed`.  The acceptor never refuses such an event: that it cannot happen is the theorem.

All theorems quantify over every configuration (`kind` split / split_tuple / ensure_started, repaired or
pinned treatment of stopped, self-deleting or leaked consumers, any set of consumer senders, with or
without a surviving handle) with `rcvHolds = true` (the predecessor's receiver holds an `intrusive_ptr`:
split, ensure_started, repaired split_tuple) and every accepted log (every interleaving, any number of
threads and consumers).  `rcvHolds = false` is the PINNED split_tuple, for which (a) fails.
-/
namespace PikaVerif.C03
open PikaVerif PikaVerif.Shared PikaVerif.SharedLife

def LReach (c : SharedLife.Cfg) (s : SharedLife.St) : Prop :=
  ∃ log, runLog SharedLife.step (SharedLife.init c) log = some s

/-- The protocol state underneath a reachable state of the ownership model is a reachable state of the
    protocol model: every theorem about the shared state in `Props/C03.lean` (`C03_split_each_consumer_once`,
    `C03_split_progress`, …) applies to `s.b`. -/
theorem C03_shared_life_refines (c : SharedLife.Cfg) (s : SharedLife.St) (hr : LReach c s) :
    SReach s.b := by
  obtain ⟨log, hl⟩ := hr
  exact ⟨c.kind, c.stores, log.flatMap SharedLife.Ev.proj, runLog_proj _ _ log hl⟩

/-- (a) No event of any thread touches the shared state after it was freed (`uaf = false`), because
    every thread whose program counter is inside `add_continuation` (from `start()` to the completion
    of its own receiver or to the release of the lock after storing the continuation) is covered by the
    reference of its own operation state, every thread inside the predecessor's receiver call
    (`set_value/error/stopped` → `set_predecessor_done` incl. the continuation loop; stage < finished)
    is covered by the reference of the receiver on its stack, and while any reference exists the state
    is not freed. -/
theorem C03_shared_no_touch_after_release (c : SharedLife.Cfg) (hc : c.rcvHolds = true)
    (s : SharedLife.St) (hr : LReach c s) :
    s.uaf = false ∧
    (∀ t k, (consOf (s.b.pc t) = some k ∨ s.b.pc t = .pushed k) → Ref.ops k ∈ s.holders) ∧
    (∀ t, isProd (s.b.pc t) = true → s.b.pst.rank < 6 → Ref.rcv ∈ s.holders) ∧
    (∀ r, r ∈ s.holders → s.freed = false) := by
  obtain ⟨log, hl⟩ := hr
  have hi := lfinv_of_accepted hc hl
  have hrh : s.rcvHolds = true :=
    inv_of_runLog (fun s => s.rcvHolds = true) (fun _ _ _ h0 h => (step_proj h).2.trans h0) hc hl
  refine ⟨hi.core.noUaf hrh, ?_, ?_, fun r hm => not_freed_of_mem hi.core hm⟩
  · intro t k h
    rcases h with h | h
    · exact hi.cov.consHold t k h
    · exact hi.cov.queuedHold k (hi.core.xinv.pushedQ t k h)
  · intro t _ hlt
    exact hi.cov.rcvHold hrh hlt

/-- (b) The shared state is freed at most once, exactly when the reference count reaches zero; and in
    every final state (all threads idle or finished) of a run with self-deleting consumers in which the
    predecessor completed and neither the handle nor any consumer's unconnected sender is left (every
    sender was connected and started, or discarded), it has been freed exactly once and no reference
    is left. -/
theorem C03_shared_destroyed_exactly_once (c : SharedLife.Cfg) (hc : c.rcvHolds = true)
    (s : SharedLife.St) (hr : LReach c s) :
    s.nfree ≤ 1 ∧ (s.freed = true ↔ s.nfree = 1) ∧ (s.freed = true ↔ s.rc = 0) ∧
    ((∀ t, s.b.pc t = .idle ∨ s.b.pc t = .fin) → s.selfdel = true → s.b.sig ≠ none →
      (∀ r, r ∈ s.holders → r ≠ Ref.handle ∧ ∀ k, r ≠ Ref.snd k) →
      s.freed = true ∧ s.nfree = 1 ∧ s.holders = []) := by
  obtain ⟨log, hl⟩ := hr
  have hi := lfinv_of_accepted hc hl
  have hn := hi.core.nfreeEq
  refine ⟨by grind, by grind, by rw [hi.core.freedIff, St.rc, List.eq_nil_iff_length_eq_zero],
    fun hq hsd hsig hno => ?_⟩
  have hpst : s.b.pst ≠ .none := fun h => hsig (hi.core.full.sinv.sigNone.mpr h)
  have hnp : ∀ t, isProd (s.b.pc t) = false := by
    intro t; rcases hq t with h | h <;> simp [h, isProd]
  have hfin : s.b.pst = .finished := by
    have := hi.core.full.inv.prodActive hpst; grind [hnp s.b.ptid]
  have hnil : s.holders = [] := by
    apply List.eq_nil_iff_forall_not_mem.mpr
    intro r hm
    cases r with
    | handle => exact (hno _ hm).1 rfl
    | snd k => exact (hno _ hm).2 k rfl
    | rcv => have := hi.cov.rcvJust hm; grind [hnp s.b.ptid]
    | ops k =>
      -- nobody works for `k`, nothing is queued, and a self-deleting consumer that received gave it up
      have := hi.cov.opsJust k hm
      have := hi.core.full.pinv.activeCons k
      have := hi.core.full.cinv.contsQ k
      have := hi.core.full.inv.finishedEmpty hfin
      have := hq (s.b.owner k)
      grind [consOf]
  have hf := hi.core.freedIff.mpr hnil
  exact ⟨hf, by grind, hnil⟩

/-! ### (c) the pinned `split_tuple`

`split_tuple_receiver` of the pinned tree holds `shared_state&`, not an `intrusive_ptr`
(`rcvHolds = false`).  The schedule of `findings/C03-split-tuple-touch-after-release.case`: consumer 1
reads `predecessor_done = false`; element 0's sender is discarded; the predecessor completes (error 8)
on thread 0, sets the flag, takes and releases the lock; consumer 1 takes the lock, sees the flag, is
completed inline, its self-deleting operation state releases the last reference → the state is freed;
thread 0, still inside `set_predecessor_done`, reads `continuations` (`sh.run`). -/

def pinnedTuple : SharedLife.Cfg :=
  { kind := .tuple, stores := true, rcvHolds := false, selfdel := true, handle := false, snds := [0, 1] }

def pinnedTupleLog : List SharedLife.Ev :=
  [.base (.invConsume 1 1), .base (.seen1 1 false), .discard 0 0 1 false,
   .base (.invComplete 0 ⟨2, 8⟩), .base (.fire 0 ⟨2, 8⟩), .base (.flag 0 2), .base (.slAcq 0),
   .base (.slRel 0), .base (.slAcq 1), .base (.seen2 1 true), .base (.slRel 1),
   .rcvDel 1 1 (.error 8) 0 true, .base (.ret 1), .base (.tdone 1), .base (.run 0 2)]

/-- The pinned `split_tuple` violates (a): the log is accepted, the state is freed (once) by the
    consumer's completion, and the predecessor's thread touches it afterwards. -/
theorem C03_split_tuple_pinned_touch_after_release :
    (runLog SharedLife.step (SharedLife.init pinnedTuple) pinnedTupleLog).map
      (fun s => (s.freed, s.nfree, s.uaf, isProd (s.b.pc 0), s.b.pst)) =
    some (true, 1, true, true, .finished) := by decide

/-- The repaired tree on the same schedule (the receiver's reference is the last one): accepted, no
    touch after release, freed exactly once when the receiver call returns. -/
example : (runLog SharedLife.step (SharedLife.init { pinnedTuple with rcvHolds := true })
    [.base (.invConsume 1 1), .base (.seen1 1 false), .discard 0 0 2 false,
     .base (.invComplete 0 ⟨2, 8⟩), .base (.fire 0 ⟨2, 8⟩), .base (.flag 0 2), .base (.slAcq 0),
     .base (.slRel 0), .base (.slAcq 1), .base (.seen2 1 true), .base (.slRel 1),
     .rcvDel 1 1 (.error 8) 1 false, .base (.ret 1), .base (.tdone 1), .base (.run 0 2),
     .unrefR 0 0 true, .base (.ret 0), .base (.tdone 0)]).map
      (fun s => (s.freed, s.nfree, s.uaf, s.holders)) = some (true, 1, false, []) := by decide

/-- Non-vacuity for `split` with a surviving handle and a leaked operation state (the default harness
    mode): the consumer copies the handle; nothing is freed. -/
example : (runLog SharedLife.step (SharedLife.init
      { kind := .split, stores := true, rcvHolds := true, selfdel := false, handle := true, snds := [] })
    [.base (.invComplete 0 ⟨0, 4⟩), .base (.ret 0), .consumeCopy 1 0 3, .base (.fire 1 ⟨0, 4⟩),
     .base (.flag 1 3), .base (.slAcq 1), .base (.slRel 1), .base (.run 1 0), .unrefR 1 2 false,
     .base (.seen1 1 true), .base (.rcv 1 0 (.value 4)), .base (.ret 1)]).map
      (fun s => (s.freed, s.uaf, s.rc)) = some (false, false, 2) := by decide

end PikaVerif.C03
