import PikaVerif.Lemmas.Sched3Ex
import PikaVerif.Props.C02
/-!
# C02x — no lost wake-up, end to end

`Props/C02.lean` proves the pieces (a successful exchange creates the token, the winner must queue,
request endings are justified and effective, a helper that gives up on a tag change is sound).  This
file composes them into the property in log form.

**`C02_no_lost_wakeup`.**  Take any accepted log, any wake-up request in it (an `sts.enter` event:
`set_thread_state(thrd, pending, …)` called by a worker, a helper task or a plain OS thread) and
suppose the log ends in a *quiescent* state: the model accepts no internal event (nothing in
progress can take a step — `Sched.Quiescent` / `Sched.Internal` in `Lemmas/Sched3.lean`, the
base-model form of `C01.Stuck` / `C01.Internal`) and every helper task
that decided to retry has re-entered `set_thread_state` (in the code `sas.retry` is followed by the
call in straight line; `owing [] post = []`).  Then, *after the request*, the log contains an
activation exchange of the target (`sw.tagged`: it runs again), or an effective fetch of the target's
restart state by its running phase (`sw.setex` changing the word: the request raced with an
activation that was already under way and whose body resumed after the request), or the target is
terminated at the end.  No hypothesis on the target's state at the time of the request, on the number
of wakers, helpers, workers, or on the order of their steps.

**`C02_no_lost_wakeup_registered`** is the statement of the property proper: if the request is
issued when the target is suspended, or while it is still active *inside the body of its phase*
(restart state already fetched: that is where a task registers itself as a waiter — including the
window in which it has released the internal lock and not yet finished switching off its worker),
then the target is **activated again after the request**, or is terminated at the end.

The helper task's abort (`set_active_state` gives up when the state it loads is `active` like the
remembered one and the words differ) is covered in both of its forms: on a tag change
(`C02_helper_abort_sound`) and on a change of the restart state alone under the same tag
(`C02_helper_abort_same_tag`: the remembered word still had a restart state to be fetched, the
loaded word has it reset; `C02_restart_state_changed_by_phase`: within one activation the restart
state changes only by the effective `sw.setex` of the running phase, so the target's body has
resumed since the helper's observation).  The end-to-end theorem does not assume either: it is
proved through both.
-/
namespace PikaVerif.C02
open PikaVerif.Sched

/-- **No lost wake-up (log form).**  `pre` = the log up to the request, `post` = everything after
    it; `isTagged o` = an activation exchange of `o`, `isSetex o` = an effective fetch of the restart
    state of `o` by its running phase (`Lemmas/Sched3.lean`). -/
theorem C02_no_lost_wakeup (pre post : List Ev) (a o ns : Nat) (s : St)
    (h : runLog step init (pre ++ .stsEnter a o ns :: post) = some s)
    (hq : Quiescent s) (hre : owing [] post = []) :
    post.any (isTagged o) = true ∨ post.any (isSetex o) = true ∨ (s.obj o).w.st = sTerminated := by
  rcases wakeup_progress h with h1 | h1 | h1 | ⟨_, h1⟩ | ⟨e, hI, hs⟩
  · exact .inl h1
  · exact .inr (.inl h1)
  · exact .inr (.inr h1)
  · rw [hre] at h1; cases h1
  · rw [hq e hI] at hs; cases hs

/-- **No lost wake-up for a registered waiter: it is activated again.**  If, when the request is
    issued, the target is not active (suspended: its phase has returned; or already pending), or is
    active with its restart state already fetched (it is inside the body of its phase, where a task
    registers itself as a waiter — this includes the window in which it has released the internal
    lock but has not finished switching off its worker), then at quiescence an activation exchange of
    the target has been logged after the request, or the target is terminated. -/
theorem C02_no_lost_wakeup_registered (pre post : List Ev) (a o ns : Nat) (s0 s : St)
    (h0 : runLog step init pre = some s0)
    (h : runLog step init (pre ++ .stsEnter a o ns :: post) = some s)
    (hreg : (s0.obj o).w.st ≠ sActive ∨ (s0.obj o).w.ex = exSignaled)
    (hq : Quiescent s) (hre : owing [] post = []) :
    post.any (isTagged o) = true ∨ (s.obj o).w.st = sTerminated := by
  rcases C02_no_lost_wakeup pre post a o ns s h hq hre with h1 | h1 | h1
  · exact Or.inl h1
  · left
    obtain ⟨s0', h0', h1'⟩ := runLog_prefix h
    rw [h0] at h0'
    simp only [Option.some.injEq] at h0'
    subst h0'
    have := setex_needs_tagged (inv_of_accepted h0) h1' hreg (by simpa [isSetex] using h1)
    simpa [isTagged] using this
  · exact Or.inr h1

/-- **The restart state is fetched only by the running phase**: an effective `sw.setex` is accepted
    only from the actor that owns the activation, inside its phase; it replaces a restart state that
    was not `signaled` by `signaled`. -/
theorem C02_setex_only_by_running_phase (s s' : St) (a o : Nat) (b af : W)
    (h : step s (.setex a o b af) = some s') (hne : b ≠ af) :
    (s.obj o).owner = some a ∧ (s.obj o).inPhase = true ∧ b.ex ≠ exSignaled ∧ af.ex = exSignaled := by
  simp only [step] at h
  split at h
  · rename_i hg
    obtain ⟨hl, ho, hph, hb, haf⟩ := hg
    refine ⟨ho, hph, ?_, by subst haf; rfl⟩
    intro hex
    exact hne (by subst hb; subst haf; exact W_ext _ _ rfl hex rfl)
  · simp at h

/-- **Within one activation the restart state changes only by that fetch.**  Over any accepted log
    segment in which the target made no transition into pending and is active at both ends (hence in
    one and the same activation: the tag is the same), a different restart state at the end means
    that the segment contains an effective `sw.setex` of the target — its phase has started (or
    resumed) in between. -/
theorem C02_restart_state_changed_by_phase (seg : List Ev) (s1 s2 : St) (hr : C01.Reachable s1)
    (h : runLog step s1 seg = some s2) (o : Nat) (hep : (s2.obj o).epoch = (s1.obj o).epoch)
    (h1 : (s1.obj o).w.st = sActive) (h2 : (s2.obj o).w.st = sActive) :
    (s2.obj o).w.tag = (s1.obj o).w.tag ∧
    ((s2.obj o).w.ex ≠ (s1.obj o).w.ex → seg.any (isSetex o) = true) := by
  obtain ⟨log, hlog⟩ := hr
  have := ex_log (inv_of_accepted hlog) h hep (not_pendingish_of_active h1) h2
  grind

/-- **A helper that gives up under an equal tag is sound too** (the corner left open by
    `C02_helper_abort_sound`).  Whenever the model accepts a helper's abort, the target has made a
    transition into pending since the observation the helper was created from (`he < ce`: it was
    queued and activated again, `C01_no_drop`), or — same epoch, same tag, the very same activation —
    the remembered word still carried a restart state to be fetched (not `signaled`) and the loaded
    word has it reset: by `C02_restart_state_changed_by_phase` / `C02_setex_only_by_running_phase`
    the target's own phase has fetched it since that observation, i.e. the target has resumed
    execution after the wake-up request was made; the request the helper drops was aimed at a
    suspension that had already ended (`C02_no_lost_wakeup` is proved through this case). -/
theorem C02_helper_abort_same_tag (s s' : St) (hr : C01.Reachable s) (a o : Nat)
    (h : step s (.sasAbort a o) = some s') :
    ∃ cur prev he ce, (s.act a).sas = some (o, cur, prev, he, ce) ∧ prev.st = sActive ∧ cur.st = sActive ∧
      (he < ce ∨ (he = ce ∧ cur.tag = prev.tag ∧ prev.ex ≠ exSignaled ∧ cur.ex = exSignaled)) := by
  obtain ⟨log, hlog⟩ := hr
  obtain ⟨hi, hx⟩ := invx_of_accepted hlog
  obtain ⟨o, cur, prev, he, ce, hs, ⟨rfl, hst, hne⟩, _⟩ := of_sas h
  -- same epoch: same tag (`Inv2.sas`) and restart state equal or reset (`InvX.sas`); the words differ
  have := hi.sas a o cur prev he ce hs
  have := hx.sas a o cur prev he ce hs
  have := W_ext cur prev
  exact ⟨cur, prev, he, ce, hs, by grind⟩

/-- A state in which every constructed object is at rest and no actor is inside
    `set_thread_state` / `set_active_state` is quiescent (so the hypothesis of `C02_no_lost_wakeup`
    is satisfiable exactly where one expects it). -/
theorem C02_quiescent_of_rest (s : St)
    (hobj : ∀ o, (s.obj o).live = true → (s.obj o).fresh = false ∧ (s.obj o).q = 0 ∧ (s.obj o).holder = none ∧
      (s.obj o).pusher = none ∧ (s.obj o).owner = none ∧ (s.obj o).helpers = [])
    (hact : ∀ a, (s.act a).sts = .out ∧ (s.act a).sas = none) : Quiescent s :=
  quiescent_of_rest s hobj hact

/-! ## Non-vacuity

`raceLog` (`Lemmas/Sched3Ex.lean`): the wake-up races with the end of the phase — the waker finds the
task still active inside its body, a helper is created, the worker stores `suspended`, the helper
retries, wins the exchange and queues the task, which is activated again and terminates.  All
hypotheses of both theorems hold, and the conclusion holds through its first disjunct. -/

example : runLog step init (racePre ++ .stsEnter 2 1 sPending :: racePost) = some sRace ∧ Quiescent sRace ∧
    owing [] racePost = [] ∧ racePost.any (isTagged 1) = true :=
  ⟨sRace_run, sRace_quiescent, by decide, by decide⟩

example : ∃ s0, runLog step init racePre = some s0 ∧ (s0.obj 1).w.st = sActive ∧ (s0.obj 1).w.ex = exSignaled :=
  ⟨(runLog step init racePre).get (by decide), by simp, by decide, by decide⟩

/-! `cornerLog`: the helper's abort under an equal tag.  The request is issued while the target is
active and has *not* fetched its restart state (`abort`, left by an interrupt) yet; the helper
aborts after the phase fetched it; the target suspends again.  The log is accepted, its final state
is quiescent with the target suspended, and no activation exchange follows the request: the second
disjunct of `C02_no_lost_wakeup` (the body resumed after the request) is what holds, and the
hypothesis `hreg` of `C02_no_lost_wakeup_registered` is what excludes this log there. -/

example : runLog step init (cornerPre ++ .stsEnter 3 1 sPending :: cornerPost) = some sCorner ∧
    Quiescent sCorner ∧ owing [] cornerPost = [] ∧ cornerPost.any (isTagged 1) = false ∧
    cornerPost.any (isSetex 1) = true ∧ (sCorner.obj 1).w.st = sSuspended :=
  ⟨sCorner_run, sCorner_quiescent, by decide, by decide, by decide, by rw [sCorner_eq]; rfl⟩

/-- a helper that owes the re-entry is seen by `owing` -/
example : owing [] [.sasRetry 3 1] = [(3, 1)] ∧ owing [] [.sasRetry 3 1, .stsEnter 3 1 sPending] = [] := by decide

end PikaVerif.C02
