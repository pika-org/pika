import PikaVerif.Lemmas.AffPool
import PikaVerif.Lemmas.AffCmd
/-!
# C15 — workers are pinned to distinct PUs inside the process mask

Property theorems about the model `PikaVerif.Aff` (`Model/Aff.lean`) of
`parse_affinity_options.cpp`, `affinity_data::init`, the topology accessors and the resource
partitioner's PU → pool assignment.  Every theorem quantifies over *all* machine shapes
(`Topo`: any number of cores, any number of PUs per core, any grouping into sockets), all
process masks, all thread counts and both settings of `use_process_mask`.

Hypotheses that appear:
* `WF t` — the machine has a core and every core has a PU;
* `cfg.usePm = true ∨ cfg.used = 0` — `used_cores = 0`, the only value pika passes
  (`init_runtime.cpp` passes the literal `0`; it is reset to 0 anyway when the mask is used);
* for `compact` only: `cfg.usePm = true ∨ cfg.n ≤ cfg.maxCores` — `--pika:cores` is not
  below the thread count when the process mask is ignored (the default is `cores = threads`).
  Without it the property is **false of the code** (`C15_compact_oversubscribes_maxcores`),
  and scatter / balanced do not return (`C15_scatter_hangs_maxcores`, `C15_balanced_hangs_maxcores`).

`numa-balanced` violates the property in the pinned tree; the model reproduces it
(`C15_numa_reported_pu_differs`, `C15_numa_thread_unbound`), the provable rest is in the
`_partial` theorems.
-/
namespace PikaVerif.C15
open PikaVerif.Aff

/-- `used_cores = 0` as far as the decoders can see it -/
def UsedZero (cfg : Cfg) : Prop := cfg.usePm = true ∨ cfg.used = 0

/-- `--pika:cores` does not cut the machine below the number of threads -/
def CoresOK (cfg : Cfg) : Prop := cfg.usePm = true ∨ cfg.n ≤ cfg.maxCores

theorem effUsed_zero (cfg : Cfg) (h : UsedZero cfg) : effUsed cfg = 0 := by
  unfold effUsed; cases h with
  | inl h => simp [h]
  | inr h => simp [h]

theorem not_tooMany_of_ok {cfg : Cfg} (h : tooMany cfg = false) : cfg.n ≤ avail cfg :=
  le_avail_of_not_tooMany h

/-- all clauses of C15 about the decoded masks, for compact / scatter / balanced -/
theorem decode_good (m : Mode) (hm : m ≠ .numaBalanced) (cfg : Cfg) (hwf : WF cfg.t)
    (hu : UsedZero cfg) (hc : m = .compact → CoresOK cfg) (aff : Nat → List Nat) (pn : Nat → Nat)
    (h : decode m cfg = .ok aff pn) : Good cfg aff pn := by
  cases m with
  | numaBalanced => exact absurd rfl hm
  | scatter => exact scatter_ok cfg (effUsed_zero cfg hu) aff pn h
  | balanced => exact balanced_ok cfg (effUsed_zero cfg hu) aff pn h
  | compact =>
    have hn : cfg.n ≤ avail cfg := by
      apply not_tooMany_of_ok
      cases ht : tooMany cfg with
      | false => rfl
      | true => simp [decode, decodeCompact, ht] at h
    obtain ⟨aff', pn', h1, h2⟩ := compact_spec cfg hwf (effUsed_zero cfg hu) (hc rfl) hn
    simp only [decode] at h
    rw [h1] at h
    cases h
    exact h2

/-- **Each worker is bound to exactly one PU inside the effective process mask** (and inside
    the machine). -/
theorem C15_singleton_in_mask (m : Mode) (hm : m ≠ .numaBalanced) (cfg : Cfg) (hwf : WF cfg.t)
    (hu : UsedZero cfg) (hc : m = .compact → CoresOK cfg) (aff : Nat → List Nat) (pn : Nat → Nat)
    (h : decode m cfg = .ok aff pn) (i : Nat) (hi : i < cfg.n) :
    ∃ q, aff i = [q] ∧ q < numPus cfg.t ∧ (cfg.usePm = true → cfg.pm q = true) := by
  obtain ⟨q, h1, _, h3, h4⟩ := (decode_good m hm cfg hwf hu hc aff pn h).bound i hi
  refine ⟨q, h1, h3, ?_⟩
  intro hp
  simpa [ind, hp] using h4

/-- **Two workers never share a PU.** -/
theorem C15_distinct (m : Mode) (hm : m ≠ .numaBalanced) (cfg : Cfg) (hwf : WF cfg.t)
    (hu : UsedZero cfg) (hc : m = .compact → CoresOK cfg) (aff : Nat → List Nat) (pn : Nat → Nat)
    (h : decode m cfg = .ok aff pn) (i j : Nat) (hi : i < cfg.n) (hj : j < cfg.n) (hij : i ≠ j) :
    aff i ≠ aff j :=
  (decode_good m hm cfg hwf hu hc aff pn h).distinct i j hi hj hij

/-- **The PU number pika reports for a worker is the PU it is bound to.** -/
theorem C15_reported_pu_is_bound (m : Mode) (hm : m ≠ .numaBalanced) (cfg : Cfg) (hwf : WF cfg.t)
    (hu : UsedZero cfg) (hc : m = .compact → CoresOK cfg) (aff : Nat → List Nat) (pn : Nat → Nat)
    (h : decode m cfg = .ok aff pn) (i : Nat) (hi : i < cfg.n) : aff i = [pn i] := by
  obtain ⟨q, h1, h2, _⟩ := (decode_good m hm cfg hwf hu hc aff pn h).bound i hi
  rw [h1, h2]

/-- **Oversubscription is rejected** (all four binding modes): a request for more threads than
    there are processing units in the effective process mask (or in the machine, when the mask
    is ignored) raises `bad_parameter`; no masks are produced. -/
theorem C15_reject_oversubscription (m : Mode) (cfg : Cfg) (h : avail cfg < cfg.n) :
    decode m cfg = .error .tooMany := by
  have ht : tooMany cfg = true := by
    unfold tooMany avail at *
    split <;> simp_all
  cases m <;> simp [decode, decodeCompact, decodeScatter, decodeBalanced, decodeNuma, ht]

/-- **A satisfiable compact request is accepted**: the decoder returns (no error, no endless
    loop) whenever the thread count fits. -/
theorem C15_compact_accepts_satisfiable (cfg : Cfg) (hwf : WF cfg.t) (hu : UsedZero cfg)
    (hc : CoresOK cfg) (hn : cfg.n ≤ avail cfg) : ∃ aff pn, decode .compact cfg = .ok aff pn := by
  obtain ⟨aff, pn, h, _⟩ := compact_spec cfg hwf (effUsed_zero cfg hu) hc hn
  exact ⟨aff, pn, h⟩

/-- **`affinity_data::init`**: what is stored after a successful `init` with a binding mode
    satisfies all clauses. -/
theorem C15_init_bound (m : Mode) (hm : m ≠ .numaBalanced) (cfg : Cfg) (hwf : WF cfg.t)
    (hu : UsedZero cfg) (hc : m = .compact → CoresOK cfg) (aff : Nat → List Nat) (pn : Nat → Nat)
    (h : affInit (some m) cfg = .bound aff pn) : Good cfg aff pn :=
  decode_good m hm cfg hwf hu hc _ _ (affInit_bound_iff.1 h).1

/-- **Binding `none`: `affinity_data::init` stores no mask for any worker** (whatever the topology,
    mask and thread count).  What `get_pu_mask` then answers per worker is another matter:
    `C15_none_unbound_start`, `C15_none_oversubscribed_binds_partial`. -/
theorem C15_none_unbound (cfg : Cfg) : ∃ pn, affInit none cfg = .unbound pn := ⟨_, rfl⟩

/-! ## Pools -/

/-- states of the resource partitioner reachable through `create_thread_pool` /
    `add_resource` / `configure_pools` from the PUs exposed by the affinity masks -/
def PoolReachable (s : Pool.St) : Prop :=
  ∃ exposed osThreads log, exposed.Nodup ∧
    runLog Pool.step (Pool.init exposed osThreads) log = some s

theorem pool_inv (s : Pool.St) (h : PoolReachable s) : Pool.Inv s := by
  obtain ⟨e, o, log, hn, hl⟩ := h
  exact inv_of_runLog Pool.Inv (fun s e s' hi hs => Pool.step_inv s s' e hi hs)
    (Pool.init_inv e o hn) hl

/-- **Every worker belongs to exactly one thread pool, pools never share a PU.**  In every
    reachable partitioner state no PU occurs twice in a pool, no PU occurs in two pools, and
    only exposed PUs are handed out (a worker is an entry of a pool: `reconfigure_affinities`
    gives worker `(pool i, entry j)` the mask `{pool i [j]}` and that PU number). -/
theorem C15_pool_partition (s : Pool.St) (h : PoolReachable s) :
    (∀ i, (s.pool i).Nodup) ∧ (∀ i j p, i ≠ j → p ∈ s.pool i → p ∉ s.pool j) ∧
    (∀ i p, p ∈ s.pool i → i < s.npools ∧ p ∈ s.exposed) := by
  have hi := pool_inv s h
  refine ⟨hi.nodup, hi.disj, ?_⟩
  intro i p hp
  have hlt := hi.inside i p hp
  exact ⟨hlt, ((hi.cover p).1 ⟨i, hlt, hp⟩).1⟩

/-- **After `configure_pools` every exposed PU is in exactly one pool**: nothing the affinity
    masks bind a worker to is lost, and no pool is empty. -/
theorem C15_pool_cover (s s' : Pool.St) (e : Pool.Ev) (h : PoolReachable s)
    (hs : Pool.step s e = some s') (hc : s'.configured = true) (p : Nat) (hp : p ∈ s'.exposed) :
    ∃ i, i < s'.npools ∧ p ∈ s'.pool i ∧ ∀ j, p ∈ s'.pool j → j = i := by
  have hi' := Pool.step_inv s s' e (pool_inv s h) hs
  have hocc := Pool.configured_full s s' e hs hc p hp
  obtain ⟨i, hi, hm⟩ := (hi'.cover p).2 ⟨hp, hocc⟩
  refine ⟨i, hi, hm, ?_⟩
  intro j hj
  by_cases hji : j = i
  · exact hji
  · exact absurd hm (hi'.disj j i p hji hj)

/-! ## Where the property is false of the pinned code (machine-checked witnesses) -/

/-- the masks of a result; the impossible mask `[0, 0]` when the decoder did not return masks, so that
    a statement about `affOf` of a result also says the decoder returned -/
def affOf : Res → Nat → List Nat
  | .ok aff _, i => aff i
  | _, _ => [0, 0]
def pnOf : Res → Nat → Nat
  | .ok _ pn, i => pn i
  | _, _ => 0
def isOk : Res → Bool
  | .ok _ _ => true
  | _ => false
def isDiverge : Res → Bool
  | .diverge => true
  | _ => false

/-- 3 sockets × 2 cores × 2 PUs (`HWLOC_SYNTHETIC="pack:3 core:2 pu:2"`), full mask -/
def t322 : Topo := { nc := 6, pus := fun _ => 2, socks := [2, 2, 2] }
def cfg322 (n : Nat) : Cfg :=
  { t := t322, pm := fun _ => true, usePm := true, used := 0, maxCores := n, n := n }

/-- FULL STATEMENT THAT FAILS: `C15_reported_pu_is_bound` for `m = .numaBalanced`.
    Witness: 4 threads on 3×2×2 — worker 1 is bound to PU 4 but pika reports PU 0
    (`get_pu_number(num_core + used_cores, …)` lacks `core_offset`). -/
theorem C15_numa_reported_pu_differs :
    isOk (decode .numaBalanced (cfg322 4)) = true ∧
    affOf (decode .numaBalanced (cfg322 4)) 1 = [4] ∧
    pnOf (decode .numaBalanced (cfg322 4)) 1 = 0 := by decide

/-- FULL STATEMENT THAT FAILS: `C15_singleton_in_mask` for `m = .numaBalanced`.
    Witness: 4 threads on 3×2×2 (12 PUs available) — each socket gets round(4·4/12) = 1
    thread, worker 3 is left with an empty mask; `affinity_data::init` then refuses the
    (satisfiable) request. -/
theorem C15_numa_thread_unbound :
    isOk (decode .numaBalanced (cfg322 4)) = true ∧
    affOf (decode .numaBalanced (cfg322 4)) 3 = [] ∧
    (match affInit (some .numaBalanced) (cfg322 4) with
     | .error .notAllBound => true
     | _ => false) = true := by decide

/-- 1 socket × 2 cores × 1 PU, process mask ignored, `--pika:cores=1`, 2 threads -/
def t21 : Topo := { nc := 2, pus := fun _ => 1, socks := [2] }
def cfg21 : Cfg :=
  { t := t21, pm := fun _ => true, usePm := false, used := 0, maxCores := 1, n := 2 }

/-- FULL STATEMENT THAT FAILS: `C15_distinct` for compact without `CoresOK`.  Witness: both
    workers are bound to PU 0 although 2 PUs exist and no error is raised. -/
theorem C15_compact_oversubscribes_maxcores :
    affOf (decode .compact cfg21) 0 = [0] ∧ affOf (decode .compact cfg21) 1 = [0] := by decide

/-- Same request with scatter / balanced: the decoder never returns. -/
theorem C15_scatter_hangs_maxcores : isDiverge (decode .scatter cfg21) = true := by decide
theorem C15_balanced_hangs_maxcores : isDiverge (decode .balanced cfg21) = true := by decide

/-- asymmetric machine: 3 sockets with one core each, the cores have 2, 4 and 3 PUs -/
def tAsym1 : Topo := { nc := 3, pus := fun c => [2, 4, 3].getD c 1, socks := [1, 1, 1] }
/-- asymmetric machine: 2 sockets × 2 cores, PUs per core 3,3 / 2,4 -/
def tAsym2 : Topo := { nc := 4, pus := fun c => [3, 3, 2, 4].getD c 1, socks := [2, 2] }
def cfgAsym (t : Topo) (n : Nat) : Cfg :=
  { t := t, pm := fun _ => true, usePm := true, used := 0, maxCores := n, n := n }

/-- numa-balanced on a machine whose cores differ in size: 6 threads on 9 PUs — the decoder
    never returns (`get_number_of_core_pus(num_core)` lacks `core_offset`, socket 1 looks for
    3 usable PUs on a core it believes to have 2). -/
theorem C15_numa_hangs_asymmetric :
    isDiverge (decode .numaBalanced (cfgAsym tAsym1 6)) = true := by decide

/-- numa-balanced on a machine whose cores differ in size: 10 threads on 12 PUs — workers 5
    and 7 are both bound to PU 6 (`pu % arity` wraps on the smaller core). -/
theorem C15_numa_shares_pu_asymmetric :
    affOf (decode .numaBalanced (cfgAsym tAsym2 10)) 5 = [6] ∧
    affOf (decode .numaBalanced (cfgAsym tAsym2 10)) 7 = [6] := by decide

/-! ## numa-balanced: what does hold -/

theorem roundDiv_self (n p : Nat) (hp : 0 < p) : roundDiv (n * p) p = n := by
  unfold roundDiv
  have h1 : 2 * (n * p) + p = p + 2 * p * n := by
    rw [Nat.mul_comm n p, ← Nat.mul_assoc]; omega
  rw [h1, Nat.add_mul_div_left _ _ (by omega : 0 < 2 * p)]
  have : p / (2 * p) = 0 := Nat.div_eq_of_lt (by omega)
  omega

/-- **numa-balanced on a machine with one socket is the balanced decoder** (so all clauses
    above hold for it there), provided the mask is used and contains a PU of the machine. -/
theorem C15_numa_single_socket_partial (cfg : Cfg) (hs : cfg.t.socks = [cfg.t.nc] ∨ cfg.t.socks = [])
    (hp : cfg.usePm = true) (hm : 0 < socketPusInMask cfg 0 cfg.t.nc) :
    decode .numaBalanced cfg = decode .balanced cfg := by
  have hns : numSockets cfg.t = 1 := by rcases hs with h | h <;> simp [numSockets, h]
  have hsc : socketCores cfg.t 0 = cfg.t.nc := by rcases hs with h | h <;> simp [socketCores, h]
  have hec : effCores cfg = cfg.t.nc := by simp [effCores, hp]
  have hoff : sockOff cfg.t 0 = 0 := rfl
  have hT : numaPusT cfg = socketPusInMask cfg 0 cfg.t.nc := by
    simp [numaPusT, hns, sumTo, hsc, hoff]
  simp only [decode, decodeNuma, decodeBalanced, hns, numaShares, hsc, hoff, hT, hec,
    roundDiv_self cfg.n _ hm, Nat.zero_add, Nat.lt_irrefl, ↓reduceIte, numaSockets, Nat.add_zero]
  split
  · rfl
  · cases balPhase1 cfg 0 cfg.n cfg.t.nc with
    | none => rfl
    | some b =>
      simp only
      cases balPhase2 cfg b (effUsed cfg) (effUsed cfg) cfg.t.nc ASt.init <;> rfl

/-- **numa-balanced rejects oversubscription** — instance of `C15_reject_oversubscription`. -/
theorem C15_numa_reject_partial (cfg : Cfg) (h : avail cfg < cfg.n) :
    decode .numaBalanced cfg = .error .tooMany := C15_reject_oversubscription _ cfg h

/-! ## Non-vacuity: accepted requests exist for every mode, with asymmetric masks -/

/-- 2 sockets × 2 cores × 2 PUs, asymmetric process mask {1, 2, 3, 6} -/
def t222 : Topo := { nc := 4, pus := fun _ => 2, socks := [2, 2] }
def cfgA (n : Nat) : Cfg :=
  { t := t222, pm := fun q => q == 1 || q == 2 || q == 3 || q == 6, usePm := true, used := 0,
    maxCores := 0, n := n }

example : WF t222 := ⟨by decide, fun _ _ => by simp [t222]⟩
example : (List.range 4).map (affOf (decode .compact (cfgA 4))) = [[1], [2], [3], [6]] := by decide
example : (List.range 4).map (affOf (decode .scatter (cfgA 4))) = [[1], [2], [6], [3]] := by decide
example : (List.range 3).map (affOf (decode .balanced (cfgA 3))) = [[1], [2], [6]] := by decide
example : decode .balanced (cfgA 5) = .error .tooMany :=
  C15_reject_oversubscription _ _ (by decide)
example : avail (cfgA 4) = 4 := by decide

/-- a partitioner run: one extra pool gets PU 2, the rest goes to the default pool -/
example : ∃ s, runLog Pool.step (Pool.init [0, 1, 2, 3] 4) [.create, .add 2 1, .setup] = some s ∧
    s.configured = true ∧ s.pool 0 = [0, 1, 3] ∧ s.pool 1 = [2] := ⟨_, rfl, rfl, rfl, rfl⟩
/-- handing the same PU out twice is refused -/
example : runLog Pool.step (Pool.init [0, 1] 2) [.create, .add 1 1, .add 1 0] = none := by decide

/-! ## Termination of scatter and balanced

`usable cfg` (`Lemmas/AffTerm.lean`) = number of PUs the `next_pu_index` loops of scatter and
balanced can ever reach: PUs inside the effective mask on the first `min(max_cores, #cores)`
cores (`usable_mask`: the whole mask count when the process mask is used; `usable_nomask`: all
PUs of those cores when it is ignored).  The model's outer loops carry a fuel argument
(`cfg.n + 1` passes) and report `diverge` when the fuel runs out **or** when a pass places no
thread (after which every further pass of the real loop is identical).  The theorems below show
that the fuel never runs out and that the second case happens exactly when `usable cfg < cfg.n`:
the real loop nests return for every other input. -/

/-- **scatter does not return exactly when the request passes `check_num_threads` but the cores
    the decoder looks at hold fewer usable PUs than threads** (both directions). -/
theorem C15_scatter_diverges_iff (cfg : Cfg) :
    isDiverge (decode .scatter cfg) = (!tooMany cfg && decide (usable cfg < cfg.n)) := by
  simp only [decode]
  cases ht : tooMany cfg with
  | true => simp [decodeScatter, ht, isDiverge]
  | false =>
    by_cases hg : usable cfg < cfg.n
    · simp [decodeScatter_hangs cfg ht hg, isDiverge, hg]
    · obtain ⟨aff, pn, h⟩ := decodeScatter_returns cfg ht (Nat.le_of_not_lt hg)
      simp [h, isDiverge, hg]

/-- **balanced does not return exactly on the same inputs** (both directions). -/
theorem C15_balanced_diverges_iff (cfg : Cfg) :
    isDiverge (decode .balanced cfg) = (!tooMany cfg && decide (usable cfg < cfg.n)) := by
  simp only [decode, decodeBalanced]
  cases ht : tooMany cfg with
  | true => simp [isDiverge]
  | false =>
    simp only [Bool.false_eq_true, ↓reduceIte, Bool.not_false, Bool.true_and]
    have hs := balPhase1_none_iff cfg 0 cfg.n (effCores cfg)
    rw [← usable_eq_balTotal] at hs
    cases hb : balPhase1 cfg 0 cfg.n (effCores cfg) with
    | none => simp [isDiverge, hs.1 hb]
    | some b =>
      have : ¬ usable cfg < cfg.n := fun hlt => by rw [hs.2 hlt] at hb; cases hb
      simp only [this, decide_false]
      cases balPhase2 cfg b (effUsed cfg) (effUsed cfg) (effCores cfg) ASt.init <;> rfl

/-- **A satisfiable scatter request is accepted**: with `--pika:cores` not below the thread
    count (or the process mask in use) every thread count that fits returns masks — which then
    satisfy all clauses (`C15_singleton_in_mask`, `C15_distinct`, `C15_reported_pu_is_bound`). -/
theorem C15_scatter_accepts_satisfiable (cfg : Cfg) (hwf : WF cfg.t) (hc : CoresOK cfg)
    (hn : cfg.n ≤ avail cfg) : ∃ aff pn, decode .scatter cfg = .ok aff pn :=
  decodeScatter_returns cfg (tooMany_false cfg hn) (usable_enough cfg hwf hc hn)

/-- **A satisfiable balanced request is accepted.** -/
theorem C15_balanced_accepts_satisfiable (cfg : Cfg) (hwf : WF cfg.t) (hc : CoresOK cfg)
    (hn : cfg.n ≤ avail cfg) : ∃ aff pn, decode .balanced cfg = .ok aff pn := by
  have hu := usable_enough cfg hwf hc hn
  simp only [decode, decodeBalanced, tooMany_false cfg hn, Bool.false_eq_true, ↓reduceIte]
  cases hb : balPhase1 cfg 0 cfg.n (effCores cfg) with
  | none => exact absurd ((balPhase1_none_iff ..).1 hb) (Nat.not_lt.2 hu)
  | some b =>
    obtain ⟨s, hr, -⟩ :=
      balPhase2_noerr cfg b (effUsed cfg) (effUsed cfg) (effCores cfg) ASt.init (fun _ _ => rfl)
    exact ⟨s.aff, s.pn, by simp only [hr]⟩

/-- **With the process mask in use scatter and balanced always return** (an error for an
    oversubscribed request, masks otherwise): the endless loops need
    `--pika:ignore-process-mask`. -/
theorem C15_mask_used_never_hangs (m : Mode) (hm : m = .scatter ∨ m = .balanced) (cfg : Cfg)
    (hp : cfg.usePm = true) : isDiverge (decode m cfg) = false := by
  have hu := usable_mask cfg hp
  have : (!tooMany cfg && decide (usable cfg < cfg.n)) = false := by
    simp [hu, tooMany, hp]
  rcases hm with hm | hm <;> subst hm
  · rw [C15_scatter_diverges_iff, this]
  · rw [C15_balanced_diverges_iff, this]

/-- **With the mask ignored they hang exactly when `--pika:cores` cuts the machine to fewer PUs
    than threads**: `n ≤ #PUs` (accepted by `check_num_threads`) but the first
    `min(max_cores, #cores)` cores hold fewer than `n` PUs. -/
theorem C15_mask_ignored_hangs_iff (m : Mode) (hm : m = .scatter ∨ m = .balanced) (cfg : Cfg)
    (hp : cfg.usePm = false) :
    isDiverge (decode m cfg) =
      (decide (cfg.n ≤ numPus cfg.t) && decide (base cfg.t (min cfg.maxCores cfg.t.nc) < cfg.n)) := by
  have hu := usable_nomask cfg hp
  have ht : (!tooMany cfg) = decide (cfg.n ≤ numPus cfg.t) := by
    simp [tooMany, hp, ← Nat.not_le]
  rcases hm with hm | hm <;> subst hm
  · rw [C15_scatter_diverges_iff, hu, ht]
  · rw [C15_balanced_diverges_iff, hu, ht]

/-- the fuel of the model's loops is irrelevant: from the initial state every bound `f ≥ goal`
    returns exactly when the model's `goal + 1` does (stated for the first phase of balanced, which
    numa-balanced shares) -/
theorem C15_balanced_fuel_irrelevant (cfg : Cfg) (off goal ncores f : Nat) (hg : 0 < goal)
    (hf : goal ≤ f) :
    (balLoop cfg off goal ncores f BSt.init).isSome = (balPhase1 cfg off goal ncores).isSome := by
  rw [balPhase1_isSome]
  have := balLoop_spec cfg off goal ncores f BSt.init (init_TBase _ _ _) (by simpa [BSt.init] using hg)
    (by simp [BSt.init]; omega)
  cases hb : balLoop cfg off goal ncores f BSt.init <;> rw [hb] at this <;> simp at this ⊢ <;> omega

example : usable cfg21 = 1 ∧ avail cfg21 = 2 := by decide
example : isDiverge (decode .scatter (cfgA 4)) = false :=
  C15_mask_used_never_hangs _ (Or.inl rfl) _ rfl

/-! ## numa-balanced — where it hangs, where it is right

Three defects of `decode_numabalanced_distribution` (see the witnesses above):
(a) `get_number_of_core_pus(num_core)` lacks `core_offset`; (b) the per-socket thread counts are
rounded independently and may not add up; (c) the reported PU number lacks `core_offset`.
* (a) is harmless exactly on `NumaShape` machines (sockets partition the cores, the `c`-th core of
  each socket is as large as core `c`; e.g. all cores equal) — there the decoder always returns
  (`C15_numa_terminates_wellshaped`); in general it does not return iff `numaHangs`
  (`C15_numa_diverges_iff`, decidable, both directions).
* (b) on `NumaShape` machines the *binding* clauses (one PU, inside the mask, distinct) hold for
  the first `Σ num_threads_socket` workers; they hold for all workers iff the sum is the thread
  count (`NumaBindOk`: `C15_numa_bind_ok`, converse `C15_numa_rounding_unbound`).
* (c) reported = bound needs every thread on socket 0: `NumaOk` (`C15_numa_ok_all_clauses`). -/

/-- **decidable guard for the binding clauses of numa-balanced** -/
def NumaBindOk (cfg : Cfg) : Prop := NumaShape cfg.t ∧ (numaSharesOf cfg).sum = cfg.n

instance (cfg : Cfg) : Decidable (NumaBindOk cfg) := by unfold NumaBindOk; infer_instance

/-- **decidable guard for all clauses of numa-balanced**: socket 0 exists inside the machine, holds
    enough usable PUs, and the decoder sends every thread there (`num_threads_socket = n, 0, …, 0`):
    machines with one socket, process masks inside socket 0, thread counts whose share of every
    other socket rounds to 0 -/
def NumaOk (cfg : Cfg) : Prop :=
  socketCores cfg.t 0 ≤ cfg.t.nc ∧ cfg.n ≤ balTotal cfg 0 (socketCores cfg.t 0) ∧
  (numaSharesOf cfg).head? = some cfg.n ∧ (numaSharesOf cfg).tail.all (fun x => x == 0) = true

instance (cfg : Cfg) : Decidable (NumaOk cfg) := by unfold NumaOk; infer_instance

/-- **numa-balanced does not return exactly on the inputs satisfying the decidable predicate
    `numaHangs`** (the request passes `check_num_threads` and some socket is asked for more
    threads than its scan — limited by the sizes of the *first* cores of the machine — can find). -/
theorem C15_numa_diverges_iff (cfg : Cfg) :
    isDiverge (decode .numaBalanced cfg) = numaHangs cfg := by
  rw [Bool.eq_iff_iff, ← decodeNuma_diverges_iff]
  simp only [decode]
  cases decodeNuma cfg <;> simp [isDiverge]

/-- **On a machine of the shape the decoder assumes numa-balanced always returns.** -/
theorem C15_numa_terminates_wellshaped (cfg : Cfg) (h : NumaShape cfg.t) :
    isDiverge (decode .numaBalanced cfg) = false := by
  rw [C15_numa_diverges_iff]
  cases ht : tooMany cfg with
  | true => simp [numaHangs, ht]
  | false => exact numa_shape_no_hang cfg h ht

/-- **numa-balanced, binding clauses**: under `NumaBindOk` every worker is bound to exactly one
    PU of the machine inside the effective mask and no two workers share a PU. -/
theorem C15_numa_bind_ok (cfg : Cfg) (hu : UsedZero cfg) (hok : NumaBindOk cfg)
    (aff : Nat → List Nat) (pn : Nat → Nat) (h : decode .numaBalanced cfg = .ok aff pn) :
    (∀ i, i < cfg.n → ∃ q, aff i = [q] ∧ q < numPus cfg.t ∧ (cfg.usePm = true → cfg.pm q = true)) ∧
    (∀ i j, i < cfg.n → j < cfg.n → i ≠ j → aff i ≠ aff j) := by
  have ht : tooMany cfg = false := by
    cases ht : tooMany cfg with
    | false => rfl
    | true => simp [decode, decodeNuma, ht] at h
  obtain ⟨aff', pn', e, b1, b2, _⟩ := numa_bind_spec cfg (effUsed_zero cfg hu) hok.1 ht
  simp only [decode] at h
  rw [e] at h
  cases h
  rw [hok.2] at b1 b2
  refine ⟨?_, b2⟩
  intro i hi
  obtain ⟨q, h1, h2, h3⟩ := b1 i hi
  refine ⟨q, h1, h2, ?_⟩
  intro hp
  simpa [ind, hp] using h3

/-- **… and such a request is accepted**, by the decoder and by `affinity_data::init`. -/
theorem C15_numa_bind_accepts (cfg : Cfg) (hu : UsedZero cfg) (hok : NumaBindOk cfg)
    (hn : cfg.n ≤ avail cfg) : ∃ aff pn, affInit (some .numaBalanced) cfg = .bound aff pn := by
  obtain ⟨aff, pn, e, b1, _, _⟩ :=
    numa_bind_spec cfg (effUsed_zero cfg hu) hok.1 (tooMany_false cfg hn)
  rw [hok.2] at b1
  refine ⟨aff, pn, affInit_bound e fun i hi => ?_⟩
  obtain ⟨q, h1, _⟩ := b1 i hi
  simp [h1]

/-- **Converse on well-shaped machines**: if the rounded per-socket counts do not add up to the
    thread count, worker `Σ num_threads_socket` keeps an empty mask and `affinity_data::init`
    refuses the (satisfiable) request — `NumaBindOk` is exact there. -/
theorem C15_numa_rounding_unbound (cfg : Cfg) (hu : UsedZero cfg) (hs : NumaShape cfg.t)
    (hn : cfg.n ≤ avail cfg) (hlt : (numaSharesOf cfg).sum < cfg.n) :
    affOf (decode .numaBalanced cfg) (numaSharesOf cfg).sum = [] ∧
    affInit (some .numaBalanced) cfg = .error .notAllBound := by
  obtain ⟨aff, pn, e, _, _, b3⟩ :=
    numa_bind_spec cfg (effUsed_zero cfg hu) hs (tooMany_false cfg hn)
  have h0 := b3 _ (Nat.le_refl _)
  exact ⟨by simp [decode, e, affOf, h0], affInit_notAllBound e (Nat.ne_of_lt (countInit_lt cfg.n aff _ hlt h0))⟩

/-- **numa-balanced, all clauses**: under `NumaOk` the request is accepted and every worker is
    bound to exactly one PU inside the effective mask, pairwise distinct, reported = bound. -/
theorem C15_numa_ok_all_clauses (cfg : Cfg) (hu : UsedZero cfg) (hok : NumaOk cfg)
    (hn : cfg.n ≤ avail cfg) :
    ∃ aff pn, decode .numaBalanced cfg = .ok aff pn ∧
      affInit (some .numaBalanced) cfg = .bound aff pn ∧
      (∀ i, i < cfg.n → ∃ q, aff i = [q] ∧ pn i = q ∧ q < numPus cfg.t ∧
        (cfg.usePm = true → cfg.pm q = true)) ∧
      (∀ i j, i < cfg.n → j < cfg.n → i ≠ j → aff i ≠ aff j) := by
  obtain ⟨h1, h2, h3, h4⟩ := hok
  obtain ⟨rest, hs⟩ := List.head?_eq_some_iff.1 h3
  obtain ⟨aff, pn, e, g⟩ := numa_first_socket_spec cfg (effUsed_zero cfg hu) (tooMany_false cfg hn)
    h1 h2 rest hs (by simpa [hs] using h4)
  refine ⟨aff, pn, e, affInit_bound e fun i hi => ?_, ?_, g.distinct⟩
  · obtain ⟨q, h1, _⟩ := g.bound i hi
    simp [h1]
  intro i hi
  obtain ⟨q, a1, a2, a3, a4⟩ := g.bound i hi
  refine ⟨q, a1, a2, a3, ?_⟩
  intro hp
  simpa [ind, hp] using a4

/-- **Converse for the reported PU number on well-shaped machines**: as soon as a socket with a
    positive core offset receives a thread (`num_threads_socket[j] > 0`, `j`-th socket not at core
    0), some worker reports a PU it is not bound to — the last condition of `NumaOk` (all threads on
    the first socket) is necessary. -/
theorem C15_numa_reported_wrong_beyond_socket0 (cfg : Cfg) (hu : UsedZero cfg) (hwf : WF cfg.t)
    (hs : NumaShape cfg.t) (hn : cfg.n ≤ avail cfg) (j : Nat) (hj : j < numSockets cfg.t)
    (hpos : 0 < (numaSharesOf cfg).getD j 0) (hoff : 0 < sockOff cfg.t j) :
    ∃ i, i < cfg.n ∧
      affOf (decode .numaBalanced cfg) i ≠ [pnOf (decode .numaBalanced cfg) i] := by
  obtain ⟨aff, pn, e, i, hi, hne⟩ := numa_misreport_spec cfg (effUsed_zero cfg hu) hwf hs
    (tooMany_false cfg hn) j hj hpos hoff
  exact ⟨i, hi, by simpa [decode, e, affOf, pnOf] using hne⟩

/-! non-vacuity of the numa-balanced guards, and the known counterexamples seen through them -/

/-- 6 threads on 3×2×2: two per socket — binding right on all sockets (the reported PU numbers
    of sockets 1, 2 are still wrong: `C15_numa_reported_pu_differs` is the 4-thread case) -/
example : NumaBindOk (cfg322 6) := by decide
example : (List.range 6).map (affOf (decode .numaBalanced (cfg322 6))) = [[0], [2], [4], [6], [8], [10]] := by
  decide
example : (List.range 6).map (pnOf (decode .numaBalanced (cfg322 6))) = [0, 2, 0, 2, 0, 2] := by decide
/-- the 4-thread witness fails the guard because of the rounding (shares 1+1+1) -/
example : NumaShape t322 ∧ ¬ NumaBindOk (cfg322 4) ∧ numaSharesOf (cfg322 4) = [1, 1, 1] := by decide
/-- the asymmetric machines of the hang / shared-PU witnesses fail `NumaShape` -/
example : ¬ NumaShape tAsym1 ∧ ¬ NumaShape tAsym2 := by decide
example : numaHangs (cfgAsym tAsym1 6) = true ∧ numaHangs (cfgAsym tAsym2 10) = false := by decide
/-- 2×2×2 with the mask {0,1,2} inside socket 0, `n` threads (with 3 all clauses hold) -/
def cfgS0 (n : Nat) : Cfg :=
  { t := t222, pm := fun q => q == 0 || q == 1 || q == 2, usePm := true, used := 0, maxCores := 0, n := n }
example : NumaOk (cfgS0 3) := by decide
example : (List.range 3).map (affOf (decode .numaBalanced (cfgS0 3))) = [[0], [1], [2]] ∧
    (List.range 3).map (pnOf (decode .numaBalanced (cfgS0 3))) = [0, 1, 2] := by decide
/-- one thread on the full 2×2×2 machine: the share of socket 1 is cut to 0 -/
example : NumaOk { cfgS0 1 with pm := fun _ => true } := by decide
/-- two threads on the full machine go to two sockets: not `NumaOk` (reported PU of worker 1 is wrong) -/
example : ¬ NumaOk { cfgS0 2 with pm := fun _ => true } ∧
    NumaBindOk { cfgS0 2 with pm := fun _ => true } := by decide

/-! ## The rejection clause through the command line

`Model/AffCmd.lean`: `--pika:threads=<n|cores|all>`, `--pika:cores=<k|all>`,
`--pika:ignore-process-mask`, `--pika:bind` → the request (`cmdCfg`) `affinity_data::init` is
called with by `run_or_start` (`startup`).  Tied to the code by `harness/e0/affinity_cmd.cpp`
(real `command_line_handling::call` + `affinity_data::init` under synthetic machines). -/

/-- **Oversubscription is rejected at start-up, whatever the combination of `--pika:threads`,
    `--pika:cores` and `--pika:ignore-process-mask`** (every binding mode other than `none`): more
    threads than PUs in the process mask — or in the machine when the mask is ignored — makes
    `affinity_data::init` throw `bad_parameter`; no masks are stored. -/
theorem C15_start_rejects_oversubscription (cmd : Cmd) (m : Mode) (hb : cmd.bind = some m)
    (t : Topo) (pm : Nat → Bool) (cfg : Cfg) (hc : cmdCfg cmd t pm = some cfg)
    (h : avail cfg < cfg.n) : startup cmd t pm = .init (.error .tooMany) := by
  simp only [startup, hc, hb, affInitMasks, affInit_error (C15_reject_oversubscription m cfg h)]

/-- **The thread-count keywords never oversubscribe**: `--pika:threads=all`, `=cores` and the
    default ask for at most the PUs available (in the mask, or in the machine when it is
    ignored), so they are never rejected by `check_num_threads`. -/
theorem C15_keywords_fit (cmd : Cmd) (hk : ∀ k, cmd.threads ≠ .num k) (t : Topo) (hwf : WF t)
    (pm : Nat → Bool) (cfg : Cfg) (hc : cmdCfg cmd t pm = some cfg) : cfg.n ≤ avail cfg := by
  unfold cmdCfg at hc
  simp only at hc
  split at hc
  · simp at hc
  · simp only [Option.some.injEq] at hc
    subst hc
    have h1 := defaultCores_le
      { t := t, pm := pm, usePm := !cmd.ignoreMask, used := 0, maxCores := 0, n := 0 } hwf
    show cmdThreads cmd.threads _ ≤ avail
      { t := t, pm := pm, usePm := !cmd.ignoreMask, used := 0, maxCores := 0, n := 0 }
    cases ht : cmd.threads with
    | num k => exact absurd ht (hk k)
    | dflt => exact h1
    | cores => exact h1
    | all => exact Nat.le_refl _

/-- **A satisfiable command line is accepted and bound correctly** (compact / scatter /
    balanced): if `--pika:cores` is left at its default or the process mask is in use, every
    request that fits starts with masks satisfying all clauses. -/
theorem C15_start_accepts (cmd : Cmd) (m : Mode) (hm : m ≠ .numaBalanced) (hb : cmd.bind = some m)
    (hcores : cmd.cores = .dflt ∨ cmd.ignoreMask = false) (t : Topo) (hwf : WF t)
    (pm : Nat → Bool) (cfg : Cfg) (hc : cmdCfg cmd t pm = some cfg) (hn : cfg.n ≤ avail cfg) :
    ∃ aff pn, startup cmd t pm = .init (.bound aff pn) ∧ Good cfg aff pn := by
  obtain ⟨f1, f3, f4, f6⟩ := cmdCfg_fields cmd t pm cfg hc
  have hwf' : WF cfg.t := by rw [f1]; exact hwf
  have hu : UsedZero cfg := Or.inr f4
  have hco : CoresOK cfg := by
    rcases hcores with h | h
    · exact Or.inr (by rw [f6 h]; exact Nat.le_refl _)
    · exact Or.inl (by rw [f3, h]; rfl)
  have hex : ∃ aff pn, decode m cfg = .ok aff pn := by
    cases m with
    | numaBalanced => exact absurd rfl hm
    | compact => exact C15_compact_accepts_satisfiable cfg hwf' hu hco hn
    | scatter => exact C15_scatter_accepts_satisfiable cfg hwf' hco hn
    | balanced => exact C15_balanced_accepts_satisfiable cfg hwf' hco hn
  obtain ⟨aff, pn, hd⟩ := hex
  have hg := decode_good m hm cfg hwf' hu (fun _ => hco) aff pn hd
  refine ⟨aff, pn, ?_, hg⟩
  simp only [startup, hc, hb, affInitMasks]
  rw [affInit_bound hd fun i hi => ?_]
  obtain ⟨q, h1, _⟩ := hg.bound i hi
  simp [h1]

/-- **`--pika:bind=none` inside the machine**: with at most as many workers as PUs no worker
    gets a mask. -/
theorem C15_none_unbound_start (cfg : Cfg) (h : cfg.n ≤ numPus cfg.t) (i : Nat) (hi : i < cfg.n) :
    noneMask cfg i = [] := by
  simp [noneMask]; omega

/-- FULL STATEMENT THAT FAILS: "a request for more threads than PUs is rejected / `none` leaves
    every worker unbound" for `--pika:bind=none`.  `affinity_data::init` raises no error for
    `--pika:bind=none` whatever the thread count (there is no `check_num_threads` on this path),
    and `get_pu_mask` tests `no_affinity_` — filled by PU number — with the worker number: worker
    `#PUs` (the first one beyond the machine) is **bound to PU 0**. -/
theorem C15_none_oversubscribed_binds_partial (cmd : Cmd) (hb : cmd.bind = none) (t : Topo)
    (pm : Nat → Bool) (cfg : Cfg) (hc : cmdCfg cmd t pm = some cfg)
    (_h : numPus cfg.t < cfg.n) :
    ∃ aff pn, startup cmd t pm = .init (.bound aff pn) ∧ aff (numPus cfg.t) = [0] := by
  refine ⟨noneMask cfg, fun i => i % numPus cfg.t, by simp only [startup, hc, hb, affInitMasks], ?_⟩
  simp [noneMask, Nat.mod_self]

/-- **`--pika:cores` has no effect while the process mask is used** (all four modes): the
    decoders overwrite `max_cores` — the `cores < threads` findings need
    `--pika:ignore-process-mask`. -/
theorem C15_cores_ignored_with_mask (m : Mode) (cfg : Cfg) (k : Nat) (h : cfg.usePm = true) :
    decode m { cfg with maxCores := k } = decode m cfg := decode_withCores m cfg k h

/-- compact with `--pika:cores=0 --pika:ignore-process-mask`: no core is looked at, the outer loop
    never ends (the remaining non-terminating input of compact; with `0 < cores` it wraps around
    and oversubscribes instead: `C15_compact_oversubscribes_maxcores`) -/
example : isDiverge (decode .compact { cfg21 with maxCores := 0 }) = true := by decide

/-- some command lines on 2×2×2 with the mask {1,2,3,6} -/
def pmA : Nat → Bool := fun q => q == 1 || q == 2 || q == 3 || q == 6
example : (cmdCfg ⟨.cores, .dflt, false, some .scatter⟩ t222 pmA).map (fun c => (c.n, c.maxCores)) =
    some (3, 3) := by decide
example : (cmdCfg ⟨.all, .dflt, false, some .scatter⟩ t222 pmA).map (fun c => (c.n, c.maxCores)) =
    some (4, 4) := by decide
example : (cmdCfg ⟨.all, .num 2, true, some .scatter⟩ t222 pmA).map (fun c => (c.n, c.maxCores)) =
    some (8, 2) := by decide
example : (match startup ⟨.num 5, .dflt, false, some .scatter⟩ t222 pmA with
    | .init (.error .tooMany) => true | _ => false) = true := by decide

/-- a machine for which hwloc reports no core objects (3 PUs directly below the package) -/
def tNoCore : Topo := { nc := 3, pus := fun _ => 1, socks := [3], noCoreObjs := true }

/-- FULL STATEMENT THAT FAILS: "a satisfiable request is accepted" for the default thread count
    and for `--pika:threads=cores` on a machine without core objects while the process mask is
    used: `get_number_of_default_cores` counts 0 cores (`init_core_affinity_mask_from_core` finds
    no object), the thread count becomes 0 and the start-up fails although 3 PUs are available. -/
theorem C15_no_core_objects_zero_threads_partial :
    (match startup ⟨.dflt, .dflt, false, some .balanced⟩ tNoCore (fun _ => true) with
     | .cmdlineError => true | _ => false) = true ∧
    (match startup ⟨.cores, .dflt, false, some .balanced⟩ tNoCore (fun _ => true) with
     | .cmdlineError => true | _ => false) = true ∧
    (match startup ⟨.all, .dflt, false, some .balanced⟩ tNoCore (fun _ => true) with
     | .init (.bound _ _) => true | _ => false) = true := by decide

end PikaVerif.C15
