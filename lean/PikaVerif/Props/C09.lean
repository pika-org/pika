import PikaVerif.Lemmas.Latch
import PikaVerif.Lemmas.Once2
/-!
# C09 — latch, event and call_once release exactly when due (barrier: `Props/C09Barrier.lean`)

Property theorems about the models `PikaVerif.Latch` (`pika::latch`) and `PikaVerif.Once`
(`pika::experimental::event`, `pika::call_once`).  Every theorem quantifies over *all*
accepted event logs of the model, i.e. over every number of threads, every program (mix of
operations, update sizes) and every interleaving.
-/
namespace PikaVerif.C09

/-! ## Latch -/

/-- `s` is the state after some accepted log of the latch model, for some thread count and
    some initial count. -/
def LReachable (s : Latch.St) : Prop := ∃ n c log, runLog Latch.step (Latch.init n c) log = some s

/-- Sum of all updates applied to the counter (`latch.dec` events) in a log. -/
def decs : List Latch.Ev → Nat
  | [] => 0
  | .dec _ _ u :: l => decs l + u
  | _ :: l => decs l

theorem latch_counters_step (s s' : Latch.St) (e : Latch.Ev) (h : Latch.step s e = some s') :
    s'.decSum = s.decSum + decs [e] ∧ s'.init = s.init ∧ s'.n = s.n ∧ s'.counter ≤ s.counter ∧
    (s.notified = true → s'.notified = true) := by
  cases e <;> simp only [Latch.step] at h <;> (repeat' split at h) <;>
    first | (simp at h; done) | (simp only [Option.some.injEq] at h; subst h; simp [decs] <;> omega)

theorem latch_counters_log (log : List Latch.Ev) : ∀ (s s' : Latch.St), runLog Latch.step s log = some s' →
    s'.decSum = s.decSum + decs log ∧ s'.init = s.init ∧ s'.n = s.n := by
  induction log with
  | nil => intro s s' h; cases h; exact ⟨rfl, rfl, rfl⟩
  | cons e es ih =>
    intro s s' h
    obtain ⟨s1, h1, h2⟩ := runLog_cons_some h
    have := latch_counters_step s s1 e h1
    have := ih s1 s' h2
    have : decs (e :: es) = decs [e] + decs es := by cases e <;> simp [decs] <;> omega
    omega

/-- **The counter is exact.**  After every execution the stored counter equals the initial
    count minus the sum of all updates of `count_down(n)` / `arrive_and_wait(n)` calls that
    have performed their decrement (no update is lost or applied twice, whatever the
    interleaving of the lock-free decrement in `count_down` with the locked one in
    `arrive_and_wait`). -/
theorem C09_latch_counter_exact (n : Nat) (c : Int) (log : List Latch.Ev) (s : Latch.St)
    (h : runLog Latch.step (Latch.init n c) log = some s) : s.counter = c - decs log := by
  obtain ⟨hi, _⟩ := Latch.inv_of_accepted h
  have hc := latch_counters_log log _ s h
  have := hi.account
  simp only [Latch.init] at hc
  rw [this, hc.2.1, hc.1]; simp

/-- **No early return.**  Whenever a thread returns from `wait` or `arrive_and_wait`, the
    latch has been released: `notified_` is set and the counter is at (or, if callers broke the
    precondition `counter_ >= n`, below) zero. -/
theorem C09_latch_no_early_return (s s' : Latch.St) (hr : LReachable s) (t : Nat) (r : Bool)
    (hop : Latch.isWaitOp (s.curOp t) = true) (h : Latch.step s (.ret t r) = some s') :
    s.notified = true ∧ s.counter ≤ 0 := by
  obtain ⟨n, c, log, hlog⟩ := hr
  obtain ⟨hi, _⟩ := Latch.inv_of_accepted hlog
  have hn : s.notified = true := by
    obtain ⟨_, hp | ⟨hp, _⟩, _⟩ := Latch.step_ret h
    · exact hi.ntf t (by rw [hp]; simpa [Latch.needsNotified] using hop)
    · have := hi.opOk t
      rw [hp] at this
      simp [Latch.pcOpOk] at this
      rw [← this] at hop; simp [Latch.isWaitOp] at hop
  exact ⟨hn, hi.notifiedZero hn⟩

/-- **No early return, usage respecting the precondition.**  If the updates applied so far do
    not exceed the initial count (the documented precondition of `count_down` /
    `arrive_and_wait`), a thread returns from `wait` / `arrive_and_wait` only when the counter
    is exactly zero, i.e. all expected arrivals have happened. -/
theorem C09_latch_return_only_at_zero (n : Nat) (c : Int) (log : List Latch.Ev) (s s' : Latch.St)
    (hlog : runLog Latch.step (Latch.init n c) log = some s) (hpre : (decs log : Int) ≤ c)
    (t : Nat) (r : Bool) (hop : Latch.isWaitOp (s.curOp t) = true)
    (h : Latch.step s (.ret t r) = some s') : s.counter = 0 ∧ (decs log : Int) = c := by
  have h1 := C09_latch_no_early_return s s' ⟨n, c, log, hlog⟩ t r hop h
  have h2 := C09_latch_counter_exact n c log s hlog
  omega

/-- **Once released, always released.**  No step increases the counter or clears
    `notified_`; in a released latch (`notified_` set) the blocking branch of `wait` is not
    enabled, so every later `wait` returns without blocking. -/
theorem C09_latch_stays_released (s : Latch.St) (hr : LReachable s) :
    (∀ e s', Latch.step s e = some s' → s'.counter ≤ s.counter ∧ (s.notified = true → s'.notified = true)) ∧
    (s.notified = true → ∀ t c nf, Latch.step s (.mustwait t c nf) = none) := by
  obtain ⟨n, c, log, hlog⟩ := hr
  obtain ⟨hi, _⟩ := Latch.inv_of_accepted hlog
  refine ⟨fun e s' h => (latch_counters_step s s' e h).2.2.2, ?_⟩
  intro hn t c nf
  have := hi.notifiedZero hn
  simp only [Latch.step]
  split
  · rename_i hg
    obtain ⟨_, _, _, _, hg⟩ := hg
    rcases hg with hg | hg
    · omega
    · rw [hn] at hg; simp at hg
  · rfl

/-- `try_wait` returns exactly `counter_ == 0` at the moment of its (single, atomic) load. -/
theorem C09_latch_try_wait (s s' : Latch.St) (hr : LReachable s) (t : Nat) (r : Bool)
    (hop : s.curOp t = .tryWait) (h : Latch.step s (.ret t r) = some s') :
    (r = true ↔ s.counter = 0) := by
  obtain ⟨n, c, log, hlog⟩ := hr
  obtain ⟨hi, _⟩ := Latch.inv_of_accepted hlog
  obtain ⟨_, hp | ⟨_, hr⟩, _⟩ := Latch.step_ret h
  · -- a `retn` pc never belongs to try_wait
    have := hi.opOk t
    rw [hp, hop] at this
    simp [Latch.pcOpOk, Latch.isTry] at this
  · rw [hr]; simp


/-- A state is *stuck* when the model accepts no event other than a thread starting a new
    operation (`inv`) or ending its program (`done`). -/
def LStuck (s : Latch.St) : Prop :=
  ∀ e, (∀ t o, e ≠ .inv t o) → (∀ t, e ≠ .done t) → Latch.step s e = none

/-- Parked inside `wait` / `arrive_and_wait` with its cv entry still queued and no resume
    token. -/
def LBlocked (s : Latch.St) (t : Nat) : Prop := s.pc t = .susp false ∧ s.tok t = 0

/-- **Progress.**  The latch model can only be stuck in states where every thread is between
    operations, finished, or parked in `wait` / `arrive_and_wait` without a pending wake-up:
    no reachable state is stuck with a thread in the window between the lock-free decrement
    and the notification, inside the notify loop, holding the internal lock, or
    notified-but-not-resumed. -/
theorem C09_latch_stuck_only_when_blocked (s : Latch.St) (hr : LReachable s) (hs : LStuck s) :
    ∀ t, t < s.n → s.pc t = .idle ∨ s.pc t = .fin ∨ LBlocked s t := by
  obtain ⟨n, c, log, hlog⟩ := hr
  obtain ⟨hi, hi2⟩ := Latch.inv_of_accepted hlog
  intro t htn
  have en : ∀ {X : Prop} e, (∀ t o, e ≠ .inv t o) → (∀ t, e ≠ .done t) → Latch.step s e ≠ none → X :=
    fun e h1 h2 h3 => absurd (hs e h1 h2) h3
  cases hl : s.lock with
  | some r =>
    obtain ⟨hh, hrn⟩ := hi2.lockConv r hl
    cases hp : s.pc r <;> simp [hp, Latch.holds] at hh
    case cdLocked => exact en (.notified r false) nofun nofun (by simp [Latch.step, hrn, hl, hp])
    case awZero => exact en (.notified r true) nofun nofun (by simp [Latch.step, hrn, hl, hp])
    case wLocked =>
      by_cases hc : 0 < s.counter ∨ s.notified = false
      · exact en (.mustwait r s.counter s.notified) nofun nofun (by simp [Latch.step, hrn, hl, hp, hc])
      · exact en (.nowait r s.counter s.notified) nofun nofun (by simp [Latch.step, hrn, hl, hp, hc])
    case awLocked k =>
      exact en (.dec r (s.counter - k) k) nofun nofun (by simp [Latch.step, hrn, hl, hp])
    case mustEnq => exact en (.cvEnq r (s.queue.length + 1)) nofun nofun (by simp [Latch.step, hrn, hl, hp])
    case enq | passing | ntfRes => exact en (.slRel r) nofun nofun (by simp [Latch.step, hrn, hl, hp])
    case relk p =>
      cases p with
      | false => exact absurd hp (hi.wokePopped r).2
      | true => exact en (.cvWoke r false) nofun nofun (by simp [Latch.step, hrn, hl, hp])
    case ntfL =>
      cases hq : s.queue with
      | nil => exact en (.cvNone r) nofun nofun (by simp [Latch.step, hrn, hl, hp, hq])
      | cons g rest =>
        have hgq : g ∈ s.queue := by rw [hq]; simp
        have hginQ := (hi.qIff g).1 hgq
        have hgr : g ≠ r := by intro he; rw [he, hp] at hginQ; simp [Latch.inQ] at hginQ
        have hnh : Latch.holds (s.pc g) = false := by
          cases hhg : Latch.holds (s.pc g) with
          | false => rfl
          | true => have := hi.lockHolder g hhg; rw [hl] at this; simp at this; exact absurd this.symm hgr
        have hsp : ∃ p', Latch.setPopped (s.pc g) = some p' := by
          cases hpg : s.pc g <;> simp [hpg, Latch.inQ, Latch.holds] at hginQ hnh <;> simp [Latch.setPopped, hginQ]
        obtain ⟨p', hp'⟩ := hsp
        exact en (.popResume r rest.length g) nofun nofun (by simp [Latch.step, hrn, hl, hp, hq, hp'])
  | none =>
    have nh : Latch.holds (s.pc t) = false := by
      cases hh : Latch.holds (s.pc t) with
      | false => rfl
      | true => have := hi.lockHolder t hh; rw [hl] at this; simp at this
    cases hp : s.pc t <;> simp [hp, Latch.holds] at nh
    case idle => exact Or.inl rfl
    case fin => exact Or.inr (Or.inl rfl)
    case want o =>
      cases o with
      | wait | aw k => exact en (.slAcq t) nofun nofun (by simp [Latch.step, htn, hl, hp])
      | tryWait => exact en (.ret t (decide (s.counter = 0))) nofun nofun (by simp [Latch.step, htn, hp])
      | cd k => exact en (.dec t (s.counter - k) k) nofun nofun (by simp [Latch.step, htn, hp])
    case cdWant | wokeNL | ntfNL => exact en (.slAcq t) nofun nofun (by simp [Latch.step, htn, hl, hp])
    case unl p => exact en (.suspend t) nofun nofun (by simp [Latch.step, htn, hp])
    case susp p =>
      have htk := hi.tokInv t
      rw [hp] at htk
      cases p with
      | true => exact en (.woke t) nofun nofun (by simp [Latch.step, htn, hp, htk, Latch.tokOf, Latch.b2n])
      | false => exact Or.inr (Or.inr ⟨hp, by simpa [Latch.tokOf, Latch.b2n] using htk⟩)
    case retn r => exact en (.ret t r) nofun nofun (by simp [Latch.step, htn, hp])

/-- **Every waiter is released once the count has reached zero.**  In every reachable stuck
    state, if some thread is still parked in `wait` / `arrive_and_wait` then the counter is not
    zero: a blocked waiter cannot coexist with a counter that has reached zero once the
    notifying thread has run to completion (in particular the window in `count_down` between
    the lock-free decrement and `notified_ = true` loses no waiter). -/
theorem C09_latch_all_released (s : Latch.St) (hr : LReachable s) (hs : LStuck s) (t : Nat)
    (hb : LBlocked s t) : s.counter ≠ 0 := by
  have hq := C09_latch_stuck_only_when_blocked s hr hs
  obtain ⟨n, c, log, hlog⟩ := hr
  obtain ⟨hi, _⟩ := Latch.inv_of_accepted hlog
  have hz : Latch.wsum s = 0 := by
    apply sumTo_eq_zero
    intro u hu
    rcases hq u hu with h | h | h
    · simp [h, Latch.weight]
    · simp [h, Latch.weight]
    · simp [h.1, Latch.weight]
  have hin : t ∈ s.queue := (hi.qIff t).2 (by simp [hb.1, Latch.inQ])
  have hne : s.queue ≠ [] := by intro h; rw [h] at hin; simp at hin
  intro hc
  have := hi.pending hc (Or.inr hne)
  omega

/-- With usage respecting the precondition, a waiter blocked at quiescence means that arrivals
    are genuinely missing: the counter is still positive. -/
theorem C09_latch_blocked_only_if_positive (n : Nat) (c : Int) (log : List Latch.Ev) (s : Latch.St)
    (hlog : runLog Latch.step (Latch.init n c) log = some s) (hpre : (decs log : Int) ≤ c)
    (hs : LStuck s) (t : Nat) (hb : LBlocked s t) : 0 < s.counter := by
  have h1 := C09_latch_all_released s ⟨n, c, log, hlog⟩ hs t hb
  have h2 := C09_latch_counter_exact n c log s hlog
  omega

/-! ### Non-vacuity (latch): concrete accepted logs reaching the interesting states -/

/-- latch(2): thread 0 waits and blocks, thread 1 `count_down(2)` reaches zero outside the lock,
    then notifies; thread 0 returns. -/
def latchExampleLog : List Latch.Ev :=
  [.inv 0 .wait, .slAcq 0, .mustwait 0 2 false, .cvEnq 0 1, .slRel 0, .suspend 0,
   .inv 1 (.cd 2), .dec 1 0 2, .slAcq 1, .notified 1 false, .popResume 1 0 0, .slRel 1, .ret 1 false,
   .woke 0, .slAcq 0, .cvWoke 0 false, .slRel 0, .ret 0 false]

example : (runLog Latch.step (Latch.init 2 2) latchExampleLog).isSome = true := by decide

/-- the window of `count_down`: counter already 0, `notified_` not yet set; a `wait` arriving in
    the window blocks (`mustwait 0 false`) and is released by the notify loop -/
example : (runLog Latch.step (Latch.init 2 1)
    [.inv 1 (.cd 1), .dec 1 0 1, .inv 0 .wait, .slAcq 0, .mustwait 0 0 false, .cvEnq 0 1, .slRel 0,
     .slAcq 1, .notified 1 false, .popResume 1 0 0, .slRel 1, .ret 1 false, .suspend 0, .woke 0,
     .slAcq 0, .cvWoke 0 false, .slRel 0, .ret 0 false]).isSome = true := by decide

/-- a stuck state with a blocked waiter exists (so `C09_latch_all_released` is not vacuous) -/
example : ∃ s, runLog Latch.step (Latch.init 1 1)
      [.inv 0 .wait, .slAcq 0, .mustwait 0 1 false, .cvEnq 0 1, .slRel 0, .suspend 0] = some s
    ∧ LBlocked s 0 := by
  refine ⟨_, rfl, ?_⟩
  simp [LBlocked, upd, Latch.init]

/-- arrive_and_wait as last arriver runs the notify loop; try_wait then returns true -/
example : (runLog Latch.step (Latch.init 2 2)
    [.inv 0 (.aw 1), .slAcq 0, .dec 0 1 1, .cvEnq 0 1, .slRel 0, .suspend 0,
     .inv 1 (.aw 1), .slAcq 1, .dec 1 0 1, .notified 1 true, .popResume 1 0 0, .slRel 1, .ret 1 false,
     .inv 1 .tryWait, .ret 1 true,
     .woke 0, .slAcq 0, .cvWoke 0 false, .slRel 0, .ret 0 false]).isSome = true := by decide


/-! ## Event and call_once -/

/-- `s` is the state after some accepted log of the event / call_once model. -/
def OReachable (s : Once.St) : Prop := ∃ n log, runLog Once.step (Once.init n) log = some s

/-- The model accepts no event other than a thread starting a new operation or ending its
    program. -/
def OStuck (s : Once.St) : Prop :=
  ∀ e, (∀ t o, e ≠ .inv t o) → (∀ t, e ≠ .done t) → Once.step s e = none

/-- Parked inside `event::wait` (entered from context `c`) with its cv entry still queued and no
    resume token. -/
def OBlocked (s : Once.St) (t : Nat) (c : Once.Ctx) : Prop := s.pc t = .susp c false ∧ s.tok t = 0

theorem sumTo_mono {n : Nat} {f g : Nat → Nat} (h : ∀ t, t < n → f t ≤ g t) : sumTo n f ≤ sumTo n g := by
  induction n with
  | zero => exact Nat.le_refl _
  | succ k ih =>
    simp only [sumTo_succ]
    have := ih (fun t ht => h t (Nat.lt_succ_of_lt ht))
    have := h k (Nat.lt_succ_self k)
    omega

/-- **`event::wait` returns only after a `set`.**  Whenever a thread returns from a stand-alone
    `event::wait`, some `set()` has stored `true` into the flag before (on the fast path as well
    as on the blocking path). -/
theorem C09_event_no_early_return (s s' : Once.St) (hr : OReachable s) (t : Nat) (r : Nat)
    (hop : s.curOp t = .wait) (h : Once.step s (.ret t r) = some s') : 0 < s.sets := by
  obtain ⟨n, log, hlog⟩ := hr
  obtain ⟨hi, hp⟩ := Once.inv_of_accepted hlog
  obtain ⟨_, hpc | ⟨hpc, _⟩, _⟩ := Once.step_ret h
  · exact hp.passSets t (by rw [hpc, hop]; rfl)
  · have := hi.opOk t
    rw [hpc, hop] at this
    cases this

/-- **Once set, the event releases all future waiters.**  As long as nobody has reset the event,
    a performed `set` keeps the flag true, and with the flag true neither the fast-path read nor
    the read of the loop condition under the lock can return false: every `wait` that starts
    after the `set` returns without blocking.  (A waiter that read `false` *before* the store and
    enqueues after it is covered by `C09_event_all_released`.) -/
theorem C09_event_future_waiters_pass (s : Once.St) (hr : OReachable s) (hnr : s.resets = 0)
    (hset : 0 < s.sets) : s.flag = true ∧
      ∀ t, Once.step s (.evLoad t false) = none ∧ Once.step s (.evLoadL t false) = none := by
  obtain ⟨n, log, hlog⟩ := hr
  obtain ⟨_, hp⟩ := Once.inv_of_accepted hlog
  have hf := hp.sticky hnr hset
  refine ⟨hf, ?_⟩
  intro t
  constructor
  · simp only [Once.step]
    split
    · rename_i hg; rw [hf] at hg; simp at hg
    · rfl
  · simp only [Once.step]
    split
    · rename_i hg; rw [hf] at hg; simp at hg
    · rfl

/-- **Progress (event and call_once).**  The model can only be stuck in states where every thread
    is between operations, finished, or parked in `event::wait` without a pending wake-up. -/
theorem C09_event_stuck_only_when_blocked (s : Once.St) (hr : OReachable s) (hs : OStuck s) :
    ∀ t, t < s.n → s.pc t = .idle ∨ s.pc t = .fin ∨ ∃ c, OBlocked s t c := by
  obtain ⟨n, log, hlog⟩ := hr
  obtain ⟨hi, hp⟩ := Once.inv_of_accepted hlog
  intro t htn
  have en : ∀ {X : Prop} e, (∀ t o, e ≠ .inv t o) → (∀ t, e ≠ .done t) → Once.step s e ≠ none → X :=
    fun e h1 h2 h3 => absurd (hs e h1 h2) h3
  cases hl : s.lock with
  | some r =>
    obtain ⟨hh, hrn⟩ := hi.lockConv r hl
    cases hpc : s.pc r <;> simp [hpc, Once.holds] at hh
    case wLocked c => exact en (.evLoadL r s.flag) nofun nofun (by simp [Once.step, hrn, hl, hpc])
    case wMustEnq c => exact en (.cvEnq r (s.queue.length + 1)) nofun nofun (by simp [Once.step, hrn, hl, hpc])
    case enq | wPass | sRel => exact en (.slRel r) nofun nofun (by simp [Once.step, hrn, hl, hpc])
    case sLocked c => exact en (.notifyAll r s.queue) nofun nofun (by simp [Once.step, hrn, hl, hpc])
    case relk c p =>
      cases p with
      | false => exact absurd hpc (hi.wokePopped r c).2
      | true => exact en (.cvWoke r false) nofun nofun (by simp [Once.step, hrn, hl, hpc])
  | none =>
    have nh : Once.holds (s.pc t) = false := by
      cases hh : Once.holds (s.pc t) with
      | false => rfl
      | true => have := hi.lockHolder t hh; rw [hl] at this; simp at this
    cases hpc : s.pc t <;> simp [hpc, Once.holds] at nh
    case idle => exact Or.inl rfl
    case fin => exact Or.inr (Or.inl rfl)
    case wWant c => exact en (.evLoad t s.flag) nofun nofun (by simp [Once.step, htn, hpc])
    case wLockW | wokeNL | sLockW => exact en (.slAcq t) nofun nofun (by simp [Once.step, htn, hl, hpc])
    case unl c p => exact en (.suspend t) nofun nofun (by simp [Once.step, htn, hpc])
    case susp c p =>
      have htk := hi.tokInv t
      rw [hpc] at htk
      cases p with
      | true => exact en (.woke t) nofun nofun (by simp [Once.step, htn, hpc, htk, Once.tokOf, Once.b2n])
      | false => exact Or.inr (Or.inr ⟨c, hpc, by simpa [Once.tokOf, Once.b2n] using htk⟩)
    case sWant c => exact en (.stored t true) nofun nofun (by simp [Once.step, htn, hpc])
    case rWant | cReset => exact en (.stored t false) nofun nofun (by simp [Once.step, htn, hpc])
    case oWant => exact en (.ret t (Once.b2n s.flag)) nofun nofun (by simp [Once.step, htn, hpc])
    case cLoad thr => exact en (.onceLoad t) nofun nofun (by simp [Once.step, htn, hpc])
    case cCas thr =>
      cases hst : s.status with
      | zero => exact en (.onceWon t) nofun nofun (by simp [Once.step, htn, hpc, hst])
      | running => exact en (.onceLost t false) nofun nofun (by simp [Once.step, htn, hpc, hst])
      | complete => exact en (.onceLost t true) nofun nofun (by simp [Once.step, htn, hpc, hst])
    case cBody thr => exact en (.body t thr) nofun nofun (by simp [Once.step, htn, hpc])
    case cRan thr => exact en (.onceStored t (!thr)) nofun nofun (by simp [Once.step, htn, hpc])
    case retn r => exact en (.ret t r) nofun nofun (by simp [Once.step, htn, hpc])

/-- Both "owed" sums (`notify_all` owed after a store of `true`, `set` owed by a winner) vanish in a
    stuck state. -/
theorem stuck_sums (s : Once.St) (hr : OReachable s) (hs : OStuck s) :
    Once.ssum s = 0 ∧ Once.osum s = 0 := by
  have hq := C09_event_stuck_only_when_blocked s hr hs
  constructor
  · apply sumTo_eq_zero
    intro u hu
    rcases hq u hu with h | h | ⟨c, h, _⟩ <;> simp [h, Once.setW]
  · apply sumTo_eq_zero
    intro u hu
    rcases hq u hu with h | h | ⟨c, h, _⟩ <;> simp [h, Once.owesSetW]

/-- **`set` releases all current waiters.**  In every reachable stuck state, if some thread is
    still parked in `event::wait` then the flag is false: a blocked waiter cannot coexist with a
    set event once the setting thread has run to completion (in particular the window in `set`
    between the lock-free store and `notify_all`, and the lock-free fast-path read in `wait`, lose
    no waiter). -/
theorem C09_event_all_released (s : Once.St) (hr : OReachable s) (hs : OStuck s) (t : Nat)
    (c : Once.Ctx) (hb : OBlocked s t c) : s.flag = false := by
  have hz := (stuck_sums s hr hs).1
  obtain ⟨n, log, hlog⟩ := hr
  obtain ⟨hi, hp⟩ := Once.inv_of_accepted hlog
  have hin : t ∈ s.queue := (hi.qIff t).2 (by simp [hb.1, Once.inQ])
  have hne : s.queue ≠ [] := by intro h; rw [h] at hin; simp at hin
  cases hf : s.flag with
  | false => rfl
  | true => have := hp.flagQ hf hne; omega

/-- Without resets, a waiter blocked at quiescence means the event was never set. -/
theorem C09_event_blocked_only_if_never_set (s : Once.St) (hr : OReachable s) (hs : OStuck s)
    (hnr : s.resets = 0) (t : Nat) (c : Once.Ctx) (hb : OBlocked s t c) : s.sets = 0 := by
  have hf := C09_event_all_released s hr hs t c hb
  cases hsets : s.sets with
  | zero => rfl
  | succ k =>
    have := (C09_event_future_waiters_pass s hr hnr (by omega)).1
    rw [hf] at this; simp at this

/-- Number of entries into a non-throwing callable (`once.body` events with `thr = false`). -/
def okBodies : List Once.Ev → Nat
  | [] => 0
  | .body _ false :: l => okBodies l + 1
  | _ :: l => okBodies l

/-- Number of stores of `complete` into the status word. -/
def completes : List Once.Ev → Nat
  | [] => 0
  | .onceStored _ true :: l => completes l + 1
  | _ :: l => completes l

theorem once_counters_step (s s' : Once.St) (e : Once.Ev) (h : Once.step s e = some s') :
    s'.okRuns = s.okRuns + okBodies [e] ∧ s'.completions = s.completions + completes [e] ∧ s'.n = s.n := by
  obtain ⟨h1, h2, h3, _⟩ := Once.step_counters h
  refine ⟨h2.trans (congrArg _ ?_), h3.trans (congrArg _ ?_), h1⟩ <;> cases e <;> (try cases ‹Bool›) <;> rfl

theorem once_counters_log (log : List Once.Ev) : ∀ (s s' : Once.St), runLog Once.step s log = some s' →
    s'.okRuns = s.okRuns + okBodies log ∧ s'.completions = s.completions + completes log ∧ s'.n = s.n := by
  induction log with
  | nil => intro s s' h; cases h; exact ⟨rfl, rfl, rfl⟩
  | cons e es ih =>
    intro s s' h
    obtain ⟨s1, h1, h2⟩ := runLog_cons_some h
    have := once_counters_step s s1 e h1
    have := ih s1 s' h2
    have : okBodies (e :: es) = okBodies [e] + okBodies es := by
      cases e <;> (try cases ‹Bool›) <;> simp [okBodies] <;> omega
    have : completes (e :: es) = completes [e] + completes es := by
      cases e <;> (try cases ‹Bool›) <;> simp [completes] <;> omega
    omega

/-- **The callable runs exactly once.**  In every execution of any number of `call_once` callers:
    a callable that does not throw is entered at most once and `complete` is stored at most once;
    at most one thread at a time is between winning the CAS and storing the status (so two
    callables never run concurrently); and once the status is `complete` the callable has been
    entered-and-completed exactly once and nobody is inside the winner's section. -/
theorem C09_once_exactly_once (n : Nat) (log : List Once.Ev) (s : Once.St)
    (h : runLog Once.step (Once.init n) log = some s) :
    okBodies log ≤ 1 ∧ completes log ≤ 1 ∧ Once.rsum s ≤ 1 ∧
    (s.status = .complete → okBodies log = 1 ∧ completes log = 1 ∧ Once.rsum s = 0) := by
  obtain ⟨hi, hp⟩ := Once.inv_of_accepted h
  have hc := once_counters_log log _ s h
  simp only [Once.init] at hc
  have h3 := hp.runOne
  have h4 := hp.compl
  have h5 := hp.okRunsEq
  have hk : Once.ksum s ≤ Once.rsum s := by
    apply sumTo_mono
    intro u _
    cases hpc : s.pc u <;> simp [Once.ranOkW, Once.runW, Once.b2n]
    split <;> omega
  cases hst : s.status <;> simp [hst] at h3 h4 ⊢ <;> omega

/-- **Every other caller returns only after the callable has finished.**  Whenever a caller
    returns normally from `call_once`, the status is `complete`: a (non-throwing) callable has run
    to completion exactly once before this return and no thread is inside the callable. -/
theorem C09_once_others_after (n : Nat) (log : List Once.Ev) (s s' : Once.St)
    (hlog : runLog Once.step (Once.init n) log = some s) (t : Nat)
    (hop : Once.isCall (s.curOp t) = true) (h : Once.step s (.ret t 0) = some s') :
    s.status = .complete ∧ okBodies log = 1 ∧ completes log = 1 ∧ Once.rsum s = 0 := by
  obtain ⟨hi, hp⟩ := Once.inv_of_accepted hlog
  have hst : s.status = .complete := by
    obtain ⟨_, hpc | ⟨hpc, _⟩, _⟩ := Once.step_ret h
    · exact hp.complete t (by rw [hpc]; simp [Once.needsComplete, hop])
    · have := hi.opOk t
      rw [hpc] at this
      simp [Once.pcOpOk] at this
      rw [this] at hop; cases hop
  exact ⟨hst, (C09_once_exactly_once n log s hlog).2.2.2 hst⟩

/-- Once `complete` is stored, the callable is never entered again and the CAS is never won again. -/
theorem C09_once_never_again (s : Once.St) (hr : OReachable s) (hst : s.status = .complete) :
    ∀ t, (∀ thr, Once.step s (.body t thr) = none) ∧ Once.step s (.onceWon t) = none := by
  obtain ⟨n, log, hlog⟩ := hr
  have h0 := ((C09_once_exactly_once n log s hlog).2.2.2 hst).2.2
  refine fun t => ⟨fun thr => ?_, by simp [Once.step, hst]⟩
  -- nobody is in the winner's section
  cases hb : Once.step s (.body t thr) with
  | none => rfl
  | some s' =>
    obtain ⟨htn, hpc⟩ := Once.step_body hb
    have hle := le_sumTo (f := fun u => Once.runW (s.pc u)) htn
    simp only [Once.rsum] at h0
    rw [h0, hpc] at hle
    cases hle

/-- **Retry after a throw.**  When the callable threw, the winner stores `0` back into the status
    word, so the CAS of any caller that is (or later arrives) at the CAS succeeds and that caller
    runs its callable; the exception itself is delivered only to the caller whose callable
    threw. -/
theorem C09_once_retry_on_throw (s s' : Once.St) (hr : OReachable s) (t : Nat)
    (h : Once.step s (.onceStored t false) = some s') :
    s'.status = .zero ∧
    (∀ u thr, u < s'.n → s'.pc u = .cCas thr → (Once.step s' (.onceWon u)).isSome = true) ∧
    (∀ u r s'', Once.step s (.ret u r) = some s'' → r = 2 → s.curOp u = .call true) := by
  obtain ⟨n, log, hlog⟩ := hr
  obtain ⟨hi, hp⟩ := Once.inv_of_accepted hlog
  have hz : s'.status = .zero := by
    cases Once.Step.of h with
    | onceStored _ thr _ _ _ hv => cases thr <;> first | rfl | cases hv
  refine ⟨hz, fun u thr hu hpc => by simp [Once.step, hu, hz, hpc], fun u r s'' hret hr2 => ?_⟩
  subst hr2
  obtain ⟨_, hpc | ⟨_, hb⟩, _⟩ := Once.step_ret hret
  · exact hp.excOk u hpc
  · cases hf : s.flag <;> simp [hf, Once.b2n] at hb

/-- **No caller of `call_once` is left behind.**  In every reachable stuck state of an execution
    without stand-alone `reset`s of the flag's event, no thread is parked inside `call_once`:
    every caller that lost the CAS is eventually released by the winner's `event_.set()`,
    whether the callable returned or threw (then it retries), in spite of the lock-free status
    word, the event reset at the start of each attempt and late `set`s of earlier failed
    attempts. -/
theorem C09_once_all_callers_return (s : Once.St) (hr : OReachable s) (hs : OStuck s)
    (hnr : s.topResets = 0) (t : Nat) (htn : t < s.n) (hop : Once.isCall (s.curOp t) = true) :
    s.pc t = .idle ∨ s.pc t = .fin := by
  have hq := C09_event_stuck_only_when_blocked s hr hs t htn
  have hz := stuck_sums s hr hs
  rcases hq with h | h | ⟨c, hb⟩
  · exact Or.inl h
  · exact Or.inr h
  · exfalso
    have hf := C09_event_all_released s hr hs t c hb
    obtain ⟨n, log, hlog⟩ := hr
    obtain ⟨hi, hp⟩ := Once.inv_of_accepted hlog
    have hoo := hi.opOk t
    rw [hb.1] at hoo
    cases c with
    | top =>
      simp [Once.pcOpOk, Once.ctxOk] at hoo
      rw [hoo] at hop; simp [Once.isCall] at hop
    | once thr =>
      have hw := hp.waiterWins t (by rw [hb.1]; simp [Once.onceWaiter, Once.isOnce])
      have := hp.onceFlag hf hnr hw
      omega

/-! ### Non-vacuity (event, call_once) -/

/-- a waiter blocks, `set` stores true and wakes it through `notify_all` -/
example : (runLog Once.step (Once.init 2)
    [.inv 0 .wait, .evLoad 0 false, .slAcq 0, .evLoadL 0 false, .cvEnq 0 1, .slRel 0, .suspend 0, .inv 1 .set, .stored 1 true,
     .slAcq 1, .notifyAll 1 [0], .slRel 1, .ret 1 0, .woke 0, .slAcq 0, .cvWoke 0 false, .evLoadL 0 true,
     .slRel 0, .ret 0 0]).isSome = true := by decide

/-- the store of `set` falls between the waiter's fast-path read and its locked re-check -/
example : (runLog Once.step (Once.init 2)
    [.inv 0 .wait, .evLoad 0 false, .inv 1 .set, .stored 1 true, .slAcq 0, .evLoadL 0 true, .slRel 0, .ret 0 0,
     .slAcq 1, .notifyAll 1 [], .slRel 1, .ret 1 0]).isSome = true := by decide

/-- the store of `set` falls between the waiter's read of the loop condition (false) and its
    enqueue: the waiter enqueues with the flag already true and is woken by that `set`'s
    `notify_all`, which needs the lock the waiter still holds -/
example : (runLog Once.step (Once.init 2)
    [.inv 0 .wait, .evLoad 0 false, .slAcq 0, .evLoadL 0 false, .inv 1 .set, .stored 1 true, .cvEnq 0 1,
     .slRel 0, .slAcq 1, .notifyAll 1 [0], .slRel 1, .ret 1 0, .suspend 0, .woke 0, .slAcq 0,
     .cvWoke 0 false, .evLoadL 0 true, .slRel 0, .ret 0 0]).isSome = true := by decide

/-- a stuck state with a blocked waiter exists (so `C09_event_all_released` is not vacuous) -/
example : ∃ s, runLog Once.step (Once.init 1)
      [.inv 0 .wait, .evLoad 0 false, .slAcq 0, .evLoadL 0 false, .cvEnq 0 1, .slRel 0, .suspend 0] = some s
    ∧ OBlocked s 0 .top := by
  refine ⟨_, rfl, ?_⟩
  simp [OBlocked, upd, Once.init]

/-- call_once: thread 1's callable throws; thread 0 lost the CAS, blocked, is woken by the failed
    winner's `set`, retries, wins and completes; thread 1 leaves with the exception -/
def onceExampleLog : List Once.Ev :=
  [.inv 1 (.call true), .onceLoad 1, .onceWon 1, .inv 0 (.call false), .stored 1 false, .onceLoad 0,
   .onceLost 0 false, .body 1 true, .evLoad 0 false, .slAcq 0, .evLoadL 0 false, .cvEnq 0 1, .slRel 0, .suspend 0,
   .onceStored 1 false, .stored 1 true, .slAcq 1, .notifyAll 1 [0], .slRel 1, .ret 1 2,
   .woke 0, .slAcq 0, .cvWoke 0 false, .evLoadL 0 true, .slRel 0, .onceLoad 0, .onceWon 0, .stored 0 false,
   .body 0 false, .onceStored 0 true, .stored 0 true, .slAcq 0, .notifyAll 0 [], .slRel 0, .ret 0 0]

example : (runLog Once.step (Once.init 2) onceExampleLog).isSome = true := by decide

/-- **Spin window of `call_once` (finding, not a violation of C09).**  After a failed attempt the
    failed winner's `event_.set()` may be delayed past the next winner's `event_.reset()`.  Then
    the flag is `true` while the status is `running` and the new winner is inside its callable:
    a loser's `event_.wait()` returns on the fast path every time, so it cycles through status
    load, failed CAS and `wait` without ever suspending for as long as the callable runs. -/
def onceSpinLog : List Once.Ev :=
  [.inv 0 (.call true), .onceLoad 0, .onceWon 0, .stored 0 false, .body 0 true, .onceStored 0 false,
   .inv 1 (.call false), .onceLoad 1, .onceWon 1, .stored 1 false, .body 1 false,
   .stored 0 true,
   .inv 2 (.call false), .onceLoad 2, .onceLost 2 false, .evLoad 2 true, .onceLoad 2, .onceLost 2 false,
   .evLoad 2 true]

theorem once_spin_window_reachable : ∃ s, runLog Once.step (Once.init 3) onceSpinLog = some s ∧
    s.flag = true ∧ s.status = .running ∧ s.pc 1 = .cRan false ∧ s.pc 2 = .cLoad false := by
  refine ⟨_, rfl, ?_⟩
  decide


/-! ## Released for good; `occurred`; leaving the loop of `wait_locked` and returning from `wait` under `reset` races -/

/-- Reachability extends along accepted logs. -/
theorem LReachable.extend {s s' : Latch.St} (hr : LReachable s) (log : List Latch.Ev)
    (h : runLog Latch.step s log = some s') : LReachable s' := by
  obtain ⟨n, c, l0, h0⟩ := hr
  refine ⟨n, c, l0 ++ log, ?_⟩
  rw [runLog_append, h0]; exact h

/-- **Released for good.**  From any reachable state, along every accepted continuation (any number
    of further `count_down` / `wait` / `try_wait` / `arrive_and_wait` calls of any threads, in
    particular more participants than workers) the counter never grows and a set `notified_` stays
    set: a latch that has released its waiters releases every later waiter (with
    `C09_latch_stays_released`: the blocking branch stays disabled) and every later `try_wait`
    under the precondition returns `true`. -/
theorem C09_latch_released_forever (s : Latch.St) (hr : LReachable s) (log : List Latch.Ev) :
    ∀ s', runLog Latch.step s log = some s' →
      s'.counter ≤ s.counter ∧ (s.notified = true → s'.notified = true) := by
  intro s' h
  exact (inv_of_runLog
    (fun x => LReachable x ∧ x.counter ≤ s.counter ∧ (s.notified = true → x.notified = true))
    (fun x e x' hx hs => have h1 := (C09_latch_stays_released x hx.1).1 e x' hs
      ⟨hx.1.extend [e] (by simp [runLog, hs]), Int.le_trans h1.1 hx.2.1, fun hn => h1.2 (hx.2.2 hn)⟩)
    ⟨hr, Int.le_refl _, id⟩ h).2

/-- `event::occurred()` returns the flag at its (single, atomic) load — also while `set` / `reset`
    of other threads race with it. -/
theorem C09_event_occurred_exact (s s' : Once.St) (t r : Nat) (hpc : s.pc t = .oWant)
    (h : Once.step s (.ret t r) = some s') : r = Once.b2n s.flag := by
  obtain ⟨_, hp | ⟨_, hr⟩, _⟩ := Once.step_ret h
  · rw [hpc] at hp; cases hp
  · exact hr

/-- **Under `reset` races: the loop of `wait_locked` is left only by a read of `true`.**  Whatever
    `set` / `reset` calls interleave, the only step by which a thread gets past
    `while (!event_.load()) cond_.wait(l)` is its own read of the loop condition with the flag
    `true` at that moment (a notified waiter that finds the flag reset again re-blocks). -/
theorem C09_event_loop_left_on_true (s s' : Once.St) (e : Once.Ev) (t : Nat) (c : Once.Ctx)
    (h : Once.step s e = some s') (hnew : s'.pc t = .wPass c) (hold : s.pc t ≠ .wPass c) :
    e = .evLoadL t true ∧ s.flag = true := by
  have hw : ∀ c', Once.wDone c' ≠ .wPass c := fun c' => by cases c' <;> nofun
  have hsd : ∀ c', Once.sDone c' ≠ .wPass c := fun c' => by cases c' <;> nofun
  cases Once.Step.of h with
  | evLoadLT t₀ c' _ _ hf =>
    obtain ⟨rfl, hx⟩ := Once.arrive hnew hold
    exact ⟨rfl, hf⟩
  | inv t₀ o => exact absurd (Once.arrive hnew hold).2 (by cases o <;> nofun)
  | evLoadT t₀ c' | relW t₀ c' => exact absurd (Once.arrive hnew hold).2 (hw c')
  | relS t₀ c' => exact absurd (Once.arrive hnew hold).2 (hsd c')
  | notifyAll t₀ =>
    -- `notify_all` marks entries of parked waiters as popped; it moves nobody past the loop
    have hold' : (if t ∈ s.queue then Once.popd (s.pc t) else s.pc t) ≠ .wPass c := fun hp => hold (by
      split at hp
      · revert hp; cases s.pc t <;> simp [Once.popd]
      · exact hp)
    exact absurd (Once.arrive (pc := fun u => if u ∈ s.queue then Once.popd (s.pc u) else s.pc u) hnew hold').2
      nofun
  | _ => exact absurd (Once.arrive hnew hold).2 nofun

/-- **Under `reset` races: a stand-alone `wait` returns only after this call read the flag `true`.**
    The only steps that take a thread inside `event::wait` to its return are the fast-path load
    that reads `true` (flag true at that moment) and the unlock after the locked loop was left
    (`C09_event_loop_left_on_true`); a `reset` that lands after the read does not "un-release" the
    waiter, a `reset` that lands before it keeps it waiting. -/
theorem C09_event_wait_returns_after_true_read (s s' : Once.St) (hr : OReachable s) (e : Once.Ev) (t : Nat)
    (h : Once.step s e = some s') (hop : s.curOp t = .wait)
    (hnew : s'.pc t = .retn 0) (hold : s.pc t ≠ .retn 0) :
    (e = .evLoad t true ∧ s.flag = true) ∨ (e = .slRel t ∧ s.pc t = .wPass .top) := by
  obtain ⟨n, log, hlog⟩ := hr
  have hok := (Once.inv_of_accepted hlog).1.opOk t
  rw [hop] at hok
  have hw : ∀ c', Once.wDone c' = .retn 0 → c' = .top := fun c' => by cases c' <;> simp [Once.wDone]
  -- an arrival from a program counter that does not belong to a `wait`
  have other : ∀ {p : Once.Pc}, s.pc t = p → Once.pcOpOk p .wait = false → False := fun hp hf => by
    rw [hp, hf] at hok; cases hok
  cases Once.Step.of h with
  | evLoadT t₀ c' _ _ hf =>
    obtain ⟨rfl, hx⟩ := Once.arrive hnew hold
    exact .inl ⟨rfl, hf⟩
  | relW t₀ c' _ hpc =>
    obtain ⟨rfl, hx⟩ := Once.arrive hnew hold
    exact .inr ⟨rfl, hw c' hx ▸ hpc⟩
  | relS t₀ c' _ hpc =>
    obtain ⟨rfl, _⟩ := Once.arrive hnew hold
    exact (other hpc (by cases c' <;> rfl)).elim
  | reset t₀ _ hpc | onceLoadC t₀ _ _ hpc | onceLostC t₀ _ _ hpc =>
    obtain ⟨rfl, _⟩ := Once.arrive hnew hold; exact (other hpc rfl).elim
  | inv t₀ o => exact absurd (Once.arrive hnew hold).2 (by cases o <;> nofun)
  | notifyAll t₀ =>
    have hold' : (if t ∈ s.queue then Once.popd (s.pc t) else s.pc t) ≠ .retn 0 := fun hp => hold (by
      split at hp
      · revert hp; cases s.pc t <;> simp [Once.popd]
      · exact hp)
    exact absurd (Once.arrive (pc := fun u => if u ∈ s.queue then Once.popd (s.pc u) else s.pc u) hnew hold').2
      nofun
  | _ => exact absurd (Once.arrive hnew hold).2 nofun

end PikaVerif.C09
