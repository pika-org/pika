import PikaVerif.Lemmas.SchedCo3
/-!
# C01 — every submitted task runs exactly once, on one worker at a time

Theorems about the scheduler protocol model `PikaVerif.Sched` (state word + scheduling loop +
queue tokens).  They hold for every accepted log, i.e. every number of workers, tasks, yields,
suspensions, steals and recyclings and every interleaving of the instrumented operations.
"Object" = one `thread_data` instance; "actor" = one OS thread.

The body-entered-exactly-once clause also depends on the coroutine implementation (the first
phase enters the body, later phases resume it).  The second half of this file (C01b) proves it on
the model with the coroutine/body layer `Model/SchedCo.lean`, together with the progress ("run to
completion") theorems; the E2 monitors count the entries per task as well.
-/
namespace PikaVerif.C01
open PikaVerif.Sched

def Reachable (s : St) : Prop := ∃ log, runLog step init log = some s

theorem inv_of_reachable {s : St} (h : Reachable s) : Inv s := by
  obtain ⟨log, hl⟩ := h
  exact inv_of_accepted hl

/-- **Only a pending thread whose queue entry this worker holds can be activated, and it has no
    runner at that moment.**  Whenever the model accepts a successful pending→active exchange by
    actor `a` on object `o`, the object was pending, had no owner, and `a` was the unique holder
    of its scheduling token — so two workers can never activate the same task. -/
theorem C01_activation_exclusive (s s' : St) (hr : Reachable s) (a o : Nat) (b af : W)
    (h : step s (.tagged a o b af) = some s') :
    (s.obj o).w.st = sPending ∧ (s.obj o).owner = none ∧ (s.obj o).holder = some a ∧
    (s.obj o).q = 0 ∧ (s.obj o).pusher = none ∧ (s'.obj o).owner = some a := by
  have hi := (inv_of_reachable hr) o
  obtain ⟨⟨hl, hh, _, he, hw, _⟩, rfl⟩ := of_ite_some h
  have hst : (s.obj o).w.st = sPending := hw ▸ he
  obtain ⟨_, _, hq, hp⟩ := hi.sole_holder hl hh
  exact ⟨hst, hi.no_owner hl (by rw [hst]; decide), hh, hq, hp, by simp only [upd_same]⟩

/-- **One worker at a time.**  A phase of object `o` is only ever started by the actor that
    activated it, while the object is active and no other phase of it is in progress. -/
theorem C01_single_runner (s s' : St) (hr : Reachable s) (a o : Nat)
    (h : step s (.phaseBegin a o) = some s') :
    (s.obj o).owner = some a ∧ (s.obj o).w.st = sActive ∧ (s.obj o).inPhase = false := by
  obtain ⟨⟨hl, ho, hp, _⟩, _⟩ := of_ite_some h
  exact ⟨ho, ((inv_of_reachable hr o).of_owner hl ho).1, Bool.not_eq_true' _ ▸ hp⟩

/-- In every reachable state an object with a phase in progress is owned and active (the owner is
    one field of the state, so the runner is unique by construction of the model). -/
theorem C01_running_implies_active (s : St) (hr : Reachable s) (o : Nat)
    (hl : (s.obj o).live = true) (hp : (s.obj o).inPhase = true) :
    (s.obj o).owner.isSome = true ∧ (s.obj o).w.st = sActive := by
  have hi := (inv_of_reachable hr) o
  have ho := hi.phaseOwner hp
  exact ⟨ho, (hi.ownerActive hl).1 ho⟩

/-- **Never dropped.**  In every reachable state, a scheduled object that is pending (or
    pending_boost) carries exactly one scheduling token: a queue entry, a worker that has popped
    it, or the actor that has just made it pending and is about to queue it; an object in any
    other state carries none. -/
theorem C01_no_drop (s : St) (hr : Reachable s) (o : Nat) (hl : (s.obj o).live = true)
    (hf : (s.obj o).fresh = false) :
    (pendingish (s.obj o).w = true → tokens (s.obj o) = 1) ∧
    (pendingish (s.obj o).w = false → tokens (s.obj o) = 0) := by
  have hi := (inv_of_reachable hr) o
  exact ⟨hi.tokPending hl hf, hi.tokNone hl⟩

/-- An object is *at rest* when nothing in the system can make it run: no queue entry, no holder,
    nobody about to queue it, nobody running it. -/
def AtRest (x : Obj) : Prop := x.q = 0 ∧ x.holder = none ∧ x.pusher = none ∧ x.owner = none

/-- **At rest means finished or suspended.**  A scheduled object that is at rest is neither
    pending nor active: the runtime can only come to rest with a task terminated or
    (legitimately) suspended — a task is never lost while runnable. -/
theorem C01_at_rest_not_runnable (s : St) (hr : Reachable s) (o : Nat) (hl : (s.obj o).live = true)
    (hf : (s.obj o).fresh = false) (hrest : AtRest (s.obj o)) :
    pendingish (s.obj o).w = false ∧ (s.obj o).w.st ≠ sActive := by
  have hi := (inv_of_reachable hr) o
  -- a pending object has a token, an active one an owner
  have := hi.tokPending hl hf; have := hi.ownerActive hl
  grind [AtRest, tokens, b2n]

/-- **Recycling is safe.**  A thread object is re-initialised for a new task only when no queue
    entry, worker or pending insertion refers to it and no phase of it is running. -/
theorem C01_recycle_safe (s s' : St) (a o : Nat) (w : W) (h : step s (.rebind a o w) = some s') :
    (s.obj o).q = 0 ∧ (s.obj o).holder = none ∧ (s.obj o).owner = none ∧ (s.obj o).pusher = none ∧
    (s.obj o).inPhase = false := by
  obtain ⟨⟨_, hu, _⟩, _⟩ := of_ite_some h
  simp [unreferenced] at hu
  simp [hu]

/-! ## Non-vacuity -/

def w0 : W := ⟨sPending, 1, 0⟩

/-- create, queue, pop, activate, run a phase returning `suspended`, store -/
def exampleLog : List Ev :=
  [.new 0 1 w0, .push 0 1, .got 1 1 w0 false, .tagged 1 1 w0 ⟨sActive, 1, 1⟩, .phaseBegin 1 1,
   .setex 1 1 ⟨sActive, 1, 1⟩ ⟨sActive, 1, 1⟩, .bodyEnter 1 1, .phaseEnd 1 1 sSuspended,
   .restore1 1 1 ⟨sActive, 1, 1⟩ ⟨sSuspended, 1, 2⟩]

example : (runLog step init exampleLog).isSome = true := by decide

/-! ## C01b — the coroutine/body layer (`Model/SchedCo.lean`) -/

/-- reachable states of the scheduler model with the coroutine/body layer -/
def ReachableCo (s : SchedCo.St) : Prop := ∃ log, runLog SchedCo.step SchedCo.init log = some s

theorem co_inv_of_reachable {s : SchedCo.St} (h : ReachableCo s) : SchedCo.Inv s := by
  obtain ⟨log, hl⟩ := h
  exact SchedCo.inv_of_accepted hl

/-- **The layer refines the protocol model.**  Erasing the `co.*` events of an accepted log gives a
    log accepted by `Sched.step`; so every theorem above holds for the base component of every
    state reachable with the layer. -/
theorem C01_layer_refines_protocol (log : List SchedCo.Ev) (s : SchedCo.St)
    (h : runLog SchedCo.step SchedCo.init log = some s) :
    runLog Sched.step Sched.init (SchedCo.baseLog log) = some s.base ∧ Reachable s.base := by
  have := SchedCo.base_accepts h
  exact ⟨this, ⟨_, this⟩⟩

/-- **Body entered at most once per incarnation, exactly once if it terminated** (log form).
    For every accepted log and every thread object `o`: the number of thread-function entries
    (`co.enter`) after the last `task.new`/`task.rebind` of `o` is at most one, returns never exceed
    entries, and if the incarnation has reached `terminated` the function was entered exactly once
    and returned exactly once.  `entriesSince`/`returnsSince` are functions of the log alone. -/
theorem C01_body_entered_once (log : List SchedCo.Ev) (s : SchedCo.St)
    (h : runLog SchedCo.step SchedCo.init log = some s) (o : Nat) :
    SchedCo.entriesSince o log ≤ 1 ∧ SchedCo.returnsSince o log ≤ SchedCo.entriesSince o log ∧
    ((s.base.obj o).live = true → (s.base.obj o).fresh = false → (s.base.obj o).w.st = sTerminated →
      SchedCo.entriesSince o log = 1 ∧ SchedCo.returnsSince o log = 1) := by
  obtain ⟨hb, hi⟩ := SchedCo.inv_of_accepted h
  have hi := hi o
  have hc := SchedCo.log_entries h o
  have e0 : (SchedCo.init.co o).entries = 0 := rfl
  have x0 : (SchedCo.init.co o).exits = 0 := rfl
  rw [e0] at hc; rw [x0] at hc
  unfold SchedCo.entriesSince SchedCo.returnsSince
  rw [← hc.1, ← hc.2, hi.entriesEq, hi.exitsEq]
  refine ⟨by split <;> omega, ?_, ?_⟩
  · split <;> split <;> simp_all
  · intro hl hf ht
    have := (hi.at_rest (hb o) hl hf).1 ht
    simp [this]

/-- **Between two (re)initialisations the body is entered at most once** (segment form).  Split an
    accepted log anywhere: a segment that contains no `task.new`/`task.rebind` of `o` contains at
    most one `co.enter` of `o` — and none at all if the function had been entered before the
    segment started. -/
theorem C01_body_entered_once_segment (pre seg : List SchedCo.Ev) (s : SchedCo.St)
    (h : runLog SchedCo.step SchedCo.init (pre ++ seg) = some s) (o : Nat)
    (hseg : seg.all (fun e => !SchedCo.isReinit o e) = true) :
    SchedCo.entriesSince o pre + (seg.filter (SchedCo.isEnter o)).length ≤ 1 := by
  have h1 := C01_body_entered_once (pre ++ seg) s h o
  unfold SchedCo.entriesSince at h1 ⊢
  rw [List.foldl_append, SchedCo.foldl_entF_noReinit o seg _ hseg] at h1
  exact h1.1

/-- **A later activation never re-enters.**  Once the thread function of the current incarnation
    has been entered, the model accepts no second entry: every further activation is a `co.resume`,
    which continues after the yield the body stopped at (and is accepted only then). -/
theorem C01_no_reentry (s : SchedCo.St) (hr : ReachableCo s) (a o : Nat)
    (he : (s.co o).entries ≠ 0) :
    SchedCo.step s (.coEnter a o) = none ∧
    (∀ s', SchedCo.step s (.coResume a o) = some s' →
      (s.co o).pc.isYielded = true ∧ (s'.co o).pc = .inBody ∧ (s'.co o).entries = (s.co o).entries) := by
  have := ((co_inv_of_reachable hr).2 o).entriesEq
  constructor
  · cases hs : SchedCo.step s (.coEnter a o) with
    | none => rfl
    | some s' => obtain ⟨hg, _⟩ := of_ite_some hs; grind
  · intro s' h
    obtain ⟨hg, rfl⟩ := of_ite_some h
    simp [hg.2.2.2.1]

/-- **Each phase activates the body exactly once, and `terminated` comes from the body's return.**
    When the scheduling loop sees a phase end with request `r`, the coroutine was switched to in
    this phase, and either the body is at a yield that asked for exactly `r` (one of pending,
    suspended, pending_boost), or the thread function has returned and `r = terminated`.  In
    particular a `terminated` request is only ever produced by the return of the thread function. -/
theorem C01_phase_result_from_body (s s' : SchedCo.St) (hr : ReachableCo s) (a o r : Nat)
    (h : SchedCo.step s (.base (.phaseEnd a o r)) = some s') :
    (s.co o).ran = true ∧
    (((s.co o).pc = .yielded r ∧ SchedCo.okReq r = true ∧ r ≠ sTerminated) ∨
     ((s.co o).pc = .returned ∧ r = sTerminated ∧ (s.co o).exits = 1)) := by
  have hi := (co_inv_of_reachable hr).2 o
  obtain ⟨hg, _⟩ := of_ite_some (SchedCo.step_base h).2
  -- a yield asks for one of three states, none of them `terminated`; a returned body has one exit
  have := hi.okReq; have := hi.exitsEq
  grind [SchedCo.CoPc.okReq, SchedCo.okReq]

/-- **The state word becomes `terminated` only after the body returned.** -/
theorem C01_terminated_only_after_return (s : SchedCo.St) (hr : ReachableCo s) (o : Nat)
    (hl : (s.base.obj o).live = true) (hf : (s.base.obj o).fresh = false)
    (ht : (s.base.obj o).w.st = sTerminated) :
    (s.co o).pc = .returned ∧ (s.co o).entries = 1 ∧ (s.co o).exits = 1 := by
  obtain ⟨hb, hi⟩ := co_inv_of_reachable hr
  have := ((hi o).at_rest (hb o) hl hf).1 ht; have := (hi o).entriesEq; have := (hi o).exitsEq
  grind

/-- **An entered, unfinished body is never lost and never duplicated.**  In every reachable state, a
    thread object whose function has been entered and has not returned is either *active* — owned
    by exactly one actor (the `owner` field) — or *pending* / *pending_boost* with exactly one
    scheduling token (queue entry, holder or pusher), or *suspended* with no token.  While the body
    is executing (`inBody`) it is in the phase of that one owner. -/
theorem C01_open_body_located (s : SchedCo.St) (hr : ReachableCo s) (o : Nat)
    (hl : (s.base.obj o).live = true) (hopen : (s.co o).pc.open = true) :
    (((s.base.obj o).w.st = sActive ∧ (s.base.obj o).owner.isSome = true ∧ tokens (s.base.obj o) = 0) ∨
     (pendingish (s.base.obj o).w = true ∧ (s.base.obj o).owner = none ∧ tokens (s.base.obj o) = 1) ∨
     ((s.base.obj o).w.st = sSuspended ∧ (s.base.obj o).owner = none ∧ tokens (s.base.obj o) = 0)) ∧
    ((s.co o).pc = .inBody → (s.base.obj o).inPhase = true ∧ (s.base.obj o).w.st = sActive) := by
  -- from the invariant of the object and the table, by cases on the state word
  obtain ⟨hb, hc⟩ := co_inv_of_reachable hr
  obtain ⟨b1, b2, b3, b4, _, _, _, _, _⟩ := hb o
  have := (hb o).no_owner hl
  have := (hc o).fits; have := (hc o).stValid hl
  grind [SchedCo.Fits, SchedCo.CoPc.open, SchedCo.CoPc.resumable, pendingish]

/-! ### Run to completion: progress

`Internal` events continue an operation that is already in progress (a queue insertion owed by a
pusher, a pop, the activation exchange, the phase with its coroutine switch, the body's next yield
or its return, the state store after the phase, the steps of a wake request in flight).  The
remaining events start something new or do not advance anything: creation / recycling /
destruction of a thread object, the entry of a new wake request (`sts.enter`; C02),
`abort_all_suspended_threads` (`sw.set` on a suspended thread), the fetch of the restart state
(`sw.setex`) and the harness' body notes. -/

def Internal : SchedCo.Ev → Bool
  | .base (.new _ _ _) => false
  | .base (.rebind _ _ _) => false
  | .base (.destroy _ _ _) => false
  | .base (.stsEnter _ _ _) => false
  | .base (.setex _ _ _ _) => false
  | .base (.set _ _ before _) => before.st != sSuspended
  | .base (.bodyEnter _ _) => false
  | .base (.bodyExit _ _) => false
  | _ => true

/-- no operation in progress can take a step -/
def Stuck (s : SchedCo.St) : Prop := ∀ e, Internal e = true → SchedCo.step s e = none

/-- **Progress ("run to completion").**  In a reachable state in which the model accepts no internal
    event, every thread object that was ever constructed has been scheduled, is at rest (no queue
    entry, holder, pusher or owner, no phase running), and its current incarnation is either
    *terminated* — its function was entered exactly once and returned exactly once — or
    *legitimately suspended*: the state word is `suspended` and the body sits at a yield that asked
    for exactly that (it waits for a wake-up; C02 shows that a wake-up request issued for it puts it
    back into a queue).  So the runtime cannot come to rest with a task that was never started,
    half run, or runnable. -/
theorem C01_progress (s : SchedCo.St) (hr : ReachableCo s) (hstuck : Stuck s) (o : Nat)
    (hl : (s.base.obj o).live = true) :
    (s.base.obj o).fresh = false ∧ AtRest (s.base.obj o) ∧ (s.base.obj o).inPhase = false ∧
    (((s.base.obj o).w.st = sTerminated ∧ (s.co o).pc = .returned ∧ (s.co o).entries = 1 ∧ (s.co o).exits = 1) ∨
     ((s.base.obj o).w.st = sSuspended ∧ (s.co o).pc = .yielded sSuspended ∧ (s.co o).entries = 1 ∧ (s.co o).exits = 0)) :=
  (SchedCo.progress (co_inv_of_reachable hr) hl).resolve_left fun ⟨e, hI, hs⟩ => by
    rw [hstuck e (by rcases e with e | _ | _ | _ | _ <;> first | rfl | (cases e <;> exact hI _ rfl))] at hs
    cases hs

/-- **A task with a token can always be run (solo completion).**  In every reachable state, take a
    constructed thread object that is pending or pending_boost — freshly created or re-queued after
    a yield or a wake-up — and any actor `a0`.  Then the model accepts a continuation of at most
    four events (the `pending_boost → pending` store and the queue insertion still owed by its
    pusher, a pop, the activation exchange) after which the object is active and owned by a worker;
    that worker is `a0` unless some worker already holds the popped entry.  No other object and no
    other actor has to move: a runnable task never depends on anything but a free worker. -/
theorem C01_token_runnable (s : SchedCo.St) (hr : ReachableCo s) (o a0 : Nat)
    (hl : (s.base.obj o).live = true) (hp : pendingish (s.base.obj o).w = true) :
    ∃ log s' a, log.length ≤ 4 ∧ runLog SchedCo.step s log = some s' ∧
      (s'.base.obj o).w.st = sActive ∧ (s'.base.obj o).owner = some a ∧
      ((s.base.obj o).holder = none → a = a0) := by
  obtain ⟨log, hlen, _, s', hrun, h1, h2⟩ := SchedCo.solo_run (a := (s.base.obj o).holder.getD a0)
    (co_inv_of_reachable hr).1 hl hp fun h hh => by rw [hh]; rfl
  exact ⟨log, s', _, Nat.le_trans hlen (dist_le _), hrun, h1, h2, fun hn => by rw [hn]; rfl⟩

/-! ### Non-vacuity of the layer -/

/-- create, queue, pop, activate; first phase enters the function, which yields `suspended`; a wake-up
    (`set_thread_state`) re-queues it; the second phase resumes and the function returns -/
def exampleLogCo : List SchedCo.Ev :=
  [.base (.new 0 1 w0), .base (.push 0 1), .base (.got 1 1 w0 false),
   .base (.tagged 1 1 w0 ⟨sActive, 1, 1⟩), .base (.phaseBegin 1 1),
   .base (.setex 1 1 ⟨sActive, 1, 1⟩ ⟨sActive, 1, 1⟩), .coEnter 1 1, .base (.bodyEnter 1 1),
   .coYield 1 1 sSuspended, .base (.phaseEnd 1 1 sSuspended),
   .base (.restore1 1 1 ⟨sActive, 1, 1⟩ ⟨sSuspended, 1, 2⟩),
   .base (.stsEnter 2 1 sPending), .base (.stsLoad 2 1 ⟨sSuspended, 1, 2⟩),
   .base (.restore2 2 1 ⟨sSuspended, 1, 2⟩ ⟨sPending, 1, 3⟩), .base (.push 2 1), .base (.stsDone 2 1),
   .base (.got 3 1 ⟨sPending, 1, 3⟩ false), .base (.tagged 3 1 ⟨sPending, 1, 3⟩ ⟨sActive, 1, 4⟩),
   .base (.phaseBegin 3 1), .coResume 3 1, .base (.bodyExit 3 1), .coReturn 3 1 sTerminated,
   .base (.phaseEnd 3 1 sTerminated), .base (.restore1 3 1 ⟨sActive, 1, 4⟩ ⟨sTerminated, 1, 5⟩)]

example : (runLog SchedCo.step SchedCo.init exampleLogCo).isSome = true := by decide
example : SchedCo.entriesSince 1 exampleLogCo = 1 ∧ SchedCo.returnsSince 1 exampleLogCo = 1 := by decide
/-- a second entry of the same incarnation, a resume of a body that never yielded, and a
    `terminated` phase result without a return are all rejected -/
example : (runLog SchedCo.step SchedCo.init (exampleLogCo.take 20 ++ [.coEnter 3 1])).isSome = false := by decide
example : (runLog SchedCo.step SchedCo.init (exampleLogCo.take 6 ++ [.coResume 1 1])).isSome = false := by decide
example : (runLog SchedCo.step SchedCo.init (exampleLogCo.take 21 ++ [.base (.phaseEnd 3 1 sTerminated)])).isSome = false := by decide

end PikaVerif.C01
