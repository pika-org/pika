import PikaVerif.Props.C08
import PikaVerif.Lemmas.SemCover
import PikaVerif.Lemmas.SemSolo
import PikaVerif.Lemmas.SSemSolo
import PikaVerif.Lemmas.SSemCover
/-!
# C08t — termination / bounded progress of the semaphore operations

`Props/C08.lean` states progress as "no stuck state".  This file strengthens it to termination.

**Stutter.**  The models `PikaVerif.Sem` / `PikaVerif.SSem` have **no stutter**: a failed attempt on
the internal spinlock is not an event of the model (`slAcq` is accepted only when the lock is free;
the spinning thread's `sl.lock` / `ag.yield` lines are dropped by the driver before the acceptor),
so every accepted event is a real move and the bounds below count all of them.  For the real code
they are bounds *modulo spinning on the internal lock*; a spinning episode ends after at most three
events of the lock holder, which is never blocked (`C08t_lock_released_within_three`).

**Counting / binary semaphore** (`Sem`):
* `Sem.mu` is a natural-number measure on model states that strictly decreases with every accepted
  event other than the invocation of a new operation (`C08t_measure_decreases`).
* A *program* gives each of the `n` threads a finite list of operations (`Sem.PSt`, `Sem.pstep`,
  `Lemmas/SemProg.lean`).  Every accepted log of a program has at most `Sem.bound n prog` events
  (`C08t_bounded`: 1 per thread + 11 per acquire/try_acquire/timed acquire + `15 k + 9` per
  `release(k)`), every accepted log extends to a maximal one (`C08t_maximal_exists`), and in the
  final state of a maximal log every thread has finished its whole program except acquirers parked
  in `acquire` with `value = 0` (`C08t_final_state`).
* If initial count + released permits cover the acquire-type operations — counting only releases
  that are not sequenced behind an untimed acquire of their own thread — every maximal run ends with
  all operations returned (`C08t_blocked_accounting`, `C08t_covered_all_return`; the example
  `progBad` shows that the qualification is necessary).
* One `release(k)` call run alone wakes exactly `min k (queued acquirers)` waiters in at most
  `3 m + 5` events, and these, run alone, return `true` in `6 m` events (`C08t_release_wakes`).

**Sliding semaphore** (`SSem`): the same statements (`C08t_sliding_*`); a `signal` costs `15 n + 9`
because it notifies as many waiters as are queued (at most `n`, `SSem.qlen_le`).
-/
namespace PikaVerif.C08t
open PikaVerif.Sem PikaVerif.C08

/-- **The measure decreases.**  In every reachable state, every accepted event that is not the
    invocation of a new operation strictly decreases `mu`; an invocation of `o` adds exactly the
    potential of `o` (`rank (want o) - 1`). -/
theorem C08t_measure_decreases (n : Nat) (v : Int) (log : List Ev) (s s' : St) (e : Ev)
    (h : runLog step (init n v) log = some s) (he : step s e = some s') :
    (∀ t o, e = .inv t o → mu s' + 1 = mu s + rank (.want o)) ∧
    ((∀ t o, e ≠ .inv t o) → mu s' < mu s) := by
  have hr : RelOk s := inv_of_runLog RelOk (fun s e s' => relOk_step s s' e) (relOk_init n v) h
  refine ⟨?_, fun hne => mu_step s s' e hr hne he⟩
  intro t o heq; subst heq; exact mu_inv s s' t o he

/-- **Bounded runs.**  Any accepted log of a finite program (`n` threads, `prog t` the operations
    of thread `t`) has at most `bound n prog` events — whatever the interleaving. -/
theorem C08t_bounded (n : Nat) (v : Int) (prog : Nat → List Op) (log : List Ev) (p : PSt)
    (h : runLog pstep (pinit n v prog) log = some p) : log.length ≤ bound n prog := by
  have : log.length + phi p ≤ phi (pinit n v prog) := layer.length_le potential (relOk_init n v) h
  rw [phi_pinit] at this
  omega

/-- An accepted log of a program is an accepted log of the model (so every theorem of
    `Props/C08.lean` applies to the states of program runs). -/
theorem C08t_program_refines (n : Nat) (v : Int) (prog : Nat → List Op) (log : List Ev) (p : PSt)
    (h : runLog pstep (pinit n v prog) log = some p) : runLog step (init n v) log = some p.s :=
  layer.run h

/-- **Maximal runs exist and are finite.**  Every accepted log of a program extends to an accepted
    log after which no event at all is accepted; by `C08t_bounded` its length is at most
    `bound n prog`. -/
theorem C08t_maximal_exists (n : Nat) (v : Int) (prog : Nat → List Op) (log : List Ev) (p : PSt)
    (h : runLog pstep (pinit n v prog) log = some p) :
    ∃ ext p', runLog pstep (pinit n v prog) (log ++ ext) = some p' ∧ PStuck p' ∧
      (log ++ ext).length ≤ bound n prog :=
  phi_pinit n v prog ▸ layer.maximal_exists potential (relOk_init n v) h

/-- **Final states.**  In the final state of a maximal run of a program every thread has finished
    its whole program, except threads parked in an untimed `acquire` without a wake-up token — and
    if there is such a thread the semaphore holds no permit (`value = 0`). -/
theorem C08t_final_state (n : Nat) (v : Int) (hv : 0 ≤ v) (prog : Nat → List Op) (log : List Ev)
    (p : PSt) (h : runLog pstep (pinit n v prog) log = some p) (hs : PStuck p) :
    ∀ t, t < n → (p.s.pc t = .fin ∧ p.prog t = []) ∨ (Blocked p.s t ∧ p.s.value = 0) := by
  have hlog := layer.run h
  have hreach : Reachable p.s := ⟨n, v, log, hv, hlog⟩
  have hstuck : Stuck p.s := complete.stuck hs
  have hfin := finOk_of_run h
  have hn : p.s.n = n := (counters_log log _ _ hlog).2.2.2
  intro t ht
  rcases C08_stuck_only_when_blocked p.s hreach hstuck t (by omega) with hi | hf | hb
  · rcases complete.stuck_thread hs t with h | ⟨o, h⟩ <;> simp [step, hi, hn, ht] at h
  · exact Or.inl ⟨hf, hfin t hf⟩
  · have hlt := C08_blocked_released p.s hreach hstuck t hb
    have hnn := (C08_conservation n v hv log p.s hlog).2.2
    exact Or.inr ⟨hb, by omega⟩

/-- **Accounting at the end of a maximal run.**  If a maximal run of a program ends with a thread
    still parked in `acquire`, then the initial count plus *all* permits the program releases
    (`progRel`) is smaller than the number of acquire-type operations (`progCons`: acquire,
    try_acquire, timed acquire) plus the permits of releases that sit behind an untimed acquire in
    their own thread's program (`progHazard`: they may never be executed because that acquire
    blocks). -/
theorem C08t_blocked_accounting (n : Nat) (v : Int) (hv : 0 ≤ v) (prog : Nat → List Op) (log : List Ev)
    (p : PSt) (h : runLog pstep (pinit n v prog) log = some p) (hs : PStuck p) (t0 : Nat) (ht0 : t0 < n)
    (hb : Blocked p.s t0) : v + (progRel n prog : Int) < progCons n prog + progHazard n prog := by
  have hfs := C08t_final_state n v hv prog log p h hs
  have hlog := layer.run h
  have hn : p.s.n = n := (counters_log log _ _ hlog).2.2.2
  have hinit : p.s.init = v := (counters_log log _ _ hlog).2.2.1
  obtain ⟨hi, _⟩ := inv2_of_accepted hlog
  have hacc := hi.account
  obtain ⟨c1, c2, c3⟩ := cover_log log _ p h
  obtain ⟨d1, d2, d3⟩ := cover_pinit n v prog
  rw [d1] at c1; rw [d2] at c2
  have hval : p.s.value = 0 := by
    rcases hfs t0 ht0 with hf | hb'
    · rw [hb.1] at hf; simp at hf
    · exact hb'.2
  have hR0 : sumTo p.s.n (fun u => pendR (p.s.pc u)) = 0 := by
    apply sumTo_eq_zero
    intro u hu
    rcases hfs u (by omega) with hf | hb'
    · simp [hf.1, pendR]
    · simp [hb'.1.1, pendR]
  have hRT : sumTo p.s.n (fun u => relTot (p.prog u)) ≤ progHazard n prog := by
    rw [hn]
    apply sumTo_mono
    intro u hu
    rcases hfs u hu with hf | hb'
    · simp [hf.2, relTot]
    · have := c3 u
      rw [d3 u] at this
      simpa [hW, hb'.1.1, inAcq] using this
  have hC := le_sumTo (f := fun u => pendC (p.s.pc u)) (show t0 < p.s.n by omega)
  have hC1 : pendC (p.s.pc t0) = 1 := by rw [hb.1]; rfl
  change pendC (p.s.pc t0) ≤ _ at hC
  rw [hC1] at hC
  simp only [relSum] at c1
  simp only [consSum] at c2
  omega

/-- **A task blocked in acquire proceeds once enough permits have been released.**  If the
    initial count plus the permits released by the program cover its acquire-type operations
    (counting only releases that are not sequenced behind an untimed acquire of their own thread:
    `progCons + progHazard ≤ v + progRel`; with no release behind an acquire this is literally
    "initial + sum of release counts ≥ number of acquires"), then **every maximal run ends with all
    operations returned**: every thread has finished its whole program. -/
theorem C08t_covered_all_return (n : Nat) (v : Int) (hv : 0 ≤ v) (prog : Nat → List Op) (log : List Ev)
    (p : PSt) (h : runLog pstep (pinit n v prog) log = some p) (hs : PStuck p)
    (hcov : (progCons n prog : Int) + progHazard n prog ≤ v + progRel n prog) :
    ∀ t, t < n → p.s.pc t = .fin ∧ p.prog t = [] := by
  intro t ht
  rcases C08t_final_state n v hv prog log p h hs t ht with hf | hb
  · exact hf
  · have := C08t_blocked_accounting n v hv prog log p h hs t ht hb.1
    omega

/-- **One `release(k)` call wakes `min k (blocked acquirers)` waiters, with explicit step bounds.**
    In any reachable state where thread `r` has invoked `release(k)`, the internal lock is free and
    the threads on the wait queue are parked in `acquire`: the releaser running alone
    (`relSolo`, at most `3 m + 5` events, `m = min k |queue|`) adds `k` permits, pops and resumes
    exactly the first `m` queued acquirers (each gets its wake-up token), leaves the other
    waiters queued and untouched, and returns; then the `m` woken acquirers, each running alone
    (`acqAll`, exactly `6 m` events), all take a permit and return `true`. -/
theorem C08t_release_wakes (s : St) (hr : Reachable s) (r k : Nat) (hrn : r < s.n) (hl : s.lock = none)
    (hp : s.pc r = .want (.rel k)) (hpark : ∀ g, g ∈ s.queue → s.pc g = .susp false) :
    ∃ s1 s2,
      runLog step s (relSolo r k s.value s.queue) = some s1 ∧
      (relSolo r k s.value s.queue).length ≤ 3 * min k s.queue.length + 5 ∧
      s1.pc r = .idle ∧ s1.lock = none ∧ s1.value = s.value + k ∧ s1.queue = s.queue.drop k ∧
      (s.queue.take k).length = min k s.queue.length ∧
      (∀ g, g ∈ s.queue.take k → s1.pc g = .susp true ∧ 0 < s1.tok g) ∧
      (∀ g, g ∈ s.queue.drop k → s1.pc g = .susp false ∧ s1.tok g = s.tok g) ∧
      runLog step s1 (acqAll (s.queue.take k) s1.value) = some s2 ∧
      (acqAll (s.queue.take k) s1.value).length = 6 * min k s.queue.length ∧
      (∀ g, g ∈ s.queue.take k → s2.pc g = .idle) ∧
      s2.okRets = s.okRets + min k s.queue.length ∧
      s2.value = s.value + k - min k s.queue.length := by
  obtain ⟨n, v, log, hv, hlog⟩ := hr
  obtain ⟨hi, hi2⟩ := inv2_of_accepted hlog
  have hinit : s.init = v := (counters_log log _ _ hlog).2.2.1
  have hnn : 0 ≤ s.value := hi2.nonneg (by omega)
  have hnd := hi.qNodup
  have hlen : (s.queue.take k).length = min k s.queue.length := List.length_take
  have hqn : ∀ g, g ∈ s.queue → g < s.n := fun g => hi.lt_of_mem
  have hrq : ∀ g, g ∈ s.queue → g ≠ r := by
    intro g hg he; have := hpark g hg; rw [he, hp] at this; simp at this
  have hsplit := hnd
  rw [← List.take_append_drop k s.queue, List.nodup_append] at hsplit
  have hdisj : ∀ g, g ∈ s.queue.drop k → g ∉ s.queue.take k := fun g hg hc => hsplit.2.2 g hc g hg rfl
  obtain ⟨s1, a1, a2, a3, a4, a5, a6, a7, a8, a9⟩ := relSolo_spec r k s hl hrn hp hpark hnd hnn
  have b1 := acqAll_run (s.queue.take k) s1 a2
    (by intro g hg; rw [a5]; exact hqn g (List.mem_of_mem_take hg))
    (by intro g hg; have := a8 g hg; exact ⟨this.1, by omega⟩)
    hsplit.1 (by rw [hlen, a4]; omega)
  refine ⟨s1, _, a1, relSolo_length r k s.value s.queue, a3, a2, a4, a6, hlen, ?_, ?_, b1, ?_,
    fun g hg => by simp [afterAcq, hg], ?_, ?_⟩
  · intro g hg; have := a8 g hg; exact ⟨this.1, by omega⟩
  · intro g hg
    have hgq : g ∈ s.queue := List.mem_of_mem_drop hg
    have := a9 g (hrq g hgq) (hdisj g hg)
    rw [this.1, this.2]; exact ⟨hpark g hgq, rfl⟩
  · rw [acqAll_length, hlen]
  · show s1.okRets + _ = _; rw [a7, hlen]
  · show s1.value - _ = _; rw [a4, hlen]

/-! ## Non-vacuity -/

/-- three acquirers, one `release(3)`, one `try_acquire` -/
def prog3 : Nat → List Op :=
  fun t => if t < 3 then [.acq] else if t = 3 then [.rel 3] else if t = 4 then [.tryq] else []

/-- the three acquirers block, the `try_acquire` fails in between, one `release(3)` pops all three,
    they take their permits; every thread ends its program -/
def run3 : List Ev :=
  [.inv 0 .acq, .slAcq 0, .cvEnq 0 1 false, .slRel 0, .suspend 0,
   .inv 1 .acq, .slAcq 1, .cvEnq 1 2 false, .slRel 1, .suspend 1,
   .inv 2 .acq, .slAcq 2, .cvEnq 2 3 false, .slRel 2, .suspend 2,
   .inv 4 .tryq, .slAcq 4, .slRel 4, .ret 4 false, .done 4,
   .inv 3 (.rel 3), .slAcq 3, .add 3 3 3,
   .popResume 3 2 0 false, .slRel 3, .slAcq 3,
   .popResume 3 1 1 false, .slRel 3, .slAcq 3,
   .popResume 3 0 2 false, .slRel 3, .ret 3 false, .done 3,
   .woke 0, .slAcq 0, .cvWoke 0 false false, .take 0 2, .slRel 0, .ret 0 true, .done 0,
   .woke 1, .slAcq 1, .cvWoke 1 false false, .take 1 1, .slRel 1, .ret 1 true, .done 1,
   .woke 2, .slAcq 2, .cvWoke 2 false false, .take 2 0, .slRel 2, .ret 2 true, .done 2]

/-- the run is accepted, is maximal, ends with every thread finished, and respects the bound -/
example : ∃ p, runLog pstep (pinit 5 0 prog3) run3 = some p ∧ PStuck p ∧ (∀ t, t < 5 → p.s.pc t = .fin) ∧
    run3.length ≤ bound 5 prog3 := by
  refine ⟨_, rfl, ?_, by decide, by decide⟩
  apply pstuck_of_rest
  · rfl
  · intro t ht
    have ht' : t < 5 := ht
    left
    revert t
    decide

/-- the solo part of that run is literally `relSolo` followed by `acqAll` (so the hypotheses of
    `C08t_release_wakes` are satisfiable with `k = 3` and three parked acquirers) -/
example : relSolo 3 3 0 [0, 1, 2] ++ [.done 3] ++
    (acqSolo 0 3 ++ [.done 0] ++ (acqSolo 1 2 ++ [.done 1] ++ (acqSolo 2 1 ++ [.done 2]))) = run3.drop 21 := by
  rfl

/-- the hypotheses of `C08t_release_wakes` hold in the state of that run at which thread 3 has
    invoked `release(3)`: reachable, lock free, three acquirers parked on the queue -/
example : ∃ s, runLog step (init 5 0) (run3.take 21) = some s ∧ s.lock = none ∧
    s.pc 3 = .want (.rel 3) ∧ s.queue = [0, 1, 2] ∧ ∀ g, g ∈ s.queue → s.pc g = .susp false := by
  refine ⟨_, rfl, rfl, rfl, rfl, ?_⟩
  intro g hg
  have : g = 0 ∨ g = 1 ∨ g = 2 := by simpa [init] using hg
  rcases this with h | h | h <;> subst h <;> rfl

/-- the coverage hypothesis of `C08t_covered_all_return` holds for three acquirers and one
    `release(3)` (and fails, as it must, when the `try_acquire` competes: `prog3`) -/
example : (progCons 4 (fun t => if t < 3 then [.acq] else [.rel 3]) : Int) +
    progHazard 4 (fun t => if t < 3 then [.acq] else [.rel 3]) ≤
    0 + progRel 4 (fun t => if t < 3 then [.acq] else [.rel 3]) := by decide
example : ¬ ((progCons 5 prog3 : Int) + progHazard 5 prog3 ≤ 0 + progRel 5 prog3) := by decide

/-- why `progHazard` is needed: the one-thread program `acquire; release(1)` on an empty semaphore
    has "initial + releases ≥ acquires" and yet its only maximal run ends blocked — the release
    sits behind the acquire that needs it -/
def progBad : Nat → List Op := fun _ => [.acq, .rel 1]

example : ∃ p, runLog pstep (pinit 1 0 progBad)
      [.inv 0 .acq, .slAcq 0, .cvEnq 0 1 false, .slRel 0, .suspend 0] = some p ∧ PStuck p ∧
    Blocked p.s 0 ∧ (progCons 1 progBad : Int) ≤ 0 + progRel 1 progBad ∧ progHazard 1 progBad = 1 := by
  refine ⟨_, rfl, ?_, ?_, by decide, by decide⟩
  · apply pstuck_of_rest
    · rfl
    · intro t ht
      have : t = 0 := by simp [pinit, init] at ht; omega
      subst this
      right; simp [upd, init, pinit]
  · simp [Blocked, upd, init, pinit]

end PikaVerif.C08t

namespace PikaVerif.C08t
open PikaVerif.C08

/-! ## Sliding semaphore (model `PikaVerif.SSem`)

`signal(l)` notifies as many waiters as are queued at that moment; the queue never holds more than
`n` entries (`SSem.qlen_le`), so the potential of a `signal` is `15 n + 9` where `n` is
the number of threads: `SSem.rank` takes `n` as a parameter. -/

/-- **The measure decreases (sliding).**  In every reachable state, every accepted event that is
    not the invocation of a new operation strictly decreases `SSem.mu`; an invocation of `o` adds
    exactly the potential of `o` (`rank n (want o) - 1`). -/
theorem C08t_sliding_measure_decreases (n : Nat) (d l : Int) (log : List SSem.Ev) (s s' : SSem.St)
    (e : SSem.Ev) (h : runLog SSem.step (SSem.init n d l) log = some s) (he : SSem.step s e = some s') :
    (∀ t o, e = .inv t o → SSem.mu s' + 1 = SSem.mu s + SSem.rank s.n (.want o)) ∧
    ((∀ t o, e ≠ .inv t o) → SSem.mu s' < SSem.mu s) := by
  refine ⟨?_, fun hne => SSem.mu_step s s' e (SSem.inv_of_accepted h).1 hne he⟩
  intro t o heq; subst heq; exact SSem.mu_inv s s' t o he

/-- **Bounded runs (sliding).**  Any accepted log of a finite program (`n` threads, `prog t` the
    operations of thread `t`) has at most `SSem.bound n prog` events (1 per thread + 11 per
    `wait` / `try_wait` + `15 n + 9` per `signal`) — whatever the interleaving. -/
theorem C08t_sliding_bounded (n : Nat) (d l : Int) (prog : Nat → List SSem.Op) (log : List SSem.Ev)
    (p : SSem.PSt) (h : runLog SSem.pstep (SSem.pinit n d l prog) log = some p) :
    log.length ≤ SSem.bound n prog := by
  have : log.length + SSem.phi p ≤ SSem.phi (SSem.pinit n d l prog) :=
    SSem.layer.length_le SSem.potential (SSem.inv1_init n d l) h
  rw [SSem.phi_pinit] at this
  omega

/-- An accepted log of a program is an accepted log of the model. -/
theorem C08t_sliding_program_refines (n : Nat) (d l : Int) (prog : Nat → List SSem.Op)
    (log : List SSem.Ev) (p : SSem.PSt) (h : runLog SSem.pstep (SSem.pinit n d l prog) log = some p) :
    runLog SSem.step (SSem.init n d l) log = some p.s :=
  SSem.layer.run h

/-- **Maximal runs exist and are finite (sliding).** -/
theorem C08t_sliding_maximal_exists (n : Nat) (d l : Int) (prog : Nat → List SSem.Op)
    (log : List SSem.Ev) (p : SSem.PSt) (h : runLog SSem.pstep (SSem.pinit n d l prog) log = some p) :
    ∃ ext p', runLog SSem.pstep (SSem.pinit n d l prog) (log ++ ext) = some p' ∧ SSem.PStuck p' ∧
      (log ++ ext).length ≤ SSem.bound n prog :=
  SSem.phi_pinit n d l prog ▸ SSem.layer.maximal_exists SSem.potential (SSem.inv1_init n d l) h

/-- **Final states (sliding).**  In the final state of a maximal run of a program every thread has
    finished its whole program, except threads parked in `wait(u)` without a wake-up token — and
    for such a thread the lower limit is still out of reach (`lower < u - max_difference`). -/
theorem C08t_sliding_final_state (n : Nat) (d l : Int) (prog : Nat → List SSem.Op)
    (log : List SSem.Ev) (p : SSem.PSt) (h : runLog SSem.pstep (SSem.pinit n d l prog) log = some p)
    (hs : SSem.PStuck p) :
    ∀ t, t < n → (p.s.pc t = .fin ∧ p.prog t = []) ∨
      (∃ u, SBlocked p.s t u ∧ p.s.lower < u - p.s.maxDiff) := by
  have hlog := SSem.layer.run h
  have hreach : SReachable p.s := ⟨n, d, l, log, hlog⟩
  have hstuck : SStuck p.s := SSem.complete.stuck hs
  have hfin := SSem.finOk_of_run h
  have hn : p.s.n = n := SSem.runLog_n hlog
  intro t ht
  rcases C08_sliding_stuck_only_when_blocked p.s hreach hstuck t (by omega) with hi | hf | ⟨u, hb⟩
  · rcases SSem.complete.stuck_thread hs t with h | ⟨o, h⟩ <;> simp [SSem.step, hi, hn, ht] at h
  · exact Or.inl ⟨hf, hfin t hf⟩
  · exact Or.inr ⟨u, hb, C08_sliding_blocked_released p.s hreach hstuck t u hb⟩

/-- non-vacuity: a complete (maximal) run of the program "thread 0: `wait 5`, thread 1: `signal 4`"
    (`max_difference = 1`, `lower_limit = 0`) is accepted by `SSem.pstep`, including the final
    `done` events -/
example : (runLog SSem.pstep
    (SSem.pinit 2 1 0 (fun t => if t = 0 then [.wait 5] else if t = 1 then [.signal 4] else []))
    [.inv 0 (.wait 5), .slAcq 0, .cvEnq 0 1, .slRel 0, .suspend 0,
     .inv 1 (.signal 4), .slAcq 1, .sig 1 4 1, .popResume 1 0 0, .slRel 1, .ret 1 false,
     .woke 0, .slAcq 0, .cvWoke 0 false, .pass 0 5 4, .slRel 0, .ret 0 true,
     .done 0, .done 1]).isSome = true := by decide

/-- **One `signal(l)` call wakes every queued waiter, with explicit step bounds (sliding).**
    In any reachable state where thread `r` has invoked `signal(l)`, the internal lock is free and
    the threads on the wait queue are parked in `wait`: the signaller running alone
    (`SSem.sigSolo`, at most `3 |queue| + 5` events) raises the lower limit to `max l lower`, pops
    and resumes every queued waiter (each gets its wake-up token) and returns.  Then any of the
    woken waiters `g` (of `wait(u)`), running alone for exactly 6 events, re-checks its condition
    against the new lower limit: if `u - max_difference ≤ max l lower` it returns `true`
    (`SSem.waitSoloPass`, last event `ret g true`), otherwise it queues itself again and parks
    (`SSem.waitSoloBlock`), with its wake-up token consumed. -/
theorem C08t_sliding_signal_wakes (s : SSem.St) (hr : SReachable s) (r : Nat) (l : Int) (hrn : r < s.n)
    (hl : s.lock = none) (hp : s.pc r = .want (.signal l))
    (hpark : ∀ g, g ∈ s.queue → ∃ u, s.pc g = .susp u false) :
    ∃ s1,
      runLog SSem.step s (SSem.sigSolo r l s.lower s.queue) = some s1 ∧
      (SSem.sigSolo r l s.lower s.queue).length ≤ 3 * s.queue.length + 5 ∧
      s1.pc r = .idle ∧ s1.lock = none ∧ s1.lower = max l s.lower ∧ s1.maxDiff = s.maxDiff ∧
      s1.queue = [] ∧
      (∀ g u, g ∈ s.queue → s.pc g = .susp u false → s1.pc g = .susp u true ∧ 0 < s1.tok g) ∧
      (∀ g u, g ∈ s.queue → s.pc g = .susp u false →
        (u - s.maxDiff ≤ max l s.lower →
          ∃ s2, runLog SSem.step s1 (SSem.waitSoloPass g u (max l s.lower)) = some s2 ∧
            (SSem.waitSoloPass g u (max l s.lower)).length = 6 ∧
            (SSem.waitSoloPass g u (max l s.lower)).getLast? = some (.ret g true) ∧
            s2.pc g = .idle ∧ s2.lock = none ∧ s2.queue = [] ∧ s2.lower = max l s.lower) ∧
        (¬ u - s.maxDiff ≤ max l s.lower →
          ∃ s2, runLog SSem.step s1 (SSem.waitSoloBlock g u 0) = some s2 ∧
            (SSem.waitSoloBlock g u 0).length = 6 ∧
            s2.pc g = .susp u false ∧ s2.tok g = s.tok g ∧ g ∈ s2.queue ∧ s2.queue = [g] ∧
            s2.lock = none ∧ s2.lower = max l s.lower)) := by
  obtain ⟨n, d, l0, log, hlog⟩ := hr
  obtain ⟨hi, _, _⟩ := SSem.inv_of_accepted hlog
  have hnd := hi.qNodup
  have hqn : ∀ g, g ∈ s.queue → g < s.n := fun g => hi.lt_of_mem
  obtain ⟨s1, a1, a2, a3, a4, a5, a6, a7, a8, a9⟩ := SSem.sigSolo_spec r l s hl hrn hp hpark hnd
  refine ⟨s1, a1, SSem.sigSolo_length r l s.lower s.queue, a3, a2, a4, a5, a7, ?_, ?_⟩
  · intro g u hg hu
    have := a8 g u hg hu
    exact ⟨this.1, by omega⟩
  · intro g u hg hu
    obtain ⟨b1, b2⟩ := a8 g u hg hu
    have hgn : g < s1.n := by rw [a6]; exact hqn g hg
    refine ⟨?_, ?_⟩
    · intro hle
      have hs : SSem.sat s1 u = true := by simp [SSem.sat, a4, a5, hle]
      have c1 := SSem.waitSoloPass_run g u s1 a2 hgn b1 (by omega) hs
      rw [a4] at c1
      exact ⟨_, c1, rfl, rfl, upd_same .., rfl, a7, rfl⟩
    · intro hnle
      have hs : SSem.sat s1 u = false := by simp [SSem.sat, a4, a5, hnle]
      have c1 := SSem.waitSoloBlock_run g u s1 a2 hgn b1 (by omega) hs
      simp only [a7, List.length_nil, List.nil_append] at c1
      exact ⟨_, c1, rfl, upd_same .., by show upd _ _ _ _ = _; rw [upd_same]; omega, by simp, rfl, rfl, a4⟩

/-- **If every queued waiter is within distance of the new lower limit, one `signal(l)` returns
    them all.**  Same situation as above; if `u - max_difference ≤ max l lower` for every queued
    `wait(u)`, then the signaller's solo run followed by the solo runs of the woken waiters in queue
    order (`SSem.passAll` over the queue with each waiter's upper limit, `SSem.qU`; exactly
    `6 |queue|` events) is accepted and ends with the signaller and all former waiters returned,
    the queue empty and the lock free. -/
theorem C08t_sliding_signal_wakes_all (s : SSem.St) (hr : SReachable s) (r : Nat) (l : Int) (hrn : r < s.n)
    (hl : s.lock = none) (hp : s.pc r = .want (.signal l))
    (hpark : ∀ g, g ∈ s.queue → ∃ u, s.pc g = .susp u false)
    (hnear : ∀ g u, g ∈ s.queue → s.pc g = .susp u false → u - s.maxDiff ≤ max l s.lower) :
    ∃ s2,
      runLog SSem.step s (SSem.sigSolo r l s.lower s.queue ++ SSem.passAll (SSem.qU s) (max l s.lower)) = some s2 ∧
      (SSem.sigSolo r l s.lower s.queue ++ SSem.passAll (SSem.qU s) (max l s.lower)).length
        ≤ (3 * s.queue.length + 5) + 6 * s.queue.length ∧
      (SSem.passAll (SSem.qU s) (max l s.lower)).length = 6 * s.queue.length ∧
      s2.pc r = .idle ∧ (∀ g, g ∈ s.queue → s2.pc g = .idle) ∧
      s2.lock = none ∧ s2.queue = [] ∧ s2.lower = max l s.lower ∧ s2.maxDiff = s.maxDiff := by
  obtain ⟨n, d, l0, log, hlog⟩ := hr
  obtain ⟨hi, _, _⟩ := SSem.inv_of_accepted hlog
  have hnd := hi.qNodup
  have hqn : ∀ g, g ∈ s.queue → g < s.n := fun g => hi.lt_of_mem
  have hrq : r ∉ s.queue := by
    intro hg; obtain ⟨u, hu⟩ := hpark r hg; rw [hp] at hu; simp at hu
  obtain ⟨s1, a1, a2, a3, a4, a5, a6, a7, a8, a9⟩ := SSem.sigSolo_spec r l s hl hrn hp hpark hnd
  have b1 := SSem.passAll_run (SSem.qU s) s1 a2
    (by intro p hpq
        have hg := SSem.mem_qU_queue s p hpq
        obtain ⟨u, hu⟩ := hpark p.1 hg
        have he := (SSem.mem_qU s p hpq u false hu).2
        obtain ⟨c1, c2⟩ := a8 p.1 u hg hu
        have hle := hnear p.1 u hg hu
        rw [he]
        exact ⟨by rw [a6]; exact hqn p.1 hg, c1, by omega, by simp [SSem.sat, a4, a5, hle]⟩)
    (by rw [SSem.qU_fst]; exact hnd)
  rw [a4] at b1
  have hlen : (SSem.passAll (SSem.qU s) (max l s.lower)).length = 6 * s.queue.length := by
    rw [SSem.passAll_length, SSem.qU_length]
  refine ⟨SSem.afterPass s1 (SSem.qU s), ?_, ?_, hlen, ?_, ?_, a2, a7, a4, a5⟩
  · rw [runLog_append, a1]; simpa using b1
  · rw [List.length_append, hlen]
    have := SSem.sigSolo_length r l s.lower s.queue
    omega
  · simp [SSem.afterPass, SSem.qU_fst, hrq, a3]
  · intro g hg; simp [SSem.afterPass, SSem.qU_fst, hg]

/-- non-vacuity: three threads, `max_difference = 1`, `lower_limit = 0`; threads 0 and 1 park in
    `wait(5)` and `wait(9)`; thread 2 runs `signal(4)` alone (`SSem.sigSolo 2 4 0 [0, 1]`, 8
    events), then waiter 0 passes (`5 - 1 ≤ 4`) and waiter 1 blocks again (`9 - 1 > 4`). -/
example : (runLog SSem.step (SSem.init 3 1 0)
    ([.inv 0 (.wait 5), .slAcq 0, .cvEnq 0 1, .slRel 0, .suspend 0,
      .inv 1 (.wait 9), .slAcq 1, .cvEnq 1 2, .slRel 1, .suspend 1,
      .inv 2 (.signal 4)] ++
     SSem.sigSolo 2 4 0 [0, 1] ++ SSem.waitSoloPass 0 5 4 ++ SSem.waitSoloBlock 1 9 0)).isSome = true := by
  decide

example : SSem.sigSolo 2 4 0 [0, 1] =
    [.slAcq 2, .sig 2 4 2, .popResume 2 1 0, .slRel 2, .slAcq 2, .popResume 2 0 1, .slRel 2, .ret 2 false] := rfl

/-- **Accounting of a blocked `wait` (sliding).**  If a maximal run of a program ends with thread
    `t0` parked in `wait(u)`, then that `wait(u)` is an operation of `t0`'s program, and the lower
    limit cannot have come within the configured distance `d` of `u`: neither the initial lower
    limit `l` nor any *unguarded* signal value of the program (a signal not sequenced behind a
    `wait` of its own thread — such a signal is executed in every maximal run) reaches `u - d`. -/
theorem C08t_sliding_blocked_accounting (n : Nat) (d l : Int) (prog : Nat → List SSem.Op)
    (log : List SSem.Ev) (p : SSem.PSt) (h : runLog SSem.pstep (SSem.pinit n d l prog) log = some p)
    (hs : SSem.PStuck p) (t0 : Nat) (ht0 : t0 < n) (u : Int) (hb : SBlocked p.s t0 u) :
    u ∈ SSem.waitVals (prog t0) ∧ l < u - d ∧
      ∀ t, t < n → ∀ x, x ∈ SSem.unguarded (prog t) → x < u - d := by
  obtain ⟨c1, c2, c3, c4⟩ := SSem.ucover_log d l prog (SSem.ucover_pinit n d l prog) h
  have hfin := C08t_sliding_final_state n d l prog log p h hs
  have hlow : p.s.lower < u - d := by
    rcases hfin t0 ht0 with ⟨hf, _⟩ | ⟨u', hb', hlt⟩
    · rw [hb.1] at hf; simp at hf
    · have e := hb'.1
      rw [hb.1] at e
      simp only [SSem.Pc.susp.injEq, and_true] at e
      subst e; rw [c1] at hlt; exact hlt
  refine ⟨?_, by omega, ?_⟩
  · apply c4 t0 u
    left; rw [hb.1]; simp [SSem.curWait]
  · intro t ht x hx
    have hpend : SSem.pendU p t = [] := by
      rcases hfin t ht with ⟨hf, hp⟩ | ⟨u', hb', _⟩
      · simp [SSem.pendU, hf, hp, SSem.inWait, SSem.curSig, SSem.unguarded]
      · simp [SSem.pendU, hb'.1, SSem.inWait]
    rcases c3 t x hx with hx' | hx'
    · omega
    · rw [hpend] at hx'; simp at hx'

/-- **Covered programs return (sliding): a task blocked in `wait(u)` proceeds once the signalled
    lower bound is within the configured distance.**  If for every `wait(u)` of the program the
    initial lower limit or some unguarded signal value of the program reaches `u - d`, then every
    maximal run ends with all threads finished and all operations returned. -/
theorem C08t_sliding_covered_all_return (n : Nat) (d l : Int) (prog : Nat → List SSem.Op)
    (log : List SSem.Ev) (p : SSem.PSt) (h : runLog SSem.pstep (SSem.pinit n d l prog) log = some p)
    (hs : SSem.PStuck p)
    (hcov : ∀ t0, t0 < n → ∀ u, u ∈ SSem.waitVals (prog t0) →
      u - d ≤ l ∨ ∃ t, t < n ∧ ∃ x, x ∈ SSem.unguarded (prog t) ∧ u - d ≤ x) :
    ∀ t, t < n → p.s.pc t = .fin ∧ p.prog t = [] := by
  intro t ht
  rcases C08t_sliding_final_state n d l prog log p h hs t ht with hf | ⟨u, hb, _⟩
  · exact hf
  · exfalso
    obtain ⟨a1, a2, a3⟩ := C08t_sliding_blocked_accounting n d l prog log p h hs t ht u hb
    rcases hcov t ht u a1 with hc | ⟨t', ht', x, hx, hc⟩
    · omega
    · have := a3 t' ht' x hx; omega

/-- non-vacuity: the program "thread 0: `wait 5`, thread 1: `signal 4`" with `max_difference = 1`,
    `lower_limit = 0` is covered: its only wait value is 5, and thread 1's unguarded signal value
    4 reaches `5 - 1` -/
example : SSem.waitVals [SSem.Op.wait 5] = [5] ∧ SSem.unguarded [SSem.Op.signal 4] = [4] ∧
    (5 : Int) - 1 ≤ 4 := by decide

example : ∀ t0, t0 < 2 → ∀ u,
    u ∈ SSem.waitVals ((fun t => if t = 0 then [SSem.Op.wait 5] else if t = 1 then [SSem.Op.signal 4] else []) t0) →
      u - 1 ≤ (0 : Int) ∨ ∃ t, t < 2 ∧ ∃ x,
        x ∈ SSem.unguarded ((fun t => if t = 0 then [SSem.Op.wait 5] else if t = 1 then [SSem.Op.signal 4] else []) t) ∧
        u - 1 ≤ x := by
  intro t0 ht0 u hu
  right
  refine ⟨1, by decide, 4, by decide, ?_⟩
  have h01 : t0 = 0 ∨ t0 = 1 := by omega
  rcases h01 with h0 | h0 <;> subst h0 <;> simp [SSem.waitVals] at hu
  subst hu; decide

/-- a signal behind a `wait` of the same thread is guarded: it does not count as cover (the
    one-thread program `wait 5; signal 9` blocks forever for `lower_limit = 0`, `max_difference = 1`) -/
example : SSem.unguarded [SSem.Op.wait 5, SSem.Op.signal 9] = [] := by decide

end PikaVerif.C08t

namespace PikaVerif.C08t
open PikaVerif.Sem PikaVerif.C08

/-! ## Termination modulo spinning on the internal lock

The bounds above bound the real code's events modulo spinning on the internal lock (see **Stutter** in
the head of this file).  A spinning episode lasts only while another thread holds the lock, and the
holder is never blocked: -/

/-- **The lock holder releases the internal lock within three of its own events**, in every
    reachable state (so a thread spinning on the lock waits for at most three steps of one other
    thread). -/
theorem C08t_lock_released_within_three (s : St) (hr : Reachable s) (r : Nat) (hl : s.lock = some r) :
    ∃ log s', log.length ≤ 3 ∧ (∀ e, e ∈ log → actor e = r) ∧ runLog step s log = some s' ∧
      s'.lock = none := by
  obtain ⟨n, v, log, hv, hlog⟩ := hr
  obtain ⟨hi, hi2⟩ := inv2_of_accepted hlog
  obtain ⟨log, hlen, hact, s', hrun, hl'⟩ := holder_releases s hi hi2 r hl
  exact ⟨log, s', hlen, hact, hrun, hl'⟩

end PikaVerif.C08t
