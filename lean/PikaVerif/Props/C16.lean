import PikaVerif.Lemmas.Config
/-!
# C16 — configuration precedence: command line over environment over defaults

Theorems about the model `PikaVerif.Config` (`Model/Config.lean`), which is built on the tables
`Gen/Settings.lean` regenerated from the pika sources on every run.  `resolveM m inp = .ok rep`
means: started on machine `m` with environment / argv `inp`, the runtime comes up and the entry
function observes the report `rep` (worker count, scheduling policy, stack size, configuration
entries, argv).  `Vm` is the view `handle_arguments` has of the parsed command line
(`opt` single-valued options, `multi` the composing ones) and of the environment.

The same model is what `checks/C16.py` compares the real process with, run by run.

Where the pinned tree does not implement the property as stated, the model follows the tree; the
full statement is then false of the model, the provable part is named `…_partial` or restricted by
an explicit hypothesis, and the deviation is pinned down by a machine-checked witness
(`C16_defect_…`), each of which is also a corpus case replayed on the real code in every run.
-/
namespace PikaVerif.C16
open PikaVerif.Config PikaVerif.Gen.Settings

/-! ## the value selected by precedence, for every row of the generated table -/

/-- **Command line over `--pika:ini` over environment over default**, for every row
    (ini key, environment variable, default, command-line option) of the generated settings table:
    `rawValue` is the command-line value if the row's option was given; else the (first)
    `--pika:ini` definition of the key; else the value of the row's environment variable; else the
    built-in default. -/
theorem C16_cli_over_env_over_default (vm : Vm) (s : Setting) (hs : s ∈ settings)
    (hrt : cfgGet (vm.multi "pika:ini") s.key = none → vm.rt s.key = rtGet vm.env s.key) :
    (∀ o v, s.opt = some o → vm.opt o = some v → rawValue vm s = v) ∧
    (∀ v, s.opt.bind vm.opt = none → cfgGet (vm.multi "pika:ini") s.key = some v → rawValue vm s = v) ∧
    (∀ e v, s.opt.bind vm.opt = none → cfgGet (vm.multi "pika:ini") s.key = none → s.env = some e →
      vm.env e = some v → rawValue vm s = v) ∧
    (s.opt.bind vm.opt = none → cfgGet (vm.multi "pika:ini") s.key = none →
      (∀ e, s.env = some e → vm.env e = none) → rawValue vm s = s.dflt) := by
  refine ⟨?_, ?_, ?_, ?_⟩
  · intro o v ho hv
    simp [rawValue, ho, hv]
  · intro v hc hi
    simp [rawValue, hc, hi]
  · intro e v hc hi he hv
    simp [rawValue, hc, hi, hrt hi, rtGet_setting vm.env s hs, he, hv]
  · intro hc hi he
    simp only [rawValue, hc, hi, hrt hi, rtGet_setting vm.env s hs, Option.getD_none]
    cases hse : s.env with
    | none => rfl
    | some e => simp [he e hse]

/-- the hypothesis of `C16_cli_over_env_over_default` holds in both passes of `handle_arguments`:
    in the preliminary pass (`mkVm`) and in the second pass (`Vm.second`, after the ini definitions
    have been merged into `rtcfg_`) -/
theorem C16_both_passes_read_environment (occ env : List (String × String)) (k : String) :
    ((mkVm occ env).rt k = rtGet (mkVm occ env).env k) ∧
    (cfgGet ((mkVm occ env).second.multi "pika:ini") k = none →
      (mkVm occ env).second.rt k = rtGet (mkVm occ env).second.env k) :=
  ⟨rfl, fun h => rt_second (mkVm occ env) k h⟩

/-- `handle_scheduler` / `handle_affinity` (and every handler of the shape the translator calls
    "simple") return exactly the value selected by precedence. -/
theorem C16_string_settings_follow_precedence (vm : Vm) (s : Setting) (o : String)
    (ho : s.opt = some o) : handleStr vm o s.key = rawValue vm s := by
  simp only [handleStr, rawValue, ho, Option.bind_some]

/-- `handle_num_threads`: the worker count is the interpretation (`all`, `cores`, number) of the
    value selected by precedence - whichever source it came from - unless
    `pika.force_min_os_threads` is defined. -/
theorem C16_threads_follow_precedence (m : Machine) (vm : Vm) (um : Bool) (t : Nat) (s : Setting)
    (hk : s.key = "pika.os_threads") (ho : s.opt = some "pika:threads")
    (h : handleThreads m vm um = .ok t)
    (hmin : cfgGet (vm.multi "pika:ini") "pika.force_min_os_threads" = none) :
    keywordThreads m um (rawValue vm s) = .ok t := by
  unfold handleThreads at h
  simp only [bind_ok, check_ok, pure_ok, cfgNat, hmin] at h
  obtain ⟨dt, hdt, t0, ht0, t1, ht1, mt, hmt, _, _, hr⟩ := h
  subst hmt
  have ht : t = t1 := by rw [← hr]; exact Nat.max_self t1
  subst ht
  simp only [rawValue, ho, hk, Option.bind_some]
  cases hv : vm.opt "pika:threads" with
  | some v =>
    simp only [hv, bind_ok] at ht1
    obtain ⟨t', hkw, hz⟩ := ht1
    split at hz <;> simp_all [fail, pure_ok]
  | none =>
    simp only [hv, pure_ok] at ht1
    subst ht1
    cases hc : cfgGet (vm.multi "pika:ini") "pika.os_threads" with
    | none => simp_all [pure_ok]
    | some sv =>
      -- the ini value is read twice: as keyword and, through `cfgNat`, as number with that default
      have := keyword_natOr (by simpa [hc] using hdt : keywordThreads m um sv = .ok dt)
      simp_all

/-- numeric settings (`pu_step`, `pu_offset`): when the value selected by precedence is a
    well-formed number, it is the resolved value -/
theorem C16_numeric_settings_follow_precedence (vm : Vm) (s : Setting) (o : String) (d r : Option Nat)
    (n : Nat) (ho : s.opt = some o) (h : handleNat vm o s.key d = .ok r)
    (hn : parseNat (rawValue vm s) = .ok n) : r = some n := by
  unfold handleNat at h
  simp only [rawValue, ho, Option.bind_some] at hn
  cases hv : vm.opt o with
  | some v => simp_all [pure_ok, natThrow]
  | none =>
    simp only [hv, cfgRtNat, bind_ok] at h hn
    obtain ⟨dn, hdn, h⟩ := h
    cases hc : cfgGet (vm.multi "pika:ini") s.key with
    | some sv => simp_all [pure_ok]
    | none =>
      simp only [hc, Option.getD_none, pure_ok] at h hn
      subst h
      -- an empty entry is no number; otherwise the entry is the value selected
      split at hdn
      · simp_all [parseNat]
      · simp_all [pure_ok]

/-- `handle_num_cores` never looks at the environment: `PIKA_CORES` (and with it the default `all`
    of the ini line `cores = ${PIKA_CORES:all}`) has no effect on the resolved value. -/
theorem C16_env_cores_is_dead (m : Machine) (vm vm' : Vm) (um : Bool) (t : Nat)
    (hopt : vm.opt = vm'.opt) (hmulti : vm.multi = vm'.multi) :
    handleCores m vm um t = handleCores m vm' um t := by
  simp only [handleCores, hopt, hmulti]

/-! ## the resolved value is the one the running runtime uses -/

/-- End to end: in every successful start-up the running runtime uses the resolved values. -/
theorem C16_resolved_value_is_used (m : Machine) (inp : Input) (rep : Report)
    (h : resolveM m inp = .ok rep) :
    ∃ (pre : List String) (p : Parsed) (r : Resolved), parseStage inp = .ok (pre, p) ∧
      handleThreads m (mkVm p.occ inp.env).second r.useMask = .ok r.threads ∧
      cfgLookup rep.cfg "pika.os_threads" = natStr r.threads ∧
      rep.workers = workersOf m (cfgLookup rep.cfg "pika.bind") r.threads ∧
      cfgLookup rep.cfg "pika.scheduler" = handleStr (mkVm p.occ inp.env).second "pika:scheduler" "pika.scheduler" ∧
      schedulerPolicy (cfgLookup rep.cfg "pika.scheduler") = some rep.policy ∧
      cfgLookup rep.cfg "pika.affinity" = handleStr (mkVm p.occ inp.env).second "pika:affinity" "pika.affinity" ∧
      handleCores m (mkVm p.occ inp.env).second r.useMask r.threads = .ok r.cores ∧
      cfgLookup rep.cfg "pika.cores" = natStr r.cores := by
  obtain ⟨pre, p, r, cfg, h1, h2, h3⟩ := resolveM_ok h
  obtain ⟨r0, cfg0, hi, ha, hh, hc⟩ := configure_ok h2
  obtain ⟨hcfg, hw, hpol, _⟩ := startStage_ok h3
  obtain ⟨hs, haf, ht, hco⟩ := handleArguments_ok ha
  obtain ⟨e1, e2, e3, e4, e5⟩ := handleHp_ok hh
  refine ⟨pre, p, r, h1, ?_, ?_, ?_, ?_, ?_, ?_, ?_, ?_⟩
  · rw [e5, e1]; exact ht
  · rw [hcfg, hc, writeBack_threads]
  · rw [hw, hcfg]
  · rw [hcfg, hc, writeBack_scheduler, e2, hs]
  · rw [hcfg]; exact hpol
  · rw [hcfg, hc, writeBack_affinity, e3, haf]
  · rw [e5, e1, e4]; exact hco
  · rw [hcfg, hc, writeBack_cores]

/-- End to end, rows of the table without a command-line option (stack sizes, queue parameters, …):
    the runtime's value is the last `--pika:ini` definition, else the environment variable, else
    the built-in default. -/
theorem C16_plain_rows_end_to_end (m : Machine) (inp : Input) (rep : Report)
    (h : resolveM m inp = .ok rep) (s : Setting) (hs : s ∈ settings) (hk : s.key ∉ writtenKeys) :
    ∃ pre p, parseStage inp = .ok (pre, p) ∧
      cfgLookup rep.cfg s.key =
        (lastIni ((mkVm p.occ inp.env).multi "pika:ini") s.key).getD
          (match s.env with
           | some e => ((mkVm p.occ inp.env).env e).getD s.dflt
           | none => s.dflt) := by
  obtain ⟨pre, p, r, cfg, h1, h2, h3⟩ := resolveM_ok h
  obtain ⟨r0, cfg0, hi, _, _, hc⟩ := configure_ok h2
  obtain ⟨hcfg, _⟩ := startStage_ok h3
  refine ⟨pre, p, h1, ?_⟩
  rw [hcfg, hc, writeBack_other _ _ _ hk, applyInis_lookup _ _ _ s.key hi, cfgLookup_baseCfg _ s hs,
    rtGet_setting _ s hs]
  cases s.env <;> rfl

/-! ## invalid values and unknown options stop start-up -/

/-- a thread count of zero, or a malformed one, on the command line stops start-up -/
theorem C16_invalid_threads_is_error (m : Machine) (vm : Vm) (um : Bool) (v : String)
    (hv : vm.opt "pika:threads" = some v)
    (hbad : keywordThreads m um v = .ok 0 ∨ ∀ t, keywordThreads m um v ≠ .ok t) :
    ∀ t, handleThreads m vm um ≠ .ok t := by
  intro t h
  unfold handleThreads at h
  simp only [bind_ok, check_ok, pure_ok, hv] at h
  obtain ⟨_, _, _, _, t1, ht1, _⟩ := h
  obtain ⟨t', hkw, hz⟩ := ht1
  rcases hbad with h0 | hb
  · rw [h0] at hkw
    simp only [Except.ok.injEq] at hkw
    subst hkw
    simp [fail] at hz
  · exact hb t' hkw

/-- a malformed value of a numeric command-line option stops start-up (at `store`) -/
theorem C16_invalid_number_is_error (occ : List (String × String)) (n v : String)
    (hmem : (n, v) ∈ occ) (hk : kindOf n = .nat) (hbad : parseNat v = .bad) :
    ∀ seen, storeCheck seen occ ≠ .ok () := fun seen h => by
  simpa [valueCheck, hk, hbad, fail] using storeCheck_values h _ hmem

/-- a start-up that succeeds although some option was not recognised is only possible when
    unknown options were explicitly allowed (`pika.commandline.allow_unknown` ≠ 0) -/
theorem C16_unknown_option_is_error (m : Machine) (inp : Input) (rep : Report) (pre : List String)
    (p : Parsed) (h : resolveM m inp = .ok rep) (hp : parseStage inp = .ok (pre, p))
    (hu : p.unreg ≠ []) : cfgLookup rep.cfg "pika.commandline.allow_unknown" ≠ "0" := by
  obtain ⟨pre', p', r, cfg, h1, h2, h3⟩ := resolveM_ok h
  rw [hp] at h1
  cases h1
  obtain ⟨hcfg, _, _, _, hunk⟩ := startStage_ok h3
  rw [hcfg]
  intro h0
  have : p.unreg.isEmpty = false := by
    cases hl : p.unreg with
    | nil => exact absurd hl hu
    | cons a t => rfl
  simp [this, h0] at hunk

/-- an option whose name matches no declared option (exactly or as a unique prefix) is classified
    as unregistered, whatever it is - in particular every unknown `--pika:` option -/
theorem C16_unknown_is_unregistered (table : List OptRow) (acc : Parsed) (tok : String)
    (rest : List String) (body n : List Char) (adj : Option (List Char))
    (htok : tok.toList = '-' :: '-' :: body) (hb : body ≠ []) (hs : splitEq body = (n, adj))
    (hadj : adj ≠ some []) (hl : lookupOpt table (String.ofList n) = .none) :
    tokStep table acc tok rest =
      .ok ({ acc with unreg := acc.unreg ++ [tok], mixed := acc.mixed ++ [tok] }, rest) := by
  unfold tokStep
  simp only [htok]
  have : body.isEmpty = false := by cases body <;> simp_all
  simp only [this, hs]
  have h2 : (adj == some []) = false := by
    cases adj with
    | none => rfl
    | some l => cases l <;> simp_all
  simp [h2, hl, pure, Except.pure]

/-- an invalid thread count from *any* source (environment, ini, command line) stops start-up -/
theorem C16_invalid_thread_count_is_error (m : Machine) (vm : Vm) (um : Bool) (s : Setting)
    (hk : s.key = "pika.os_threads") (ho : s.opt = some "pika:threads")
    (hmin : cfgGet (vm.multi "pika:ini") "pika.force_min_os_threads" = none)
    (hbad : ∀ t, keywordThreads m um (rawValue vm s) ≠ .ok t) : ∀ t, handleThreads m vm um ≠ .ok t :=
  fun t h => hbad t (C16_threads_follow_precedence m vm um t s hk ho h hmin)

/-- **The property "an invalid value is an error" holds only in part**; this theorem is the failing
    side: such a malformed value yields the default `d` and no error.  Full statement (false of the
    pinned tree):
    "every malformed value, from whichever source, stops start-up".  What holds: malformed values
    of command-line options (`C16_invalid_number_is_error`), invalid thread counts from every source
    (`C16_invalid_thread_count_is_error`), unknown scheduler names (`C16_resolved_value_is_used`:
    success implies a valid policy).  What fails: numeric settings read through
    `get_value<T>(key, default)` / `get_entry_as<T>(…, default)` - a malformed `PIKA_PU_STEP`,
    `PIKA_PU_OFFSET`, `PIKA_NUMA_SENSITIVE`, `pika.cores`, stack size … silently yields the default. -/
theorem C16_invalid_is_error_partial (vm : Vm) (k : String) (d : Option Nat) (e : String)
    (he : vm.rt k = e) (hne : e ≠ "") (hbad : parseNat e = .bad)
    (hini : cfgGet (vm.multi "pika:ini") k = none) : cfgRtNat vm k d = .ok d := by
  have : e.isEmpty = false := by
    cases h : e.isEmpty with
    | false => rfl
    | true => exact absurd (by simpa using h) hne
  simp [cfgRtNat, he, this, hbad, hini, bind, Except.bind, pure, Except.pure]

/-! ## non-pika arguments reach the application unchanged -/

/-- the entry function receives exactly the positional arguments, unchanged and in order, in every
    successful start-up in which unknown options are not allowed -/
theorem C16_passthrough_unchanged (m : Machine) (inp : Input) (rep : Report) (pre : List String)
    (p : Parsed) (h : resolveM m inp = .ok rep) (hp : parseStage inp = .ok (pre, p))
    (hallow : cfgLookup rep.cfg "pika.commandline.allow_unknown" = "0") : rep.argv = p.pos := by
  obtain ⟨pre', p', r, cfg, h1, h2, h3⟩ := resolveM_ok h
  rw [hp] at h1
  cases h1
  obtain ⟨hcfg, _, _, hargv, _⟩ := startStage_ok h3
  rw [hargv, ← hcfg, hallow]
  simp [entryArgv]

/-- Positional arguments are passed through unchanged and in order, wherever they stand between
    options given in the `--name=value` form. -/
theorem C16_passthrough_between_options (table : List OptRow) (args : List String) :
    ∀ (acc p : Parsed) (fuel : Nat), (∀ a ∈ args, isPositional a = true ∨ isAdjacentForm a = true) →
    tokenize table fuel acc args = .ok p → p.pos = acc.pos ++ args.filter isPositional := by
  induction args with
  | nil => intro acc p fuel _ h; cases fuel <;> simp [tokenize, pure, Except.pure] at h <;> simp [← h]
  | cons a t ih =>
    intro acc p fuel hall h
    cases fuel with
    | zero => simp [tokenize, unsup] at h
    | succ f =>
      simp only [tokenize, bind_ok] at h
      obtain ⟨⟨acc', rest'⟩, hstep, hrest⟩ := h
      rcases hall a (by simp) with hp | ha
      · rw [tokStep_positional table acc a t hp] at hstep
        simp only [Except.ok.injEq, Prod.mk.injEq] at hstep
        obtain ⟨e1, e2⟩ := hstep
        subst e1 e2
        have := ih _ p f (fun x hx => hall x (by simp [hx])) hrest
        simp [this, hp, List.append_assoc]
      · obtain ⟨e1, e2⟩ := tokStep_adjacent table acc acc' a t rest' ha hstep
        subst e1
        have hnp : isPositional a = false := by
          unfold isAdjacentForm at ha
          unfold isPositional
          split at ha
          · rename_i body hb; simp [hb]
          · simp at ha
        have := ih _ p f (fun x hx => hall x (by simp [hx])) hrest
        simp [this, e2, hnp]

/-! ## option order -/

/-- The order in which options appear on the command line is irrelevant for every single-valued
    option: if `occ'` is any reordering of the occurrences `occ`, every option that occurs at most
    once has the same value, and if additionally the relative order of the multi-valued options
    (`--pika:ini`, `--pika:bind`) is kept, the whole view of the command line is the same - hence
    so is everything computed from it. -/
theorem C16_option_order_irrelevant (occ occ' : List (String × String)) (env : List (String × String))
    (hperm : occ.Perm occ')
    (huniq : ∀ n, composing n = false → (occ.filter (fun p => p.1 == n)).length ≤ 1)
    (hmulti : ∀ n, composing n = true →
      occ.filter (fun p => p.1 == n) = occ'.filter (fun p => p.1 == n)) :
    mkVm occ env = mkVm occ' env := by
  have hfil : ∀ n, occ.filter (fun p => p.1 == n) = occ'.filter (fun p => p.1 == n) := by
    intro n
    cases hc : composing n with
    | true => exact hmulti n hc
    | false => exact perm_short_eq (hperm.filter _) (huniq n hc)
  have hfind : ∀ n, occ.find? (fun p => p.1 == n) = occ'.find? (fun p => p.1 == n) := by
    intro n
    rw [← List.head?_filter, ← List.head?_filter, hfil n]
  unfold mkVm
  congr 1
  · funext n; rw [hfind n]
  · funext n; rw [hfil n]

/-- hence the configuration resolved from the command line does not depend on that order either -/
theorem C16_option_order_irrelevant_resolution (m : Machine) (occ occ' : List (String × String))
    (env : List (String × String)) (hperm : occ.Perm occ')
    (huniq : ∀ n, composing n = false → (occ.filter (fun p => p.1 == n)).length ≤ 1)
    (hmulti : ∀ n, composing n = true →
      occ.filter (fun p => p.1 == n) = occ'.filter (fun p => p.1 == n)) :
    configure m (mkVm occ env) = configure m (mkVm occ' env) := by
  rw [C16_option_order_irrelevant occ occ' env hperm huniq hmulti]

/-- the uniqueness hypothesis of `C16_option_order_irrelevant` is what `store` enforces -/
theorem C16_store_enforces_single_occurrence (occ : List (String × String))
    (h : storeCheck [] occ = .ok ()) (n : String) (hn : composing n = false) :
    (occ.filter (fun p => p.1 == n)).length ≤ 1 := (storeCheck_unique occ [] h n hn).1

/-! ## where the pinned tree deviates from the property: machine-checked witnesses -/

def isError (o : Outcome) (e : Err) : Bool := match o with | .error e' => e' == e | _ => false
def okWith (o : Outcome) (f : Report → Bool) : Bool := match o with | .ok r => f r | _ => false

/-- 8 PUs on 4 cores, no restricting process mask -/
def m84 : Machine := ⟨8, 4, 8, 4⟩

/-- A command-line option does **not** override the same option in `PIKA_COMMANDLINE_OPTIONS`:
    the two are concatenated and `store` rejects the second occurrence. -/
theorem C16_defect_prepend_option_conflicts :
    isError (resolve m84 ⟨[("PIKA_COMMANDLINE_OPTIONS", "--pika:threads=2")], ["--pika:threads=3"]⟩) .multiple = true := by decide +kernel

/-- A `--pika:ini` definition in `PIKA_COMMANDLINE_OPTIONS` **wins over** the same definition on the
    command line for every key resolved through cfgmap (first insertion wins): 2 workers, not 3. -/
theorem C16_defect_prepend_ini_beats_command_line :
    okWith (resolve m84 ⟨[("PIKA_COMMANDLINE_OPTIONS", "--pika:ini=pika.os_threads=2")], ["--pika:ini=pika.os_threads=3"]⟩)
      (fun r => r.workers == 2 && cfgLookup r.cfg "pika.os_threads" == "2") = true := by decide +kernel

/-- `PIKA_CORES` is dead: with `PIKA_CORES=2` and 4 threads the runtime uses `pika.cores=4`
    (general form: `C16_env_cores_is_dead`). -/
theorem C16_defect_env_cores_ignored :
    okWith (resolve m84 ⟨[("PIKA_CORES", "2")], ["--pika:threads=4"]⟩)
      (fun r => cfgLookup r.cfg "pika.cores" == "4") = true := by decide +kernel

/-- A malformed number in the environment is ignored instead of stopping start-up. -/
theorem C16_defect_invalid_env_number_ignored :
    okWith (resolve m84 ⟨[("PIKA_PU_STEP", "abc")], []⟩)
      (fun r => cfgLookup r.cfg "pika.pu_step" == "1" && r.workers == 4) = true := by decide +kernel

/-- With `--pika:bind=none` the configured thread count is not the one used when it exceeds the
    number of PUs: `pika.os_threads` says 9, 8 workers run. -/
theorem C16_defect_bind_none_caps_workers :
    okWith (resolve m84 ⟨[], ["--pika:bind=none", "--pika:threads=9"]⟩)
      (fun r => r.workers == 8 && cfgLookup r.cfg "pika.os_threads" == "9") = true := by decide +kernel

/-- With `PIKA_COMMANDLINE_OPTIONS` ending in a numeric option and arguments on the real command
    line, start-up succeeds and the entry function sees the arguments.  (In the pinned tree the late
    re-parse glued the two, `--pika:pu-offset=0input.dat`, and start-up failed: `fix:` commit on
    hooks-C16, findings/C16-late-reparse-pinned-tree.json.  `startStage` does not model that
    re-parse, so this witness fixes only the outcome of the repaired code.) -/
theorem C16_fixed_late_reparse :
    okWith (resolve m84 ⟨[("PIKA_COMMANDLINE_OPTIONS", "--pika:pu-offset=0")], ["input.dat"]⟩)
      (fun r => r.argv == ["input.dat"] && r.workers == 4) = true := by decide +kernel


/-! ## quoting of the arguments on their way through the configuration registry

The entry function `f(int, char**)` does not receive the process' argv: `init_helper` rebuilds it from
the string `pika.reconstructed_cmd_line`, and the late command-line handling re-reads
`pika.commandline.options`.  Both strings are split with `split_unix`.  In the pinned tree the writers do
not escape what the reader interprets (witnesses below, found by the monitors of checks/C16.py and
repaired on hooks-C16f); for the repaired writers the round trip is the identity for **every** argument. -/

/-- **Non-pika arguments reach the entry function unchanged** (repaired tree), for every list of
    non-empty positional arguments whatever characters they contain (quotes, backslashes, blanks, `=`):
    the positional part of the reconstructed command line, split by `split_unix` and filtered by
    `init_helper`, is the list of arguments itself. -/
theorem C16_positional_roundtrip (pos : List String) (hne : pos ≠ []) :
    entryArgvVia embedNew pos = some pos := by
  have hw : ∀ a : List Char, ((escQ a).any isSepC) = true ∨ a.any isSepC = false := by
    intro a
    rw [any_escQ_sep]
    cases a.any isSepC <;> simp
  have h := splitU_joinWith posPrefix posPrefix_plain _ hw (pos.map fun a : String => a.toList)
    (by simpa using hne)
  change splitU false [] (joinWith posPrefix embedNew _) = _ at h
  simp only [entryArgvVia, splitUnix, h, Option.map_some]
  rw [filter_nonempty_prefixed, helperArgs_positional, List.map_map]
  simp [Function.comp_def]

/-- The late command-line handling of the repaired tree never fails on the quoting of an argument: the
    arguments written by `encode_and_enquote` are read back unchanged by `split_unix` (so `pika::init`
    cannot return -1 because of a backslash or a quote character in an argument). -/
theorem C16_late_reparse_total (args : List String) (hne : args ≠ []) :
    ∃ ts, lateReparse encodeNew args = some ts ∧ ts = args.filter (fun a => !a.toList.isEmpty) := by
  have hw : ∀ a : List Char, ((escQ a).any (fun c => isSepC c || c == '"')) = true ∨ a.any isSepC = false := by
    intro a
    cases h : a.any isSepC with
    | false => exact Or.inr rfl
    | true => exact Or.inl (any_or_left _ _ _ (by rw [any_escQ_sep]; exact h))
  have h := splitU_joinWith [] (by simp) _ hw (args.map fun a : String => a.toList) (by simpa using hne)
  change splitU false [] (joinWith [] encodeNew _) = _ at h
  refine ⟨_, ?_, rfl⟩
  simp [lateReparse, splitUnix, h, List.filter_map, Function.comp_def]

/-- Pinned tree: a positional argument containing a double quote does **not** reach the entry function
    unchanged - `prog 'a"b' tail` calls the entry function with the single argument
    `ab --pika:positional=tail` (replayed on the real code: findings/C16-positional-quote-mangled.json). -/
theorem C16_defect_positional_quote_mangled :
    entryArgvVia embedOld ["a\"b", "tail"] = some ["ab --pika:positional=tail"] := by decide +kernel

/-- Pinned tree: a backslash in any argument makes the late command-line handling throw
    (`unknown escape sequence`): `prog 'e\f'` makes `pika::init` return -1 without calling the entry
    function (findings/C16-positional-backslash-refused.json). -/
theorem C16_defect_backslash_stops_startup : lateReparse encodeOld ["e\\f"] = none := by decide +kernel

/-! ## non-vacuity -/

set_option maxRecDepth 100000 in
/-- a start-up in which all four sources compete for the thread count succeeds with the
    command-line value -/
example : okWith (resolve m84 ⟨[("PIKA_THREADS", "3")], ["--pika:ini=pika.os_threads=2", "--pika:threads=5", "in.dat"]⟩)
    (fun r => r.workers == 5 && r.argv == ["in.dat"]) = true := by decide +kernel

end PikaVerif.C16
