import PikaVerif.Lemmas.SndRef
/-!
# C03s — payloads are delivered alive (reference lifetimes of the sender adaptors)

`Props/C03.lean` models the adaptors passing values; here the model is `Model/SndRef.lean` — receivers get
the completion signal together with the LOCATION of its payload (a member of some operation state, or a
temporary); every read of a payload whose operation state has been destroyed raises `uaf`.  Fragment:
leaf (payload kept in the operation state, like `just`), then, require_started, drop_operation_state,
when_all of two, split; `emb` embeds it into the term language of C03 and the signal is
`Snd.denote (emb t)`.

What the E0-static monitors of `harness/e0/snd.cpp` assert on the real adaptors (`xl exc … alive same=1`
at every point where an exception is read, payload ledger `bad=0`, exactly one delivery, none after the
release) is here a theorem for every term of the fragment, every receiver and every machine state; the
variant of `drop_op_state_receiver` with the reset hoisted in front of the copy is refuted on concrete
terms (`decide`), which are the shapes the check replays on the code.
-/
namespace PikaVerif.SndRef
open PikaVerif.Snd

/-- **Receiver contract with payload locations** (the code as it is): for every term, every connected
    receiver `k` and every machine state in which nothing has been released and nothing above the
    allocation pointer is destroyed, `start` ends with exactly one call of `k`, as its last action, with
    the signal the term denotes and a payload location that is ALIVE at the moment of the call — an
    operation state allocated by this operation and not destroyed, while nothing is released; no destroyed
    operation state or payload was accessed on the way (`uaf` unchanged), nothing was delivered to the
    terminal receiver (`log` unchanged), and older operation states are neither destroyed nor modified. -/
theorem C03s_receiver_contract_refs (t : RT) (k : Rc) (s : M)
    (hrel : s.released = false) (hfresh : ∀ a, s.next ≤ a → s.dead a = false) :
    ∃ s' l, start Var.pinned t k s = k (denote (emb t) []) l s' ∧
      (∀ a, l = some a → s.next ≤ a ∧ a < s'.next ∧ s'.dead a = false) ∧ s'.released = false ∧
      s'.uaf = s.uaf ∧ s'.log = s.log ∧
      (∀ a, a < s.next → s'.dead a = s.dead a ∧ s'.cells a = s.cells a) := by
  obtain ⟨s', l, e, x, p, hl⟩ := spec t k s ⟨hrel, hfresh⟩
  exact ⟨s', l, by rw [e, den_emb []], hl, p.rel, x.uaf, x.log, fun a ha => ⟨x.dead a ha, x.cells a ha⟩⟩

/-- **Payloads are delivered alive**: connected to the terminal receiver (which reads its argument and
    then destroys the whole operation state) every pipeline of the fragment delivers exactly one signal,
    the denoted one, and no read of a payload — by an adaptor, by a user callable, by
    `drop_operation_state`'s copy or by the terminal receiver — hits a destroyed operation state. -/
theorem C03s_payload_alive (t : RT) :
    (run Var.pinned t).log = [denote (emb t) []] ∧ (run Var.pinned t).uaf = false ∧
      (run Var.pinned t).released = true := by
  obtain ⟨s', l, e, x, p, hl⟩ := spec t termR M.init pre_init
  have hu : use l s' = s' := use_eq p hl
  have e' : run Var.pinned t = termR (den t) l s' := e
  rw [e']
  simp [termR, hu, x.log, x.uaf, den_emb [], M.init]

/-- The variant with `op_state.reset()` hoisted in front of `auto error_local = std::forward<Error>(error)`
    reads a destroyed exception: over a leaf that keeps the error in its operation state, over when_all
    and over split (the replayed shapes `dos(err(1))`, `dos(wa(err(3),just(1:2)))`, `dos(sp(err(3)))`);
    the code as it is does not, and values / stopped are unaffected by that variant. -/
theorem C03s_dos_error_hoisted_counterexample :
    (run Var.errHoisted (.dos (.leaf (.error 1)))).uaf = true ∧
    (run Var.errHoisted (.dos (.wa2 (.leaf (.error 3)) (.leaf (.value [1, 2]))))).uaf = true ∧
    (run Var.errHoisted (.dos (.sp (.leaf (.error 3))))).uaf = true ∧
    (run Var.pinned (.dos (.wa2 (.leaf (.error 3)) (.leaf (.value [1, 2]))))).uaf = false ∧
    (run Var.errHoisted (.dos (.wa2 (.leaf (.value [3])) (.leaf (.value [1, 2]))))).uaf = false ∧
    (run Var.errHoisted (.dos (.leaf .stopped))).uaf = false := by decide

/-- The same for the values: `ts_local` built after the reset reads destroyed values
    (`dos(just(5))`, `dos(wa(just(3),just(1:2)))`). -/
theorem C03s_dos_value_hoisted_counterexample :
    (run Var.valHoisted (.dos (.leaf (.value [5])))).uaf = true ∧
    (run Var.valHoisted (.dos (.wa2 (.leaf (.value [3])) (.leaf (.value [1, 2]))))).uaf = true ∧
    (run Var.valHoisted (.dos (.leaf (.error 1)))).uaf = false := by decide

/-- The fragment is the C03 term language restricted, with the same denotation. -/
theorem C03s_denotation_agrees (t : RT) (env : List Int) : den t = denote (emb t) env := den_emb env t

/-! Non-vacuity: a pipeline with a stored error under drop_operation_state delivers that error. -/
example : (run Var.pinned (.dos (.wa2 (.leaf (.error 3)) (.leaf (.value [1, 2]))))).log = [.error 3] := by decide
example : (run Var.pinned (.thn (.add 1) (.dos (.sp (.leaf (.value [1, 2])))))).log = [.value [2, 3]] := by decide

end PikaVerif.SndRef
