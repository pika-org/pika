import PikaVerif.Lemmas.Place
/-!
# C10 — work runs where it was sent: scheduler, pool and hint placement

Theorems about the placement model `PikaVerif.Place` (`Model/Place.lean`).  They hold for every
accepted log: any number of pools, workers, queues, tasks, sender operations, hints, priorities,
yields, suspensions, steals, object recyclings, and every interleaving of the hook events.
"Actor" = one OS thread; "task" = one `thread_data` object; "operation" = one schedule
operation state (or one `execute` call).
-/
namespace PikaVerif.C10
open PikaVerif PikaVerif.Place

def Reachable (s : St) : Prop := ∃ log, runLog step init log = some s

theorem inv_of_reachable {s : St} (h : Reachable s) : Inv s := by
  obtain ⟨log, hl⟩ := h
  exact inv_of_accepted hl

/-- an accepted `step` is an accepted `core` -/
theorem core_of_step {s s' : St} {e : Ev} (h : step s e = some s') : ∃ s1, core s e = some s1 := by
  obtain ⟨s1, hc, -⟩ := step_eq h
  exact ⟨s1, hc⟩

/-- **Pool.**  Every phase of a task is run by a worker of the pool of the task's own scheduler
    (the pool its creating `register_work`/`create_work` named): whenever the model accepts the
    start of a phase of task `o` by actor `a` reporting worker number `w`, `a` is registered as
    worker `w` of pool `(task o).sched`. -/
theorem C10_pool (s s' : St) (hr : Reachable s) (a o w : Nat)
    (h : step s (.phaseBegin a o w) = some s') :
    (s.act a).worker = some ((s.task o).sched, w) := by
  obtain ⟨s1, hc⟩ := core_of_step h
  exact (phaseBegin_worker (inv_of_reachable hr) hc).2.1

/-- In every reachable state, a task that sits in a queue sits in a queue of its own scheduler's
    pool, and a task held by a worker is held by a worker of that pool. -/
theorem C10_pool_state (s : St) (hr : Reachable s) (o : Nat) (hl : (s.task o).live = true) :
    ((s.task o).loc.isSome = true → (s.task o).lpool = (s.task o).sched) ∧
    (∀ a, (s.task o).holder = some a → (s.act a).worker = some ((s.task o).sched, (s.task o).hidx)) := by
  have hT := (inv_of_reachable hr).task o hl
  exact ⟨fun h => (hT.queued h).1, fun a ha => (hT.held a ha).2.1⟩

/-- **Never inline.**  When the receiver of schedule operation `k` is signalled (event `run`), this
    happens inside a phase of a task, on the actor holding that task, and no actor that is
    (still) inside `start(k)` is that actor: starting the operation performs no receiver signal in
    the caller's step.  (Pools whose queues are modelled; for `shared_priority` pools the acceptor
    itself checks the pool of the running task.) -/
theorem C10_never_inline (s s' : St) (hr : Reachable s) (a o k : Nat)
    (hq : (s.pool (s.op k).target).opq = false)
    (h : step s (.run a o k) = some s') :
    (s.task o).inPhase = true ∧ (s.task o).holder = some a ∧ (s.task o).payload = some k ∧
    ∀ b, (s.act b).starting = some k → b ≠ a := by
  obtain ⟨s1, hc⟩ := core_of_step h
  obtain ⟨hp, hh, -, hpay⟩ := run_worker (inv_of_reachable hr) hc
  exact ⟨hp, hh, hpay hq⟩

/-- **continues_on / schedule / transfer_just / execute.**  The continuation of an operation whose
    target scheduler belongs to pool `p` runs on a worker of `p` — whoever started the operation
    (an external thread, a worker of another pool, the predecessor's completing thread). -/
theorem C10_continues_on (s s' : St) (hr : Reachable s) (a o k : Nat)
    (h : step s (.run a o k) = some s') :
    (s.act a).worker = some ((s.op k).target, (s.task o).hidx) := by
  obtain ⟨s1, hc⟩ := core_of_step h
  exact (run_worker (inv_of_reachable hr) hc).2.2.1

/-- the pool can neither steal nor redirect and every worker has its own high priority queue
    (`static`: always; `static-priority`: with the default number of high priority queues) -/
abbrev PinnedPool := Place.PinnedP

/-- **Static hint (partial).**  On a pinned pool, a normal-priority task created with a worker hint
    naming worker `h` (`h = size_t(hint) mod n`) runs every phase on worker `h` — provided it was
    never re-queued by `set_thread_state` with a hint that names no worker (`strayed`; see the two
    counterexamples below for what happens otherwise / on non-pinned pools).

    The same without the hypotheses `strayed = false` and `prioQ → nhp = n` is false of the model
    (`cexStale`, `cexBoost` below). -/
theorem C10_static_hint_partial (s s' : St) (hr : Reachable s) (a o w h : Nat)
    (hP : PinnedPool (s.pool (s.task o).sched)) (hprio : (s.task o).prio = pNormal)
    (hstr : (s.task o).strayed = false)
    (hpin : pinTarget (s.pool (s.task o).sched) (s.task o).hint = some h)
    (hstep : step s (.phaseBegin a o w) = some s') :
    w = h := by
  have hi := inv_of_reachable hr
  obtain ⟨s1, hc⟩ := core_of_step hstep
  obtain ⟨hl, -, hheld⟩ := phaseBegin_worker hi hc
  -- a pinned pool has its queues modelled
  obtain ⟨hh, rfl⟩ := hheld hP.2.2.2.1
  exact ((hi.task o hl).held a hh).2.2.2.2 h ⟨hP, hprio, hstr, hpin⟩

/-- In every reachable state a pinned, un-strayed, hinted task is queued only in a queue of the
    hinted worker and has only ever recorded the hinted worker as its last worker. -/
theorem C10_static_hint_state (s : St) (hr : Reachable s) (o h : Nat) (hl : (s.task o).live = true)
    (hP : PinnedPool (s.pool (s.task o).sched)) (hprio : (s.task o).prio = pNormal)
    (hstr : (s.task o).strayed = false)
    (hpin : pinTarget (s.pool (s.task o).sched) (s.task o).hint = some h) :
    ((s.task o).loc.isSome = true → (s.task o).lidx = h ∧ (s.task o).lcls ≠ cLow) ∧
    (∀ v ∈ (s.task o).lw, v = -1 ∨ v = (h : Int)) := by
  have hT := (inv_of_reachable hr).task o hl
  exact ⟨fun hq => (hT.queued hq).2 h ⟨hP, hprio, hstr, hpin⟩, hT.lw h ⟨hP, hprio, hstr, hpin⟩⟩

/-- **std_thread_scheduler.**  The work of a `std_thread_scheduler` operation runs on an OS thread
    that has produced no event before: it is no worker of any pool, is not inside any `start` call
    (in particular it is not the submitter inside `start(k)`), and holds no pika task. -/
theorem C10_std_thread (s s' : St) (hr : Reachable s) (a k : Nat)
    (h : step s (.runStd a k) = some s') :
    (s.op k).target = poolStd ∧ (s.act a).worker = none ∧ (s.act a).starting = none ∧
    ∀ o, (s.task o).live = true → (s.task o).holder ≠ some a := by
  have hi := inv_of_reachable hr
  obtain ⟨s1, hc⟩ := core_of_step h
  simp only [core] at hc
  obtain ⟨⟨hseen, -, ht, -⟩, -⟩ := of_ite_some hc
  refine ⟨ht, ((hi.act a).fresh hseen).1, ((hi.act a).fresh hseen).2, fun o hl hh => ?_⟩
  -- whoever holds a task has acted
  rw [((hi.task o hl).held a hh).2.2.1] at hseen
  cases hseen

/-! ## The placement function -/

/-- a worker hint that names a worker is reduced modulo the number of workers -/
theorem C10_pick_hint (n : Nat) (h : Nat) : pickIdx n 1 (h : Int) = some (h % n) := pick_nat n h

/-- hint `-1` in thread mode and every hint in mode `none` fall back to the round-robin counter -/
theorem C10_pick_rr (n : Nat) (v : Int) : pickIdx n 1 (-1) = none ∧ pickIdx n 0 v = none := by
  constructor <;> simp [pickIdx, hintNum]

/-! ## Counterexamples to the full static-hint statement (machine-checked, by evaluation)

Both were replayed on the real runtime (see notes/C10.md): the first before the `fix:` commit
on the scheduling loop, the second is a property of `static-priority` with fewer high priority
queues than workers. -/

/-- pool 0: static-priority-like, 2 workers, no stealing -/
def cfg (nhp : Nat) : List Ev :=
  [.poolCfg 0 0 2 nhp true false false false,
   .queueReg 0 10 0 cNormal 0 2 nhp, .queueReg 0 11 0 cNormal 1 2 nhp, .queueReg 0 12 0 cHigh 0 2 nhp,
   .worker 1 0 0, .worker 2 0 1]

/-- (1) a `set_thread_state` whose caller supplies no usable worker hint (mode `none`, or the
    value `-1` read from `last_worker_thread_num_`) re-queues by round robin: the task hinted to
    worker 1 runs its second phase on worker 0. -/
def cexStale : List Ev := cfg 1 ++
  [.create 3 1 0 1 1 1 pNormal 11,            -- external actor 3: hint = worker 1
   .convert 2 1 5 11 11 0 pNormal, .pop 2 5 11, .phaseBegin 2 5 1,
   .stsHint 3 5 1 (-1),                         -- waker read the initial value −1
   .phaseEnd 2 5 3,                             -- suspended
   .sched 3 5 0 0 1 (-1) pNormal false 10,      -- round robin picked queue 0
   .pop 1 5 10, .phaseBegin 1 5 0]

example : (match runLog step init cexStale with
    | some s => (s.task 5).hint == some 1 && (s.task 5).hidx == 0 && (s.task 5).inPhase && (s.task 5).strayed
    | none => false) = true := by decide

/-- (2) one high priority queue for two workers: a boosted re-queue (`pending_boost`, e.g. from
    `yield_while`) of the task on worker 1 goes to high queue `1 mod 1 = 0` and worker 0 runs it. -/
def cexBoost : List Ev := cfg 1 ++
  [.create 3 1 0 1 1 1 pNormal 11,
   .convert 2 1 5 11 11 0 pNormal, .pop 2 5 11, .phaseBegin 2 5 1,
   .phaseEnd 2 5 rBoost,
   .sched 2 5 0 1 1 1 pBoost true 12,
   .pop 1 5 12, .phaseBegin 1 5 0]

example : (match runLog step init cexBoost with
    | some s => (s.task 5).hint == some 1 && (s.task 5).hidx == 0 && (s.task 5).inPhase && !(s.task 5).strayed
    | none => false) = true := by decide

/-! ## Non-vacuity -/

/-- external actor 3 starts operation 7 on pool 0 with hint 1; worker 1 converts, pops, runs the
    continuation; the task yields and is re-queued on worker 1; runs again; terminates -/
def exampleLog : List Ev := cfg 2 ++
  [.start 3 7 0, .create 3 1 0 1 1 1 pNormal 11, .started 3 7,
   .convert 2 1 5 11 11 0 pNormal, .pop 2 5 11, .phaseBegin 2 5 1, .run 2 5 7, .obs 2 5 0 1,
   .lwStore 2 5 1, .phaseEnd 2 5 rPending, .sched 2 5 0 1 1 1 pNormal true 11,
   .pop 2 5 11, .phaseBegin 2 5 1, .phaseEnd 2 5 4,
   .start 3 8 poolStd, .started 3 8, .runStd 4 8]

example : (runLog step init exampleLog).isSome = true := by decide

/-- the hypotheses of `C10_static_hint_partial` are satisfiable at a `phaseBegin` -/
example : (match runLog step init (exampleLog.take 11) with
    | some s => (s.task 5).prio == pNormal && !(s.task 5).strayed && (pinTarget (s.pool 0) (s.task 5).hint == some 1)
        && (step s (.phaseBegin 2 5 1)).isSome
    | none => false) = true := by decide

end PikaVerif.C10
