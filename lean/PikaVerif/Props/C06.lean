import PikaVerif.Lemmas.Mtx2
import PikaVerif.Lemmas.Rec
/-!
# C06 — Mutexes give mutual exclusion and always hand the lock on

Property theorems about the models `PikaVerif.Mtx` (`pika::mutex`, `pika::timed_mutex`),
`PikaVerif.Rec` (`recursive_mutex_impl<spinlock>`) and `PikaVerif.Spin` (bare spinlock).  Every
theorem quantifies over *all* accepted event logs of the model, i.e. over every number of tasks,
every program (mix of lock / try_lock / try_lock_for / unlock, including misuse) and every
interleaving.

"Holding the lock" is defined from observables only: `holdsG t` = the last lock-type call of
`t` reported success and `t` has not invoked `unlock` since (`inCS t` = `t` is between the
program's `cs.enter` / `cs.exit` marks, which it sets only while `holdsG t`).

Not covered (partial, see notes/C06.md): "writes made in one critical section are visible in
the next" is an acquire/release fact; the models are sequentially consistent.
-/
namespace PikaVerif.C06
open PikaVerif.Mtx

/-! ## pika::mutex / pika::timed_mutex -/

def Reachable (s : St) : Prop := ∃ n log, runLog step (init n) log = some s

/-- **Mutual exclusion.**  In every reachable state at most one task holds the mutex: two
    tasks whose lock / try_lock / try_lock_for reported success and that have not invoked
    `unlock` since are the same task; and that task is the recorded owner. -/
theorem C06_mutex_exclusion (s : St) (hr : Reachable s) (t u : Nat)
    (ht : s.holdsG t = true) (hu : s.holdsG u = true) : t = u ∧ s.owner = some t := by
  obtain ⟨n, log, hlog⟩ := hr
  obtain ⟨_, hi2⟩ := inv2_of_accepted hlog
  have h1 := (hi2.loc t).1 ht
  exact ⟨Option.some.inj (h1.symm.trans ((hi2.loc u).1 hu)), h1⟩

/-- Critical sections of different tasks never overlap (state form). -/
theorem C06_mutex_cs_exclusive (s : St) (hr : Reachable s) (t u : Nat)
    (ht : s.inCS t = true) (hu : s.inCS u = true) : t = u := by
  have hr' := hr
  obtain ⟨n, log, hlog⟩ := hr
  obtain ⟨_, hi2⟩ := inv2_of_accepted hlog
  exact (C06_mutex_exclusion s hr' t u ((hi2.loc t).2.1 ht) ((hi2.loc u).2.1 hu)).1

/-- Number of `cs.enter` / `cs.exit` marks in a log. -/
def enters : List Ev → Nat
  | [] => 0
  | .csEnter _ :: l => enters l + 1
  | _ :: l => enters l

def exits : List Ev → Nat
  | [] => 0
  | .csExit _ :: l => exits l + 1
  | _ :: l => exits l

theorem cs_counters_step {s s' : St} {e : Ev} (es : List Ev) (h : step s e = some s') :
    s'.enters + enters es = s.enters + enters (e :: es) ∧ s'.exits + exits es = s.exits + exits (e :: es) := by
  have := (step_frame h).2
  cases e <;> first | exact this | (simp only [enters, exits] at this ⊢; omega)

theorem cs_counters_log (log : List Ev) : ∀ (s s' : St), runLog step s log = some s' →
    s'.enters = s.enters + enters log ∧ s'.exits = s.exits + exits log :=
  fun _ _ h =>
    ⟨runLog_tally (·.enters) enters rfl (fun _ _ _ es h => (cs_counters_step es h).1) h,
      runLog_tally (·.exits) exits rfl (fun _ _ _ es h => (cs_counters_step es h).2) h⟩

/-- **No overlap in any history.**  At every instant of every accepted log (every prefix) the
    number of critical sections entered exceeds the number left by at most one. -/
theorem C06_mutex_no_overlap (n : Nat) (l₁ l₂ : List Ev) (s : St)
    (h : runLog step (init n) (l₁ ++ l₂) = some s) :
    exits l₁ ≤ enters l₁ ∧ enters l₁ ≤ exits l₁ + 1 := by
  obtain ⟨s₁, h1, _⟩ := runLog_prefix h
  obtain ⟨_, hi2⟩ := inv2_of_accepted h1
  have hc := cs_counters_log l₁ _ s₁ h1
  simp only [init] at hc
  have hocc := hi2.occSum
  have hle : sumTo s₁.n (fun t => b2n (s₁.inCS t)) ≤ 1 :=
    sumTo_flag_le_one fun t u ht hu => C06_mutex_cs_exclusive s₁ ⟨n, l₁, h1⟩ t u ht hu
  omega

/-- A state is *stuck* when the model accepts no event other than program-level ones: a task
    starting a new operation, ending its program, or marking a critical section. -/
def Stuck (s : St) : Prop :=
  ∀ e, (∀ t o, e ≠ .inv t o) → (∀ t, e ≠ .done t) → (∀ t, e ≠ .csEnter t) → (∀ t, e ≠ .csExit t) →
    step s e = none

/-- Parked in `lock()` with no wake-up token. -/
def Blocked (s : St) (t : Nat) : Prop := s.pc t = .susp false ∧ s.tok t = 0

/-- **Progress.**  The model can only be stuck in states where every task is between
    operations, finished, or parked in `lock()` without a pending wake-up: never with a task in
    the middle of `unlock` / `try_lock` / `try_lock_until`, holding the internal spinlock,
    notified-but-not-resumed, or sleeping on a deadline. -/
theorem C06_mutex_stuck_only_when_blocked (s : St) (hr : Reachable s) (hs : Stuck s) :
    ∀ t, t < s.n → s.pc t = .idle ∨ s.pc t = .fin ∨ Blocked s t := by
  obtain ⟨n, log, hlog⟩ := hr
  obtain ⟨hi, hi2⟩ := inv2_of_accepted hlog
  intro t htn
  -- an event of the operations themselves that the state accepts refutes `hs`
  have en : ∀ e, (match e with | .inv _ _ | .done _ | .csEnter _ | .csExit _ => False | _ => True) →
      step s e ≠ none → False :=
    fun e he h => h (hs e (by rintro _ _ rfl; exact he) (by rintro _ rfl; exact he)
      (by rintro _ rfl; exact he) (by rintro _ rfl; exact he))
  cases hl : s.lock with
  | some r =>
    exfalso
    obtain ⟨hh, hrn⟩ := (core_of_accepted hlog).1.2 r hl
    cases hp : s.pc r <;> simp [hp, holds] at hh
    case locked o =>
      cases o with
      | lock =>
        by_cases ho : s.owner = some r
        · exact en (.slRel r) trivial (by simp [step, *])
        · by_cases hn : s.owner = none
          · exact en (.own r 1 false) trivial (by simp [step, *])
          · exact en (.cvEnq r (s.queue.length + 1) false) trivial
              (by simp [step, *])
      | tryl =>
        by_cases hn : s.owner = none
        · exact en (.own r 2 false) trivial (by simp [step, *])
        · exact en (.slRel r) trivial (by simp [step, *])
      | timed =>
        by_cases hn : s.owner = none
        · exact en (.own r 3 false) trivial (by simp [step, *])
        · exact en (.cvEnq r (s.queue.length + 1) true) trivial
            (by simp [step, *])
      | unlock =>
        by_cases ho : s.owner = some r
        · exact en (.disown r) trivial (by simp [step, *])
        · exact en (.slRel r) trivial (by simp [step, *])
    case again c =>
      by_cases hn : s.owner = none
      · exact en (.own r 1 false) trivial (by simp [step, *])
      · exact en (.cvEnq r (s.queue.length + 1) false) trivial
          (by simp [step, *])
    case sig =>
      by_cases hn : s.owner = none
      · exact en (.own r 3 false) trivial (by simp [step, *])
      · exact en (.slRel r) trivial (by simp [step, *])
    case enq tm => exact en (.slRel r) trivial (by simp [step, *])
    case relk tm p =>
      cases p <;> cases tm
      · exact en (.cvWoke r true false) trivial (by simp [step, *])
      · exact en (.cvWoke r true true) trivial (by simp [step, *])
      · exact en (.cvWoke r false false) trivial (by simp [step, *])
      · exact en (.cvWoke r false true) trivial (by simp [step, *])
    case timedOut => exact en (.slRel r) trivial (by simp [step, *])
    case owned o =>
      have hno : o ≠ .unlock := (hi2.at_pc hp).2.1
      exact en (.slRel r) trivial (by simp [step, *])
    case notified => exact en (.slRel r) trivial (by simp [step, *])
    case disowned =>
      cases hq : s.queue with
      | nil => exact en (.cvNone r) trivial (by simp [step, *])
      | cons g rest =>
        obtain ⟨hginQ, hnh, hgr, -⟩ := (core_of_accepted hlog).1.1.front rfl hl (by rw [hp]; rfl) hq
        have hsp : ∃ p', setPopped (s.pc g) = some p' := by
          cases hpg : s.pc g <;> simp [hpg, inQ, holds] at hginQ hnh <;> simp [setPopped, hginQ]
        obtain ⟨p', hp'⟩ := hsp
        exact en (.popResume r rest.length g (decide (s.pc g = .slp false))) trivial (by simp [step, *])
  | none =>
    have nh : holds (s.pc t) = false := by
      cases hh : holds (s.pc t) with
      | false => rfl
      | true => have := hi.lockHolder t hh; rw [hl] at this; simp at this
    cases hp : s.pc t <;> simp [hp, holds] at nh
    case idle => exact Or.inl rfl
    case fin => exact Or.inr (Or.inl rfl)
    case want o => exact (en (.slAcq t) trivial (by simp [step, *])).elim
    case unl tm p =>
      cases tm
      · exact (en (.suspend t) trivial (by simp [step, *])).elim
      · exact (en (.sleep t) trivial (by simp [step, *])).elim
    case susp p =>
      by_cases htok : 0 < s.tok t
      · exact (en (.woke t) trivial (by simp [step, *])).elim
      · cases p with
        | true => have := hi.wake t (Or.inr hp); omega
        | false => exact Or.inr (Or.inr ⟨hp, by omega⟩)
    case slp p => exact (en (.timeout t) trivial (by simp [step, *])).elim
    case wokeNL tm p => exact (en (.slAcq t) trivial (by simp [step, *])).elim
    case retn o r => exact (en (.ret t r) trivial (by simp [step, *])).elim

/-- **Hand-off / no lost unlock.**  In every reachable stuck state, if some task is still
    parked in `lock()` then the mutex is not free: it is owned by a task that holds it by
    program order (its lock call reported success and it has not invoked `unlock`).  Hence a
    task cannot stay blocked in `lock()` after the owner's `unlock`. -/
theorem C06_mutex_handoff (s : St) (hr : Reachable s) (hs : Stuck s) (t : Nat)
    (hb : Blocked s t) : ∃ u, s.owner = some u ∧ s.holdsG u = true := by
  have hq := C06_mutex_stuck_only_when_blocked s hr hs
  obtain ⟨n, log, hlog⟩ := hr
  obtain ⟨hi, hi2⟩ := inv2_of_accepted hlog
  have hz : wsum s = 0 := by
    apply sumTo_eq_zero
    intro u hu
    rcases hq u hu with h | h | h
    · simp [h, weight]
    · simp [h, weight]
    · simp [h.1, weight, b2n]
  have hin : t ∈ s.queue := (hi.qIff t).2 (by simp [hb.1, inQ])
  have hne : s.queue ≠ [] := by intro h; rw [h] at hin; simp at hin
  cases ho : s.owner with
  | none => have := hi.budget hne ho; omega
  | some u =>
    refine ⟨u, rfl, hi2.owner_holds ho ?_⟩
    by_cases hun : u < s.n
    · exact (hq u hun).imp_right (.imp_right (·.1))
    · exact .inl (hi.outside u (by omega))

/-- An `unlock` skips the notification only when no task is queued. -/
theorem C06_mutex_unlock_notifies (s s' : St) (t : Nat) (h : step s (.cvNone t) = some s') :
    s.queue = [] :=
  by cases Step.of h; assumption

theorem ret_pc {s s' : St} (hr : Reachable s) {t : Nat} {r : Res} (h : step s (.ret t r) = some s') :
    At (s.owner = some t) (s.holdsG t) (s.curOp t) (s.ownedAtInv t) (s.tookOp t) (s.touched t)
        (.retn (s.curOp t) r) ∧ (r = .ok → s.curOp t ≠ .unlock → s'.holdsG t = true) := by
  obtain ⟨n, log, hlog⟩ := hr
  exact (inv2_of_accepted hlog).2.ret_spec h

/-- Between operations, being the recorded owner and holding by program order coincide. -/
theorem C06_mutex_owner_iff_holds (s : St) (hr : Reachable s) (t : Nat) (hp : s.pc t = .idle) :
    s.owner = some t ↔ s.holdsG t = true := by
  obtain ⟨n, log, hlog⟩ := hr
  obtain ⟨_, hi2⟩ := inv2_of_accepted hlog
  exact ⟨fun ho => hi2.owner_holds ho (.inl hp), (hi2.loc t).1⟩

/-- **try_lock is honest.**  `try_lock` reports true or false; true exactly when this call
    wrote `owner_id_ = self` (and then the caller is the owner and holds the mutex); false
    means the call changed neither the owner nor the wait queue. -/
theorem C06_mutex_trylock_sound (s s' : St) (hr : Reachable s) (t : Nat) (r : Res)
    (hop : s.curOp t = .tryl) (h : step s (.ret t r) = some s') :
    (r = .ok ∨ r = .fail) ∧ (r = .ok ↔ s.tookOp t = true) ∧
    (r = .ok → s.owner = some t ∧ s'.holdsG t = true) ∧ (r = .fail → s.touched t = false) := by
  obtain ⟨⟨hres, _, htook, hown, _, _, _, _, htch, _⟩, hh⟩ := ret_pc hr h
  rw [hop] at hres htook hown htch hh
  exact ⟨hres, ⟨fun hr' => htook.2 ⟨hr', nofun⟩, fun ht => (htook.1 ht).1⟩,
    fun hr' => ⟨hown hr' nofun, hh hr' nofun⟩, fun hr' => htch (.inr (.inr ⟨rfl, hr'⟩))⟩

/-- **try_lock_until / try_lock_for is honest.**  True implies the caller wrote
    `owner_id_ = self`, is the owner and holds the mutex; false implies this call never wrote
    `owner_id_` (ownership unchanged by the call). -/
theorem C06_mutex_timed_sound (s s' : St) (hr : Reachable s) (t : Nat) (r : Res)
    (hop : s.curOp t = .timed) (h : step s (.ret t r) = some s') :
    (r = .ok ∨ r = .fail) ∧ (r = .ok → s.owner = some t ∧ s.tookOp t = true ∧ s'.holdsG t = true) ∧
    (r = .fail → s.tookOp t = false) := by
  obtain ⟨⟨hres, _, htook, hown, _⟩, hh⟩ := ret_pc hr h
  rw [hop] at hres htook hown hh
  refine ⟨hres, fun hr' => ⟨hown hr' nofun, htook.2 ⟨hr', nofun⟩, hh hr' nofun⟩, fun hr' => ?_⟩
  exact Bool.eq_false_iff.2 fun ht => by have := (htook.1 ht).1; rw [hr'] at this; cases this

/-- `ownedAtInv t` records whether `owner_id_` was the caller when it invoked the operation. -/
theorem C06_mutex_ownedAtInv_def (s s' : St) (t : Nat) (o : Op) (h : step s (.inv t o) = some s') :
    s'.ownedAtInv t = decide (s.owner = some t) := by
  cases Step.of h
  exact upd_same _ _ _

/-- **Misuse: re-locking an owned mutex is reported.**  `lock()` invoked by the owner reports
    the deadlock error, the call changed neither `owner_id_` nor the wait queue, and the caller
    still owns the mutex; `lock()` invoked by a non-owner reports success with the caller as
    owner (and never the error). -/
theorem C06_mutex_misuse_relock (s s' : St) (hr : Reachable s) (t : Nat) (r : Res)
    (hop : s.curOp t = .lock) (h : step s (.ret t r) = some s') :
    (s.ownedAtInv t = true → r = .errDeadlock ∧ s.touched t = false ∧ s.owner = some t) ∧
    (s.ownedAtInv t = false → r = .ok ∧ s.owner = some t ∧ s.tookOp t = true ∧ s'.holdsG t = true) := by
  obtain ⟨⟨hres, _, htook, hown, _, _, hoai, _, htch, hdl, _⟩, hh⟩ := ret_pc hr h
  rw [hop] at hres htook hown hoai hh
  have hoai := hoai rfl
  refine ⟨fun h1 => ?_, fun h1 => ?_⟩
  · have hr' := hoai.1 h1
    exact ⟨hr', htch (.inl hr'), hdl hr'⟩
  · have hr' : r = .ok := hres.resolve_right fun h2 => by rw [hoai.2 h2] at h1; cases h1
    exact ⟨hr', hown hr' nofun, htook.2 ⟨hr', nofun⟩, hh hr' nofun⟩

/-- **Misuse: unlocking a foreign mutex is reported.**  `unlock()` invoked by a task that is
    not the owner reports `lock_error` and the call changed neither `owner_id_` nor the wait
    queue; `unlock()` invoked by the owner succeeds. -/
theorem C06_mutex_misuse_foreign_unlock (s s' : St) (hr : Reachable s) (t : Nat) (r : Res)
    (hop : s.curOp t = .unlock) (h : step s (.ret t r) = some s') :
    (s.ownedAtInv t = false → r = .errLock ∧ s.touched t = false) ∧
    (s.ownedAtInv t = true → r = .ok) := by
  obtain ⟨⟨hres, _, _, _, _, _, _, hoai, htch, _⟩, _⟩ := ret_pc hr h
  rw [hop] at hres hoai
  have hoai := hoai rfl
  refine ⟨fun h1 => ?_, hoai.1⟩
  have hr' : r = .errLock := hres.resolve_left fun h2 => by rw [hoai.2 h2] at h1; cases h1
  exact ⟨hr', htch (.inr (.inl hr'))⟩

/-! ### Non-vacuity -/

/-- task 0 locks, task 1 blocks in lock(), task 0 unlocks and hands over, task 1 acquires -/
def exampleLog : List Ev :=
  [.inv 0 .lock, .slAcq 0, .own 0 1 false, .slRel 0, .ret 0 .ok, .csEnter 0,
   .inv 1 .lock, .slAcq 1, .cvEnq 1 1 false, .slRel 1, .suspend 1,
   .csExit 0, .inv 0 .unlock, .slAcq 0, .disown 0, .popResume 0 0 1 false, .slRel 0, .ret 0 .ok,
   .woke 1, .slAcq 1, .cvWoke 1 false false, .own 1 1 false, .slRel 1, .ret 1 .ok, .csEnter 1]

example : (runLog step (init 2) exampleLog).isSome = true := by decide

/-- a stuck state with a blocked locker exists (owner never unlocks) -/
example : ∃ s, runLog step (init 2)
    [.inv 0 .lock, .slAcq 0, .own 0 1 false, .slRel 0, .ret 0 .ok,
     .inv 1 .lock, .slAcq 1, .cvEnq 1 1 false, .slRel 1, .suspend 1] = some s ∧ Blocked s 1 := by
  refine ⟨_, rfl, ?_⟩
  simp [Blocked, upd, init]

/-- misuse histories are accepted: relock by the owner, unlock by a non-owner -/
example : (runLog step (init 2)
    [.inv 0 .lock, .slAcq 0, .own 0 1 false, .slRel 0, .ret 0 .ok,
     .inv 0 .lock, .slAcq 0, .slRel 0, .ret 0 .errDeadlock,
     .inv 1 .unlock, .slAcq 1, .slRel 1, .ret 1 .errLock]).isSome = true := by decide

/-- a timed lock that is signalled but finds the mutex taken again returns false -/
example : (runLog step (init 2)
    [.inv 0 .lock, .slAcq 0, .own 0 1 false, .slRel 0, .ret 0 .ok,
     .inv 1 .timed, .slAcq 1, .cvEnq 1 1 true, .slRel 1, .sleep 1,
     .inv 0 .unlock, .slAcq 0, .disown 0, .popResume 0 0 1 true, .slRel 0, .ret 0 .ok,
     .inv 0 .tryl, .slAcq 0, .own 0 2 false, .slRel 0, .ret 0 .ok,
     .timeout 1, .slAcq 1, .cvWoke 1 false true, .slRel 1, .ret 1 .fail]).isSome = true := by decide

end PikaVerif.C06

/-! ## recursive_mutex_impl<spinlock> -/
namespace PikaVerif.C06
open PikaVerif.Rec

def RReachable (s : St) : Prop := ∃ n log, runLog step (init n) log = some s

/-- **Mutual exclusion (recursive).**  `depthG t` = successful `lock`/`try_lock` returns of `t`
    minus its `unlock` invocations.  At most one thread has positive depth, and it is the
    recorded `locking_context`. -/
theorem C06_recursive_exclusion (s : St) (hr : RReachable s) (t u : Nat)
    (ht : 0 < s.depthG t) (hu : 0 < s.depthG u) : t = u ∧ s.ctx = some t := by
  obtain ⟨n, log, hlog⟩ := hr
  have hi := rinv_of_accepted hlog
  have h1 : s.ctx = some t := by
    by_cases hc : s.ctx = some t
    · exact hc
    · have := (hi.notOwner t hc).1; omega
  have h2 : s.ctx = some u := by
    by_cases hc : s.ctx = some u
    · exact hc
    · have := (hi.notOwner u hc).1; omega
  rw [h1] at h2
  exact ⟨by simpa using h2, h1⟩

/-- **Recursive depth.**  Between operations of the owner, `recursion_count` equals the
    owner's locks minus unlocks (and is positive); every other thread has depth 0. -/
theorem C06_recursive_depth (s : St) (hr : RReachable s) (t : Nat) :
    (s.ctx = some t → s.pc t = .idle → s.cnt = s.depthG t ∧ 0 < s.depthG t) ∧
    (s.ctx ≠ some t → s.depthG t = 0) := by
  obtain ⟨n, log, hlog⟩ := hr
  have hi := rinv_of_accepted hlog
  constructor
  · intro hc hp
    have h1 := hi.depth t hc
    have h2 := hi.cntPos t hc
    rw [hp] at h1 h2
    simp [pend, isZeroed] at h1 h2
    omega
  · intro hc; exact (hi.notOwner t hc).1

def renters : List Ev → Nat
  | [] => 0
  | .csEnter _ :: l => renters l + 1
  | _ :: l => renters l

def rexits : List Ev → Nat
  | [] => 0
  | .csExit _ :: l => rexits l + 1
  | _ :: l => rexits l

theorem rcs_counters_step {s s' : St} {e : Ev} (es : List Ev) (h : step s e = some s') :
    s'.enters + renters es = s.enters + renters (e :: es) ∧
    s'.exits + rexits es = s.exits + rexits (e :: es) := by
  cases e <;> simp only [step] at h <;> (repeat' split at h) <;>
    first | (simp at h; done)
          | (simp only [Option.some.injEq] at h; subst h; first | exact ⟨rfl, rfl⟩ | (simp [renters, rexits]; omega))

theorem rcs_counters_log (log : List Ev) : ∀ (s s' : St), runLog step s log = some s' →
    s'.enters = s.enters + renters log ∧ s'.exits = s.exits + rexits log :=
  fun _ _ h =>
    ⟨runLog_tally (·.enters) renters rfl (fun _ _ _ es h => (rcs_counters_step es h).1) h,
      runLog_tally (·.exits) rexits rfl (fun _ _ _ es h => (rcs_counters_step es h).2) h⟩

/-- Critical sections (outermost lock … outermost unlock) never overlap in any history. -/
theorem C06_recursive_no_overlap (n : Nat) (l₁ l₂ : List Ev) (s : St)
    (h : runLog step (init n) (l₁ ++ l₂) = some s) :
    rexits l₁ ≤ renters l₁ ∧ renters l₁ ≤ rexits l₁ + 1 := by
  obtain ⟨s₁, h1, _⟩ := runLog_prefix h
  have hi := rinv_of_accepted h1
  have hc := rcs_counters_log l₁ _ s₁ h1
  simp only [init] at hc
  have hocc := hi.occSum
  have hle : sumTo s₁.n (fun t => Rec.b2n (s₁.inCS t)) ≤ 1 :=
    sumTo_flag_le_one fun t u ht hu =>
      (C06_recursive_exclusion s₁ ⟨n, l₁, h1⟩ t u (hi.csHold t ht) (hi.csHold u hu)).1
  omega

def RStuck (s : St) : Prop :=
  ∀ e, (∀ t o, e ≠ .inv t o) → (∀ t, e ≠ .done t) → (∀ t, e ≠ .csEnter t) → (∀ t, e ≠ .csExit t) →
    step s e = none

/-- Spinning in `lock()`: not the owner, and the internal spinlock is taken. -/
def RWaiting (s : St) (t : Nat) : Prop := s.pc t = .want .rlock ∧ s.ctx ≠ some t ∧ s.v ≠ none

/-- **Progress (recursive).**  Stuck only with every thread between operations, finished, or
    spinning in `lock()` on a taken spinlock. -/
theorem C06_recursive_stuck_only_when_waiting (s : St) (hr : RReachable s) (hs : RStuck s) :
    ∀ t, t < s.n → s.pc t = .idle ∨ s.pc t = .fin ∨ RWaiting s t := by
  obtain ⟨n, log, hlog⟩ := hr
  have hi := rinv_of_accepted hlog
  intro t htn
  -- an event of the operations themselves that the state accepts refutes `hs`
  have en : ∀ e, (match e with | .inv _ _ | .done _ | .csEnter _ | .csExit _ => False | _ => True) →
      step s e ≠ none → False :=
    fun e he h => h (hs e (by rintro _ _ rfl; exact he) (by rintro _ rfl; exact he)
      (by rintro _ rfl; exact he) (by rintro _ rfl; exact he))
  cases hp : s.pc t
  case idle => exact Or.inl rfl
  case fin => exact Or.inr (Or.inl rfl)
  case want o =>
    cases o with
    | rlock =>
      by_cases hc : s.ctx = some t
      · exact (en (.reent t (s.cnt + 1)) trivial (by simp [step, *])).elim
      · by_cases hv : s.v = none
        · exact (en (.slAcq t) trivial (by simp [step, *])).elim
        · exact Or.inr (Or.inr ⟨hp, hc, hv⟩)
    | rtry =>
      by_cases hc : s.ctx = some t
      · exact (en (.reent t (s.cnt + 1)) trivial (by simp [step, *])).elim
      · by_cases hv : s.v = none
        · exact (en (.slTry t true) trivial (by simp [step, *])).elim
        · exact (en (.slTry t false) trivial (by simp [step, *])).elim
    | runlock =>
      have hc := want_unlock_owner hi t hp
      have hd := hi.depth t hc
      rw [hp] at hd
      simp [pend, Rec.b2n] at hd
      by_cases h1 : s.cnt = 1
      · exact (en (.zero t) trivial (by simp [step, htn, h1, hp])).elim
      · exact (en (.dec t (s.cnt - 1)) trivial
          (by simp [step, htn, hp]; omega)).elim
  case got o =>
    have hno : o ≠ .runlock := by have := hi.gotWf t; rw [hp] at this; simpa [gotOk] using this
    exact (en (.own t (ownKind o)) trivial (by simp [step, *])).elim
  case zeroed => exact (en (.free t) trivial (by simp [step, *])).elim
  case retn o r => exact (en (.ret t r) trivial (by simp [step, *])).elim

/-- **Hand-off (recursive).**  In a reachable stuck state a thread spinning in `lock()` implies
    that another thread really holds the mutex (positive depth by program order): no unlock
    is lost. -/
theorem C06_recursive_handoff (s : St) (hr : RReachable s) (hs : RStuck s) (t : Nat)
    (hw : RWaiting s t) : ∃ u, u ≠ t ∧ s.ctx = some u ∧ 0 < s.depthG u := by
  have hq := C06_recursive_stuck_only_when_waiting s hr hs
  obtain ⟨n, log, hlog⟩ := hr
  have hi := rinv_of_accepted hlog
  obtain ⟨_, hct, hv⟩ := hw
  cases hvv : s.v with
  | none => exact absurd hvv hv
  | some u =>
    have hpu : s.pc u = .idle ∨ s.pc u = .fin ∨ RWaiting s u := by
      by_cases hun : u < s.n
      · exact hq u hun
      · exact Or.inl (hi.outside u (by omega)).1
    have hcu : s.ctx = some u := by
      rcases hi.vRev u hvv with h | h
      · exact h
      · rcases hpu with h' | h' | h' <;> simp [h', isGot] at h
        simp [h'.1] at h
    have hut : u ≠ t := by intro he; subst he; exact hct hcu
    refine ⟨u, hut, hcu, ?_⟩
    have hd := hi.depth u hcu
    have hp := hi.cntPos u hcu
    rcases hpu with h' | h' | h'
    · rw [h'] at hd hp; simp [pend, isZeroed] at hd hp; omega
    · rw [h'] at hd hp; simp [pend, isZeroed] at hd hp; omega
    · exact absurd hcu h'.2.1

/-- **try_lock / lock results (recursive).**  A lock-type call reports true exactly when it
    re-entered or took ownership in this call; true makes the caller the `locking_context` and
    raises its depth by one, false leaves its depth unchanged. -/
theorem C06_recursive_trylock_sound (s s' : St) (hr : RReachable s) (t : Nat) (o : Op) (r : Bool)
    (hp : s.pc t = .retn o r) (ho : o ≠ .runlock) (h : step s (.ret t r) = some s') :
    s.tookOp t = r ∧ (r = true → s.ctx = some t ∧ s'.depthG t = s.depthG t + 1) ∧
    (r = false → s'.depthG t = s.depthG t) := by
  obtain ⟨n, log, hlog⟩ := hr
  have hi := rinv_of_accepted hlog
  have h1 := hi.took t r (by rw [hp]; simp [expectTook, ho])
  simp only [step, hp] at h
  split at h
  · simp only [if_true, Option.some.injEq] at h
    subst h
    refine ⟨h1, ?_, ?_⟩
    · intro hr'; subst hr'
      refine ⟨?_, by simp [ho]⟩
      by_cases hc : s.ctx = some t
      · exact hc
      · have := (hi.notOwner t hc).2.1; rw [hp] at this; simp [pend, Rec.b2n, ho] at this
    · intro hr'; subst hr'; simp
  · simp at h

/-- non-vacuity: re-entrant locking, hand-over to a spinning thread -/
example : (runLog step (init 2)
    [.inv 0 .rlock, .slAcq 0, .own 0 1, .ret 0 true, .csEnter 0, .inv 0 .rtry, .reent 0 2, .ret 0 true,
     .inv 1 .rtry, .slTry 1 false, .ret 1 false, .inv 1 .rlock,
     .inv 0 .runlock, .dec 0 1, .ret 0 true, .csExit 0, .inv 0 .runlock, .zero 0, .free 0, .ret 0 true,
     .slAcq 1, .own 1 1, .ret 1 true, .csEnter 1]).isSome = true := by decide

example : ∃ s, runLog step (init 2)
    [.inv 0 .rlock, .slAcq 0, .own 0 1, .ret 0 true, .inv 1 .rlock] = some s ∧ RWaiting s 1 := by
  refine ⟨_, rfl, ?_⟩
  simp [RWaiting, upd]

end PikaVerif.C06

/-! ## bare spinlock -/
namespace PikaVerif.C06
open PikaVerif.Spin

def SReachable (s : St) : Prop := ∃ n log, runLog step (init n) log = some s

/-- **Mutual exclusion (spinlock).**  At most one thread holds the spinlock (its `lock` /
    `try_lock` reported success and it has not invoked `unlock` since). -/
theorem C06_spin_exclusion (s : St) (hr : SReachable s) (t u : Nat)
    (ht : s.holdsG t = true) (hu : s.holdsG u = true) : t = u ∧ s.v = some t := by
  obtain ⟨n, log, hlog⟩ := hr
  have hi := sinv_of_accepted hlog
  have h1 := hi.hold1 t ht
  have h2 := hi.hold1 u hu
  rw [h1] at h2
  exact ⟨by simpa using h2, h1⟩

def senters : List Ev → Nat
  | [] => 0
  | .csEnter _ :: l => senters l + 1
  | _ :: l => senters l

def sexits : List Ev → Nat
  | [] => 0
  | .csExit _ :: l => sexits l + 1
  | _ :: l => sexits l

theorem scs_counters_step {s s' : St} {e : Ev} (es : List Ev) (h : step s e = some s') :
    s'.enters + senters es = s.enters + senters (e :: es) ∧
    s'.exits + sexits es = s.exits + sexits (e :: es) := by
  cases e <;> simp only [step] at h <;> (repeat' split at h) <;>
    first | (simp at h; done)
          | (simp only [Option.some.injEq] at h; subst h; first | exact ⟨rfl, rfl⟩ | (simp [senters, sexits]; omega))

theorem scs_counters_log (log : List Ev) : ∀ (s s' : St), runLog step s log = some s' →
    s'.enters = s.enters + senters log ∧ s'.exits = s.exits + sexits log :=
  fun _ _ h =>
    ⟨runLog_tally (·.enters) senters rfl (fun _ _ _ es h => (scs_counters_step es h).1) h,
      runLog_tally (·.exits) sexits rfl (fun _ _ _ es h => (scs_counters_step es h).2) h⟩

theorem C06_spin_no_overlap (n : Nat) (l₁ l₂ : List Ev) (s : St)
    (h : runLog step (init n) (l₁ ++ l₂) = some s) :
    sexits l₁ ≤ senters l₁ ∧ senters l₁ ≤ sexits l₁ + 1 := by
  obtain ⟨s₁, h1, _⟩ := runLog_prefix h
  have hi := sinv_of_accepted h1
  have hc := scs_counters_log l₁ _ s₁ h1
  simp only [init] at hc
  have hocc := hi.occSum
  have hle : sumTo s₁.n (fun t => Spin.b2n (s₁.inCS t)) ≤ 1 :=
    sumTo_flag_le_one fun t u ht hu =>
      (C06_spin_exclusion s₁ ⟨n, l₁, h1⟩ t u (hi.csHold t ht) (hi.csHold u hu)).1
  omega

def SStuck (s : St) : Prop :=
  ∀ e, (∀ t o, e ≠ .inv t o) → (∀ t, e ≠ .done t) → (∀ t, e ≠ .csEnter t) → (∀ t, e ≠ .csExit t) →
    step s e = none

def SWaiting (s : St) (t : Nat) : Prop := s.pc t = .want .slock ∧ s.v ≠ none

/-- **Progress (spinlock).**  Stuck only with every thread between operations, finished, or
    spinning in `lock()`. -/
theorem C06_spin_stuck_only_when_waiting (s : St) (_hr : SReachable s) (hs : SStuck s) :
    ∀ t, t < s.n → s.pc t = .idle ∨ s.pc t = .fin ∨ SWaiting s t := by
  intro t htn
  -- an event of the operations themselves that the state accepts refutes `hs`
  have en : ∀ e, (match e with | .inv _ _ | .done _ | .csEnter _ | .csExit _ => False | _ => True) →
      step s e ≠ none → False :=
    fun e he h => h (hs e (by rintro _ _ rfl; exact he) (by rintro _ rfl; exact he)
      (by rintro _ rfl; exact he) (by rintro _ rfl; exact he))
  cases hp : s.pc t
  case idle => exact Or.inl rfl
  case fin => exact Or.inr (Or.inl rfl)
  case want o =>
    cases o with
    | slock =>
      by_cases hv : s.v = none
      · exact (en (.slAcq t) trivial (by simp [step, *])).elim
      · exact Or.inr (Or.inr ⟨hp, hv⟩)
    | stry =>
      by_cases hv : s.v = none
      · exact (en (.slTry t true) trivial (by simp [step, *])).elim
      · exact (en (.slTry t false) trivial (by simp [step, *])).elim
    | sunlock => exact (en (.slRel t) trivial (by simp [step, *])).elim
  case retn o r => exact (en (.ret t r) trivial (by simp [step, *])).elim

/-- **Hand-off (spinlock).**  In a reachable stuck state with a thread spinning in `lock()`, the
    spinlock is held by a thread that holds it by program order: no release is lost. -/
theorem C06_spin_handoff (s : St) (hr : SReachable s) (hs : SStuck s) (t : Nat)
    (hw : SWaiting s t) : ∃ u, s.v = some u ∧ s.holdsG u = true := by
  have hq := C06_spin_stuck_only_when_waiting s hr hs
  obtain ⟨n, log, hlog⟩ := hr
  have hi := sinv_of_accepted hlog
  cases hvv : s.v with
  | none => exact absurd hvv hw.2
  | some u =>
    refine ⟨u, rfl, ?_⟩
    rcases hi.vRev u hvv with h | h
    · exact h
    · exfalso
      have hpu : s.pc u = .idle ∨ s.pc u = .fin ∨ SWaiting s u := by
        by_cases hun : u < s.n
        · exact hq u hun
        · exact Or.inl (hi.outside u (by omega)).1
      rcases hpu with h' | h' | h' <;> simp [h', mid] at h
      simp [h'.1] at h

/-- **try_lock is honest (spinlock).**  `lock`/`try_lock` report true exactly when this call
    performed the successful exchange; then the caller is the holder. -/
theorem C06_spin_trylock_sound (s s' : St) (hr : SReachable s) (t : Nat) (o : Op) (r : Bool)
    (hp : s.pc t = .retn o r) (ho : o ≠ .sunlock) (h : step s (.ret t r) = some s') :
    s.tookOp t = r ∧ (r = true → s.v = some t ∧ s'.holdsG t = true) := by
  obtain ⟨n, log, hlog⟩ := hr
  have hi := sinv_of_accepted hlog
  have h1 := hi.took t r (by rw [hp]; simp [expectTook, ho])
  simp only [step, hp] at h
  split at h
  · simp only [if_true, Option.some.injEq] at h
    subst h
    refine ⟨h1, ?_⟩
    intro hr'; subst hr'
    exact ⟨hi.stage t (by rw [hp]; simp [mid, ho]), by simp [ho]⟩
  · simp at h

example : (runLog step (init 2)
    [.inv 0 .slock, .slAcq 0, .ret 0 true, .csEnter 0, .inv 1 .stry, .slTry 1 false, .ret 1 false,
     .inv 1 .slock, .csExit 0, .inv 0 .sunlock, .slRel 0, .ret 0 true, .slAcq 1, .ret 1 true,
     .csEnter 1]).isSome = true := by decide

end PikaVerif.C06
