import PikaVerif.Core.Basic
/-! Finite sums of a per-thread weight over threads `0 … n-1`, and how they change under `upd`. -/
namespace PikaVerif

def sumTo (n : Nat) (f : Nat → Nat) : Nat :=
  match n with
  | 0 => 0
  | k + 1 => sumTo k f + f k

@[simp] theorem sumTo_zero (f : Nat → Nat) : sumTo 0 f = 0 := rfl
theorem sumTo_succ (k : Nat) (f : Nat → Nat) : sumTo (k + 1) f = sumTo k f + f k := rfl

theorem sumTo_congr {n : Nat} {f g : Nat → Nat} (h : ∀ t, t < n → f t = g t) :
    sumTo n f = sumTo n g := by
  induction n with
  | zero => rfl
  | succ k ih =>
    simp only [sumTo_succ]
    rw [ih (fun t ht => h t (Nat.lt_succ_of_lt ht)), h k (Nat.lt_succ_self k)]

/-- Updating a thread outside the range does not change the sum. -/
theorem sumTo_upd_ge {α : Type} (n : Nat) (w : α → Nat) (f : Nat → α) (t : Nat) (v : α)
    (h : n ≤ t) : sumTo n (fun u => w (upd f t v u)) = sumTo n (fun u => w (f u)) := by
  apply sumTo_congr
  intro u hu
  have : u ≠ t := by omega
  simp [upd, this]

/-- Updating thread `t < n`: the sum moves by the difference of the weights. -/
theorem sumTo_upd {α : Type} (n : Nat) (w : α → Nat) (f : Nat → α) (t : Nat) (v : α)
    (h : t < n) :
    sumTo n (fun u => w (upd f t v u)) + w (f t) = sumTo n (fun u => w (f u)) + w v := by
  induction n with
  | zero => exact absurd h (Nat.not_lt_zero _)
  | succ k ih =>
    simp only [sumTo_succ]
    by_cases hk : t = k
    · subst hk
      have h1 := sumTo_upd_ge t w f t v (Nat.le_refl t)
      simp only [upd_same]
      omega
    · have hlt : t < k := by omega
      have := ih hlt
      have hne : k ≠ t := fun h => hk h.symm
      simp only [upd_other _ _ _ _ hne]
      omega

theorem sumTo_eq_zero {n : Nat} {f : Nat → Nat} (h : ∀ t, t < n → f t = 0) : sumTo n f = 0 := by
  induction n with
  | zero => rfl
  | succ k ih =>
    simp only [sumTo_succ]
    rw [ih (fun t ht => h t (Nat.lt_succ_of_lt ht)), h k (Nat.lt_succ_self k)]

theorem le_sumTo {n : Nat} {f : Nat → Nat} {t : Nat} (h : t < n) : f t ≤ sumTo n f := by
  induction n with
  | zero => exact absurd h (Nat.not_lt_zero _)
  | succ k ih =>
    simp only [sumTo_succ]
    by_cases hk : t = k
    · subst hk; omega
    · have := ih (by omega); omega

theorem exists_lt_of_sumTo_lt {n : Nat} {f g : Nat → Nat} (h : sumTo n f < sumTo n g) :
    ∃ t, t < n ∧ f t < g t := by
  induction n with
  | zero => exact absurd h (Nat.lt_irrefl 0)
  | succ k ih =>
    simp only [sumTo_succ] at h
    by_cases hk : f k < g k
    · exact ⟨k, Nat.lt_succ_self k, hk⟩
    · obtain ⟨t, ht, hlt⟩ := ih (by omega)
      exact ⟨t, Nat.lt_succ_of_lt ht, hlt⟩

theorem exists_pos_of_sumTo_pos {n : Nat} {f : Nat → Nat} (h : 0 < sumTo n f) :
    ∃ t, t < n ∧ 0 < f t :=
  exists_lt_of_sumTo_lt (f := fun _ => 0) (by rwa [sumTo_eq_zero fun _ _ => rfl])

/-- Rewrite form of `sumTo_upd` (the subtraction is exact by `le_sumTo`). -/
theorem sumTo_upd_eq {α : Type} (n : Nat) (w : α → Nat) (f : Nat → α) (t : Nat) (v : α)
    (h : t < n) :
    sumTo n (fun u => w (upd f t v u)) = sumTo n (fun u => w (f u)) - w (f t) + w v := by
  have h1 := sumTo_upd n w f t v h
  have h2 := le_sumTo (f := fun u => w (f u)) h
  omega

theorem sumTo_mono {n : Nat} {f g : Nat → Nat} (h : ∀ t, t < n → f t ≤ g t) : sumTo n f ≤ sumTo n g := by
  induction n with
  | zero => exact Nat.le_refl 0
  | succ k ih =>
    have := ih (fun t ht => h t (Nat.lt_succ_of_lt ht))
    have := h k (Nat.lt_succ_self k)
    simp only [sumTo_succ]; omega

/-- Terms bounded one by one whose sum reaches the sum of the bounds all reach their bounds. -/
theorem sumTo_eq_of_le {n : Nat} {f g : Nat → Nat} (h : ∀ c, c < n → f c ≤ g c)
    (hs : sumTo n g ≤ sumTo n f) : ∀ c, c < n → f c = g c := by
  induction n with
  | zero => intro c hc; exact absurd hc (Nat.not_lt_zero _)
  | succ k ih =>
    simp only [sumTo_succ] at hs
    have h1 := sumTo_mono (fun c hc => h c (Nat.lt_succ_of_lt hc))
    have h2 := h k (Nat.lt_succ_self k)
    intro c hc
    by_cases hk : c = k
    · subst hk; omega
    · exact ih (fun c hc => h c (Nat.lt_succ_of_lt hc)) (by omega) c (by omega)

theorem sumTo_const (n c : Nat) : sumTo n (fun _ => c) = n * c := by
  induction n with
  | zero => simp
  | succ k ih => rw [sumTo_succ, ih, Nat.succ_mul]

theorem sumTo_le_n {n : Nat} {f : Nat → Nat} (h : ∀ t, t < n → f t ≤ 1) : sumTo n f ≤ n := by
  have := sumTo_mono (g := fun _ => 1) h
  rwa [sumTo_const, Nat.mul_one] at this

theorem sumTo_le_add {n c : Nat} {f g : Nat → Nat} (h : ∀ t, t < n → f t ≤ g t + c) :
    sumTo n f ≤ sumTo n g + c * n := by
  induction n with
  | zero => exact Nat.le_refl 0
  | succ k ih =>
    have := ih (fun t ht => h t (Nat.lt_succ_of_lt ht))
    have := h k (Nat.lt_succ_self k)
    simp only [sumTo_succ, Nat.mul_succ]; omega

theorem sumTo_change {n : Nat} {f f' : Nat → Nat} {t : Nat} (ht : t < n)
    (h : ∀ u, u < n → u ≠ t → f' u = f u) : sumTo n f' + f t = sumTo n f + f' t := by
  induction n with
  | zero => exact absurd ht (Nat.not_lt_zero _)
  | succ k ih =>
    simp only [sumTo_succ]
    by_cases hk : t = k
    · subst hk
      have : sumTo t f' = sumTo t f := sumTo_congr (fun u hu => h u (by omega) (by omega))
      omega
    · have := ih (by omega) (fun u hu hne => h u (by omega) hne)
      have := h k (by omega) (fun e => hk e.symm)
      omega

/-- A counter that never decreases and never exceeds `B` stands still from some point on. -/
theorem eventually_const_of_bounded (c : Nat → Nat) (B : Nat) (hmono : ∀ N, c N ≤ c (N + 1))
    (hb : ∀ N, c N ≤ B) : ∃ N, ∀ i, N ≤ i → c (i + 1) = c i := by
  have hm : ∀ {a b}, a ≤ b → c a ≤ c b := fun h => by
    induction h with
    | refl => exact Nat.le_refl _
    | step _ ih => exact Nat.le_trans ih (hmono _)
  -- induction on the room `k` left above `c N0`: a rise after `N0` uses some of it up
  suffices ∀ k N0, B ≤ c N0 + k → ∃ N, ∀ i, N ≤ i → c (i + 1) = c i from this B 0 (Nat.le_add_left ..)
  intro k
  induction k with
  | zero => exact fun N0 h => ⟨N0, fun i hi => by have := hm hi; have := hb (i + 1); have := hmono i; omega⟩
  | succ k ih =>
    intro N0 h
    refine Classical.byCases (fun hc : ∀ i, N0 ≤ i → c (i + 1) = c i => ⟨N0, hc⟩) fun hc => ?_
    obtain ⟨i, hc⟩ := Classical.not_forall.1 hc
    obtain ⟨hi, hne⟩ := Classical.not_imp.1 hc
    exact ih (i + 1) (by have := hm hi; have := hmono i; omega)

end PikaVerif
