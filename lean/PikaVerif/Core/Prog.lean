import PikaVerif.Core.Run
import PikaVerif.Core.Sum
/-! Threads running finite programs over an acceptor.

A *program layer* over `step` is an acceptor `pstep` on states that carry, beside a state of `step`
(`st`), a list of operations still to be invoked per thread (`prog`): `inv t o` is accepted only as the
head of thread `t`'s list, which it consumes, `done t` only when the list is empty, and no other event
touches the lists.  With a potential `mu` that every event but `inv` lowers, and that `inv t o` raises by
less than the price of `o`, the sum `progPhi` of `mu` and the prices of the operations not yet invoked
falls with every event of the layer: accepted logs are bounded by its initial value and extend to maximal
ones.  A model proves `ProgLayer` by one case analysis of its `pstep` and `Potential` from its measure
lemmas. -/
namespace PikaVerif

structure ProgLayer {σ ε π Op : Type} (step : σ → ε → Option σ) (pstep : π → ε → Option π)
    (st : π → σ) (prog : π → Nat → List Op) (inv : Nat → Op → ε) (done : Nat → ε) : Prop where
  sound : ∀ {p e p'}, pstep p e = some p' → step (st p) e = some (st p') ∧
    ((∃ t o rest, e = inv t o ∧ prog p t = o :: rest ∧ prog p' = upd (prog p) t rest) ∨
     ((∀ t o, e ≠ inv t o) ∧ prog p' = prog p ∧ ∀ t, e = done t → prog p t = []))
  inv_ne_done : ∀ t o u, inv t o ≠ done u

/-- The converse of `ProgLayer.sound`: the layer rejects an event only where `step` does or the thread's list
    forbids it.  (A sound layer need not be complete: it may ration further events, as the mutex layer does
    with `cs.enter`.) -/
structure ProgComplete {σ ε π Op : Type} (step : σ → ε → Option σ) (pstep : π → ε → Option π)
    (st : π → σ) (prog : π → Nat → List Op) (inv : Nat → Op → ε) (done : Nat → ε) : Prop where
  other : ∀ {p e}, (∀ t o, e ≠ inv t o) → (∀ t, e ≠ done t) → pstep p e = none → step (st p) e = none
  start : ∀ {p t o rest}, prog p t = o :: rest → pstep p (inv t o) = none → step (st p) (inv t o) = none
  finish : ∀ {p t}, prog p t = [] → pstep p (done t) = none → step (st p) (done t) = none

namespace ProgComplete
variable {σ ε π Op : Type} {step : σ → ε → Option σ} {pstep : π → ε → Option π} {st : π → σ}
  {prog : π → Nat → List Op} {inv : Nat → Op → ε} {done : Nat → ε}
  (C : ProgComplete step pstep st prog inv done) {p : π} (hst : ∀ e, pstep p e = none)
include C hst

/-- Where the layer is stuck, `step` accepts no event inside an operation … -/
theorem stuck (e : ε) (h1 : ∀ t o, e ≠ inv t o) (h2 : ∀ t, e ≠ done t) : step (st p) e = none :=
  C.other h1 h2 (hst e)

/-- … and no thread is between operations: it could start its next one, or finish. -/
theorem stuck_thread (t : Nat) : step (st p) (done t) = none ∨ ∃ o, step (st p) (inv t o) = none := by
  cases hp : prog p t with
  | nil => exact .inl (C.finish hp (hst _))
  | cons o rest => exact .inr ⟨o, C.start hp (hst _)⟩

end ProgComplete

/-- A potential `mu` on the states of a layer with `n p` threads, where `pcost (n p) l` prices the list `l`
    of operations not yet invoked and `Inv` is what the argument needs: every event but `inv` lowers `mu`,
    and `inv t o` raises it by less than what `o` adds to the price of a list. -/
structure Potential {ε π Op : Type} (pstep : π → ε → Option π) (inv : Nat → Op → ε) (Inv : π → Prop)
    (n mu : π → Nat) (pcost : Nat → List Op → Nat) : Prop where
  keep : ∀ {p e p'}, Inv p → pstep p e = some p' → Inv p' ∧ n p' = n p
  start : ∀ {p t o p'}, Inv p → pstep p (inv t o) = some p' →
    t < n p ∧ ∀ l, mu p' + pcost (n p) l < mu p + pcost (n p) (o :: l)
  move : ∀ {p e p'}, Inv p → (∀ t o, e ≠ inv t o) → pstep p e = some p' → mu p' < mu p

def progPhi {π Op : Type} (prog : π → Nat → List Op) (n mu : π → Nat) (pcost : Nat → List Op → Nat)
    (p : π) : Nat :=
  mu p + sumTo (n p) fun t => pcost (n p) (prog p t)

namespace ProgLayer
variable {σ ε π Op : Type} {step : σ → ε → Option σ} {pstep : π → ε → Option π} {st : π → σ}
  {prog : π → Nat → List Op} {inv : Nat → Op → ε} {done : Nat → ε}
  (L : ProgLayer step pstep st prog inv done)
include L

theorem run {p p' : π} {log : List ε} (h : runLog pstep p log = some p') :
    runLog step (st p) log = some (st p') := by
  simpa using runLog_map st id (fun _ _ _ h => (L.sound h).1) h

/-- A property of threads that only `done` establishes (being finished) implies, along the layer, that
    the thread's list is empty: an `inv` of a finished thread would be an `inv` of an empty list. -/
theorem finished_step {fin : σ → Nat → Prop}
    (hfin : ∀ {s e s' u}, step s e = some s' → fin s' u → fin s u ∨ e = done u)
    {p p' : π} {e : ε} (hf : ∀ t, fin (st p) t → prog p t = []) (h : pstep p e = some p') :
    ∀ t, fin (st p') t → prog p' t = [] := fun u hu => by
  obtain ⟨hs, ⟨t, o, rest, rfl, hp, hp'⟩ | ⟨-, hp', hd⟩⟩ := L.sound h
  · have hpu : prog p u = [] := (hfin hs hu).elim (hf u) fun he => absurd he (L.inv_ne_done t o u)
    by_cases hut : u = t
    · rw [hut, hp] at hpu; cases hpu
    · rw [hp', upd_other _ _ _ _ hut, hpu]
  · rw [hp']; exact (hfin hs hu).elim (hf u) (hd u)

variable {Inv : π → Prop} {n mu : π → Nat} {pcost : Nat → List Op → Nat}
  (P : Potential pstep inv Inv n mu pcost)
include P

theorem phi_lt {p p' : π} {e : ε} (hi : Inv p) (h : pstep p e = some p') :
    progPhi prog n mu pcost p' < progPhi prog n mu pcost p := by
  obtain ⟨-, ⟨t, o, rest, rfl, hp, hp'⟩ | ⟨hne, hp', -⟩⟩ := L.sound h <;>
    simp only [progPhi, (P.keep hi h).2, hp']
  · obtain ⟨ht, hm⟩ := P.start hi h
    have := sumTo_upd (n p) (pcost (n p)) (prog p) t rest ht
    have := hm rest
    rw [hp] at *
    omega
  · have := P.move hi hne h
    omega

theorem length_le {p p' : π} {log : List ε} (hi : Inv p) (h : runLog pstep p log = some p') :
    log.length + progPhi prog n mu pcost p' ≤ progPhi prog n mu pcost p :=
  runLog_length_le Inv _ (fun _ _ _ hi h => (P.keep hi h).1) (fun _ _ _ => L.phi_lt P) hi h

/-- Every accepted log of the layer extends to one after which no event is accepted, and that one is no
    longer than the initial potential. -/
theorem maximal_exists {p₀ p : π} {log : List ε} (hi : Inv p₀) (h : runLog pstep p₀ log = some p) :
    ∃ ext p', runLog pstep p₀ (log ++ ext) = some p' ∧ (∀ e, pstep p' e = none) ∧
      (log ++ ext).length ≤ progPhi prog n mu pcost p₀ := by
  have keep := fun p e p' (hi : Inv p) (h : pstep p e = some p') => (P.keep hi h).1
  obtain ⟨ext, p', hrun, hst⟩ := exists_stuck_run Inv _ keep (fun _ _ _ => L.phi_lt P) p
    (inv_of_runLog _ keep hi h)
  have hall : runLog pstep p₀ (log ++ ext) = some p' := by rw [runLog_append, h]; exact hrun
  exact ⟨ext, p', hall, hst, by have := L.length_le P hi hall; omega⟩

end ProgLayer
end PikaVerif
