import PikaVerif.Core.Basic
/-! Facts every acceptor shares: the guard of an accepted event, pointwise reasoning under `upd`,
    accepted logs taken apart at either end, invariants along logs of a restricted kind, simulations
    between acceptors, measures and counters along a log, the existence of maximal runs, and bounded solo runs. -/
namespace PikaVerif

/-! ## The guard of an accepted event

Every acceptor has the form `if guard then some s' else none`, possibly nested. -/

theorem of_ite {α : Type} {c : Prop} [Decidable c] {x : Option α} {y : α}
    (h : (if c then x else none) = some y) : c ∧ x = some y := by
  split at h
  · exact ⟨‹c›, h⟩
  · cases h

theorem of_ite_some {α : Type} {c : Prop} [Decidable c] {x y : α}
    (h : (if c then some x else none) = some y) : c ∧ y = x :=
  ⟨(of_ite h).1, (Option.some.inj (of_ite h).2).symm⟩

/-! ## Pointwise facts about `upd` -/

theorem forall_upd_ne {α : Type} {P : Nat → α → Prop} {f : Nat → α} {t : Nat} {v : α}
    (h : ∀ u, u ≠ t → P u (f u)) (hv : P t v) : ∀ u, P u (upd f t v u) := fun u => by
  by_cases hu : u = t
  · subst hu; rwa [upd_same]
  · rw [upd_other _ _ _ _ hu]; exact h u hu

theorem forall_upd {α : Type} {P : Nat → α → Prop} {f : Nat → α} {t : Nat} {v : α}
    (h : ∀ u, P u (f u)) (hv : P t v) : ∀ u, P u (upd f t v u) :=
  forall_upd_ne (fun u _ => h u) hv

@[simp] theorem upd_upd {α : Type} (f : Nat → α) (t : Nat) (v w : α) :
    upd (upd f t v) t w = upd f t w := by
  funext u; by_cases hu : u = t <;> simp [upd, hu]

@[simp] theorem upd_self {α : Type} (f : Nat → α) (t : Nat) : upd f t (f t) = f := by
  funext u; by_cases hu : u = t <;> simp [upd, hu]

/-- While every thread but `t` is at a point of a kind `I` where `F` holds for free, `F` holds of every
    thread after `t` has moved to a point where it holds. -/
theorem forall_upd_of_others {α : Type} {I F : α → Prop} (hF : ∀ p, I p → F p)
    {pc : Nat → α} {t : Nat} {p' : α} (ho : ∀ u, u ≠ t → I (pc u)) (hp' : F p') :
    ∀ u, F (upd pc t p' u) := fun u => by
  by_cases hu : u = t
  · subst hu; rw [upd_same]; exact hp'
  · rw [upd_other _ _ _ _ hu]; exact hF _ (ho u hu)

theorem apply_upd_same {α β : Type} (g : α → β) (f : Nat → α) (t : Nat) (x : α) : g (upd f t x t) = g x :=
  congrArg g (upd_same f t x)

theorem apply_upd_other {α β : Type} (g : α → β) (f : Nat → α) {t u : Nat} (x : α) (h : u ≠ t) :
    g (upd f t x u) = g (f u) :=
  congrArg g (upd_other f t u x h)

theorem apply_upd_of_eq {α β : Type} (g : α → β) {f : Nat → α} {t : Nat} {x : α} (h : g x = g (f t)) (u : Nat) :
    g (upd f t x u) = g (f u) := by
  by_cases hu : u = t
  · subst hu; rw [upd_same, h]
  · rw [upd_other _ _ _ _ hu]

/-! ## Accepted logs: a step at either end, simulations, measures, counters, maximal runs -/

theorem runLog_cons_some {σ ε : Type} {step : σ → ε → Option σ} {s s' : σ} {e : ε} {es : List ε}
    (h : runLog step s (e :: es) = some s') : ∃ s₁, step s e = some s₁ ∧ runLog step s₁ es = some s' := by
  rw [runLog_cons] at h
  cases h1 : step s e with
  | none => simp [h1] at h
  | some s₁ => exact ⟨s₁, rfl, by simpa [h1] using h⟩

/-- The event in the middle of an accepted log is accepted in the state its prefix leads to. -/
theorem runLog_mid {σ ε : Type} {step : σ → ε → Option σ} {s0 s1 s' : σ} {pre post : List ε} {e : ε}
    (h1 : runLog step s0 pre = some s1) (h : runLog step s0 (pre ++ e :: post) = some s') :
    ∃ s2, step s1 e = some s2 := by
  obtain ⟨s, h2, h3⟩ := runLog_prefix h
  obtain rfl : s1 = s := Option.some.inj (h1.symm.trans h2)
  obtain ⟨s2, hs, _⟩ := runLog_cons_some h3
  exact ⟨s2, hs⟩

theorem runLog_snoc {σ ε : Type} (step : σ → ε → Option σ) (s : σ) (l : List ε) (e : ε) :
    runLog step s (l ++ [e]) = (runLog step s l).bind (fun s' => step s' e) := by
  rw [runLog_append]
  cases runLog step s l with
  | none => rfl
  | some s₁ => simp only [Option.bind_some, runLog]; cases step s₁ e <;> rfl

theorem runLog_map {σ ε τ δ : Type} {step : σ → ε → Option σ} {step' : τ → δ → Option τ}
    (f : σ → τ) (g : ε → δ) (hstep : ∀ s e s', step s e = some s' → step' (f s) (g e) = some (f s'))
    {s s' : σ} {log : List ε} (h : runLog step s log = some s') :
    runLog step' (f s) (log.map g) = some (f s') := by
  induction log generalizing s with
  | nil => simp at h; subst h; rfl
  | cons e es ih =>
    obtain ⟨s₁, h1, h2⟩ := runLog_cons_some h
    simp only [List.map_cons, runLog, hstep s e s₁ h1]
    exact ih h2

theorem runLog_comap {σ ε δ : Type} (step : σ → δ → Option σ) (g : ε → δ) (s : σ) (log : List ε) :
    runLog (fun s e => step s (g e)) s log = runLog step s (log.map g) := by
  induction log generalizing s with
  | nil => rfl
  | cons e es ih =>
    simp only [runLog, List.map_cons]
    cases step s (g e) with
    | none => rfl
    | some s' => exact ih s'

theorem runLog_lift {σ τ ε : Type} {step : σ → ε → Option σ} {step' : τ → ε → Option τ} (f : τ → σ)
    (hlift : ∀ p e s', step (f p) e = some s' → ∃ p', step' p e = some p' ∧ f p' = s')
    {p : τ} {s' : σ} {log : List ε} (h : runLog step (f p) log = some s') :
    ∃ p', runLog step' p log = some p' ∧ f p' = s' := by
  induction log generalizing p with
  | nil => exact ⟨p, rfl, Option.some.inj h⟩
  | cons e es ih =>
    obtain ⟨s₁, hs, h⟩ := runLog_cons_some h
    obtain ⟨p₁, hp, rfl⟩ := hlift p e s₁ hs
    obtain ⟨p', hrun, hf⟩ := ih h
    exact ⟨p', by simp only [runLog, hp]; exact hrun, hf⟩

/-- A counter `c` of the state against a tally `k` of the log.  The step condition speaks of `k` on the rest
    `es` of the log, so `k` may be any function of lists: a recursively defined count of the events of a kind
    fits as it stands. -/
theorem runLog_tally {σ ε : Type} {step : σ → ε → Option σ} (c : σ → Nat) (k : List ε → Nat) (hk : k [] = 0)
    (hc : ∀ s e s' es, step s e = some s' → c s' + k es = c s + k (e :: es))
    {s s' : σ} {log : List ε} (h : runLog step s log = some s') : c s' = c s + k log := by
  induction log generalizing s with
  | nil => cases h; omega
  | cons e es ih =>
    obtain ⟨s₁, h1, h2⟩ := runLog_cons_some h
    have := ih h2
    have := hc s e s₁ es h1
    omega

/-- The same for a measure `μ` that pays for a weight `w` of the log and is refilled by a gain `g`: if at
    every accepted step (from a state satisfying the preserved `Inv`) what `μ` loses and `g` grants covers
    what `w` charges for the event, the whole log is covered. -/
theorem runLog_balance {σ ε : Type} {step : σ → ε → Option σ} (Inv : σ → Prop) (μ : σ → Nat)
    (w g : List ε → Nat) (hw : w [] = 0) (hg : g [] = 0)
    (hinv : ∀ s e s', Inv s → step s e = some s' → Inv s')
    (hμ : ∀ s e s' es, Inv s → step s e = some s' → μ s' + w (e :: es) + g es ≤ μ s + w es + g (e :: es))
    {s s' : σ} {log : List ε} (h0 : Inv s) (h : runLog step s log = some s') :
    μ s' + w log ≤ μ s + g log := by
  induction log generalizing s with
  | nil => cases h; omega
  | cons e es ih =>
    obtain ⟨s₁, h1, h2⟩ := runLog_cons_some h
    have := ih (hinv s e s₁ h0 h1) h2
    have := hμ s e s₁ es h0 h1
    omega

/-- A quantity that every accepted event (from a state satisfying the preserved `Inv`) lowers by
    the event's weight bounds the weight of every accepted log. -/
theorem runLog_measure {σ ε : Type} {step : σ → ε → Option σ} (Inv : σ → Prop) (μ : σ → Nat)
    (w : ε → Nat) (hinv : ∀ s e s', Inv s → step s e = some s' → Inv s')
    (hμ : ∀ s e s', Inv s → step s e = some s' → μ s' + w e ≤ μ s)
    {s s' : σ} {log : List ε} (h0 : Inv s) (h : runLog step s log = some s') :
    μ s' + (log.map w).sum ≤ μ s :=
  runLog_balance Inv μ (fun l => (l.map w).sum) (fun _ => 0) rfl rfl hinv (fun s e s' es hi hs => by
    have := hμ s e s' hi hs
    simp only [List.map_cons, List.sum_cons]; omega) h0 h

theorem runLog_length_le {σ ε : Type} {step : σ → ε → Option σ} (Inv : σ → Prop) (μ : σ → Nat)
    (hinv : ∀ s e s', Inv s → step s e = some s' → Inv s')
    (hμ : ∀ s e s', Inv s → step s e = some s' → μ s' < μ s)
    {s s' : σ} {log : List ε} (h0 : Inv s) (h : runLog step s log = some s') :
    log.length + μ s' ≤ μ s := by
  have := runLog_balance Inv μ List.length (fun _ => 0) rfl rfl hinv (fun s e s' es hi hs => by
    have := hμ s e s' hi hs
    simp only [List.length_cons]; omega) h0 h
  omega

theorem runLog_count {σ ε : Type} {step : σ → ε → Option σ} (c : σ → Nat) (w : ε → Nat)
    (hc : ∀ s e s', step s e = some s' → c s' = c s + w e)
    {s s' : σ} {log : List ε} (h : runLog step s log = some s') :
    c s' = c s + (log.map w).sum :=
  runLog_tally c (fun l => (l.map w).sum) rfl (fun s e s' es hs => by
    rw [hc s e s' hs, List.map_cons, List.sum_cons]; omega) h

/-- Runs to a maximal state exist.  If from every non-maximal state satisfying `Inv` some accepted
    extension `evs` lowers `μ`, keeps `Inv`, has the shape `P` and at most `c` events per unit of `μ`
    lost, then every state satisfying `Inv` extends to a maximal one by such a log. -/
theorem exists_maximal_run {σ ε : Type} {step : σ → ε → Option σ} (Inv Max : σ → Prop) (μ : σ → Nat)
    (P : List ε → Prop) (c : Nat) (hnil : P []) (happ : ∀ a b, P a → P b → P (a ++ b))
    (hext : ∀ s, Inv s → ¬ Max s → ∃ evs s', runLog step s evs = some s' ∧ Inv s' ∧ P evs ∧
      μ s' < μ s ∧ evs.length + c * μ s' ≤ c * μ s)
    (s : σ) (hi : Inv s) :
    ∃ ext s', runLog step s ext = some s' ∧ Inv s' ∧ Max s' ∧ P ext ∧ ext.length + c * μ s' ≤ c * μ s := by
  induction hn : μ s using Nat.strongRecOn generalizing s with
  | _ n ih =>
    subst hn
    by_cases hm : Max s
    · exact ⟨[], s, rfl, hi, hm, hnil, by simp⟩
    · obtain ⟨evs, s₁, hrun, hi₁, hp, hlt, hlen⟩ := hext s hi hm
      obtain ⟨ext, s₂, hrun₂, hi₂, hmax, hp₂, hlen₂⟩ := ih (μ s₁) hlt s₁ hi₁ rfl
      refine ⟨evs ++ ext, s₂, ?_, hi₂, hmax, happ _ _ hp hp₂, ?_⟩
      · rw [runLog_append, hrun]; exact hrun₂
      · simp only [List.length_append]; omega

/-- `inv_of_runLog` for logs all of whose events satisfy `P`: the invariant need only be preserved by those. -/
theorem inv_of_runLog_where {σ ε : Type} {step : σ → ε → Option σ} (Inv : σ → Prop) (P : ε → Prop)
    (hstep : ∀ s e s', P e → Inv s → step s e = some s' → Inv s')
    {s s' : σ} {log : List ε} (h0 : Inv s) (h : runLog step s log = some s') (hP : ∀ e ∈ log, P e) : Inv s' := by
  induction log generalizing s with
  | nil => cases h; exact h0
  | cons e es ih =>
    obtain ⟨s₁, h1, h2⟩ := runLog_cons_some h
    exact ih (hstep s e s₁ (hP e List.mem_cons_self) h0 h1) h2 fun e' he' => hP e' (List.mem_cons_of_mem _ he')

/-- Along an accepted log, a condition `P` that every step keeps unless the event is one of `F` either
    holds at the end or an event of `F` occurs. -/
theorem runLog_until {σ ε : Type} {step : σ → ε → Option σ} (Inv P : σ → Prop) (F : ε → Prop)
    (hinv : ∀ s e s', Inv s → step s e = some s' → Inv s')
    (hstep : ∀ s e s', Inv s → P s → step s e = some s' → F e ∨ P s')
    {s s' : σ} {log : List ε} (hi : Inv s) (hp : P s) (h : runLog step s log = some s') :
    (∃ e ∈ log, F e) ∨ (Inv s' ∧ P s') := by
  induction log generalizing s with
  | nil => cases h; exact .inr ⟨hi, hp⟩
  | cons e es ih =>
    obtain ⟨s₁, h1, h2⟩ := runLog_cons_some h
    rcases hstep s e s₁ hi hp h1 with hf | hp₁
    · exact .inl ⟨e, List.mem_cons_self, hf⟩
    · exact (ih (hinv s e s₁ hi h1) hp₁ h2).imp (fun ⟨e', hm, hf⟩ => ⟨e', List.mem_cons_of_mem _ hm, hf⟩) id

theorem exists_quiet_run {σ ε : Type} {step : σ → ε → Option σ} (Inv : σ → Prop) (μ : σ → Nat) (Q : ε → Prop)
    (hinv : ∀ s e s', Inv s → step s e = some s' → Inv s')
    (hμ : ∀ s e s', Inv s → Q e → step s e = some s' → μ s' < μ s) (s : σ) (hi : Inv s) :
    ∃ ext s', runLog step s ext = some s' ∧ Inv s' ∧ (∀ e s'', step s' e = some s'' → ¬ Q e) ∧
      (∀ e ∈ ext, Q e) ∧ ext.length + μ s' ≤ μ s := by
  obtain ⟨ext, s', hrun, hi', hq, hall, hlen⟩ := exists_maximal_run (step := step) Inv
    (fun s => ∀ e s', step s e = some s' → ¬ Q e) μ (fun l => ∀ e ∈ l, Q e) 1 nofun
    (fun a b ha hb e he => (List.mem_append.1 he).elim (ha e) (hb e)) (fun s hi hns => by
      obtain ⟨e, s₁, hs, hq⟩ : ∃ e s₁, step s e = some s₁ ∧ Q e := Classical.byContradiction fun hc =>
        hns fun e s₁ hs hq => hc ⟨e, s₁, hs, hq⟩
      have := hμ s e s₁ hi hq hs
      exact ⟨[e], s₁, by simp [runLog, hs], hinv s e s₁ hi hs, fun e' he' => List.mem_singleton.1 he' ▸ hq,
        this, by simp; omega⟩)
    s hi
  exact ⟨ext, s', hrun, hi', hq, hall, by omega⟩

theorem exists_stuck_run {σ ε : Type} {step : σ → ε → Option σ} (Inv : σ → Prop) (μ : σ → Nat)
    (hinv : ∀ s e s', Inv s → step s e = some s' → Inv s')
    (hμ : ∀ s e s', Inv s → step s e = some s' → μ s' < μ s) (s : σ) (hi : Inv s) :
    ∃ ext s', runLog step s ext = some s' ∧ ∀ e, step s' e = none := by
  obtain ⟨ext, s', hrun, -, hst, -, -⟩ := exists_quiet_run Inv μ (fun _ => True) hinv
    (fun s e s' hi _ => hμ s e s' hi) s hi
  refine ⟨ext, s', hrun, fun e => ?_⟩
  cases h : step s' e with
  | none => rfl
  | some s'' => exact absurd trivial (hst e s'' h)

/-! ## Bounded solo runs -/

/-- Events of the kind `Q` alone (those of one thread, say) lead from `s`, in at most `B` of them, to a state
    satisfying `P`. -/
def SoloRun {σ ε : Type} (step : σ → ε → Option σ) (Q : ε → Prop) (B : Nat) (s : σ) (P : σ → Prop) : Prop :=
  ∃ log : List ε, log.length ≤ B ∧ (∀ e ∈ log, Q e) ∧ ∃ s', runLog step s log = some s' ∧ P s'

namespace SoloRun
variable {σ ε : Type} {step : σ → ε → Option σ} {Q : ε → Prop} {B B' : Nat} {s : σ} {P P' : σ → Prop}

theorem nil (h : P s) : SoloRun step Q B s P := ⟨[], Nat.zero_le _, nofun, s, rfl, h⟩

theorem mono (h : SoloRun step Q B s P) (hb : B ≤ B') (hp : ∀ s', P s' → P' s') : SoloRun step Q B' s P' := by
  obtain ⟨l, hl, hq, s₁, hrun, hp₁⟩ := h
  exact ⟨l, by omega, hq, s₁, hrun, hp _ hp₁⟩

theorem le (h : SoloRun step Q B s P) (hb : B ≤ B') : SoloRun step Q B' s P := h.mono hb fun _ h => h

theorem bind (h : SoloRun step Q B s P) (h' : ∀ s', P s' → SoloRun step Q B' s' P') :
    SoloRun step Q (B + B') s P' := by
  obtain ⟨l, hl, hq, s₁, hrun, hp⟩ := h
  obtain ⟨l', hl', hq', s₂, hrun', hp'⟩ := h' s₁ hp
  exact ⟨l ++ l', by simp only [List.length_append]; omega,
    fun e he => (List.mem_append.1 he).elim (hq e) (hq' e), s₂, by rw [runLog_append, hrun]; exact hrun', hp'⟩

theorem cons {e : ε} {s₁ : σ} (he : step s e = some s₁) (hq : Q e) (h : SoloRun step Q B s₁ P) :
    SoloRun step Q (B + 1) s P :=
  Nat.add_comm 1 B ▸ bind (B := 1) (P := (· = s₁))
    ⟨[e], Nat.le_refl _, fun _ h => List.mem_singleton.1 h ▸ hq, s₁, by simp only [runLog, he], rfl⟩
    fun _ h' => h' ▸ h

/-- From enabledness and a measure: while `Done` fails, some event of the kind `Q` is accepted, keeps `Inv`
    and lowers `d`. -/
theorem of_measure (Inv Done : σ → Prop) (d : σ → Nat)
    (hstep : ∀ s, Inv s → ¬ Done s → ∃ e s', Q e ∧ step s e = some s' ∧ Inv s' ∧ d s' < d s)
    (hi : Inv s) : SoloRun step Q (d s) s (fun s' => Inv s' ∧ Done s') := by
  obtain ⟨log, s', hrun, hi', hd, hq, hlen⟩ := exists_maximal_run (step := step) Inv Done d
    (fun l => ∀ e ∈ l, Q e) 1 nofun (fun a b ha hb e he => (List.mem_append.1 he).elim (ha e) (hb e))
    (fun s hi hd => by
      obtain ⟨e, s₁, hq, he, hi₁, hlt⟩ := hstep s hi hd
      exact ⟨[e], s₁, by simp only [runLog, he], hi₁, fun _ h => List.mem_singleton.1 h ▸ hq, hlt,
        by simp only [List.length_singleton]; omega⟩) s hi
  exact ⟨log, by omega, hq, s', hrun, hi', hd⟩

end SoloRun

/-! ## Lists -/

/-- A log built as `g (k + 1) = g k ++ f k` nests its appends to the left, and reading it front to back
    costs the kernel one pass through all of them per event; `flatMap` nests them to the right. -/
theorem eq_flatMap_range {α : Type} (g f : Nat → List α) (h0 : g 0 = []) (hs : ∀ k, g (k + 1) = g k ++ f k)
    (k : Nat) : g k = (List.range k).flatMap f := by
  induction k with
  | zero => exact h0
  | succ k ih => rw [hs, ih, List.range_succ, List.flatMap_append]; simp

theorem length_le_of_nodup_lt {l : List Nat} {n : Nat} (hnd : l.Nodup) (h : ∀ x, x ∈ l → x < n) :
    l.length ≤ n := by
  induction n generalizing l with
  | zero => cases l with
    | nil => exact Nat.le_refl _
    | cons a _ => exact absurd (h a (List.mem_cons_self ..)) (Nat.not_lt_zero _)
  | succ n ih =>
    have := ih (hnd.erase n) fun x hx => by
      have := hnd.mem_erase_iff.1 hx
      have := h x this.2
      omega
    rw [List.length_erase] at this
    split at this <;> omega

theorem count_le_of_perm_append {α : Type} [DecidableEq α] {inp out rest : List α}
    (h : inp.Perm (out ++ rest)) (x : α) : out.count x ≤ inp.count x := by
  rw [h.count_eq, List.count_append]; exact Nat.le_add_right ..

/-- What a conservation equation says of the output alone: what came out went in, as often at most. -/
theorem sub_of_perm_append {α : Type} [DecidableEq α] {inp out rest : List α} (h : inp.Perm (out ++ rest)) :
    (∀ x, out.count x ≤ inp.count x) ∧ (∀ x, x ∈ out → x ∈ inp) ∧ (inp.Nodup → out.Nodup) :=
  ⟨count_le_of_perm_append h, fun _ hx => h.mem_iff.2 (List.mem_append_left _ hx),
    fun hd => (List.nodup_append.1 (h.nodup_iff.1 hd)).1⟩

end PikaVerif
