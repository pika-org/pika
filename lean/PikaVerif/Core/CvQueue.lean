import PikaVerif.Core.Run
import PikaVerif.Core.Sum
/-! What the models built on `detail::condition_variable` share (semaphores, latch, mutex, condition
variable, once-flag): an internal spinlock, the intrusive queue of waiters and the agent's wake-up
tokens, over program counters of any type `α` classified by `holds` (the thread holds the spinlock),
`inQ` (its entry is linked in the queue) and `owed` (it was popped and will park: a token must be
there).  The three change hands only together with the program counter of one thread, so one lemma
(`CvInv.move`) covers every event of every model; a `notify_one` is two moves (`CvInv.pop`). -/
namespace PikaVerif

/-- How the spinlock changes hands when thread `t` moves from `p` to `p'`: not at all (`p'` holds it iff
    `p` did, or `t` is on record as the holder and stays so), taken by `t` from nobody, or given up by `t`. -/
inductive LockMove {α : Type} (holds : α → Bool) (t : Nat) (p p' : α) (l : Option Nat) : Option Nat → Prop
  | same : holds p' = holds p → LockMove holds t p p' l l
  | held : l = some t → holds p' = true → LockMove holds t p p' l l
  | acq : l = none → holds p' = true → LockMove holds t p p' l (some t)
  | rel : l = some t → holds p' = false → LockMove holds t p p' l none

/-- The converse of "held only at lock-holding program counters" survives the move. -/
theorem LockMove.conv {α : Type} {holds : α → Bool} {t n : Nat} {pc : Nat → α} {p' : α} {l l' : Option Nat}
    (hL : LockMove holds t (pc t) p' l l') (ht : t < n) (hc : ∀ r, l = some r → holds (pc r) = true ∧ r < n) :
    ∀ r, l' = some r → holds (upd pc t p' r) = true ∧ r < n := fun r hr => by
  by_cases hrt : r = t
  · subst hrt; rw [upd_same]
    cases hL with
    | same h => exact ⟨h ▸ (hc r hr).1, ht⟩
    | held _ h | acq _ h => exact ⟨h, ht⟩
    | rel => cases hr
  · rw [upd_other _ _ _ _ hrt]
    cases hL with
    | same | held => exact hc r hr
    | acq => exact absurd (Option.some.inj hr).symm hrt
    | rel => cases hr

/-- The two directions at once, for a field kept in the form "names the one thread whose program counter is
    of kind `c`" (a lock and its holder, the `abort_all` slot and the thread inside it). -/
theorem LockMove.iff {α : Type} {c : α → Bool} {t : Nat} {pc : Nat → α} {p' : α} {f f' : Option Nat}
    (hL : LockMove c t (pc t) p' f f') (h : ∀ u, f = some u ↔ c (pc u) = true) :
    ∀ u, f' = some u ↔ c (upd pc t p' u) = true := fun u => by
  have ht := h t
  have hu := h u
  simp only [upd_apply]
  cases hL <;> grind

/-- What becomes of the queue when thread `t` moves from `p` to `p'`: its entry stays as it is, is
    linked at the back, or is erased. -/
inductive QMove {α : Type} (inQ : α → Bool) (t : Nat) (p p' : α) (q : List Nat) : List Nat → Prop
  | same : inQ p' = inQ p → QMove inQ t p p' q q
  | enq : inQ p = false → inQ p' = true → QMove inQ t p p' q (q ++ [t])
  | erase : inQ p' = false → QMove inQ t p p' q (q.erase t)

/-- Unlinking the front entry is erasing it. -/
theorem QMove.pop {α : Type} {inQ : α → Bool} {g : Nat} {p p' : α} {q rest : List Nat} (hq : q = g :: rest)
    (h : inQ p' = false) : QMove inQ g p p' q rest := by
  subst hq
  have := QMove.erase (t := g) (p := p) (q := g :: rest) h
  rwa [List.erase_cons_head] at this

structure CvInv {α : Type} (holds inQ : α → Bool) (owed : α → Prop) (idle : α) (n : Nat) (pc : Nat → α)
    (lock : Option Nat) (queue : List Nat) (tok : Nat → Nat) : Prop where
  lockHolder : ∀ t, holds (pc t) = true → lock = some t
  outside : ∀ t, n ≤ t → pc t = idle
  qIff : ∀ t, t ∈ queue ↔ inQ (pc t) = true
  qNodup : queue.Nodup
  wake : ∀ t, owed (pc t) → 0 < tok t

namespace CvInv
variable {α : Type} {holds inQ : α → Bool} {owed : α → Prop} {idle : α} {n : Nat} {pc : Nat → α}
  {lock : Option Nat} {queue : List Nat} {tok : Nat → Nat} (h : CvInv holds inQ owed idle n pc lock queue tok)
  {t : Nat}
include h

theorem lt_of_mem (hidle : inQ idle = false) {g : Nat} (hg : g ∈ queue) : g < n :=
  Nat.lt_of_not_le fun hc => by have := (h.qIff g).1 hg; rw [h.outside g hc, hidle] at this; cases this

theorem free (hl : lock = none) (u : Nat) : holds (pc u) = false :=
  Bool.eq_false_iff.2 fun hu => by have := h.lockHolder u hu; rw [hl] at this; cases this

theorem holder (hl : lock = some t) {u : Nat} (hu : holds (pc u) = true) : u = t :=
  (Option.some.inj ((h.lockHolder u hu).symm.trans hl))

/-- Thread `t` moves to `p'`; the tokens of the others stay. -/
theorem move (ht : t < n) {p' : α} {lock' : Option Nat} {queue' : List Nat} {tok' : Nat → Nat}
    (hL : LockMove holds t (pc t) p' lock lock') (hQ : QMove inQ t (pc t) p' queue queue')
    (hT : ∀ u, u ≠ t → tok' u = tok u) (hK : owed p' → 0 < tok' t) :
    CvInv holds inQ owed idle n (upd pc t p') lock' queue' tok' := by
  have hqt := h.qIff t
  have hnd := h.qNodup
  refine ⟨fun u hu => ?_, fun u hu => ?_, fun u => ?_, ?_, fun u hu => ?_⟩
  · have := h.lockHolder u
    simp only [upd_apply] at hu; cases hL <;> grind
  · rw [upd_other _ _ _ _ (by omega)]; exact h.outside u hu
  · have := h.qIff u
    simp only [upd_apply]; cases hQ <;> grind [List.Nodup.mem_erase_iff]
  · cases hQ with
    | same => exact hnd
    | enq h1 => exact List.nodup_append.2 ⟨hnd, by simp, by grind⟩
    | erase => exact hnd.erase t
  · by_cases hut : u = t
    · subst hut; rw [upd_same] at hu; exact hK hu
    · rw [upd_other _ _ _ _ hut] at hu; rw [hT u hut]; exact h.wake u hu

/-- The front waiter `g` of the queue that the lock holder `t`, itself not queued, is about to pop. -/
theorem front (hidle : inQ idle = false) (hl : lock = some t) (hqt : inQ (pc t) = false) {g : Nat}
    {rest : List Nat} (hq : queue = g :: rest) :
    inQ (pc g) = true ∧ holds (pc g) = false ∧ g ≠ t ∧ g < n := by
  have hgq : g ∈ queue := by simp [hq]
  have hg := (h.qIff g).1 hgq
  have hgt : g ≠ t := fun e => by rw [e, hqt] at hg; cases hg
  exact ⟨hg, Bool.eq_false_iff.2 fun hh => hgt (h.holder hl hh), hgt, h.lt_of_mem hidle hgq⟩

/-- `notify_one` by the lock holder `t`: the front waiter `g` is marked (`p'`, out of the queue) and,
    unless the resume is dropped, handed a token; `t` goes on to `pT`. -/
theorem pop (ht : t < n) (hidle : inQ idle = false) {g : Nat} {rest : List Nat} {p' pT : α} {tok' : Nat → Nat}
    (hq : queue = g :: rest) (hqt : inQ (pc t) = false)
    (hg : inQ p' = false ∧ holds p' = false) (hl : lock = some t) (hT : holds pT = holds (pc t)) (hqT : inQ pT = false)
    (htok : ∀ u, u ≠ g → tok' u = tok u) (hK : owed p' → 0 < tok' g) (hKT : ¬ owed pT) :
    CvInv holds inQ owed idle n (upd (upd pc g p') t pT) lock rest tok' := by
  obtain ⟨-, hgh, hgt, hgn⟩ := h.front hidle hl hqt hq
  have h1 := h.move hgn (.same (hg.2.trans hgh.symm)) (.pop hq hg.1) htok hK
  exact h1.move ht (.same (by rw [upd_other _ _ _ _ hgt.symm, hT]))
    (.same (by rw [upd_other _ _ _ _ hgt.symm, hqt, hqT])) (fun _ _ => rfl) (fun hk => absurd hk hKT)

/-- `move`, and what the same move does to the converse of `lockHolder` where a model keeps that too. -/
theorem move_conv (ht : t < n) {p' : α} {lock' : Option Nat} {queue' : List Nat} {tok' : Nat → Nat}
    (hL : LockMove holds t (pc t) p' lock lock') (hQ : QMove inQ t (pc t) p' queue queue')
    (hT : ∀ u, u ≠ t → tok' u = tok u) (hK : owed p' → 0 < tok' t) :
    CvInv holds inQ owed idle n (upd pc t p') lock' queue' tok' ∧
      ((∀ r, lock = some r → holds (pc r) = true ∧ r < n) →
        ∀ r, lock' = some r → holds (upd pc t p' r) = true ∧ r < n) :=
  ⟨h.move ht hL hQ hT hK, hL.conv ht⟩

end CvInv

/-! The termination measures of these models price every thread's program counter (`r`) and its wake-up
    tokens (`w`): a move of thread `t` that lowers its own share lowers the sum. -/
section Potential
variable {α : Type} (r : α → Nat) (w : Nat → Nat) {n t : Nat} {pc : Nat → α} {tok : Nat → Nat} (ht : t < n) {p' : α}
include ht

theorem pot_lt {k : Nat} (h : r p' + w k < r (pc t) + w (tok t)) :
    sumTo n (fun u => r (upd pc t p' u)) + sumTo n (fun u => w (upd tok t k u)) <
      sumTo n (fun u => r (pc u)) + sumTo n (fun u => w (tok u)) := by
  have := sumTo_upd n r pc t p' ht
  have := sumTo_upd n w tok t k ht
  omega

theorem pot_lt_pc (h : r p' < r (pc t)) :
    sumTo n (fun u => r (upd pc t p' u)) + sumTo n (fun u => w (tok u)) <
      sumTo n (fun u => r (pc u)) + sumTo n (fun u => w (tok u)) := by
  have := sumTo_upd n r pc t p' ht
  omega

end Potential

end PikaVerif
